import RProofs.Util.List
import RProofs.Util.Nat
import RProofs.Util.Count
import RProofs.BSet
import RProofs.BSetQuery
import RProofs.Agg
import RProofs.Intervals
import RProofs.ArrayC
import RProofs.Words
import RProofs.ContOps
import RProofs.ContEfficient
import RProofs.ContLazy
import RProofs.ContMut
import RProofs.ContQueryGlue
import RProofs.ContQueryArr
import RProofs.ContQueryRun
import RProofs.ContQueryBmpScan
import RProofs.ContQueryBmpCount
import RProofs.ContQuery
import RProofs.ContQueryNumRuns
import RProofs.Keyed
import RProofs.KeyedQuery
import RProofs.KeyedPar
import RProofs.RepOps
import RProofs.LazyOps
import RProofs.RepMut
import RProofs.RepXform
import RProofs.BinHeap
import RProofs.RepBulk
import RProofs.RepQueryCard
import RProofs.RepQueryKern
import RProofs.RepQueryBase
import RProofs.RepQueryPair
import RProofs.RepQueryRange
import RProofs.RepQuery
import RProofs.IterBase
import RProofs.IterRun
import RProofs.IterBmp
import RProofs.IterCont
import RProofs.Iter
import RProofs.IterAdv
import RProofs.IterRev
import RProofs.IterMany
import RProofs.Iter2UnsetCont
import RProofs.Iter2Unset
import RProofs.Iter2RangesBase
import RProofs.Iter2RangesBmp
import RProofs.Iter2Ranges
import RProofs.Iter2Iterate
import RProofs.Iter2R64
import RProofs.Iter2
import RProofs.Rep64
import RProofs.Rep64Range
import RProofs.Rep64InPlace
import RProofs.Rep64Witness
import RProofs.Rep64Mut
import RProofs.Rep64Query
import RProofs.Rep64QueryPair
import RProofs.Rep64Agg
import RProofs.Rep64ParOr
import RProofs.Heap
import RProofs.Par
import RProofs.ParHeap
import RProofs.ParData
import RProofs.LittleEndian
import RProofs.SerialLemmas
import RProofs.ByteInput
import RProofs.ByteInputDecode
import RProofs.Properties.C14
import RProofs.Properties.C05
import RProofs.Properties.C06
import RProofs.Properties.C09
import RProofs.Properties.C13
import RProofs.Properties.C13Spec
import RProofs.Serial64
import RProofs.ByteInputDecode64
import RProofs.Checksum
import RProofs.FastEq
import RProofs.FastEqViaSet
import RProofs.BSIShared
import RProofs.BSI
import RProofs.BSI64Ops
import RProofs.BSI64Big
import RProofs.BSI32
import RProofs.BSI32Ops
import RProofs.BSI32OpsPlanes
import RProofs.Facts.Constants
import RProofs.Facts.Pins
import RProofs.Facts.Bits
import RProofs.Facts.Skeleton
import RProofs.Facts.CmpSkeleton
import RProofs.Statements.C01
import RProofs.Statements.C02
import RProofs.Statements.C03
import RProofs.Statements.C04
import RProofs.Statements.C05
import RProofs.Statements.C06
import RProofs.Statements.C07
import RProofs.Statements.C08
import RProofs.Statements.C09
import RProofs.Statements.C10
import RProofs.Statements.C11
import RProofs.Statements.C12
import RProofs.Statements.C13
import RProofs.Statements.C14
import RProofs.Statements.C15
import RProofs.Statements.C16
import RProofs.Statements.C17
import RProofs.Statements.C18
import RProofs.Statements.C19
import RProofs.Statements.C20
