import RModel.Impl.RepBulk
/-!
Go's `container/heap` on an array (`down`, `up`, `Init`, `Pop`, `Push` as `RModel/Impl/RepBulk.lean` models them for the
priority queue of `HeapOr` / `HeapXor`; `ParData.heapDown` is the same `down`, `RProofs/ParHeap.lean`).  Every move permutes
the array, so whatever the order pairs, a property of the multiset of queued values that survives replacing two members by
their `op` holds for the one value left (`pqReduce_spec`); for an `op` read as an associative, commutative operation that value
reads as the fold over the operands (`pqReduce_fold`).  The loops are repeated on a step budget so that the kernel can evaluate
the queue on concrete operands.
-/
namespace RModel.Impl

namespace RepBulk

section PQ
variable {α : Type} [Inhabited α] (size : α → Nat)

omit [Inhabited α] in
theorem swapIfInBounds_perm (h : Array α) (i j : Nat) : (h.swapIfInBounds i j).Perm h := by
  unfold Array.swapIfInBounds
  split
  · split
    · exact Array.swap_perm _ _
    · exact .rfl
  · exact .rfl

theorem pqDown_perm (h : Array α) (i n : Nat) : (pqDown size h i n).Perm h := by
  fun_induction pqDown size h i n
  · exact .rfl
  · rename_i ih
    exact ih.trans (swapIfInBounds_perm _ _ _)
  · exact .rfl

theorem pqUp_perm (h : Array α) (j : Nat) : (pqUp size h j).Perm h := by
  fun_induction pqUp size h j
  · exact .rfl
  · rename_i ih
    exact ih.trans (swapIfInBounds_perm _ _ _)
  · exact .rfl

theorem pqInitFrom_perm (n : Nat) : ∀ (k : Nat) (h : Array α), (pqInitFrom size n k h).Perm h
  | 0, _ => .rfl
  | k + 1, h => (pqInitFrom_perm n k _).trans (pqDown_perm size h k n)

theorem pqPop_spec (h : Array α) (h0 : 0 < h.size) :
    ((pqPop size h).1 :: (pqPop size h).2.toList).Perm h.toList ∧ (pqPop size h).2.size + 1 = h.size := by
  have hp : (pqDown size (h.swapIfInBounds 0 (h.size - 1)) 0 (h.size - 1)).Perm h :=
    (pqDown_perm size _ _ _).trans (swapIfInBounds_perm _ _ _)
  have p : ((pqPop size h).1 :: (pqPop size h).2.toList).Perm h.toList := by
    rw [pqPop]
    generalize pqDown size (h.swapIfInBounds 0 (h.size - 1)) 0 (h.size - 1) = h1 at hp
    have e := congrArg Array.toList (Array.eq_push_pop_back!_of_size_ne_zero (xs := h1) (by rw [hp.size_eq]; omega))
    rw [Array.back!, hp.size_eq, Array.getElem!_eq_getD, Array.toList_push] at e
    exact ((List.perm_append_singleton _ _).symm.trans (.of_eq e.symm)).trans hp.toList
  exact ⟨p, p.length_eq⟩

theorem pqPush_spec (h : Array α) (x : α) :
    (x :: h.toList).Perm (pqPush size h x).toList ∧ (pqPush size h x).size = h.size + 1 := by
  have p : (pqPush size h x).Perm (h.push x) := pqUp_perm size _ _
  exact ⟨((List.perm_append_singleton _ _).symm.trans (.of_eq Array.toList_push.symm)).trans p.toList.symm,
    p.size_eq.trans (Array.size_push _)⟩

theorem pqLoop_spec (op : α → α → α) (P : List α → Prop) (hperm : ∀ l l', l.Perm l' → P l → P l')
    (hstep : ∀ x1 x2 rest, P (x1 :: x2 :: rest) → P (op x1 x2 :: rest)) :
    ∀ (fuel : Nat) (h : Array α), P h.toList → 1 ≤ h.size → h.size ≤ fuel + 1 →
      P [(pqPop size (pqLoop size op fuel h)).1] := by
  have base : ∀ (h : Array α), P h.toList → h.size = 1 → P [(pqPop size h).1] := by
    intro h hP h1
    obtain ⟨p, hl⟩ := pqPop_spec size h (by omega)
    rw [Array.toList_eq_nil_iff.mpr (Array.size_eq_zero_iff.mp (by omega))] at p
    exact hperm _ _ p.symm hP
  intro fuel
  induction fuel with
  | zero =>
    intro h hP h1 h2
    exact base h hP (by omega)
  | succ f ih =>
    intro h hP h1 h2
    rw [pqLoop]
    by_cases hgt : h.size > 1
    · rw [if_pos hgt]
      obtain ⟨p1, l1⟩ := pqPop_spec size h (by omega)
      obtain ⟨p2, l2⟩ := pqPop_spec size (pqPop size h).2 (by omega)
      obtain ⟨p3, l3⟩ := pqPush_spec size (pqPop size (pqPop size h).2).2 (op (pqPop size h).1 (pqPop size (pqPop size h).2).1)
      exact ih _ (hperm _ _ p3 (hstep _ _ _ (hperm _ _ ((p2.cons _).trans p1).symm hP))) (by omega) (by omega)
    · rw [if_neg hgt]
      exact base h hP (by omega)

theorem pqReduce_spec (op : α → α → α) (P : List α → Prop) (hperm : ∀ l l', l.Perm l' → P l → P l')
    (hstep : ∀ x1 x2 rest, P (x1 :: x2 :: rest) → P (op x1 x2 :: rest)) (l : List α) (hl : 1 ≤ l.length) (hP : P l) :
    P [pqReduce size op l] := by
  have hi : (pqInit size l.toArray).Perm l.toArray := pqInitFrom_perm size _ _ _
  exact pqLoop_spec size op P hperm hstep l.length _ (hperm _ _ hi.toList.symm hP) (by rw [hi.size_eq]; exact hl)
    (by rw [hi.size_eq]; exact Nat.le_succ _)

theorem pqReduce_exists (op : α → α → α) {Q : α → Prop} (hop : ∀ a b, Q (op a b) → Q a ∨ Q b) (l : List α)
    (hlen : 1 ≤ l.length) (h : Q (pqReduce size op l)) : ∃ r ∈ l, Q r :=
  pqReduce_spec size op (fun L => ∀ x ∈ L, Q x → ∃ r ∈ l, Q r) (fun _ _ p H x hx => H x (p.mem_iff.mpr hx))
    (fun x1 x2 rest H x hx hq => by
      rcases List.mem_cons.mp hx with rfl | hx
      · exact (hop x1 x2 hq).elim (H x1 (by simp)) (H x2 (by simp))
      · exact H x (by simp [hx]) hq)
    l hlen (fun x hx hq => ⟨x, hx, hq⟩) _ List.mem_cons_self h

theorem pqReduce_isOp (op : α → α → α) (l : List α) (hlen : 2 ≤ l.length) : ∃ a b, pqReduce size op l = op a b :=
  (pqReduce_spec size op (fun L => 2 ≤ L.length ∨ ∀ x ∈ L, ∃ a b, x = op a b)
    (fun _ _ p H => H.imp (p.length_eq ▸ ·) fun H x hx => H x (p.mem_iff.mpr hx))
    (fun x1 x2 rest _ => match rest with
      | [] => .inr fun x hx => ⟨x1, x2, List.mem_singleton.mp hx⟩
      | _ :: _ => .inl (by simp))
    l (by omega) (.inl hlen)).elim (fun h => absurd h (by simp)) fun h => h _ List.mem_cons_self

/-- `hop` is the hypothesis of `foldl_inv` (`Util/List.lean`): since the queue chooses the pairing order, it asks beyond what a
left fold asks only that `m` be associative and commutative. -/
theorem pqReduce_fold {β : Type} (op : α → α → α) {I : α → Prop} {den : α → β} {m : β → β → β} {e : β}
    (hc : ∀ a b, m a b = m b a) (ha : ∀ a b c, m (m a b) c = m a (m b c)) (he : ∀ a, m e a = a)
    (hop : ∀ a b, I a → I b → I (op a b) ∧ den (op a b) = m (den a) (den b))
    (l : List α) (hl : ∀ a ∈ l, I a) (hlen : 1 ≤ l.length) :
    I (pqReduce size op l) ∧ den (pqReduce size op l) = (l.map den).foldl m e := by
  obtain ⟨h1, h2⟩ := pqReduce_spec size op (fun L => (∀ a ∈ L, I a) ∧ (L.map den).foldl m e = (l.map den).foldl m e)
    (fun L L' p ⟨h1, h2⟩ => ⟨fun a h => h1 a (p.mem_iff.mpr h),
      ((p.map den).foldl_eq' (fun x _ y _ z => by rw [ha, hc x y, ← ha]) e).symm.trans h2⟩)
    (fun x1 x2 rest ⟨h1, h2⟩ => by
      obtain ⟨i1, i2⟩ := List.forall_mem_cons.mp h1
      obtain ⟨i2, i3⟩ := List.forall_mem_cons.mp i2
      obtain ⟨w, d⟩ := hop x1 x2 i1 i2
      exact ⟨List.forall_mem_cons.mpr ⟨w, i3⟩, by rw [← h2, List.map_cons, List.foldl_cons, d, ← ha]; rfl⟩)
    l hlen ⟨hl, rfl⟩
  exact ⟨h1 _ List.mem_cons_self, (he _).symm.trans h2⟩

end PQ

/-! ### the same loops on a step budget (structural recursion): the kernel can evaluate the queue on concrete operands -/

section PQF
variable {α : Type} [Inhabited α] (size : α → Nat)

def pqDownF : (fuel : Nat) → Array α → Nat → Nat → Array α
  | 0, h, _, _ => h
  | f + 1, h, i, n =>
    if 2 * i + 1 ≥ n then h
    else
      let j1 := 2 * i + 1
      let j := if j1 + 1 < n && pqLess size h (j1 + 1) j1 then j1 + 1 else j1
      if pqLess size h j i then pqDownF f (h.swapIfInBounds i j) j n else h

def pqUpF : (fuel : Nat) → Array α → Nat → Array α
  | 0, h, _ => h
  | f + 1, h, j =>
    if j = 0 then h
    else
      let i := (j - 1) / 2
      if pqLess size h j i then pqUpF f (h.swapIfInBounds i j) i else h

theorem pqDownF_eq (n : Nat) : ∀ (fuel : Nat) (h : Array α) (i : Nat), n - i ≤ fuel →
    pqDownF size fuel h i n = pqDown size h i n
  | 0, h, i, hf => by rw [pqDown, if_pos (by omega)]; rfl
  | f + 1, h, i, hf => by
    rw [pqDownF, pqDown]
    refine ite_congr rfl (fun _ => rfl) (fun _ => ite_congr rfl (fun _ => pqDownF_eq n f _ _ ?_) (fun _ => rfl))
    split <;> omega

theorem pqUpF_eq : ∀ (fuel : Nat) (h : Array α) (j : Nat), j ≤ fuel → pqUpF size fuel h j = pqUp size h j
  | 0, h, j, hf => by rw [pqUp, if_pos (by omega)]; rfl
  | f + 1, h, j, hf => by
    rw [pqUpF, pqUp]
    exact ite_congr rfl (fun _ => rfl) (fun _ => ite_congr rfl (fun _ => pqUpF_eq f _ _ (by omega)) (fun _ => rfl))

def pqInitFromF (n : Nat) : (k : Nat) → Array α → Array α
  | 0, h => h
  | k + 1, h => pqInitFromF n k (pqDownF size (n - k) h k n)

def pqPopF (h : Array α) : α × Array α :=
  let n := h.size - 1
  let h1 := pqDownF size n (h.swapIfInBounds 0 n) 0 n
  (h1.getD n default, h1.pop)

def pqPushF (h : Array α) (x : α) : Array α := pqUpF size h.size (h.push x) h.size

def pqLoopF (op : α → α → α) : (fuel : Nat) → Array α → Array α
  | 0, h => h
  | f + 1, h =>
    if h.size > 1 then
      let p1 := pqPopF size h
      let p2 := pqPopF size p1.2
      pqLoopF op f (pqPushF size p2.2 (op p1.1 p2.1))
    else h

def pqReduceF (op : α → α → α) (l : List α) : α :=
  (pqPopF size (pqLoopF size op l.length (pqInitFromF size l.toArray.size (l.toArray.size / 2) l.toArray))).1

theorem pqInitFromF_eq (n : Nat) : ∀ (k : Nat) (h : Array α), pqInitFromF size n k h = pqInitFrom size n k h
  | 0, _ => rfl
  | k + 1, h => by rw [pqInitFromF, pqInitFrom, pqDownF_eq size n _ h k (Nat.le_refl _), pqInitFromF_eq n k]

theorem pqPopF_eq (h : Array α) : pqPopF size h = pqPop size h := by
  simp only [pqPopF, pqPop, pqDownF_eq size (h.size - 1) (h.size - 1) _ 0 (by omega)]

theorem pqPushF_eq (h : Array α) (x : α) : pqPushF size h x = pqPush size h x := by
  simp only [pqPushF, pqPush, pqUpF_eq size h.size _ h.size (Nat.le_refl _)]

theorem pqLoopF_eq (op : α → α → α) : ∀ (fuel : Nat) (h : Array α), pqLoopF size op fuel h = pqLoop size op fuel h
  | 0, _ => rfl
  | f + 1, h => by
    rw [pqLoopF, pqLoop]
    simp only [pqPopF_eq, pqPushF_eq, pqLoopF_eq op f]

theorem pqReduceF_eq (op : α → α → α) (l : List α) : pqReduceF size op l = pqReduce size op l := by
  simp only [pqReduceF, pqReduce, pqInit, pqPopF_eq, pqLoopF_eq, pqInitFromF_eq]

end PQF

/-- symbolic operands: a leaf has an identity and a size, pairing two operands adds the sizes -/
inductive PTree where
  | leaf (id sz : Nat)
  | node (a b : PTree)
  deriving DecidableEq, Inhabited, Repr

def PTree.size : PTree → Nat
  | .leaf _ sz => sz
  | .node a b => a.size + b.size

/-- **the pairing order of the queue, move by move**: three operands of EQUAL size in operand order `0, 1, 2`: `heap.Init` moves
nothing, the first `Pop` hands out operand 0 and leaves `[2, 1]` (swap with the last, no sift: ties do not move), the second hands
out operand 2; their result (larger) is pushed behind operand 1: the aggregate is `op(1, op(0, 2))` -/
example : pqReduce PTree.size PTree.node [.leaf 0 20, .leaf 1 20, .leaf 2 20] =
    .node (.leaf 1 20) (.node (.leaf 0 20) (.leaf 2 20)) := by
  rw [← pqReduceF_eq]; decide +kernel

/-- five operands of sizes 20, 30, 10, 10, 25: the two smallest (3 and 2 — in the order the heap hands them out) first, … -/
example : pqReduce PTree.size PTree.node [.leaf 0 20, .leaf 1 30, .leaf 2 10, .leaf 3 10, .leaf 4 25] =
    .node (.node (.leaf 0 20) (.node (.leaf 3 10) (.leaf 2 10))) (.node (.leaf 4 25) (.leaf 1 30)) := by
  rw [← pqReduceF_eq]; decide +kernel

end RepBulk

end RModel.Impl
