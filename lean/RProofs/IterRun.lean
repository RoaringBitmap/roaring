import RProofs.Util.Nat
import RProofs.IterBase
import RProofs.ContQueryRun
/-!
Iteration protocols: the RUN container iterators — forward (`runIterator16`: `hasNext`, `peekNext`, `next`,
`advanceIfNeeded`, `nextMany`) and reverse (`runReverseIterator16`).

`RunIt.cursor` = `iv[curIndex].start + curPosInIndex` (65536 when `curIndex` has run off the list); the values still to be
delivered are the members `≥ cursor` of `expandRuns rs`.
-/
open RModel.Util
namespace RModel.Impl.It
open RModel RModel.Impl RModel.Impl.ContOps RModel.Impl.ContQuery RModel.Impl.RunQ

theorem rEnd_eq (rs : List (Nat × Nat)) (i : Nat) : rEnd rs i = rStart rs i + rLenF rs i := rfl

/-! ### `searchRange` started at `curIndex` -/

theorem runSearchFrom_eq (rs : List (Nat × Nat)) (hs : RunSep rs) (x i : Nat) (hi : i ≤ rs.length)
    (hlow : ∀ k, k < i → rStart rs k ≤ x) : runSearchFrom rs x i = runSearch rs x := by
  have hup : ∀ k, rs.length ≤ k → k < rs.length → x < rStart rs k := fun k h1 h2 => absurd h2 (Nat.not_lt.mpr h1)
  obtain ⟨-, a2, a3, a4⟩ := runSearchLoop_spec rs hs x 0 rs.length (Nat.zero_le _) (Nat.le_refl _)
    (fun k hk => absurd hk (Nat.not_lt_zero k)) hup
  obtain ⟨-, b2, b3, b4⟩ := runSearchLoop_spec rs hs x i rs.length hi (Nat.le_refl _) hlow hup
  have e : runSearchLoop rs x i rs.length = runSearchLoop rs x 0 rs.length := by
    generalize runSearchLoop rs x i rs.length = b1 at b2 b3 b4
    generalize runSearchLoop rs x 0 rs.length = b0 at a2 a3 a4
    apply Classical.byContradiction; intro hne
    by_cases h : b1 < b0
    · have := a3 b1 h
      have := b4 b1 (by omega) (by omega)
      omega
    · have := b3 b0 (by omega)
      have := a4 b0 (by omega) (by omega)
      omega
  simp only [runSearchFrom, runSearch, e]

namespace RunIt

def cursor (it : RunIt) : Nat :=
  if it.curIndex < it.rs.length then rStart it.rs it.curIndex + it.curPosInIndex else 65536

def Inv (it : RunIt) : Prop :=
  RunSep it.rs ∧ (∀ p ∈ it.rs, p.1 + p.2 ≤ 65535) ∧
    (it.curIndex < it.rs.length → it.curPosInIndex ≤ rLenF it.rs it.curIndex)

def rem (it : RunIt) : List Nat := remFrom (expandRuns it.rs) it.cursor

theorem cursor_of_lt {it : RunIt} (hl : it.curIndex < it.rs.length) :
    it.cursor = rStart it.rs it.curIndex + it.curPosInIndex := if_pos hl

theorem cursor_mem {it : RunIt} (hi : it.Inv) (hl : it.curIndex < it.rs.length) :
    it.cursor ∈ expandRuns it.rs ∧ it.cursor ≤ 65535 ∧ it.cursor ≤ rEnd it.rs it.curIndex := by
  have hp := hi.2.2 hl
  have hb' := rEnd_bound hi.2.1 hl
  rw [cursor_of_lt hl, mem_expandRuns, inRuns_idx]
  simp only [rEnd_eq] at hb' ⊢
  exact ⟨⟨it.curIndex, hl, by omega, by omega⟩, by omega, by omega⟩

theorem mem_lt {it : RunIt} (hi : it.Inv) {x : Nat} (hx : x ∈ expandRuns it.rs) : x < 65536 :=
  lt_of_inRuns hi.2.1 ((mem_expandRuns _ _).mp hx)

theorem rem_nil_of_exhausted {it : RunIt} (hi : it.Inv) (hl : ¬ it.curIndex < it.rs.length) : it.rem = [] := by
  apply remFrom_nil
  intro x hx
  simp only [cursor, hl, if_false]
  exact mem_lt hi hx

theorem hasNext_iff {it : RunIt} (hi : it.Inv) : it.hasNext = true ↔ it.rem ≠ [] := by
  simp only [hasNext, Bool.or_eq_true, Bool.and_eq_true, decide_eq_true_eq, beq_iff_eq]
  by_cases hl : it.curIndex < it.rs.length
  · have hp := hi.2.2 hl
    exact ⟨fun _ => remFrom_ne_nil (cursor_mem hi hl).1 (Nat.le_refl _), fun _ => by omega⟩
  · rw [rem_nil_of_exhausted hi hl]
    exact ⟨fun h => by omega, fun h => absurd rfl h⟩

theorem rem_cons {it : RunIt} (hi : it.Inv) {v : Nat} {t : List Nat} (h : it.rem = v :: t) :
    it.curIndex < it.rs.length ∧ v = it.cursor ∧ t = remFrom (expandRuns it.rs) (it.cursor + 1) := by
  have hl : it.curIndex < it.rs.length := Classical.not_not.mp fun hc => by
    rw [rem_nil_of_exhausted hi hc] at h
    cases h
  rw [rem, remFrom_self (sorted_expandRuns it.rs hi.1) (cursor_mem hi hl).1] at h
  exact ⟨hl, (List.cons.inj h).1.symm, (List.cons.inj h).2.symm⟩

theorem peekNext_eq {it : RunIt} (hi : it.Inv) (hl : it.curIndex < it.rs.length) : it.peekNext = it.cursor := by
  have hc := cursor_mem hi hl
  rw [cursor_of_lt hl] at hc ⊢
  exact add16_eq hc.2.1

theorem peekNext_spec {it : RunIt} (hi : it.Inv) {v : Nat} {t : List Nat} (h : it.rem = v :: t) : it.peekNext = v := by
  obtain ⟨hl, hv, -⟩ := rem_cons hi h
  rw [hv]
  exact peekNext_eq hi hl

theorem rem_at_run {rs : List (Nat × Nat)} (hs : RunSep rs) (hb : ∀ p ∈ rs, p.1 + p.2 ≤ 65535) {b m : Nat}
    (hlow : ∀ i, i < b → rEnd rs i < m) (hhi : b < rs.length → m ≤ rStart rs b) :
    (⟨rs, b, 0⟩ : RunIt).rem = remFrom (expandRuns rs) m := by
  apply remFrom_congr
  intro x hx
  obtain ⟨j, hj, h1, h2⟩ := (inRuns_idx rs x).mp ((mem_expandRuns _ _).mp hx)
  simp only [cursor]
  constructor
  · intro hge
    split at hge
    · have := hhi ‹_›
      omega
    · have := rEnd_bound hb hj
      omega
  · intro hge
    have hbj : b ≤ j := Nat.le_of_not_lt fun hc => by have := hlow j hc; omega
    have := start_mono_le hs hbj hj
    rw [if_pos (by omega)]
    omega

theorem rem_after_run {rs : List (Nat × Nat)} (hs : RunSep rs) (hb : ∀ p ∈ rs, p.1 + p.2 ≤ 65535) {idx : Nat}
    (hl : idx < rs.length) : (⟨rs, idx + 1, 0⟩ : RunIt).rem = remFrom (expandRuns rs) (rEnd rs idx + 1) := by
  apply rem_at_run hs hb
  · intro i hi
    have := end_mono_le hs (Nat.le_of_lt_succ hi) hl
    omega
  · intro h
    have := sep_idx hs (Nat.lt_add_one idx) h
    omega

theorem next_spec {it : RunIt} (hi : it.Inv) {v : Nat} {t : List Nat} (h : it.rem = v :: t) :
    it.next.1 = v ∧ it.next.2.Inv ∧ it.next.2.rem = t ∧ it.next.2.rs = it.rs := by
  obtain ⟨hl, rfl, rfl⟩ := rem_cons hi h
  have hpk := peekNext_eq hi hl
  have hc := cursor_mem hi hl
  obtain ⟨hs, hb, hp⟩ := hi
  have hp' := hp hl
  have hend := rEnd_bound hb hl
  have hcur := cursor_of_lt hl
  rw [rEnd_eq] at hend
  unfold next
  simp only []
  by_cases hlast : it.curPosInIndex = rLenF it.rs it.curIndex
  · rw [if_pos hlast]
    refine ⟨hpk, ⟨hs, hb, fun _ => Nat.zero_le _⟩, ?_, rfl⟩
    rw [hcur, hlast, ← rEnd_eq]
    exact rem_after_run hs hb hl
  · rw [if_neg hlast]
    have ha : add16 it.curPosInIndex 1 = it.curPosInIndex + 1 := add16_eq (by omega)
    refine ⟨hpk, ⟨hs, hb, fun _ => ?_⟩, ?_, rfl⟩
    · simp only [ha]
      omega
    · simp only [rem, cursor, hl, if_true, ha, Nat.add_assoc]

theorem init_spec (rs : List (Nat × Nat)) (hs : RunSep rs) (hb : ∀ p ∈ rs, p.1 + p.2 ≤ 65535) :
    let it : RunIt := { rs := rs, curIndex := 0, curPosInIndex := 0 }
    it.Inv ∧ it.rem = expandRuns rs :=
  ⟨⟨hs, hb, fun _ => Nat.zero_le _⟩,
    (rem_at_run hs hb (fun _ hi => absurd hi (Nat.not_lt_zero _)) (fun _ => Nat.zero_le _)).trans (remFrom_zero _)⟩

theorem advanceIfNeeded_spec {it : RunIt} (hi : it.Inv) (m : Nat) (hm : m < 65536) :
    (it.advanceIfNeeded m).Inv ∧ (it.advanceIfNeeded m).rem = it.rem.dropWhile (fun x => decide (x < m)) ∧
      (it.advanceIfNeeded m).rs = it.rs := by
  rw [show it.rem.dropWhile _ = _ from remFrom_dropWhile (sorted_expandRuns it.rs hi.1) _ _]
  generalize hit : it.advanceIfNeeded m = it'
  unfold advanceIfNeeded at hit
  by_cases hl : ¬ it.curIndex < it.rs.length
  · have hn : it.hasNext = false :=
      Bool.eq_false_iff.mpr fun hn => (hasNext_iff hi).mp hn (rem_nil_of_exhausted hi hl)
    simp only [hn, Bool.not_false, Bool.true_or, if_true] at hit
    subst hit
    refine ⟨hi, ?_, rfl⟩
    simp only [rem, cursor, hl, if_false]
    rw [Nat.max_eq_left (by omega)]
  have hl := Classical.not_not.mp hl
  have hn : it.hasNext = true := (hasNext_iff hi).mpr (remFrom_ne_nil (cursor_mem hi hl).1 (Nat.le_refl _))
  rw [hn, peekNext_eq hi hl] at hit
  by_cases hge : it.cursor ≥ m
  · rw [if_pos (by simpa using hge)] at hit
    subst hit
    rw [Nat.max_eq_left hge]
    exact ⟨hi, rfl, rfl⟩
  rw [if_neg (by simpa using hge)] at hit
  rw [Nat.max_eq_right (by omega)]
  have hcur := cursor_of_lt hl
  obtain ⟨hs, hb, hp⟩ := hi
  -- the search may start at `curIndex`: the runs before it start below `m`
  rw [runSearchFrom_eq it.rs hs m it.curIndex (Nat.le_of_lt hl) fun k hk => by
    have := start_mono_le hs (Nat.le_of_lt hk) hl
    omega] at hit
  obtain ⟨b, hbl, hw, hlo, hhi, hcase⟩ := runSearch_cases it.rs hs hb m
  rcases hcase with ⟨hpres, hb0, hle, -⟩ | ⟨hpres, hlow, -⟩
  · -- present: land inside run `b - 1`
    obtain ⟨b, rfl⟩ : ∃ b', b = b' + 1 := ⟨b - 1, (Nat.sub_add_cancel hb0).symm⟩
    rw [Nat.add_sub_cancel] at hle
    rw [show runSearch it.rs m = (((b + 1 : Nat) : Int) - 1, true) from Prod.ext hw hpres] at hit
    have hst := hlo b (Nat.lt_succ_self b)
    simp only [if_true, show (((b + 1 : Nat) : Int) - 1).toNat = b by omega, sub16_eq hst hm] at hit
    subst hit
    refine ⟨⟨hs, hb, fun _ => ?_⟩, ?_, rfl⟩
    · simp only [rEnd_eq] at hle ⊢
      omega
    · simp only [rem, cursor_of_lt (it := ⟨it.rs, b, m - rStart it.rs b⟩) (Nat.lt_of_succ_le hbl), Nat.add_sub_of_le hst]
  · -- absent: go to the start of run `b`
    rw [show runSearch it.rs m = ((b : Int) - 1, false) from Prod.ext hw hpres] at hit
    simp only [Bool.false_eq_true, if_false, show ((b : Int) - 1 + 1).toNat = b by omega] at hit
    subst hit
    exact ⟨⟨hs, hb, fun _ => Nat.zero_le _⟩, rem_at_run hs hb hlow fun h => Nat.le_of_lt (hhi b (Nat.le_refl _) h), rfl⟩

/-! ### `nextMany` -/

/-- one turn of the `nextMany` loop takes `m` values of run `idx`: they head the remaining list, and what follows them
is the remaining list of the state the loop goes on with -/
theorem loop_turn {rs : List (Nat × Nat)} (hsep : RunSep rs) (hb : ∀ p ∈ rs, p.1 + p.2 ≤ 65535) {hs : Nat}
    (hhs : hs % 65536 = 0) {idx pos : Nat} (hi : (⟨rs, idx, pos⟩ : RunIt).Inv) (hl : idx < rs.length) (room : Nat) :
    ∃ m A, moreValsOf (rLenF rs idx) pos room = m ∧ A.length = m ∧ m ≤ room ∧
      List.range' (add16 (rStart rs idx) pos ||| hs) m = A.map (hs + ·) ∧
      (m + pos > rLenF rs idx → (⟨rs, idx, pos⟩ : RunIt).rem = A ++ (⟨rs, idx + 1, 0⟩ : RunIt).rem) ∧
      (¬ m + pos > rLenF rs idx → (pos + m) % 65536 = pos + m ∧ (⟨rs, idx, pos + m⟩ : RunIt).Inv ∧
        (⟨rs, idx, pos⟩ : RunIt).rem = A ++ (⟨rs, idx, pos + m⟩ : RunIt).rem) := by
  have hp : pos ≤ rLenF rs idx := hi.2.2 hl
  have hend := rEnd_bound hb hl
  rw [rEnd_eq] at hend
  have hle : moreValsOf (rLenF rs idx) pos room ≤ room ∧ pos + moreValsOf (rLenF rs idx) pos room ≤ rLenF rs idx + 1 := by
    unfold moreValsOf
    rw [if_pos hp, sub16_eq hp (by omega)]
    omega
  generalize moreValsOf (rLenF rs idx) pos room = m at hle
  have hsplit : (⟨rs, idx, pos⟩ : RunIt).rem =
      List.range' (rStart rs idx + pos) m ++ remFrom (expandRuns rs) (rStart rs idx + pos + m) := by
    simp only [rem, cursor, hl, if_true]
    refine remFrom_range (sorted_expandRuns rs hsep) _ _ fun j hj => ?_
    rw [mem_expandRuns, inRuns_idx]
    exact ⟨idx, hl, by omega, by rw [rEnd_eq]; omega⟩
  refine ⟨m, List.range' (rStart rs idx + pos) m, rfl, List.length_range', hle.1, ?_, fun hgt => ?_, fun hgt => ⟨?_, ?_, ?_⟩⟩
  · rw [add16_eq (by omega), or_hs_eq_add (by omega) hhs, List.map_add_range']
  · rw [hsplit, rem_after_run hsep hb hl, rEnd_eq]
    congr 2
    omega
  · exact Nat.mod_eq_of_lt (by omega)
  · exact ⟨hsep, hb, fun _ => by simp only []; omega⟩
  · rw [hsplit]
    simp only [rem, cursor, hl, if_true, Nat.add_assoc]

theorem loop_spec (rs : List (Nat × Nat)) (hsep : RunSep rs) (hb : ∀ p ∈ rs, p.1 + p.2 ≤ 65535) (hs : Nat)
    (hhs : hs % 65536 = 0) (room idx pos : Nat) :
    (⟨rs, idx, pos⟩ : RunIt).Inv →
    (loop rs hs room idx pos).1 = (((⟨rs, idx, pos⟩ : RunIt).rem).take room).map (hs + ·) ∧
      (⟨rs, (loop rs hs room idx pos).2.1, (loop rs hs room idx pos).2.2⟩ : RunIt).Inv ∧
      (⟨rs, (loop rs hs room idx pos).2.1, (loop rs hs room idx pos).2.2⟩ : RunIt).rem =
        ((⟨rs, idx, pos⟩ : RunIt).rem).drop room := by
  fun_induction loop rs hs room idx pos
  case case1 idx pos =>
    intro hi
    exact ⟨rfl, hi, rfl⟩
  case case2 room idx pos hr hge =>
    intro hi
    rw [rem_nil_of_exhausted hi (Nat.not_lt.mpr hge)]
    exact ⟨by simp, hi, by simp⟩
  case case3 room idx pos hr hl hgt hlast =>
    intro hi
    obtain ⟨_, A, hm, rfl, hmr, hor, hout, -⟩ := loop_turn hsep hb hhs hi (Nat.lt_of_not_le hl) room
    rw [hm] at hgt ⊢
    have hnil : (⟨rs, idx + 1, 0⟩ : RunIt).rem = [] :=
      rem_nil_of_exhausted ⟨hsep, hb, fun _ => Nat.zero_le _⟩ (by simp only []; omega)
    rw [hout hgt, hor, hnil, List.append_nil, List.take_of_length_le hmr, List.drop_of_length_le hmr]
    exact ⟨rfl, ⟨hsep, hb, fun _ => Nat.zero_le _⟩, rfl⟩
  case case4 room idx pos hr hl hgt hne vs r hx ih =>
    intro hi
    obtain ⟨_, A, hm, rfl, hmr, hor, hout, -⟩ := loop_turn hsep hb hhs hi (Nat.lt_of_not_le hl) room
    rw [hx] at ih
    rw [hm] at hgt ih ⊢
    obtain ⟨i1, i2, i3⟩ := ih ⟨hsep, hb, fun _ => Nat.zero_le _⟩
    obtain ⟨e1, e2⟩ := take_drop_append (A := A) (room := room) hmr (hs + ·) i1 i3
    rw [hout hgt, hor, ← e1]
    exact ⟨rfl, i2, e2⟩
  case case5 room idx pos hr hl hle vs r hx ih =>
    intro hi
    obtain ⟨_, A, hm, rfl, hmr, hor, -, hin⟩ := loop_turn hsep hb hhs hi (Nat.lt_of_not_le hl) room
    rw [hx] at ih
    rw [hm] at hle ih ⊢
    obtain ⟨hmod, hinv, hsplit⟩ := hin hle
    rw [hmod] at ih
    obtain ⟨i1, i2, i3⟩ := ih hinv
    obtain ⟨e1, e2⟩ := take_drop_append (A := A) (room := room) hmr (hs + ·) i1 i3
    rw [hsplit, hor, ← e1]
    exact ⟨rfl, i2, e2⟩

/-- `hs`: the high bits that the bitmap-level iterator passes down, a multiple of 65536, so that `v ||| hs = hs + v` -/
theorem nextMany_spec {it : RunIt} (hi : it.Inv) (hs cap : Nat) (hhs : hs % 65536 = 0) :
    (it.nextMany hs cap).1 = (it.rem.take cap).map (hs + ·) ∧ (it.nextMany hs cap).2.Inv ∧
      (it.nextMany hs cap).2.rem = it.rem.drop cap ∧ (it.nextMany hs cap).2.rs = it.rs := by
  unfold nextMany
  by_cases hn : it.hasNext = true
  · simp only [hn, Bool.not_true, Bool.false_eq_true, if_false]
    have h := loop_spec it.rs hi.1 hi.2.1 hs hhs cap it.curIndex it.curPosInIndex hi
    generalize loop it.rs hs cap it.curIndex it.curPosInIndex = r at h
    obtain ⟨vs, i, p⟩ := r
    exact ⟨h.1, h.2.1, h.2.2, trivial⟩
  · have hnil : it.rem = [] := by
      apply Classical.byContradiction; intro hc
      exact hn ((hasNext_iff hi).mpr hc)
    have hf : it.hasNext = false := by simpa using hn
    simp only [hf, Bool.not_false, if_true, hnil]
    exact ⟨by simp, hi, by simp, trivial⟩

end RunIt

namespace RunRevIt

/-- every member `< cursor` is still to be delivered (largest first) -/
def cursor (it : RunRevIt) : Nat :=
  if 0 < it.curIndexP then rStart it.rs (it.curIndexP - 1) + it.curPosInIndex + 1 else 0

def Inv (it : RunRevIt) : Prop :=
  RunSep it.rs ∧ (∀ p ∈ it.rs, p.1 + p.2 ≤ 65535) ∧ it.curIndexP ≤ it.rs.length ∧
    (0 < it.curIndexP → it.curPosInIndex ≤ rLenF it.rs (it.curIndexP - 1))

/-- the values still to be delivered, ascending (they come out last first) -/
def rem (it : RunRevIt) : List Nat := remBelow (expandRuns it.rs) it.cursor

theorem cursor_pos {it : RunRevIt} (hi : it.Inv) (hp : 0 < it.curIndexP) :
    it.cursor = rStart it.rs (it.curIndexP - 1) + it.curPosInIndex + 1 ∧
      rStart it.rs (it.curIndexP - 1) + it.curPosInIndex ∈ expandRuns it.rs ∧
      rStart it.rs (it.curIndexP - 1) + it.curPosInIndex ≤ 65535 := by
  obtain ⟨hs, hb, hl, hpos⟩ := hi
  have hpos' := hpos hp
  have hl' : it.curIndexP - 1 < it.rs.length := by omega
  have hb' := rEnd_bound hb hl'
  rw [rEnd_eq] at hb'
  refine ⟨by simp only [cursor, hp, if_true], ?_, by omega⟩
  rw [mem_expandRuns, inRuns_idx]
  exact ⟨it.curIndexP - 1, hl', by omega, by rw [rEnd_eq]; omega⟩

theorem rem_nil_of_exhausted {it : RunRevIt} (hp : ¬ 0 < it.curIndexP) : it.rem = [] := by
  apply remBelow_nil
  intro x _
  simp only [cursor, hp, if_false]
  omega

theorem init_spec (rs : List (Nat × Nat)) (hs : RunSep rs) (hb : ∀ p ∈ rs, p.1 + p.2 ≤ 65535) :
    (init rs).Inv ∧ (init rs).rem = expandRuns rs ∧ (init rs).rs = rs := by
  refine ⟨⟨hs, hb, Nat.le_refl _, fun h => ?_⟩, ?_, rfl⟩
  · simp only [init] at h ⊢
    rw [if_pos h]
    exact Nat.le_refl _
  · apply remBelow_all
    intro x hx
    have hxr := (mem_expandRuns _ _).mp hx
    obtain ⟨j, hj, h1, h2⟩ := (inRuns_idx rs x).mp hxr
    have hpos : 0 < rs.length := by omega
    have hle := end_mono_le hs (show j ≤ rs.length - 1 by omega) (by omega)
    rw [rEnd_eq rs (rs.length - 1)] at hle
    simp only [cursor, init, hpos, if_true]
    omega

theorem hasNext_iff {it : RunRevIt} (hi : it.Inv) : it.hasNext = true ↔ it.rem ≠ [] := by
  by_cases hp : 0 < it.curIndexP
  · obtain ⟨hc, hm, -⟩ := cursor_pos hi hp
    simp only [hasNext, hp, decide_true, true_iff]
    intro h
    have := mem_remBelow.mpr ⟨hm, Nat.lt_add_one _⟩
    rw [← hc, ← rem, h] at this
    cases this
  · simp [rem_nil_of_exhausted hp, hasNext, hp]

/-- below the start of run `k` lie exactly the members up to the end of run `k - 1`: what the reverse iterator still has
when it steps from run `k` onto the last value of run `k - 1` -/
theorem rem_before_run {rs : List (Nat × Nat)} (hs : RunSep rs) {k : Nat} (hk : k < rs.length) (p : Nat) :
    (⟨rs, k, if k > 0 then rLenF rs (k - 1) else p⟩ : RunRevIt).rem = remBelow (expandRuns rs) (rStart rs k) := by
  refine remBelow_congr (vals := expandRuns rs) fun x hx => ?_
  obtain ⟨j, hj, h1, h2⟩ := (inRuns_idx _ x).mp ((mem_expandRuns _ _).mp hx)
  simp only [cursor]
  by_cases hq : 0 < k
  · simp only [hq, if_true]
    have hsep := sep_idx hs (show k - 1 < k by omega) hk
    rw [rEnd_eq] at hsep
    refine ⟨fun hlt => by omega, fun hlt => ?_⟩
    have hjk : j < k := Nat.lt_of_not_le fun hc => by have := start_mono_le hs hc hj; omega
    have := end_mono_le hs (show j ≤ k - 1 by omega) (by omega)
    rw [rEnd_eq _ (k - 1)] at this
    omega
  · simp only [hq, if_false]
    have := start_mono_le hs (show k ≤ j by omega) hj
    omega

theorem next_spec {it : RunRevIt} (hi : it.Inv) {v : Nat} {t : List Nat} (h : it.rem = t ++ [v]) :
    it.next.1 = v ∧ it.next.2.Inv ∧ it.next.2.rem = t ∧ it.next.2.rs = it.rs := by
  have hp : 0 < it.curIndexP := Nat.pos_of_ne_zero fun hc => by
    rw [rem_nil_of_exhausted (by omega)] at h
    exact absurd (congrArg List.length h) (by simp)
  obtain ⟨hc, hm, hle⟩ := cursor_pos hi hp
  simp only [rem] at h
  rw [hc, remBelow_snoc (sorted_expandRuns it.rs hi.1) hm] at h
  obtain ⟨rfl, hv⟩ := List.append_inj' h rfl
  obtain rfl := (List.cons.inj hv).1
  have ha := add16_eq hle
  obtain ⟨hs, hb, hl, hpos⟩ := hi
  have hpos' := hpos hp
  unfold next
  simp only []
  by_cases h0 : it.curPosInIndex > 0
  · rw [if_pos h0]
    refine ⟨ha, ⟨hs, hb, hl, fun _ => Nat.le_trans (Nat.sub_le _ _) hpos'⟩, ?_, rfl⟩
    simp only [rem, cursor, hp, if_true]
    congr 1
    omega
  · rw [if_neg h0]
    refine ⟨ha, ⟨hs, hb, Nat.le_trans (Nat.sub_le _ _) hl, fun hq => ?_⟩, ?_, rfl⟩
    · simp only [] at hq ⊢
      rw [if_pos hq]
      exact Nat.le_refl _
    · rw [show it.curPosInIndex = 0 by omega]
      exact rem_before_run hs (by omega) 0

end RunRevIt

end RModel.Impl.It
