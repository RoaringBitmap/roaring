import RProofs.RepQueryBase
import RProofs.RepQueryPair
import RProofs.RepQueryRange
/-!
# The bitmap-level READ-ONLY drivers compute the set-level queries

`RModel/Impl/RepQuery.lean` models the drivers of `roaring.go` / `roaringarray.go` as the Go code runs them (binary search over
the key array, `getIndex`, `advanceUntil` gallop + bisect, loops accumulating container cardinalities, the first / last
container logic of `Minimum` / `Maximum`, the key arithmetic of the four neighbour searches, the container-based
`CardinalityInRange`, the iterator-based `IntersectsWithInterval`, the key-merging walks of `Equals` / `Intersects` /
`AndCardinality` / `OrCardinality`, and the container kernels `andCardinality` / `intersects` / `equals` of the 3×3 pairings);
the `l2q` / `l2q2` correspondence check (`Driver/L2Q.lean`) ties these models to the real Go functions line by line.

The theorems (`Rep.<query>_spec`; one operand in `RepQueryBase`, `CardinalityInRange` and `IntersectsWithInterval` in
`RepQueryRange`, two operands in `RepQueryPair`): for every well-formed `r` (and `s`) — `Rep.wf`, property C09 — and in-domain
arguments the model returns the verified `BSet` query on the abstraction `r.toBSet`; the right-hand sides are literally the
expressions the L1 commands `card empty has min max rank sel cir iwi nv pv nav pav andcard orcard isect eq` compare Go with.  In
particular no driver returns the "Go panics" value `undef` on well-formed operands (the `undef` branches of the walks are
unreachable).  `Minimum` / `Maximum` answer `none` for the panic on an empty bitmap, `Select` `none` for the error result (exactly
when `i ≥` the cardinality); `Rep.equals_spec : x.equals y = (x.toBSet == y.toBSet)` rests on the uniqueness of canonical forms.
The container kernels `andCardinality` / `intersects` / `equals` of all pairings are judged in `RepQueryKern`, at membership
level (`Cont.andCardinalityQ_has`, `Cont.intersectsQ_has`, `Cont.intersectsQ_eq_and2`, `Cont.equalsQ_has`) and at set level
(`Cont.*_spec`); `advanceUntil` from any `lower` (also `pos = -1`) is `advFrom_spec` of `IterBase`.
-/
namespace RModel.Impl
open RModel

/-- the four answers of the L1 checker for a pair, from the L2 drivers, in one statement -/
theorem Rep.pair_queries_spec (x y : Rep) (hx : x.wf = true) (hy : y.wf = true) :
    x.andCardinality y = (BSet.card (BSet.inter x.toBSet y.toBSet) : Int) ∧
    x.orCardinality y = (BSet.card (BSet.union x.toBSet y.toBSet) : Int) ∧
    x.intersects y = (!BSet.isEmpty (BSet.inter x.toBSet y.toBSet)) ∧
    x.equals y = (x.toBSet == y.toBSet) :=
  ⟨Rep.andCardinality_spec x y hx hy, Rep.orCardinality_spec x y hx hy, Rep.intersects_spec x y hx hy,
    Rep.equals_spec x y hx hy⟩

end RModel.Impl
