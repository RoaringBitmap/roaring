import RProofs.Iter
import RProofs.IterAdv
import RProofs.IterRev
import RProofs.IterMany
import RProofs.Rep64
import RModel.Impl.Iter2
/-!
The `roaring64` iterators `IntIt64`, `IntRevIt64`, `ManyIt64` (roaring64/iterables64.go) — built from the 32-bit iterators
`IntIt / IntRevIt / ManyIt` over the buckets exactly the way those are built from the container iterators over the slots,
and proved the same way: `rem` is the rest of the current bucket (shifted by `hs`) followed by the values of the later
buckets, and `valsOfRep64 r = BSet.toList r.toBSet`.  `AdvanceIfNeeded(m)` skips the buckets below the high 32 bits of `m`
and hands the low 32 bits to the 32-bit iterator only in the bucket of `m`.
-/
open RModel.Util
namespace RModel.Impl.It
open RModel RModel.Impl RModel.Impl.ContOps RModel.Impl.ContQuery

/-! ### buckets -/

/-- a bucket holds a non-empty bitmap -/
theorem valsOfRep_ne_nil {r : Rep} (h : r.wf = true) (hne : r.isEmptyGo = false) : valsOfRep r ≠ [] := by
  obtain ⟨y, hy⟩ := exists_mem_of_wf h hne
  intro e
  have := (mem_valsOfRep_iff_mem r h y).mpr hy
  rw [e] at this
  cases this

theorem bucketAt_eq {bs : List Bucket} {i : Nat} (h : i < bs.length) : bucketAt bs i = bs[i] := by
  simp [bucketAt, List.getD_eq_getElem?_getD, h]

theorem bucketAt_mem {bs : List Bucket} {i : Nat} (h : i < bs.length) : bucketAt bs i ∈ bs :=
  Util.getD_mem _ h

theorem drop_buckets {bs : List Bucket} {i : Nat} (h : i < bs.length) :
    bs.drop i = bucketAt bs i :: bs.drop (i + 1) :=
  Util.drop_getD _ h

theorem take_buckets {bs : List Bucket} {k : Nat} (h0 : 0 < k) (h : k ≤ bs.length) :
    bs.take k = bs.take (k - 1) ++ [bucketAt bs (k - 1)] :=
  Util.take_getD _ h0 h

theorem valsOfRep64_eq (r : Rep64) : valsOfRep64 r = r.buckets.flatMap bucketVals := rfl

theorem mem_bucketVals {b : Bucket} (hw : b.bm.wf = true) (x : Nat) :
    x ∈ bucketVals b ↔ (x / 4294967296 = b.high ∧ BSet.mem b.bm.toBSet (x % 4294967296) = true) := by
  rw [bucketVals, mem_map_key fun v hv => valsOfRep_lt hw hv, mem_valsOfRep_iff_mem _ hw]

theorem bucketVals_key {l : List Bucket} (hw : BucketsWf l) (b : Bucket) (hb : b ∈ l) (x : Nat) (hx : x ∈ bucketVals b) :
    x / 4294967296 = b.high :=
  ((mem_bucketVals (hw.ok b hb).2.1 x).mp hx).1

theorem sorted_flatMap_bucketVals (l : List Bucket) (hw : BucketsWf l) : (l.flatMap bucketVals).Pairwise (· < ·) :=
  sorted_flatMap_keyed l hw.sorted fun b hb =>
    ⟨(sorted_valsOfRep (hw.ok b hb).2.1).map _ fun _ _ h => Nat.add_lt_add_left h _, bucketVals_key hw b hb⟩

theorem mem_valsOfRep64 (r : Rep64) (h : r.wf = true) (x : Nat) : x ∈ valsOfRep64 r ↔ BSet.mem r.toBSet x = true := by
  have hw := (bucketsWf_iff r).mp h
  rw [mem_rep64_iff r h, valsOfRep64_eq, List.mem_flatMap]
  refine exists_congr fun b => and_congr_right fun hb => ?_
  rw [mem_bucketVals (hw.ok b hb).2.1, mem_rep b.bm (hw.ok b hb).2.1]
  exact and_congr_left' eq_comm

theorem valsOfRep64_eq_toList (r : Rep64) (h : r.wf = true) : valsOfRep64 r = BSet.toList r.toBSet := by
  have hw := (bucketsWf_iff r).mp h
  have hs := sinc_rep64 r
  have he := even_rep64 r h
  apply Util.sorted_ext _ _ (sorted_flatMap_bucketVals r.buckets hw) (BSet.toList_sorted _ hs he)
  intro x
  rw [← valsOfRep64_eq, mem_valsOfRep64 r h, BSet.mem_toList _ hs he]

theorem later_buckets_ge {bs : List Bucket} (hw : BucketsWf bs) {i : Nat} (hi : i < bs.length) {x : Nat}
    (hx : x ∈ (bs.drop (i + 1)).flatMap bucketVals) : 4294967296 * ((bucketAt bs i).high + 1) ≤ x := by
  have := later_key_lt hw.sorted (bucketVals_key hw) hi hx
  rw [bucketAt_eq hi]
  omega

/-! ## the forward iterator -/

namespace IntIt64

def Inv (ii : IntIt64) : Prop :=
  BucketsWf ii.buckets ∧
    (ii.pos < ii.buckets.length →
      ii.hs = (bucketAt ii.buckets ii.pos).high * 4294967296 ∧ ii.bitmapIter.Inv ∧ ii.bitmapIter.rem ≠ [])

/-- the values still to be delivered: the rest of the current bucket, then all later buckets -/
def rem (ii : IntIt64) : List Nat :=
  if ii.pos < ii.buckets.length then
    ii.bitmapIter.rem.map (ii.hs + ·) ++ (ii.buckets.drop (ii.pos + 1)).flatMap bucketVals
  else []

theorem hasNext_iff {ii : IntIt64} (hi : ii.Inv) : ii.hasNext = true ↔ ii.rem ≠ [] := by
  unfold hasNext rem
  by_cases h : ii.pos < ii.buckets.length
  · have := (hi.2 h).2.2
    simp [h, this]
  · simp [h]

/-- whatever `bitmapIter` held before: `init()` re-`Initialize`s the one embedded 32-bit iterator (`IntIt.reinit_spec`) -/
theorem init_spec (ii : IntIt64) (hw : BucketsWf ii.buckets) :
    ii.init.Inv ∧ ii.init.rem = (ii.buckets.drop ii.pos).flatMap bucketVals ∧ ii.init.buckets = ii.buckets ∧
      ii.init.pos = ii.pos := by
  unfold init
  by_cases h : ii.buckets.length > ii.pos
  · rw [if_pos h]
    have hm := hw.ok _ (bucketAt_mem h)
    obtain ⟨c1, c2⟩ := IntIt.reinit_spec ii.bitmapIter (bucketAt ii.buckets ii.pos).bm hm.2.1
    refine ⟨⟨hw, fun _ => ⟨shl32 _, c1, c2 ▸ valsOfRep_ne_nil hm.2.1 hm.2.2⟩⟩, ?_, rfl, rfl⟩
    simp only [rem]
    rw [if_pos (by exact h), drop_buckets h, List.flatMap_cons, c2, shl32]
    rfl
  · rw [if_neg h]
    refine ⟨⟨hw, fun h' => absurd h' (by omega)⟩, ?_, rfl, rfl⟩
    simp only [rem]
    rw [if_neg (by omega), List.drop_eq_nil_iff.mpr (by omega)]
    rfl

/-- `Initialize(b)` on a USED iterator object (whatever state it is in) starts the enumeration of `b` -/
theorem reinit_spec (ii : IntIt64) (r : Rep64) (h : r.wf = true) :
    (ii.reinit r).Inv ∧ (ii.reinit r).rem = valsOfRep64 r := by
  obtain ⟨h1, h2, -, -⟩ := init_spec { ii with pos := 0, buckets := r.buckets } ((bucketsWf_iff r).mp h)
  exact ⟨h1, h2⟩

theorem create_spec (r : Rep64) (h : r.wf = true) : (create r).Inv ∧ (create r).rem = valsOfRep64 r :=
  reinit_spec {} r h

theorem rem_cons {ii : IntIt64} (hi : ii.Inv) {v : Nat} {t : List Nat} (h : ii.rem = v :: t) :
    ii.pos < ii.buckets.length ∧ ∃ v0 t0, ii.bitmapIter.rem = v0 :: t0 ∧ v = ii.hs + v0 ∧ v0 < 4294967296 ∧
      ii.hs % 4294967296 = 0 ∧
      t = t0.map (ii.hs + ·) ++ (ii.buckets.drop (ii.pos + 1)).flatMap bucketVals := by
  have hl : ii.pos < ii.buckets.length := Classical.not_not.mp fun hc => by
    rw [rem, if_neg hc] at h
    cases h
  obtain ⟨e1, e2, e3⟩ := hi.2 hl
  refine ⟨hl, ?_⟩
  cases hr : ii.bitmapIter.rem with
  | nil => exact absurd hr e3
  | cons v0 t0 =>
    simp only [rem, hl, if_true, hr, List.map_cons, List.cons_append] at h
    injection h with h1 h2
    refine ⟨v0, t0, rfl, h1.symm, IntIt.rem_lt32 e2 (by rw [hr]; simp), by rw [e1]; exact Nat.mul_mod_left _ _, h2.symm⟩

theorem peekNext_spec {ii : IntIt64} (hi : ii.Inv) {v : Nat} {t : List Nat} (h : ii.rem = v :: t) :
    ii.peekNext = v := by
  obtain ⟨hl, v0, t0, hr, hv, hlt, hhs, -⟩ := rem_cons hi h
  have := IntIt.peekNext_spec (hi.2 hl).2.1 hr
  unfold peekNext
  rw [this, hv, show (0xFFFFFFFF : Nat) = 2 ^ 32 - 1 from rfl, Nat.and_two_pow_sub_one_eq_mod, Nat.mod_eq_of_lt hlt]
  exact or_eq_add (k := 32) hlt hhs

/-- the common tail of `Next` and `AdvanceIfNeeded`: the 32-bit iterator has moved on to `it'`, and when that has nothing left
the iterator goes on to the next bucket -/
theorem settle_spec {ii : IntIt64} (hi : ii.Inv) (hl : ii.pos < ii.buckets.length) {it' : IntIt} (h' : it'.Inv) (jj : IntIt64)
    (hj : jj = if (!it'.hasNext) = true then init { ii with bitmapIter := it', pos := ii.pos + 1 }
      else { ii with bitmapIter := it' }) :
    jj.Inv ∧ jj.rem = it'.rem.map (ii.hs + ·) ++ (ii.buckets.drop (ii.pos + 1)).flatMap bucketVals ∧
      jj.buckets = ii.buckets := by
  subst hj
  by_cases hn : it'.hasNext = true
  · rw [hn, if_neg (by decide)]
    exact ⟨⟨hi.1, fun _ => ⟨(hi.2 hl).1, h', (IntIt.hasNext_iff h').mp hn⟩⟩, if_pos hl, rfl⟩
  · have hnil : it'.rem = [] := Classical.not_not.mp fun hc => hn ((IntIt.hasNext_iff h').mpr hc)
    rw [Bool.not_eq_true] at hn
    rw [hn, if_pos (by decide), hnil]
    obtain ⟨i1, i2, i3, -⟩ := init_spec { ii with bitmapIter := it', pos := ii.pos + 1 } hi.1
    exact ⟨i1, i2, i3⟩

theorem next_spec {ii : IntIt64} (hi : ii.Inv) {v : Nat} {t : List Nat} (h : ii.rem = v :: t) :
    ii.next.1 = v ∧ ii.next.2.Inv ∧ ii.next.2.rem = t ∧ ii.next.2.buckets = ii.buckets := by
  obtain ⟨hl, v0, t0, hr, hv, hlt, hhs, ht⟩ := rem_cons hi h
  obtain ⟨n1, n2, n3, -⟩ := IntIt.next_spec (hi.2 hl).2.1 hr
  obtain ⟨s1, s2, s3⟩ := settle_spec hi hl n2 _ rfl
  unfold next
  simp only []
  rw [← apply_ite (Prod.mk (ii.bitmapIter.next.1 ||| ii.hs))]
  exact ⟨by rw [n1, hv]; exact or_eq_add (k := 32) hlt hhs, s1, by rw [s2, n3, ht], s3⟩

theorem follows : Follows Inv rem hasNext next :=
  ⟨hasNext_iff, fun hi _ _ h => let ⟨a, b, c, _⟩ := next_spec hi h; ⟨a, b, c⟩⟩

theorem drain_spec (fuel : Nat) (ii : IntIt64) (hi : ii.Inv) (hf : ii.rem.length ≤ fuel) : (ii.drain fuel).1 = ii.rem :=
  drain_of_protocol follows (fun n i => (drain n i).1) (fun _ => rfl) (fun _ _ => apply_ite Prod.fst _ _ _) fuel ii hi hf

/-! ### `AdvanceIfNeeded` -/

theorem cur_range {ii : IntIt64} (hi : ii.Inv) (hl : ii.pos < ii.buckets.length) {x : Nat}
    (hx : x ∈ ii.bitmapIter.rem.map (ii.hs + ·)) : ii.hs ≤ x ∧ x < ii.hs + 4294967296 := by
  obtain ⟨v, hv, rfl⟩ := List.mem_map.mp hx
  have := IntIt.rem_lt32 (hi.2 hl).2.1 hv
  omega

theorem rem_ge {ii : IntIt64} (hi : ii.Inv) {x : Nat} (hx : x ∈ ii.rem) : ii.pos < ii.buckets.length ∧ ii.hs ≤ x := by
  have hl : ii.pos < ii.buckets.length := by
    apply Classical.byContradiction; intro hc
    simp only [rem, hc, if_false] at hx; cases hx
  refine ⟨hl, ?_⟩
  simp only [rem, hl, if_true, List.mem_append] at hx
  rcases hx with h | h
  · exact (cur_range hi hl h).1
  · have := later_buckets_ge hi.1 hl h
    have e := (hi.2 hl).1
    omega

theorem skipTo_spec (to : Nat) : ∀ (ii : IntIt64), ii.Inv →
    (ii.skipTo to).Inv ∧ (ii.skipTo to).rem = ii.rem.dropWhile (fun x => decide (x < 4294967296 * to)) ∧
      ((ii.skipTo to).pos < (ii.skipTo to).buckets.length → 4294967296 * to ≤ (ii.skipTo to).hs) := by
  intro ii
  fun_induction skipTo ii to with
  | case1 ii hc ih =>
    intro hi
    obtain ⟨hl, hlt⟩ := hc
    rw [shr32] at hlt
    obtain ⟨i1, i2, i3, i4⟩ := init_spec { ii with pos := ii.pos + 1 } hi.1
    obtain ⟨r1, r2, r3⟩ := ih i1
    refine ⟨r1, ?_, r3⟩
    rw [r2, i2]
    simp only [rem, hl, if_true]
    rw [List.dropWhile_append_of_pos]
    intro a ha
    have := cur_range hi hl ha
    have e := (hi.2 hl).1
    simp only [decide_eq_true_eq]
    omega
  | case2 ii hc =>
    intro hi
    rw [shr32] at hc
    refine ⟨hi, ?_, ?_⟩
    · symm
      apply dropWhile_eq_self_of_all_neg
      intro x hx
      obtain ⟨hl, hge⟩ := rem_ge hi hx
      simp only [decide_eq_false_iff_not]
      have : ¬ ii.hs / 4294967296 < to := fun h => hc ⟨hl, h⟩
      omega
    · intro hl
      have : ¬ ii.hs / 4294967296 < to := fun h => hc ⟨hl, h⟩
      omega

/-- no bound on `m` is needed: the model takes `m >>> 32` and `m % 2^32` of an unbounded `Nat` (the 32-bit level needs
`m < 2^32` because its mask `m &&& 0xffff0000` cuts the higher bits off) -/
theorem advanceIfNeeded_spec_any {ii : IntIt64} (hi : ii.Inv) (m : Nat) :
    (ii.advanceIfNeeded m).Inv ∧ (ii.advanceIfNeeded m).rem = ii.rem.dropWhile (fun x => decide (x < m)) := by
  unfold advanceIfNeeded
  simp only [shr32]
  -- `m = 2^32 * to + lo`, bucket key and low bits
  have hsplit : m = 4294967296 * (m / 4294967296) + m % 4294967296 ∧ m % 4294967296 < 4294967296 := by omega
  generalize m / 4294967296 = to at hsplit ⊢
  generalize m % 4294967296 = lo at hsplit ⊢
  obtain ⟨rfl, hlo⟩ := hsplit
  obtain ⟨s1, s2, s3⟩ := skipTo_spec to ii hi
  generalize ii.skipTo to = jj at s1 s2 s3
  rw [← dropWhile_dropWhile_of_imp (p := fun x => decide (x < 4294967296 * to))
    (fun x hx => by simp only [decide_eq_true_eq] at hx ⊢; omega) ii.rem, ← s2]
  by_cases hc : (jj.hasNext && jj.hs / 4294967296 == to) = true
  · rw [if_pos hc]
    simp only [Bool.and_eq_true, beq_iff_eq, hasNext, decide_eq_true_eq] at hc
    obtain ⟨hl, hto⟩ := hc
    have e1 := (s1.2 hl).1
    rw [show 4294967296 * to = jj.hs by omega]
    obtain ⟨a1, a2⟩ := IntIt.advanceIfNeeded_spec (s1.2 hl).2.1 lo hlo
    obtain ⟨t1, t2, -⟩ := settle_spec s1 hl a1 _ rfl
    -- the 32-bit advance acts on the current bucket's part; the later buckets lie above `m`
    refine ⟨t1, t2.trans ?_⟩
    simp only [rem, hl, if_true]
    rw [a2]
    exact (dropWhile_cur_append (fun x hx => by have := later_buckets_ge s1.1 hl hx; omega) _).symm
  · rw [if_neg hc]
    refine ⟨s1, (dropWhile_eq_self_of_all_neg fun x hx => ?_).symm⟩
    obtain ⟨hl, hge⟩ := rem_ge s1 hx
    have h3 := s3 hl
    simp only [Bool.and_eq_true, beq_iff_eq, hasNext, decide_eq_true_eq, not_and] at hc
    have hne := hc hl
    have e := (s1.2 hl).1
    simp only [decide_eq_false_iff_not]
    omega

/-- C04 for roaring64: `AdvanceIfNeeded(m)`: exactly the remaining members `≥ m` stay, the iterator stands on the least
of them -/
theorem advanceIfNeeded_spec {ii : IntIt64} (hi : ii.Inv) (m : Nat) (_hm : m < 18446744073709551616) :
    (ii.advanceIfNeeded m).Inv ∧ (ii.advanceIfNeeded m).rem = ii.rem.dropWhile (fun x => decide (x < m)) :=
  advanceIfNeeded_spec_any hi m

/-- `advanceIfNeeded_spec` in cursor form: a state that represents "the members `≥ c`" goes to the state that represents
"the members `≥ max c m`" -/
theorem advance_from_cursor {ii : IntIt64} (hi : ii.Inv) (r : Rep64) (hr : r.wf = true) (c m : Nat)
    (hm : m < 18446744073709551616) (h : ii.rem = remFrom (BSet.toList r.toBSet) c) :
    (ii.advanceIfNeeded m).Inv ∧ (ii.advanceIfNeeded m).rem = remFrom (BSet.toList r.toBSet) (max c m) := by
  obtain ⟨h1, h2⟩ := advanceIfNeeded_spec hi m hm
  refine ⟨h1, ?_⟩
  rw [h2, h]
  exact remFrom_dropWhile (BSet.toList_sorted _ (sinc_rep64 r) (even_rep64 r hr)) c m

theorem create_from_cursor (r : Rep64) (hr : r.wf = true) : (create r).rem = remFrom (BSet.toList r.toBSet) 0 := by
  rw [(create_spec r hr).2, valsOfRep64_eq_toList r hr, remFrom_zero]

/-- `HasNext` / `PeekNext` of a state representing "the members `≥ c`" are the set-level answers -/
theorem peek_eq_nextValue {ii : IntIt64} (hi : ii.Inv) (r : Rep64) (hr : r.wf = true) (c : Nat)
    (h : ii.rem = remFrom (BSet.toList r.toBSet) c) :
    (if ii.hasNext then some ii.peekNext else none) = BSet.nextValue r.toBSet c := by
  rw [← remFrom_toList_head _ (sinc_rep64 r) (even_rep64 r hr) c, ← h]
  exact peek_eq_head? (hasNext_iff hi) fun _ _ => peekNext_spec hi

end IntIt64

/-- C04 for roaring64, `Iterator()`: draining a fresh `roaring64` iterator yields the members of the denoted set, each
once, in increasing order -/
theorem IntIt64.drain_create (r : Rep64) (h : r.wf = true) (fuel : Nat) (hf : BSet.card r.toBSet ≤ fuel) :
    ((IntIt64.create r).drain fuel).1 = BSet.toList r.toBSet := by
  obtain ⟨h1, h2⟩ := IntIt64.create_spec r h
  have e := valsOfRep64_eq_toList r h
  rw [IntIt64.drain_spec fuel _ h1 (by rw [h2, e, BSet.toList_length]; exact hf), h2, e]

/-! ## the reverse iterator -/

namespace IntRevIt64

def Inv (ii : IntRevIt64) : Prop :=
  BucketsWf ii.buckets ∧ ii.posP ≤ ii.buckets.length ∧
    (0 < ii.posP →
      ii.hs = (bucketAt ii.buckets (ii.posP - 1)).high * 4294967296 ∧ ii.bitmapIter.Inv ∧ ii.bitmapIter.rem ≠ [])

/-- the values still to be delivered, ascending (they come out last first): all earlier buckets, then the rest of the
current one -/
def rem (ii : IntRevIt64) : List Nat :=
  if 0 < ii.posP then
    (ii.buckets.take (ii.posP - 1)).flatMap bucketVals ++ ii.bitmapIter.rem.map (ii.hs + ·)
  else []

theorem hasNext_iff {ii : IntRevIt64} (hi : ii.Inv) : ii.hasNext = true ↔ ii.rem ≠ [] := by
  unfold hasNext rem
  by_cases h : 0 < ii.posP
  · have := (hi.2.2 h).2.2
    simp [h, this]
  · simp [h]

theorem init_spec (ii : IntRevIt64) (hw : BucketsWf ii.buckets) (hp : ii.posP ≤ ii.buckets.length) :
    ii.init.Inv ∧ ii.init.rem = (ii.buckets.take ii.posP).flatMap bucketVals ∧ ii.init.buckets = ii.buckets ∧
      ii.init.posP = ii.posP := by
  unfold init
  by_cases h : 0 < ii.posP
  · rw [if_pos h]
    have hk : ii.posP - 1 < ii.buckets.length := by omega
    have hm := hw.ok _ (bucketAt_mem hk)
    obtain ⟨c1, c2⟩ := IntRevIt.reinit_spec ii.bitmapIter (bucketAt ii.buckets (ii.posP - 1)).bm hm.2.1
    refine ⟨⟨hw, hp, fun _ => ⟨shl32 _, c1, c2 ▸ valsOfRep_ne_nil hm.2.1 hm.2.2⟩⟩, ?_, rfl, rfl⟩
    simp only [rem]
    rw [if_pos (by exact h), c2, shl32, take_buckets h hp, List.flatMap_append, List.flatMap_cons, List.flatMap_nil,
      List.append_nil]
    rfl
  · rw [if_neg h]
    refine ⟨⟨hw, hp, fun h' => absurd h' h⟩, ?_, rfl, rfl⟩
    have h0 : ii.posP = 0 := by omega
    simp only [rem]
    rw [if_neg (by exact h), h0]
    rfl

/-- `Initialize(b)` on a USED iterator object (whatever state it is in) starts the enumeration of `b` -/
theorem reinit_spec (ii : IntRevIt64) (r : Rep64) (h : r.wf = true) :
    (ii.reinit r).Inv ∧ (ii.reinit r).rem = valsOfRep64 r := by
  obtain ⟨h1, h2, -, -⟩ := init_spec { ii with buckets := r.buckets, posP := r.buckets.length } ((bucketsWf_iff r).mp h)
    (Nat.le_refl _)
  refine ⟨h1, h2.trans ?_⟩
  show (r.buckets.take r.buckets.length).flatMap bucketVals = _
  rw [List.take_length, valsOfRep64_eq]

theorem create_spec (r : Rep64) (h : r.wf = true) : (create r).Inv ∧ (create r).rem = valsOfRep64 r :=
  reinit_spec {} r h

theorem next_spec {ii : IntRevIt64} (hi : ii.Inv) {v : Nat} {t : List Nat} (h : ii.rem = t ++ [v]) :
    ii.next.1 = v ∧ ii.next.2.Inv ∧ ii.next.2.rem = t ∧ ii.next.2.buckets = ii.buckets := by
  have hp : 0 < ii.posP := Nat.pos_of_ne_zero fun hc => by
    rw [rem, if_neg (by omega)] at h
    exact absurd (congrArg List.length h) (by simp)
  obtain ⟨e1, e2, e3⟩ := hi.2.2 hp
  rcases eq_nil_or_snoc ii.bitmapIter.rem with hr | ⟨t0, v0, hr⟩
  · exact absurd hr e3
  rw [rem, if_pos hp, hr, List.map_append, ← List.append_assoc] at h
  obtain ⟨rfl, hv⟩ := List.append_inj' h rfl
  obtain rfl : ii.hs + v0 = v := (List.cons.inj hv).1
  obtain ⟨n1, n2, n3, -⟩ := IntRevIt.next_spec e2 hr
  have hval : ii.bitmapIter.next.1 ||| ii.hs = ii.hs + v0 := by
    rw [n1]
    exact or_eq_add (k := 32) (IntRevIt.rem_lt32 e2 (by rw [hr]; simp)) (by rw [e1]; exact Nat.mul_mod_left _ _)
  unfold next
  simp only []
  by_cases hn : ii.bitmapIter.next.2.hasNext = true
  · simp only [hn, Bool.not_true, Bool.false_eq_true, if_false]
    refine ⟨hval, ⟨hi.1, hi.2.1, fun _ => ⟨e1, n2, (IntRevIt.hasNext_iff n2).mp hn⟩⟩, ?_, trivial⟩
    rw [rem, if_pos hp, n3]
  · have hnil : t0 = [] := n3 ▸ Classical.not_not.mp fun hc => hn ((IntRevIt.hasNext_iff n2).mpr hc)
    simp only [Bool.not_eq_true] at hn
    simp only [hn, Bool.not_false, if_true]
    obtain ⟨i1, i2, i3, -⟩ := init_spec { ii with bitmapIter := ii.bitmapIter.next.2, posP := ii.posP - 1 } hi.1
      (Nat.le_trans (Nat.sub_le _ _) hi.2.1)
    refine ⟨hval, i1, ?_, i3⟩
    rw [i2, hnil]
    simp

theorem follows : Follows Inv (fun ii => ii.rem.reverse) hasNext next :=
  .ofRev hasNext_iff fun hi _ _ h => let ⟨a, b, c, _⟩ := next_spec hi h; ⟨a, b, c⟩

theorem drain_spec (fuel : Nat) (ii : IntRevIt64) (hi : ii.Inv) (hf : ii.rem.length ≤ fuel) :
    (ii.drain fuel).1 = ii.rem.reverse :=
  drain_of_protocol follows (fun n i => (drain n i).1) (fun _ => rfl) (fun _ _ => apply_ite Prod.fst _ _ _) fuel ii hi
    (by rw [List.length_reverse]; exact hf)

/-- C04 for roaring64, `ReverseIterator()`: draining a fresh `roaring64` reverse iterator yields the members of the
denoted set, each once, in decreasing order -/
theorem drain_create (r : Rep64) (h : r.wf = true) (fuel : Nat) (hf : BSet.card r.toBSet ≤ fuel) :
    ((create r).drain fuel).1 = (BSet.toList r.toBSet).reverse := by
  obtain ⟨h1, h2⟩ := create_spec r h
  have e := valsOfRep64_eq_toList r h
  rw [drain_spec fuel _ h1 (by rw [h2, e, BSet.toList_length]; exact hf), h2, e]

end IntRevIt64

/-! ## the many-iterator -/

namespace ManyIt64

/-- like `ManyIt.Inv`: a many-iterator may rest on an exhausted bucket (the next call moves on); `iter = nil`
(`iterSet = false`) iff it is past the last bucket -/
def Inv (ii : ManyIt64) : Prop :=
  BucketsWf ii.buckets ∧
    (ii.pos < ii.buckets.length →
      ii.hs = (bucketAt ii.buckets ii.pos).high * 4294967296 ∧ ii.bitmapIter.Inv ∧ ii.iterSet = true) ∧
    (¬ ii.pos < ii.buckets.length → ii.iterSet = false)

def rem (ii : ManyIt64) : List Nat :=
  if ii.pos < ii.buckets.length then
    ii.bitmapIter.rem.map (ii.hs + ·) ++ (ii.buckets.drop (ii.pos + 1)).flatMap bucketVals
  else []

theorem init_spec (ii : ManyIt64) (hw : BucketsWf ii.buckets) :
    ii.init.Inv ∧ ii.init.rem = (ii.buckets.drop ii.pos).flatMap bucketVals ∧ ii.init.buckets = ii.buckets ∧
      ii.init.pos = ii.pos := by
  unfold init
  by_cases h : ii.buckets.length > ii.pos
  · rw [if_pos h]
    have hm := hw.ok _ (bucketAt_mem h)
    obtain ⟨c1, c2⟩ := ManyIt.reinit_spec ii.bitmapIter (bucketAt ii.buckets ii.pos).bm hm.2.1
    refine ⟨⟨hw, fun _ => ⟨shl32 _, c1, rfl⟩, fun h' => absurd h h'⟩, ?_, rfl, rfl⟩
    simp only [rem]
    rw [if_pos (by exact h), drop_buckets h, List.flatMap_cons, c2, shl32]
    rfl
  · rw [if_neg h]
    refine ⟨⟨hw, fun h' => absurd h' (by omega), fun _ => rfl⟩, ?_, rfl, rfl⟩
    simp only [rem]
    rw [if_neg (by omega), List.drop_eq_nil_iff.mpr (by omega)]
    rfl

theorem reinit_spec (ii : ManyIt64) (r : Rep64) (h : r.wf = true) :
    (ii.reinit r).Inv ∧ (ii.reinit r).rem = valsOfRep64 r := by
  obtain ⟨h1, h2, -, -⟩ := init_spec { ii with pos := 0, buckets := r.buckets } ((bucketsWf_iff r).mp h)
  exact ⟨h1, h2⟩

theorem create_spec (r : Rep64) (h : r.wf = true) : (create r).Inv ∧ (create r).rem = valsOfRep64 r :=
  reinit_spec {} r h

/-- one 32-bit `NextMany64` call inside the loop of `NextMany`, on a state whose `iter` is not nil: it delivers a prefix `got`
of what remains, and when the buffer is not full afterwards the current bucket is exhausted -/
theorem step_spec {ii : ManyIt64} (hi : ii.Inv) (hset : ii.iterSet = true) (room : Nat) {got : List Nat} {it' : ManyIt}
    (hr : ii.bitmapIter.nextMany64 ii.hs room = (got, it')) :
    ii.pos < ii.buckets.length ∧ got.length ≤ room ∧
      ii.rem = got ++ ({ ii with bitmapIter := it' } : ManyIt64).rem ∧
      ({ ii with bitmapIter := it' } : ManyIt64).Inv ∧
      (got.length < room →
        ({ ii with bitmapIter := it' } : ManyIt64).rem = (ii.buckets.drop (ii.pos + 1)).flatMap bucketVals) := by
  have hl : ii.pos < ii.buckets.length := by
    apply Classical.byContradiction; intro hc
    have := hi.2.2 hc
    rw [hset] at this
    cases this
  obtain ⟨e1, e2, e3⟩ := hi.2.1 hl
  have hmod : ii.hs % 4294967296 = 0 := by rw [e1]; exact Nat.mul_mod_left _ _
  obtain ⟨n1, n2, n3⟩ := ManyIt.nextMany64_spec e2 ii.hs room hmod
  rw [hr] at n1 n2 n3
  simp only [] at n1 n2 n3
  have hlen : got.length = min room ii.bitmapIter.rem.length := by rw [n1, List.length_map, List.length_take]
  refine ⟨hl, by omega, ?_, ⟨hi.1, fun _ => ⟨e1, n2, e3⟩, fun h' => absurd hl h'⟩, ?_⟩
  · simp only [rem]
    rw [if_pos hl, if_pos hl, n1, n3, ← List.append_assoc, ← List.map_append, List.take_append_drop]
  · intro h
    simp only [rem]
    rw [if_pos hl, n3, List.drop_of_length_le (by omega), List.map_nil, List.nil_append]

theorem loop_spec : ∀ (room : Nat) (ii : ManyIt64), ii.Inv →
    (loop room ii).1 = ii.rem.take room ∧ (loop room ii).2.Inv ∧ (loop room ii).2.rem = ii.rem.drop room := by
  intro room ii
  fun_induction ManyIt64.loop room ii with
  | case1 ii => intro hi; exact ⟨rfl, hi, rfl⟩
  | case2 room ii hr0 hn =>
    intro hi
    have hset : ii.iterSet = false := by simpa using hn
    have hl : ¬ ii.pos < ii.buckets.length := fun hl => by
      have := (hi.2.1 hl).2.2
      rw [hset] at this
      cases this
    have : ii.rem = [] := by simp only [rem]; rw [if_neg hl]
    rw [this]
    exact ⟨by simp, hi, by simp⟩
  | case3 room ii hr0 hn got it' hr hg hl ih =>
    -- nothing delivered: the bucket was exhausted, on to the next one
    intro hi
    obtain ⟨-, -, s3, -, s5⟩ := step_spec hi (by simpa using hn) room hr
    obtain ⟨i1, i2, -, -⟩ := init_spec { ii with bitmapIter := it', pos := ii.pos + 1 } hi.1
    have : ii.rem = ({ ii with bitmapIter := it', pos := ii.pos + 1 } : ManyIt64).init.rem := by
      rw [s3, List.eq_nil_of_length_eq_zero hg, List.nil_append, s5 (by omega), i2]
    rw [this]
    exact ih i1
  | case4 room ii hr0 hn got it' hr hg hl =>
    intro hi
    exact absurd (step_spec hi (by simpa using hn) room hr).1 hl
  | case5 room ii hr0 hn got it' hr hg hge =>
    -- the buffer is full
    intro hi
    obtain ⟨-, s2, s3, s4, -⟩ := step_spec hi (by simpa using hn) room hr
    have e : got.length = room := Nat.le_antisymm s2 hge
    exact ⟨by rw [s3, List.take_left' e], s4, by rw [s3, List.drop_left' e]⟩
  | case6 room ii hr0 hn got it' hr hg hge r ih =>
    intro hi
    obtain ⟨-, s2, s3, s4, -⟩ := step_spec hi (by simpa using hn) room hr
    obtain ⟨j1, j2, j3⟩ := ih s4
    refine ⟨?_, j2, ?_⟩
    · show got ++ (loop (room - got.length) { ii with bitmapIter := it' }).1 = _
      rw [j1, s3, List.take_append, List.take_of_length_le s2]
    · show (loop (room - got.length) { ii with bitmapIter := it' }).2.rem = _
      rw [j3, s3, List.drop_append, List.drop_of_length_le s2, List.nil_append]

theorem nextMany_spec {ii : ManyIt64} (hi : ii.Inv) (cap : Nat) :
    (ii.nextMany cap).1 = ii.rem.take cap ∧ (ii.nextMany cap).2.Inv ∧ (ii.nextMany cap).2.rem = ii.rem.drop cap :=
  loop_spec cap ii hi

theorem nextManySeq_spec : ∀ (caps : List Nat) (ii : ManyIt64), ii.Inv →
    (ii.nextManySeq caps).1 = ii.rem.take caps.sum ∧ (ii.nextManySeq caps).2.Inv ∧
      (ii.nextManySeq caps).2.rem = ii.rem.drop caps.sum :=
  seq_of_protocol (step := nextMany) (fun _ cap hi => nextMany_spec hi cap) nextManySeq (fun _ => rfl) (fun _ _ _ => rfl)

/-- C04 for roaring64, `ManyIterator()`: `NextMany` with ANY sequence of buffer lengths of sufficient total capacity
concatenates to the members of the denoted set, each once, in increasing order -/
theorem nextManySeq_create (r : Rep64) (h : r.wf = true) (caps : List Nat) (hc : BSet.card r.toBSet ≤ caps.sum) :
    ((create r).nextManySeq caps).1 = BSet.toList r.toBSet := by
  obtain ⟨h1, h2⟩ := create_spec r h
  obtain ⟨k1, -, -⟩ := nextManySeq_spec caps _ h1
  have e := valsOfRep64_eq_toList r h
  rw [k1, h2, e]
  apply List.take_of_length_le
  rw [BSet.toList_length]; exact hc

end ManyIt64

end RModel.Impl.It
