import RProofs.Iter2RangesBase
import RProofs.Iter2RangesBmp
import RProofs.Iter2Iterate
/-!
`Bitmap.Ranges()` (iter.go; model: `rangesRep` in `RModel/Impl/Iter2.lean`), part 3: the containers and the assembly.

The candidate ranges `rawRanges c` of a well-formed container are the maximal ranges of its members (`RangesFrom c.has 0`):
the array walk coalesces one-value ranges like `emit`, a run container gives one range per run, the bitmap case is
`bmpRanges_spec` of `Iter2RangesBmp.lean`.  Offset by `key * 65536`, the candidates of all containers are weakly separated
(they touch only across a container boundary) and have the members of the bitmap, and the loop over the containers is the
`emit` fold over that list.  So by `rangesList_spec` and uniqueness (`sep_ext`), `Ranges()` hands exactly `pairsOf r.toBSet`,
in increasing order, to ANY state-transforming yield function until it answers `false`.
-/
open RModel.Util
namespace RModel.Impl.It
open RModel RModel.Impl RModel.Impl.ContOps RModel.Impl.ContQuery

/-! ### the candidate ranges of one container -/

/-- array container: the walk coalesces the one-value ranges `[v, v + 1)` of the sorted values, as `emit` does -/
theorem arrRangesGo_eq : ∀ (l : List Nat) (start end_ : Nat), l.Pairwise (· < ·) → (∀ v ∈ l, end_ ≤ v) →
    arrRangesGo start end_ l = coalesceGo (start, end_) (l.map fun v => (v, v + 1))
  | [], _, _, _, _ => rfl
  | v :: t, start, end_, hs, hb => by
    have hp := List.pairwise_cons.mp hs
    have hv := hb v (List.mem_cons_self ..)
    simp only [arrRangesGo, List.map_cons, coalesceGo]
    by_cases c : v = end_
    · subst c
      rw [if_pos rfl, if_pos (Nat.le_refl _), if_pos (Nat.lt_succ_self _)]
      exact arrRangesGo_eq t start (v + 1) hp.2 hp.1
    · rw [if_neg c, if_neg (by omega), arrRangesGo_eq t v (v + 1) hp.2 hp.1]

theorem arrRanges_spec {xs : List Nat} (h : xs.Pairwise (· < ·)) : RangesFrom xs.contains 0 (arrRanges xs) := by
  have e : arrRanges xs = coalesceP (xs.map fun v => (v, v + 1)) := by
    cases xs with
    | nil => rfl
    | cons v t => exact arrRangesGo_eq t v (v + 1) (List.pairwise_cons.mp h).2 (List.pairwise_cons.mp h).1
  obtain ⟨c1, c2⟩ := coalesceP_spec _ (wsep_singles h).asc
  rw [e]
  exact ⟨c1, fun _ _ => Nat.zero_le _, fun x _ => (c2 x).trans (memPairs_singles xs x)⟩

theorem runRanges_spec {rs : List (Nat × Nat)} (hs : RunSep rs) : RangesFrom (inRuns rs) 0 (runRanges rs) :=
  ⟨sep_runRanges.mpr hs, fun _ _ => Nat.zero_le _, fun x _ => memPairs_runRanges rs x⟩

theorem rawRanges_spec {c : Cont} (h : c.wf = true) : RangesFrom c.has 0 (rawRanges c) := by
  cases c with
  | arr xs => exact arrRanges_spec (wf_arr h).sorted
  | bmp k ws => exact bmpRanges_spec ws (wf_bmp h).1
  | run rs => exact runRanges_spec (wf_run h).sep

/-! ### all containers -/

def offs (hs : Nat) (p : Nat × Nat) : Nat × Nat := (hs + p.1, hs + p.2)

/-- the candidates of one container as `emit` receives them -/
def slotRanges (sl : Slot) : List (Nat × Nat) := (rawRanges sl.c).map (offs (65536 * sl.key))

/-- all candidates in the order `emit` receives them -/
def cands (l : List Slot) : List (Nat × Nat) := l.flatMap slotRanges

theorem cands_cons (sl : Slot) (t : List Slot) : cands (sl :: t) = slotRanges sl ++ cands t := by
  simp only [cands, List.flatMap_cons]

/-- the loop over one container, followed by the `emit` fold over further candidates -/
theorem rangesCont_then {σ : Type} (cb : σ → Nat → Nat → Bool × σ) (hs : Nat) (rest : List (Nat × Nat)) :
    ∀ (l : List (Nat × Nat)) (st : Option (Nat × Nat) × σ),
    (if (rangesCont cb hs l st).1 then rangesList cb rest (rangesCont cb hs l st).2 else rangesCont cb hs l st) =
      rangesList cb (l.map (offs hs) ++ rest) st
  | [], st => rfl
  | (a, b) :: t, st => by
    simp only [rangesCont, List.map_cons, List.cons_append, rangesList, offs]
    by_cases h : (rangesEmit cb st (hs + a) (hs + b)).1 = true
    · simp only [h, if_true]; exact rangesCont_then cb hs rest t _
    · simp [h]

theorem rangesSlots_eq {σ : Type} (cb : σ → Nat → Nat → Bool × σ) : ∀ (l : List Slot) (st : Option (Nat × Nat) × σ),
    rangesSlots cb l st = rangesList cb (cands l) st
  | [], st => rfl
  | sl :: t, st => by
    simp only [rangesSlots]
    rw [rangesSlots_eq cb t, shl16c, cands_cons]
    exact rangesCont_then cb _ _ _ st

theorem memPairs_offs (hs : Nat) : ∀ (l : List (Nat × Nat)) (x : Nat),
    memPairs (l.map (offs hs)) x = (decide (hs ≤ x) && memPairs l (x - hs))
  | [], x => by simp [memPairs]
  | p :: t, x => by
    have e : (decide (hs + p.1 ≤ x) && decide (x < hs + p.2)) =
        (decide (hs ≤ x) && (decide (p.1 ≤ x - hs) && decide (x - hs < p.2))) := by
      rw [Bool.eq_iff_iff]
      simp only [Bool.and_eq_true, decide_eq_true_eq]
      omega
    rw [List.map_cons, memPairs_cons, memPairs_cons, memPairs_offs hs t x, Bool.and_or_distrib_left]
    exact congrArg (· || _) e

theorem sep_slotRanges {sl : Slot} (h : Sep (rawRanges sl.c)) : Sep (slotRanges sl) := by
  refine ⟨?_, ?_⟩
  · intro q hq
    obtain ⟨p, hp, rfl⟩ := List.mem_map.mp hq
    exact Nat.add_lt_add_left (h.1 p hp) _
  · apply List.pairwise_map.mpr
    apply h.2.imp
    intro p q hpq
    exact Nat.add_lt_add_left hpq _

theorem memPairs_slotRanges {sl : Slot} (hw : sl.c.wf = true) (x : Nat) :
    memPairs (slotRanges sl) x = (sl.key == x / 65536 && sl.c.has (x % 65536)) := by
  rw [slotRanges, memPairs_offs, (rawRanges_spec hw).mem _ (Nat.zero_le _), Nat.mul_comm]
  exact chunk_cover (bounded_of_wf hw) x

/-- the candidates of a container lie in its chunk, because their members do -/
theorem slotRanges_bounds {sl : Slot} (hw : sl.c.wf = true) {q : Nat × Nat} (hq : q ∈ slotRanges sl) :
    65536 * sl.key ≤ q.1 ∧ q.2 ≤ 65536 * sl.key + 65536 := by
  apply (sep_slotRanges (rawRanges_spec hw).sep).bounds ?_ hq
  intro x hx
  rw [memPairs_slotRanges hw, Bool.and_eq_true, beq_iff_eq] at hx
  omega

/-- the candidates are weakly separated: they can touch only across a container boundary -/
theorem cands_wsep : ∀ (l : List Slot), SlotsWf l → WSep (cands l)
  | [], _ => WSep.nil
  | sl :: t, hw => by
    rw [cands_cons]
    apply WSep.append (sep_slotRanges (rawRanges_spec hw.head.2).sep).wsep (cands_wsep t hw.tail)
    intro p hp q hq
    have h1 := (slotRanges_bounds hw.head.2 hp).2
    obtain ⟨s, hs, hq'⟩ := List.mem_flatMap.mp hq
    have h2 := (slotRanges_bounds (hw.tail.ok s hs).2 hq').1
    have := hw.head_lt s hs
    omega

theorem memPairs_cands : ∀ (l : List Slot), SlotsWf l → ∀ x, memPairs (cands l) x = slotsHas l x
  | [], _, _ => rfl
  | sl :: t, hw, x => by
    rw [cands_cons, memPairs_append, slotsHas_cons, memPairs_slotRanges hw.head.2, memPairs_cands t hw.tail x]

/-! ### `Ranges()` -/

theorem coalesce_cands (r : Rep) (h : r.wf = true) : coalesceP (cands r.slots) = pairsOf r.toBSet := by
  have hw := (slotsWf_iff r).mp h
  obtain ⟨c1, c2⟩ := coalesceP_spec _ (cands_wsep r.slots hw).asc
  have hc := canon_rep r h
  apply sep_ext _ _ c1 (sep_pairsOf _ (sinc_rep r))
  intro x
  rw [c2 x, memPairs_cands r.slots hw x, memPairs_pairsOf _ (sinc_rep r) hc.2.2, mem_rep r h, has_eq_slotsHas r hw]

theorem pairsOf_start_lt (r : Rep) (h : r.wf = true) {p : Nat × Nat} (hp : p ∈ pairsOf r.toBSet) : p.1 < 4294967296 := by
  have hc := canon_rep r h
  have hs := sep_pairsOf _ (sinc_rep r)
  have := memPairs_start hp (hs.1 p hp)
  rw [memPairs_pairsOf _ (sinc_rep r) hc.2.2] at this
  exact BSet.mem_lt_of_canon _ _ hc _ this

/-- C04, `Ranges()`: the yield function is handed the maximal ranges of consecutive members of the denoted set as
half-open pairs `[start, endExclusive)`, in increasing order, each once, until it answers `false` -/
theorem rangesRep_spec {σ : Type} (r : Rep) (h : r.wf = true) (cb : σ → Nat → Nat → Bool × σ) (s : σ) :
    rangesRep r cb s = (foldUntil2 cb (pairsOf r.toBSet) s).2 := by
  show rangesFinish cb (rangesSlots cb r.slots (none, s)) = _
  rw [rangesSlots_eq, rangesList_spec, coalesce_cands r h]
  congr 1
  apply foldUntil2_congr
  intro s p hp
  -- `uint32(pendingStart)` loses nothing: a range starts at a member, which is below `2^32`
  show cb s (p.1 % 4294967296) p.2 = _
  rw [Nat.mod_eq_of_lt (pairsOf_start_lt r h hp)]

/-- `Ranges()` with a yield function that stops on its `k`-th call: the pairs seen are exactly the first `max k 1`
maximal ranges (all of them when there are fewer, or when the yield function never stops) -/
theorem rangesSeen_spec (r : Rep) (h : r.wf = true) (k : Option Nat) :
    rangesSeen r k =
      match k with
      | none => pairsOf r.toBSet
      | some k => (pairsOf r.toBSet).take (max k 1) := by
  unfold rangesSeen
  rw [rangesRep_spec r h]
  exact foldUntil2_seen k _

end RModel.Impl.It
