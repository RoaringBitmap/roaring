import RModel.Impl.BSI32Ops
import RProofs.BSI32
/-!
Theorems about `RModel/Impl/BSI32Ops.lean`: the rest of `BitSliceIndexing.BSI`.

All statements are relative to the map semantics `getValue : column → Option int64` of `RProofs/BSI32.lean`
(`getValue_eq`, invariant `WF`).  `n`, `m` are EFFECTIVE worker counts (Go: `parallelism`, `0` = `runtime.NumCPU()`).
-/
namespace RModel.BSI32
open RModel.BSet
open RModel.BSI (Good good_nil batches batchesAux parExec)

/-! ### the batches of `parallelExecutor` -/

/-- for every worker count the concatenation of the batches of
`parallelExecutor` is the list that was cut -/
theorem batches_flatten (n : Nat) (l : List Nat) : (batches n l).flatten = l :=
  RModel.BSI.batchesAux_flatten (l.length / n) (n - 1) l

/-- there are exactly `n` batches (one for `n = 0`, which Go never uses: `parallelism == 0` means `NumCPU()`) -/
theorem batchesAux_length (x : Nat) : ∀ (k : Nat) (l : List Nat), (batchesAux x k l).length = k + 1
  | 0, _ => rfl
  | k + 1, l => by simp [batchesAux, batchesAux_length x k]

theorem batches_length (n : Nat) (l : List Nat) : (batches n l).length = (n - 1) + 1 := batchesAux_length _ _ _

/-- every batch but the last holds `⌊card / n⌋` columns (when the set has at least that many left) -/
theorem batches_head_length (n : Nat) (hn : 2 ≤ n) (l : List Nat) :
    ((batches n l).headD []).length = l.length / n := by
  obtain ⟨k, rfl⟩ : ∃ k, n = k + 2 := ⟨n - 2, by omega⟩
  simp only [batches, show k + 2 - 1 = k + 1 by omega, batchesAux, List.headD_cons, List.length_take]
  have : l.length / (k + 2) ≤ l.length := Nat.div_le_self _ _
  omega

theorem parExec_rel (n : Nat) (worker : List Nat → BSet) (R : Nat → Nat → Prop)
    (hw : ∀ bt x, Good (worker bt) ∧ (mem (worker bt) x = true ↔ ∃ c ∈ bt, R c x)) (l : List Nat) (x : Nat) :
    Good (parExec n worker l) ∧ (mem (parExec n worker l) x = true ↔ ∃ c ∈ l, R c x) :=
  ⟨RModel.BSI.good_parExec n worker (fun bt => (hw bt 0).1) l,
    RModel.BSI.mem_parExec n worker R (fun bt => (hw bt 0).1) (fun bt x => (hw bt x).2) l x⟩

theorem parExec_one_batch (n : Nat) (worker : List Nat → BSet) (R : Nat → Nat → Prop)
    (hw : ∀ bt x, Good (worker bt) ∧ (mem (worker bt) x = true ↔ ∃ c ∈ bt, R c x)) (l : List Nat) :
    parExec n worker l = worker l :=
  RModel.BSI.parExec_one_batch n worker R (fun bt => (hw bt 0).1) (fun bt x => (hw bt x).2) l

theorem parExec_independent (n m : Nat) (worker : List Nat → BSet) (R : Nat → Nat → Prop)
    (hw : ∀ bt x, Good (worker bt) ∧ (mem (worker bt) x = true ↔ ∃ c ∈ bt, R c x)) (l : List Nat) :
    parExec n worker l = parExec m worker l :=
  (parExec_one_batch n worker R hw l).trans (parExec_one_batch m worker R hw l).symm

/-! ### `CompareValue`: independence of the worker count -/

theorem compareBatch_eq (b : Index) (op : Op) (k k2 : Int) (bt : List Nat) :
    compareBatch b op k k2 bt = BSet.ofList (bt.filter (keep b op k k2)) := RModel.BSI.foldl_addIf_eq _ _

/-- with every number of workers `CompareValue` returns the bitmap of the closed form
`BSI32.compareValue` (for which `compare_spec` holds) -/
theorem compareValue_worker_independent (b : Index) (h : WF b) (n : Nat) (op : Op) (k k2 : Int) (found : Option BSet)
    (hf : ∀ f, found = some f → Good f) :
    compareValuePar b n op k k2 found = compareValue b op k k2 found := by
  have hg := good_found b h found hf
  show parExec n (compareBatch b op k k2) (toList (found.getD b.ebm)) = _
  rw [RModel.BSI.parExec_filter n _ _ (compareBatch_eq b op k k2), compareBatch_eq]
  -- the set of a sorted list, built by insertion and built from the front
  apply RModel.BSI.sinc_ext _ _ (RModel.BSI.good_ofList _).1 (good_compareValue b h op k k2 found hf).1
  intro x
  rw [RModel.BSI.mem_ofList, compareValue, (ofSorted_spec _ ((toList_sorted _ hg.1 hg.2).filter _)).2.2, decide_eq_true_eq]

/-- corollary: the specification of `CompareValue` for every worker count -/
theorem compareValuePar_spec (b : Index) (h : WF b) (n : Nat) (op : Op) (k k2 : Int) (found : Option BSet)
    (hf : ∀ f, found = some f → Good f) (hk : min64 ≤ k ∧ k ≤ max64) (hk2 : min64 ≤ k2 ∧ k2 ≤ max64) (c : Nat) :
    mem (compareValuePar b n op k k2 found) c = true ↔
      mem (found.getD b.ebm) c = true ∧ pred op (colValue b c) k k2 := by
  rw [compareValue_worker_independent b h n op k k2 found hf]
  exact compare_spec b h op k k2 found hf hk hk2 c

/-! ### `MinMax`: independence of the worker count -/

theorem minMaxStep_assoc (isMax : Bool) (a x y : Int) :
    minMaxStep isMax (minMaxStep isMax a x) y = minMaxStep isMax a (minMaxStep isMax x y) := by
  cases isMax <;> simp only [minMaxStep_eq, Bool.false_eq_true, if_true, if_false]
  · exact Int.min_assoc a x y
  · exact Int.max_assoc a x y

theorem minMaxStep_swap (isMax : Bool) (x y : Int) : minMaxStep isMax x y = minMaxStep isMax y x := by
  cases isMax <;> simp only [minMaxStep_eq, Bool.false_eq_true, if_true, if_false]
  · exact Int.min_comm x y
  · exact Int.max_comm x y

theorem minMaxStep_comm (isMax : Bool) (a x y : Int) :
    minMaxStep isMax (minMaxStep isMax a x) y = minMaxStep isMax (minMaxStep isMax a y) x := by
  rw [minMaxStep_assoc, minMaxStep_swap isMax x y, ← minMaxStep_assoc]

theorem foldl_assoc_acc {α β : Type} (op : β → β → β) (hop : ∀ a x y, op (op a x) y = op a (op x y)) (g : α → β) :
    ∀ (l : List α) (a s : β),
      l.foldl (fun acc c => op acc (g c)) (op a s) = op a (l.foldl (fun acc c => op acc (g c)) s)
  | [], _, _ => rfl
  | x :: l, a, s => by rw [List.foldl_cons, hop, foldl_assoc_acc op hop g l a, List.foldl_cons]

/-- reducing the per-batch reductions (each started at `s`) is
reducing over the concatenation of the batches, from every accumulator that absorbs `s` -/
theorem foldl_flatten_assoc {α β : Type} (op : β → β → β) (hop : ∀ a x y, op (op a x) y = op a (op x y))
    (hcomm : ∀ x y, op x y = op y x) (g : α → β) (s : β) : ∀ (bts : List (List α)) (a : β), op a s = a →
    (bts.map (fun bt => bt.foldl (fun acc c => op acc (g c)) s)).foldl op a =
      bts.flatten.foldl (fun acc c => op acc (g c)) a
  | [], _, _ => rfl
  | bt :: bts, a, ha => by
    have e : op a (bt.foldl (fun acc c => op acc (g c)) s) = bt.foldl (fun acc c => op acc (g c)) a := by
      rw [← foldl_assoc_acc op hop g bt a s, ha]
    simp only [List.map_cons, List.foldl_cons, List.flatten_cons, List.foldl_append]
    rw [e]
    apply foldl_flatten_assoc op hop hcomm g s bts
    rw [← e, hop, hcomm (bt.foldl (fun acc c => op acc (g c)) s) s, ← hop, ha]

/-- with every number of workers `MinMax` returns the value of the closed form
`BSI32.minMax` (for which `minMax_spec` holds) -/
theorem minMax_worker_independent (b : Index) (n : Nat) (isMax : Bool) (found : Option BSet) :
    minMaxPar b n isMax found = minMax b isMax found := by
  have := foldl_flatten_assoc (minMaxStep isMax) (minMaxStep_assoc isMax) (minMaxStep_swap isMax) (getValueD b)
    (if isMax then min64 else max64) (batches n (toList (found.getD b.ebm))) (if isMax then min64 else max64)
    (by simp [minMaxStep])
  rwa [batches_flatten] at this

/-- … also when the goroutines deliver their results in another order (`for val := range resultsChan`) -/
theorem minMax_order_independent (b : Index) (n : Nat) (isMax : Bool) (found : Option BSet) (rs : List Int)
    (hp : rs.Perm ((batches n (toList (found.getD b.ebm))).map (minOrMax b isMax))) :
    rs.foldl (minMaxStep isMax) (if isMax then min64 else max64) = minMax b isMax found := by
  rw [hp.foldl_eq' (fun x _ y _ z => minMaxStep_comm isMax z x y)]
  exact minMax_worker_independent b n isMax found

/-! ### `Sum`: the order of the atomic additions does not matter -/

theorem sumLoop_eq_terms (f : BSet) : ∀ (ps : List BSet) (i : Nat), sumLoop f ps i = (sumTerms f ps i).sum
  | [], _ => rfl
  | p :: ps, i => by simp [sumLoop, sumTerms, sumLoop_eq_terms f ps (i + 1)]

/-- `Sum` starts one goroutine per plane, each performing one `atomic.AddInt64`; in whatever
order the additions take place the total is the value of the closed form `BSI32.sum` (for which `sum_spec` holds) -/
theorem sum_order_independent (b : Index) (found : Option BSet) (terms : List Nat)
    (hp : terms.Perm (sumTerms (found.getD b.ebm) b.planes 0)) :
    sumOfTerms terms = (sum b found).1 := by
  simp only [sumOfTerms, sum, sumLoop_eq_terms, hp.sum_nat]

/-! ### `Transpose` / `IntersectAndTranspose` -/

theorem transposeBatch_eq (b : Index) (bt : List Nat) :
    transposeBatch b bt = BSet.ofList (bt.filterMap (fun c => (getValue b c).map u32)) := by
  rw [BSet.ofList, List.foldl_filterMap, transposeBatch]
  congr 1; funext res c
  simp only [transposeStep]
  cases getValue b c <;> rfl

theorem good_transposeBatch (b : Index) (bt : List Nat) : Good (transposeBatch b bt) :=
  transposeBatch_eq b bt ▸ RModel.BSI.good_ofList _

theorem mem_transposeBatch (b : Index) (bt : List Nat) (k : Nat) :
    mem (transposeBatch b bt) k = true ↔ ∃ c ∈ bt, ∃ v, getValue b c = some v ∧ u32 v = k := by
  rw [transposeBatch_eq, RModel.BSI.mem_ofList]
  simp [List.mem_filterMap]

/-- every worker count gives the result of one worker … -/
theorem transposePar_eq (b : Index) (n : Nat) (found : Option BSet) : transposePar b n found = transpose b found :=
  RModel.BSI.parExec_filterMap n _ _ (transposeBatch_eq b) _

/-- … so the same bitmap for every two worker counts -/
theorem transpose_worker_independent (b : Index) (n m : Nat) (found : Option BSet) :
    transposePar b n found = transposePar b m found :=
  (transposePar_eq b n found).trans (transposePar_eq b m found).symm

/-- for every worker count `IntersectAndTranspose(parallelism, foundSet)` (`Transpose()` for the nil
found set / the existence bitmap) is the set of the values held by the existing columns of the found set, each value
truncated to its low 32 bits (`uint32(value)`): columns of the found set that hold no value contribute nothing. -/
theorem transpose_spec (b : Index) (h : WF b) (n : Nat) (found : Option BSet) (hf : ∀ f, found = some f → Good f) (k : Nat) :
    mem (transposePar b n found) k = true ↔
      ∃ c v, mem (found.getD b.ebm) c = true ∧ getValue b c = some v ∧ u32 v = k := by
  have hg := good_found b h found hf
  rw [transposePar_eq, transpose, mem_transposeBatch]
  simp only [mem_toList _ hg.1 hg.2, exists_and_left]

theorem good_transposePar (b : Index) (n : Nat) (found : Option BSet) : Good (transposePar b n found) :=
  RModel.BSI.good_parExec n _ (good_transposeBatch b) _

theorem u32_of_dom (v : Int) (h : 0 ≤ v ∧ v < 4294967296) : (u32 v : Int) = v := by
  simp only [u32, u64]
  omega

/-- inside the documented domain — the found columns hold values that ARE column ids (`0 ≤ v < 2^32`) — nothing is
truncated: the result is exactly the set of values held by the existing columns of the found set -/
theorem transpose_spec_dom (b : Index) (h : WF b) (n : Nat) (found : Option BSet) (hf : ∀ f, found = some f → Good f)
    (hdom : ∀ c v, mem (found.getD b.ebm) c = true → getValue b c = some v → 0 ≤ v ∧ v < 4294967296) (k : Nat) :
    mem (transposePar b n found) k = true ↔
      ∃ c, mem (found.getD b.ebm) c = true ∧ getValue b c = some (k : Int) := by
  rw [transpose_spec b h n found hf]
  constructor
  · rintro ⟨c, v, hc, hg, rfl⟩
    exact ⟨c, hc, by rw [u32_of_dom v (hdom c v hc hg)]; exact hg⟩
  · rintro ⟨c, hc, hg⟩
    exact ⟨c, k, hc, hg, Int.ofNat_inj.mp (u32_of_dom k (hdom c _ hc hg))⟩

/-! ### `TransposeWithCounts` -/

open RModel.BSI (cell Store)

/-- does column `c` count for the key `k`?  (`uint32(value) == k` for an existing column) -/
def hits (input : Index) (k c : Nat) : Bool :=
  match getValue input c with
  | some v => u32 v == k
  | none => false

/-- how many of the columns `cols` hold a value whose low 32 bits are `k` -/
def countOf (input : Index) (cols : List Nat) (k : Nat) : Nat := cols.countP (hits input k)

theorem countOf_le (input : Index) (cols : List Nat) (k : Nat) : countOf input cols k ≤ cols.length := List.countP_le_length

theorem getValueD_of_cell (r : Index) (k A : Nat) (h : getValue r k = cell A) : getValueD r k = (A : Int) := by
  simp only [getValueD, h, cell]
  split
  · simp_all
  · rfl

/-- the worker's step is a counting step of the store, the key of a column being its value's low 32 bits -/
theorem twcStep_eq_count (input : Index) : twcStep input = store.countStep (fun c => (getValue input c).map u32) := by
  funext res c
  simp only [twcStep, Store.countStep, store]
  cases getValue input c with
  | none => rfl
  | some v => simp only [Option.map_some]; cases getValue res (u32 v) <;> rfl

theorem hits_eq_key (input : Index) (k : Nat) : hits input k = fun c => (getValue input c).map u32 == some k := by
  funext c
  simp only [hits]
  cases getValue input c <;> simp

theorem wf_twcStep (input res : Index) (h : WF res) (c : Nat) : WF (twcStep input res c) := by
  rw [twcStep_eq_count]
  rcases store.countStep_eq _ res c with e | ⟨k, v, e⟩ <;> rw [e]
  · exact h
  · exact wf_setValue _ h _ _

/-- the worker's result: a well-formed auto-sized index that holds, for every key, the count over its batch, and has every
property `J` of the empty index that an increment of a cell preserves -/
theorem twcBatch_spec (input : Index) (cols : List Nat) (hb : cols.length < 9223372036854775808) (J : Index → Prop)
    (hJ0 : J newDefault)
    (hJ : ∀ (res : Index) (N : Nat → Nat), WF res ∧ auto res = true → (∀ k, getValue res k = cell (N k)) →
      (∀ k, min64 ≤ (N k : Int) + 1 ∧ (N k : Int) + 1 ≤ max64) → J res → ∀ k0, J (setValue res k0 ((N k0 : Int) + 1))) :
    WF (twcBatch input cols) ∧ J (twcBatch input cols) ∧
      ∀ k, getValue (twcBatch input cols) k = cell (countOf input cols k) := by
  have := store.foldl_count (fun c => (getValue input c).map u32) J hJ cols newDefault
    (fun _ => 0) ⟨wf_new 0 0, rfl⟩ (getValue_new 0 0)
    (fun _ n hn => by show min64 ≤ (n : Int) ∧ (n : Int) ≤ max64; simp only [min64, max64]; omega) hJ0
  rw [← twcStep_eq_count] at this
  exact ⟨this.1.1, this.2.1, fun k => (this.2.2 k).trans (by rw [countOf, hits_eq_key, Nat.zero_add])⟩

theorem mem_ebm_of_cell (r : Index) (k A : Nat) (h : getValue r k = cell A) : mem r.ebm k = decide (A ≠ 0) := by
  rw [getValue_eq, value] at h
  simp only [cell] at h
  cases hm : mem r.ebm k <;> rw [hm] at h <;> split at h <;> simp_all

theorem get_addIndex_cell (acc r : Index) (h : WF acc) (hr : WF r) (k A B : Nat)
    (hA : getValue acc k = cell A) (hB : getValue r k = cell B) (hb : A + B < 9223372036854775808) :
    getValue (addIndex acc r) k = cell (A + B) := by
  rw [get_addIndex acc r h hr, mem_ebm_of_cell acc k A hA, mem_ebm_of_cell r k B hB, getValueD_of_cell acc k A hA,
    getValueD_of_cell r k B hB, wrap_id _ (by simp only [min64]; omega) (by simp only [max64]; omega)]
  simp only [cell]
  by_cases h1 : A = 0 <;> by_cases h2 : B = 0 <;> simp [h1, h2]
  all_goals omega

/-- the fold of `Add` over the batch results: the cells add up; a further property `P` of the running sum that adding one
batch result preserves (given what is known of the running sum) holds at the end -/
theorem foldl_addIndex_spec (input : Index) (P : Index → Prop)
    (hP : ∀ (acc : Index) (A : Nat → Nat) (bt : List Nat), WF acc → (∀ k, getValue acc k = cell (A k)) →
      (∀ k, A k + bt.length < 9223372036854775808) → P acc → P (addIndex acc (twcBatch input bt))) :
    ∀ (bts : List (List Nat)) (acc : Index) (A : Nat → Nat), WF acc →
    (∀ k, getValue acc k = cell (A k)) → (∀ k, A k + bts.flatten.length < 9223372036854775808) → P acc →
    WF ((bts.map (twcBatch input)).foldl addIndex acc) ∧ P ((bts.map (twcBatch input)).foldl addIndex acc) ∧
    ∀ k, getValue ((bts.map (twcBatch input)).foldl addIndex acc) k = cell (A k + countOf input bts.flatten k)
  | [], acc, A, h, hA, _, hp => ⟨h, hp, fun k => by simp [countOf, hA k]⟩
  | bt :: bts, acc, A, h, hA, hb, hp => by
    simp only [List.map_cons, List.foldl_cons]
    have hlen : ∀ k, A k + (bt.length + bts.flatten.length) < 9223372036854775808 := fun k => by
      have := hb k; simpa using this
    have hbt := twcBatch_spec input bt (by have := hlen 0; omega) (fun _ => True) trivial (fun _ _ _ _ _ _ _ => trivial)
    have ih := foldl_addIndex_spec input P hP bts (addIndex acc (twcBatch input bt)) (fun k => A k + countOf input bt k)
      (wf_addIndex _ _ h hbt.1)
      (fun k => get_addIndex_cell acc _ h hbt.1 k _ _ (hA k) (hbt.2.2 k) (by
        have := hlen k; have := countOf_le input bt k; omega))
      (fun k => by have := hlen k; have := countOf_le input bt k; omega)
      (hP acc A bt h hA (fun k => by have := hlen k; omega) hp)
    refine ⟨ih.1, ih.2.1, fun k => ?_⟩
    rw [ih.2.2 k]
    congr 1
    simp only [countOf, List.flatten_cons, List.countP_append]
    omega

/-- the sum of the batch results of ANY list of batches with fewer than `2^63` columns altogether: the counts over the
concatenation -/
theorem sumResults_spec (input : Index) (bts : List (List Nat)) (hlen : bts.flatten.length < 9223372036854775808) :
    WF (sumResults (bts.map (twcBatch input))) ∧
      ∀ k, getValue (sumResults (bts.map (twcBatch input))) k = cell (countOf input bts.flatten k) := by
  have := foldl_addIndex_spec input (fun _ => True) (fun _ _ _ _ _ _ _ => trivial) bts newDefault (fun _ => 0) (wf_new 0 0)
    (fun k => by rw [newDefault, getValue_new]; rfl) (fun _ => by simpa using hlen) trivial
  exact ⟨this.1, fun k => by simpa [sumResults] using this.2.2 k⟩

theorem batches_flatten_length (n : Nat) (s : BSet) : (batches n (toList s)).flatten.length = card s := by
  rw [batches_flatten, toList_length]

/-- for every worker count, `TransposeWithCounts(parallelism, foundSet)` (nil = the
existence bitmap) is the histogram of the values held by the existing columns of the found set: the new index holds at
key `k` the number of found columns whose value, truncated to its low 32 bits, is `k`, and no key with count `0`
(`cell 0 = none`).  Found columns without a value are not counted.  There is no filter set in this implementation. -/
theorem transposeWithCounts_spec (input : Index) (n : Nat) (found : Option BSet)
    (hlen : card (found.getD input.ebm) < 9223372036854775808) (k : Nat) :
    getValue (transposeWithCounts input n found) k =
      cell (countOf input (toList (found.getD input.ebm)) k) := by
  have := (sumResults_spec input _ (batches_flatten_length n _ ▸ hlen)).2 k
  rwa [batches_flatten] at this

theorem wf_transposeWithCounts (input : Index) (n : Nat) (found : Option BSet)
    (hlen : card (found.getD input.ebm) < 9223372036854775808) : WF (transposeWithCounts input n found) :=
  (sumResults_spec input _ (batches_flatten_length n _ ▸ hlen)).1

/-- the resulting MAP does not depend on the number of workers … -/
theorem transposeWithCounts_worker_independent (input : Index) (n m : Nat) (found : Option BSet)
    (hlen : card (found.getD input.ebm) < 9223372036854775808) (k : Nat) :
    getValue (transposeWithCounts input n found) k = getValue (transposeWithCounts input m found) k := by
  rw [transposeWithCounts_spec input n found hlen, transposeWithCounts_spec input m found hlen]

/-- … nor on the order in which the batch results arrive on the channel and are added up -/
theorem transposeWithCounts_order_independent (input : Index) (n : Nat) (found : Option BSet)
    (hlen : card (found.getD input.ebm) < 9223372036854775808) (bts : List (List Nat))
    (hp : bts.Perm (batches n (toList (found.getD input.ebm)))) (k : Nat) :
    getValue (sumResults (bts.map (twcBatch input))) k = cell (countOf input (toList (found.getD input.ebm)) k) := by
  have hfl : bts.flatten.Perm (toList (found.getD input.ebm)) := by
    have := hp.flatten; rwa [batches_flatten] at this
  rw [(sumResults_spec input bts (by rw [hfl.length_eq, toList_length]; exact hlen)).2 k, countOf, countOf,
    hfl.countP_eq]

/-- the count in set terms: the found columns that exist and hold a value with low 32 bits `k` -/
theorem countOf_pos (input : Index) (s : BSet) (hs : Good s) (k : Nat) :
    0 < countOf input (toList s) k ↔ ∃ c v, mem s c = true ∧ getValue input c = some v ∧ u32 v = k := by
  have hh : ∀ c, hits input k c = true ↔ ∃ v, getValue input c = some v ∧ u32 v = k := fun c => by
    unfold hits; cases getValue input c <;> simp
  rw [countOf, List.countP_pos_iff]
  simp only [mem_toList _ hs.1 hs.2, hh, exists_and_left]

/-! ### `BatchEqual`: the linear scan -/

theorem scanBatch_eq (b : Index) (want : List Nat) (cols : List Nat) :
    scanBatch b want cols = BSet.ofList (cols.filter (fun col => (getValue b col).any (fun v => want.contains (u64 v)))) := by
  rw [← RModel.BSI.foldl_addIf_eq, scanBatch]
  congr 1
  funext out col
  cases getValue b col <;> rfl

/-- the scan is one worker over the whole existence bitmap, whatever the worker count -/
theorem batchEqualScan_eq (b : Index) (n : Nat) (vals : List Nat) :
    batchEqualScan b n vals = if card b.ebm = 0 then [] else scanBatch b vals (toList b.ebm) := by
  simp only [batchEqualScan]
  split
  · rfl
  · exact RModel.BSI.parExec_filter _ _ _ (scanBatch_eq b vals) _

theorem good_batchEqualScan (b : Index) (n : Nat) (vals : List Nat) : Good (batchEqualScan b n vals) := by
  rw [batchEqualScan_eq]
  split
  · exact good_nil
  · rw [scanBatch_eq]; exact RModel.BSI.good_ofList _

/-- the scan path returns, for every worker count and EVERY width of the index, the existing columns whose `uint64`
bit pattern is in the (encoded) value list -/
theorem batchEqualScan_spec (b : Index) (h : WF b) (n : Nat) (vals : List Nat) (c : Nat) :
    mem (batchEqualScan b n vals) c = true ↔ ∃ v, getValue b c = some v ∧ u64 v ∈ vals := by
  rw [batchEqualScan_eq]
  split
  · rename_i h0
    simp only [mem_nil, Bool.false_eq_true, false_iff]
    rintro ⟨v, hg, _⟩
    have := card_zero_mem b.ebm h.ebm h0 c
    rw [(getValue_some b c v hg).1] at this; cases this
  · rw [scanBatch_eq, RModel.BSI.mem_ofList_filter, mem_toList _ h.ebm.1 h.ebm.2]
    constructor
    · rintro ⟨_, hq⟩
      cases hg : getValue b c <;> simp [hg] at hq
      exact ⟨_, rfl, hq⟩
    · rintro ⟨v, hg, hv⟩
      exact ⟨(getValue_some b c v hg).1, by simp [hg, hv]⟩

/-- the scan path does not depend on the worker count (no hypothesis on the index) -/
theorem batchEqualScan_worker_independent (b : Index) (n m : Nat) (vals : List Nat) :
    batchEqualScan b n vals = batchEqualScan b m vals := by
  rw [batchEqualScan_eq, batchEqualScan_eq]

/-! ### `sort.Search` -/

/-- the binary search loop: with enough fuel, on a predicate that is monotone between `i` and `j`, the result `r` splits
`[i, j)` into the part where the predicate fails and the part where it holds -/
theorem goSearchLoop_spec (f : Nat → Bool) (fuel i j : Nat) (hij : i ≤ j) (hf : j - i ≤ fuel)
    (hmono : ∀ a c, i ≤ a → a ≤ c → c < j → f a = true → f c = true) :
    i ≤ goSearchLoop f fuel i j ∧ goSearchLoop f fuel i j ≤ j ∧
      (∀ a, i ≤ a → a < goSearchLoop f fuel i j → f a = false) ∧
      (∀ a, goSearchLoop f fuel i j ≤ a → a < j → f a = true) := by
  fun_induction goSearchLoop f fuel i j with
  | case1 i j =>
    exact ⟨Nat.le_refl _, hij, fun a _ _ => by omega, fun a _ _ => by omega⟩
  | case2 fuel i j hlt m hfm ih =>
    have hh : i ≤ m ∧ m < j := by omega
    clear_value m
    have hfm' : f m = false := by simpa using hfm
    obtain ⟨h1, h2, h3, h4⟩ := ih (by omega) (by omega) (fun a c h1 h2 h3 h4 => hmono a c (by omega) h2 h3 h4)
    generalize goSearchLoop f fuel (m + 1) j = r at *
    refine ⟨by omega, h2, fun a ha1 ha2 => ?_, h4⟩
    by_cases ha : a ≤ m
    · cases hfa : f a
      · rfl
      · rw [hmono a m ha1 ha hh.2 hfa] at hfm'; cases hfm'
    · exact h3 a (by omega) ha2
  | case3 fuel i j hlt m hfm ih =>
    have hh : i ≤ m ∧ m < j := by omega
    clear_value m
    have hfm' : f m = true := by simpa using hfm
    obtain ⟨h1, h2, h3, h4⟩ := ih (by omega) (by omega) (fun a c h1 h2 h3 h4 => hmono a c h1 h2 (by omega) h4)
    generalize goSearchLoop f fuel i m = r at *
    refine ⟨h1, by omega, h3, fun a ha1 ha2 => ?_⟩
    by_cases ha : a < m
    · exact h4 a ha1 ha
    · exact hmono m a hh.1 (by omega) ha2 hfm'
  | case4 fuel i j hlt =>
    exact ⟨Nat.le_refl _, hij, fun a _ _ => by omega, fun a _ _ => by omega⟩

/-- `sort.Search(n, f)` on a monotone predicate: the smallest index at which `f` holds (`n` if none) -/
theorem goSearch_spec (n : Nat) (f : Nat → Bool) (hmono : ∀ a c, a ≤ c → c < n → f a = true → f c = true) :
    goSearch n f ≤ n ∧ (∀ a, a < goSearch n f → f a = false) ∧ (∀ a, goSearch n f ≤ a → a < n → f a = true) := by
  have := goSearchLoop_spec f n 0 n (Nat.zero_le _) (by omega) (fun a c _ h2 h3 h4 => hmono a c h2 h3 h4)
  exact ⟨this.2.1, fun a h => this.2.2.1 a (Nat.zero_le _) h, this.2.2.2⟩

/-- cutting a list at the `sort.Search` index of a predicate that is monotone along the list = splitting it with a filter -/
theorem cut_eq_filter (vals : List Nat) (q : Nat → Bool)
    (hmono : ∀ i j, i ≤ j → j < vals.length → q (vals.getD i 0) = true → q (vals.getD j 0) = true) :
    vals.take (goSearch vals.length (fun i => q (vals.getD i 0))) = vals.filter (fun v => !q v) ∧
    vals.drop (goSearch vals.length (fun i => q (vals.getD i 0))) = vals.filter q := by
  obtain ⟨h1, h2, h3⟩ := goSearch_spec vals.length (fun i => q (vals.getD i 0)) hmono
  generalize goSearch vals.length (fun i => q (vals.getD i 0)) = k at h1 h2 h3
  have htake : ∀ x ∈ vals.take k, q x = false := by
    intro x hx
    obtain ⟨i, hi, rfl⟩ := List.mem_take_iff_getElem.mp hx
    have := h2 i (by omega)
    rwa [List.getD_eq_getElem?_getD, List.getElem?_eq_getElem (by omega), Option.getD_some] at this
  have hdrop : ∀ x ∈ vals.drop k, q x = true := by
    intro x hx
    obtain ⟨i, hi, rfl⟩ := List.mem_drop_iff_getElem.mp hx
    have := h3 (k + i) (by omega) (by omega)
    rwa [List.getD_eq_getElem?_getD, List.getElem?_eq_getElem (by omega), Option.getD_some] at this
  have hsplit : vals = vals.take k ++ vals.drop k := (List.take_append_drop k vals).symm
  constructor
  · conv => rhs; rw [hsplit]
    rw [List.filter_append, List.filter_eq_self.mpr (fun x hx => by simp [htake x hx]),
      List.filter_eq_nil_iff.mpr (fun x hx => by simp [hdrop x hx]), List.append_nil]
  · conv => rhs; rw [hsplit]
    rw [List.filter_append, List.filter_eq_nil_iff.mpr (fun x hx => by simp [htake x hx]),
      List.filter_eq_self.mpr hdrop, List.nil_append]

/-! ### the match trie with `sort.Search` cuts -/

theorem lt_two_pow_of_u64 (v p : Nat) (hv : v < 18446744073709551616) (hp : 64 ≤ p) : v < 2 ^ p :=
  Nat.lt_of_lt_of_le hv (Nat.pow_le_pow_right (n := 2) (by decide) hp)

/-- among `uint64`s that agree above plane `p`, bit `p` is monotone -/
theorem maskBit_mono (v w p : Nat) (hlt : v < w) (hq : v / 2 ^ (p + 1) = w / 2 ^ (p + 1)) (hb : maskBit v p = true) :
    maskBit w p = true := by
  simp only [maskBit, Bool.and_eq_true, decide_eq_true_eq] at hb ⊢
  refine ⟨hb.1, ?_⟩
  -- `v / 2^p ≤ w / 2^p`, and both are twice the common upper part plus bit `p`
  have h := Nat.div_le_div_right (c := 2 ^ p) (Nat.le_of_lt hlt)
  rw [RModel.BSI.div_pow_step v p, RModel.BSI.div_pow_step w p, hq, hb.2] at h
  cases hw : w.testBit p
  · simp only [hw, Bool.toNat_true, Bool.toNat_false] at h; omega
  · rfl

/-- the `sort.Search` cut of `matchTrie` / `estimateBranchCount` on a sorted list of `uint64`s that agree above plane `p`:
`vals[:cut]` are the values without bit `p`, `vals[cut:]` the values with it -/
theorem cutIdx_split (vals : List Nat) (p : Nat) (hs : vals.Pairwise (· < ·))
    (hq : ∀ v ∈ vals, ∀ w ∈ vals, v / 2 ^ (p + 1) = w / 2 ^ (p + 1)) (h64 : ∀ v ∈ vals, v < 18446744073709551616) :
    vals.take (cutIdx vals p) = vals.filter (fun v => !v.testBit p) ∧
    vals.drop (cutIdx vals p) = vals.filter (fun v => v.testBit p) := by
  have hmb : ∀ v ∈ vals, maskBit v p = v.testBit p := by
    intro v hv
    simp only [maskBit]
    by_cases hp : p < 64
    · simp [hp]
    · simp [hp, Nat.testBit_lt_two_pow (lt_two_pow_of_u64 v p (h64 v hv) (by omega))]
  have key := cut_eq_filter vals (fun v => maskBit v p) (by
    intro i j hij hj hb
    rcases Nat.lt_or_eq_of_le hij with hlt | rfl
    · have hi : i < vals.length := by omega
      rw [List.getD_eq_getElem?_getD, List.getElem?_eq_getElem hi] at hb
      rw [List.getD_eq_getElem?_getD, List.getElem?_eq_getElem hj]
      simp only [Option.getD_some] at hb ⊢
      exact maskBit_mono _ _ p (List.pairwise_iff_getElem.mp hs i j hi hj hlt)
        (hq _ (List.getElem_mem hi) _ (List.getElem_mem hj)) hb
    · exact hb)
  have c1 : vals.filter (fun v => !maskBit v p) = vals.filter (fun v => !v.testBit p) :=
    List.filter_congr (fun v hv => by rw [hmb v hv])
  have c2 : vals.filter (fun v => maskBit v p) = vals.filter (fun v => v.testBit p) :=
    List.filter_congr (fun v hv => hmb v hv)
  exact ⟨by rw [cutIdx, key.1, c1], by rw [cutIdx, key.2, c2]⟩

/-- on a sorted list of `uint64`s that agree above the planes still to visit — what `BatchEqual`
passes and what the recursion maintains — the trie with `sort.Search` cuts is the trie that splits with a filter -/
theorem matchTrieS_eq (b : Index) : ∀ (n : Nat) (vals : List Nat) (pre : BSet), vals.Pairwise (· < ·) →
    (∀ v ∈ vals, ∀ w ∈ vals, v / 2 ^ n = w / 2 ^ n) → (∀ v ∈ vals, v < 18446744073709551616) →
    matchTrieS b n vals pre = matchTrie b n vals pre
  | 0, _, _, _, _, _ => rfl
  | p + 1, vals, pre, hs, hq, h64 => by
    obtain ⟨e1, e2⟩ := cutIdx_split vals p hs hq h64
    -- either half: sorted, its members share bit `p`, so they agree above plane `p - 1`
    have half : ∀ (q : Nat → Bool), (∀ v w, q v = true → q w = true → v.testBit p = w.testBit p) → ∀ pre',
        matchTrieS b p (vals.filter q) pre' = matchTrie b p (vals.filter q) pre' := fun q hq' pre' =>
      matchTrieS_eq b p _ pre' (hs.filter _)
        (fun v hv w hw => (RModel.BSI.div_pow_eq_step v w p).mpr ⟨hq v (List.mem_filter.mp hv).1 w (List.mem_filter.mp hw).1,
          hq' v w (List.mem_filter.mp hv).2 (List.mem_filter.mp hw).2⟩)
        (fun v hv => h64 v (List.mem_filter.mp hv).1)
    have hlo := half (fun v => !v.testBit p) (fun v w a c => by
      simp only [Bool.not_eq_true'] at a c; rw [a, c])
    have hhi := half (fun v => v.testBit p) (fun v w a c => by rw [a, c])
    simp only [matchTrieS, matchTrie, e1, e2, hlo, hhi]

/-! ### `BatchEqual`: every dispatch outcome -/

theorem batchVals_lt64 (bc : Nat) (values : List Int) (z : Nat) (hz : z ∈ batchVals bc values) : z < 18446744073709551616 := by
  obtain ⟨v, _, _, rfl⟩ := (mem_batchVals bc values z).mp hz
  exact u64_lt v

theorem batchVals_div (bc : Nat) (values : List Int) (z : Nat) (hz : z ∈ batchVals bc values) : z / 2 ^ bc = 0 := by
  apply Nat.div_eq_of_lt
  by_cases h : bc ≤ 64
  · exact batchVals_lt bc h values z hz
  · exact lt_two_pow_of_u64 z bc (batchVals_lt64 bc values z hz) (by omega)

theorem matchTrieS_top (b : Index) (bc : Nat) (values : List Int) (pre : BSet) :
    matchTrieS b bc (batchVals bc values) pre = matchTrie b bc (batchVals bc values) pre :=
  matchTrieS_eq b bc _ pre (batchVals_sorted bc values)
    (fun v hv w hw => by rw [batchVals_div bc values v hv, batchVals_div bc values w hw])
    (fun v hv => batchVals_lt64 bc values v hv)

theorem good_batchEqualAny (b : Index) (h : WF b) (h64 : bitCount b ≤ 64) (n : Nat) (values : List Int) :
    Good (batchEqualAny b n values) := by
  simp only [batchEqualAny]
  split
  · exact good_nil
  · split
    · exact good_nil
    · rename_i hvne
      have hne : batchVals (bitCount b) values ≠ [] := fun e => hvne (by simp [e])
      split
      · exact good_batchEqualScan b n _
      · rw [matchTrieS_top]; exact (trie_mem b h h64 values hne 0).1

/-- on an index with at most 64 planes (every index built with `SetValue` / `SetMany` / `ParOr` /
`UnmarshalBinary`; only a carry out of plane 63 in `Add` / `Increment` — an `int64` overflow — creates a 65th plane), for
EVERY dispatch outcome (early exit, match trie, linear scan) and EVERY worker count, `BatchEqual(parallelism, values)`
returns exactly the existing columns whose value is one of the given values.  The values may be ANY `int64`s: a value that
is not representable in the index's width is dropped by the code — correctly, no column can hold it. -/
theorem batchEqualAny_spec (b : Index) (h : WF b) (h64 : bitCount b ≤ 64) (n : Nat) (values : List Int)
    (hv : ∀ v ∈ values, min64 ≤ v ∧ v ≤ max64) (c : Nat) :
    mem (batchEqualAny b n values) c = true ↔ ∃ v ∈ values, getValue b c = some v := by
  have key := batchVals_key b values hv c
  simp only [batchEqualAny]
  split
  · rename_i he
    simpa using no_match_of_isEmpty b values c he
  · split
    · rename_i hve
      simpa using no_match_of_vals_nil b values hv c (by simpa using hve)
    · rename_i hvne
      have hne : batchVals (bitCount b) values ≠ [] := fun e => hvne (by simp [e])
      split
      · rw [batchEqualScan_spec b h n _ c]; exact key
      · rw [matchTrieS_top, (trie_mem b h h64 values hne c).2]; exact key

/-- the scan path alone is right for every width (also beyond 64 planes, where the trie path is not) -/
theorem batchEqualScan_values (b : Index) (h : WF b) (n : Nat) (values : List Int)
    (hv : ∀ v ∈ values, min64 ≤ v ∧ v ≤ max64) (c : Nat) :
    mem (batchEqualScan b n (batchVals (bitCount b) values)) c = true ↔ ∃ v ∈ values, getValue b c = some v := by
  rw [batchEqualScan_spec b h n _ c]; exact batchVals_key b values hv c

/-- the same bitmap for every two worker counts (no hypothesis: the worker count only
enters the linear scan) -/
theorem batchEqual_worker_independent (b : Index) (n m : Nat) (values : List Int) :
    batchEqualAny b n values = batchEqualAny b m values := by
  simp only [batchEqualAny, batchEqualScan_worker_independent b n m]

/-- the dispatch only chooses HOW the result is computed: on an index of at most 64 planes the bitmap is the one the match
trie returns, whatever `shouldUseParallelScan` says (this is what the compiled checker evaluates) -/
theorem batchEqualAny_eq_fast (b : Index) (h : WF b) (h64 : bitCount b ≤ 64) (n : Nat) (values : List Int) :
    batchEqualAny b n values = batchEqualFast b values := by
  simp only [batchEqualAny, batchEqualFast]
  split
  · rfl
  · split
    · rfl
    · rename_i hvne
      have hne : batchVals (bitCount b) values ≠ [] := fun e => hvne (by simp [e])
      split
      · apply RModel.BSI.sinc_ext _ _ (good_batchEqualScan b n _).1 (trie_mem b h h64 values hne 0).1.1
        intro c
        rw [batchEqualScan_spec b h n _ c, (trie_mem b h h64 values hne c).2]
      · exact matchTrieS_top b _ values _

/-- the partial model of `Impl/BSI32.lean` (fewer than 128 distinct values: always the trie) is an instance -/
theorem batchEqualAny_of_batchEqual (b : Index) (n : Nat) (values : List Int) (r : BSet)
    (hr : batchEqual b values = some r) : batchEqualAny b n values = r := by
  unfold batchEqual at hr
  unfold batchEqualAny
  by_cases h1 : (b.ebm.isEmpty || values.isEmpty) = true
  · simpa [h1] using hr
  by_cases h2 : (batchVals (bitCount b) values).isEmpty = true
  · simpa [h1, h2] using hr
  by_cases h3 : (batchVals (bitCount b) values).length ≥ 128
  · simp [h1, h2, h3] at hr
  · simpa [h1, h2, h3, matchTrieS_top] using hr

/-- the dispatch and the trie see the query only through its value list: the order of the query does not matter -/
theorem batchEqualPath_perm (b : Index) {values values' : List Int} (hp : values.Perm values') :
    batchEqualPath b values = batchEqualPath b values' := by
  simp only [batchEqualPath, batchVals_perm _ hp, hp.isEmpty_eq]

theorem batchEqualFast_perm (b : Index) {values values' : List Int} (hp : values.Perm values') :
    batchEqualFast b values = batchEqualFast b values' := by
  simp only [batchEqualFast, batchVals_perm _ hp, hp.isEmpty_eq]

/-! ### `MarshalBinary` / `UnmarshalBinary` -/

/-- the loading loop on data without nil entries: the planes of the data, then what the receiver had beyond them (empty) -/
theorem unmarshalLoop_some : ∀ (qs done : List BSet) (k : Nat),
    unmarshalLoop (qs.map some) (done.length + 1) (done ++ List.replicate k []) =
      some (done ++ qs ++ List.replicate (k - qs.length) [])
  | [], done, k => by simp [unmarshalLoop]
  | q :: qs, done, k => by
    -- the receiver's plane `done.length`, appended when missing, is overwritten with `q`
    have hps : (if (done ++ List.replicate k ([] : BSet)).length < done.length + 1
        then done ++ List.replicate k [] ++ [[]] else done ++ List.replicate k []) =
        done ++ [] :: List.replicate (k - 1) [] := by
      cases k <;> simp [List.replicate_succ]
    have ih := unmarshalLoop_some qs (done ++ [q]) (k - 1)
    simp only [List.length_append, List.length_cons, List.length_nil, List.append_assoc, List.cons_append,
      List.nil_append, Nat.zero_add] at ih
    simp only [List.map_cons, unmarshalLoop, hps, Nat.add_sub_cancel]
    rw [if_pos (by simp), List.set_append_right _ _ (Nat.le_refl _), Nat.sub_self, List.set_cons_zero, ih]
    simp [Nat.sub_sub, Nat.add_comm]

/-- `recv.UnmarshalBinary(src.MarshalBinary())` never panics and yields the planes of
the source followed by as many EMPTY planes as the receiver was wider than the source, the existence bitmap of the source,
and the receiver's `MaxValue` / `MinValue` — the composite `BSI32.unmarshalFrom` -/
theorem roundTrip_eq (recv src : Index) : roundTrip recv src = some (unmarshalFrom recv src) := by
  have h := unmarshalLoop_some src.planes [] recv.planes.length
  simp only [List.length_nil, Nat.zero_add, List.nil_append] at h
  have hm : recv.planes.map (fun _ => ([] : BSet)) = List.replicate recv.planes.length [] := by
    rw [List.map_const']
  simp only [roundTrip, marshalBinary, unmarshalBinary, hm, h, unmarshalFrom, Option.getD_some]

/-- EVERY map survives the round trip exactly — negative values (plane 63 is an ordinary plane, there is
no separate sign plane to lose), every width, every receiver (fresh, previously used, narrower, wider, holding other
columns): the loaded index reads back, column by column, what the source held, and is well formed when the source is. -/
theorem get_marshal32 (recv src : Index) :
    ∃ r, roundTrip recv src = some r ∧ (∀ c, getValue r c = getValue src c) ∧ r.ebm = src.ebm ∧
      r.planes = src.planes ++ List.replicate (recv.planes.length - src.planes.length) [] ∧
      r.maxValue = recv.maxValue ∧ r.minValue = recv.minValue ∧ (WF src → WF r) :=
  ⟨unmarshalFrom recv src, roundTrip_eq recv src, get_unmarshalFrom recv src, rfl, rfl, rfl, rfl, wf_unmarshalFrom recv src⟩

/-- the width after loading: the wider of the two -/
theorem bitCount_roundTrip (recv src : Index) :
    bitCount (unmarshalFrom recv src) = max (bitCount recv) (bitCount src) := by
  simp only [bitCount, unmarshalFrom, List.length_append, List.length_replicate]
  omega

/-! ### non-vacuity: concrete indexes -/

/-- values that are column ids: `{1:5, 2:7, 3:5, 9:0, 12:7, 13:7}` -/
def exT : Index :=
  setValue (setValue (setValue (setValue (setValue (setValue newDefault 1 5) 2 7) 3 5) 9 0) 12 7) 13 7

theorem wf_exT : WF exT := by
  unfold exT
  repeat apply wf_setValue
  exact wf_new 0 0

/-- the index plane by plane, evaluated once -/
theorem exT_eq : exT =
    { planes := [[1, 4, 12, 14], [2, 3, 12, 14], [1, 4, 12, 14]], ebm := [1, 4, 9, 10, 12, 14], maxValue := 0, minValue := 0 } := by
  decide +kernel

/-- 100001 columns: `[0, 100000)` hold 5, column 100000 holds 1000 (10 planes) -/
def exWide : Index := setMany (setValue newDefault 100000 1000) [0, 100000] 5

theorem wf_exWide : WF exWide :=
  wf_setMany _ (wf_setValue _ (wf_new 0 0) _ _) _ ⟨by decide, by decide⟩ _

theorem exWide_eq : exWide =
    { planes := [[0, 100000], [], [0, 100000], [100000, 100001], [], [100000, 100001], [100000, 100001], [100000, 100001],
        [100000, 100001], [100000, 100001]],
      ebm := [0, 100001], maxValue := 0, minValue := 0 } := by
  decide +kernel

/-- 200 scattered values `0, 3, 6, …, 597`, all representable in 10 planes -/
def exQuery : List Int := (List.range 200).map (fun (i : Nat) => 3 * (i : Int))

-- the batches of `parallelExecutor`: n - 1 batches of ⌊card/n⌋ columns, the last one takes the rest; more workers than columns
example : batches 3 [10, 11, 12, 13, 14, 15, 16, 17] = [[10, 11], [12, 13], [14, 15, 16, 17]] ∧
    batches 1 [10, 11, 12] = [[10, 11, 12]] ∧ batches 5 [10, 11, 12] = [[], [], [], [], [10, 11, 12]] := by decide
-- `CompareValue` / `MinMax` with 1, 2, 3, 7 workers on the index of `RProofs/BSI32.lean` ({1:2, 2:70000, 3:-3, 9:0})
example : [1, 2, 3, 7].map (fun n => compareValuePar exIdx n .LT 0 0 none) = List.replicate 4 [3, 4] ∧
    [1, 2, 3, 7].map (fun n => compareValuePar exIdx n .RANGE (-3) 2 (some [2, 4, 9, 10])) = List.replicate 4 [3, 4, 9, 10] ∧
    [1, 2, 3, 7].map (fun n => minMaxPar exIdx n false none) = List.replicate 4 (-3) ∧
    [1, 2, 3, 7].map (fun n => minMaxPar exIdx n true (some [1, 2, 3, 4])) = List.replicate 4 2 := by
  rw [exIdx_eq]; decide +kernel
example : compareValuePar exIdx 3 .LT 0 0 none = compareValue exIdx .LT 0 0 none :=
  compareValue_worker_independent exIdx wf_exIdx 3 .LT 0 0 none (by simp)
-- `Sum`: the plane terms in another order
example : sumOfTerms (sumTerms exT.ebm exT.planes 0).reverse = 31 ∧ sum exT none = (31, 6) := by
  rw [exT_eq]; decide +kernel
-- `Transpose`: the values as column ids; a found set (superset of / disjoint from the existing columns); truncation to 32 bits
example : [1, 2, 5].map (fun n => transposePar exT n none) = List.replicate 3 [0, 1, 5, 6, 7, 8] ∧
    transposePar exT 2 (some [2, 4, 50, 60]) = [5, 6, 7, 8] ∧ transposePar exT 2 (some [50, 60]) = [] ∧
    transposePar exIdx 2 none = [0, 1, 2, 3, 70000, 70001, 4294967293, 4294967294] := by
  rw [exT_eq, exIdx_eq]; decide +kernel
example (k : Nat) : mem (transposePar exT 4 (some [2, 4])) k = true ↔
    ∃ c, mem [2, 4] c = true ∧ getValue exT c = some (k : Int) :=
  transpose_spec_dom exT wf_exT 4 (some [2, 4]) (fun f e => by cases e; exact ⟨by decide, by decide⟩)
    (fun c v hc hg => by
      have hc' : c = 2 ∨ c = 3 := by
        simp only [Option.getD_some] at hc
        have := (mem_toList [2, 4] (by decide) (by decide) c).mpr hc
        simp only [toList, List.mem_append, List.mem_range'_1] at this
        simp at this
        omega
      rcases hc' with rfl | rfl
      · cases (show getValue exT 2 = some 7 by decide +kernel) ▸ hg; decide
      · cases (show getValue exT 3 = some 5 by decide +kernel) ▸ hg; decide) k
-- `TransposeWithCounts`: value ↦ number of columns holding it; 1, 2, 3, 7 workers; a found set
example : [1, 2, 3, 7].map (fun n => [0, 5, 7, 6].map (getValue (transposeWithCounts exT n none))) =
      List.replicate 4 [some 1, some 2, some 3, none] ∧
    [0, 5, 7].map (getValue (transposeWithCounts exT 2 (some [2, 4, 12, 13, 50, 60]))) = [none, some 1, some 2] := by
  rw [exT_eq]; decide +kernel
example : getValue (transposeWithCounts exT 3 none) 7 = some 3 := by
  rw [transposeWithCounts_spec exT 3 none (by decide +kernel)]; decide +kernel
-- `BatchEqual`: small lists take the trie; 200 scattered values on 100001 columns take the scan; 200 contiguous values do not
example : batchEqualPath exIdx [2, -3, 7] = some false ∧ batchEqualPath exWide exQuery = some true ∧
    batchEqualPath exWide ((List.range 200).map (fun (i : Nat) => (i : Int))) = some false ∧
    batchEqualPath exT exQuery = some false ∧ batchEqualPath exWide [-1] = none := by
  -- the value list is built by insertion from the front: on an ascending query every insertion walks the whole list,
  -- on the reversed query every insertion is at the head
  rw [batchEqualPath_perm exWide (List.reverse_perm exQuery).symm,
    batchEqualPath_perm exWide (List.reverse_perm ((List.range 200).map (fun (i : Nat) => (i : Int)))).symm,
    exIdx_eq, exWide_eq, exT_eq]
  decide +kernel
example : [1, 2, 3, 7].map (fun n => batchEqualAny exIdx n [2, -3, 7]) = List.replicate 4 [1, 2, 3, 4] ∧
    [1, 2, 3, 7].map (fun n => batchEqualScan exIdx n [2, u64 (-3), 7]) = List.replicate 4 [1, 2, 3, 4] := by
  rw [exIdx_eq]; decide +kernel
example (c : Nat) : mem (batchEqualAny exWide 4 exQuery) c = true ↔ ∃ v ∈ exQuery, getValue exWide c = some v :=
  batchEqualAny_spec exWide wf_exWide (by decide +kernel) 4 exQuery (by
    intro v hv
    simp only [exQuery, List.mem_map, List.mem_range] at hv
    obtain ⟨i, hi, rfl⟩ := hv
    simp only [min64, max64]; omega) c
example : batchEqualFast exWide exQuery = [] ∧ batchEqualFast exWide (1000 :: exQuery) = [100000, 100001] ∧
    batchEqualFast exWide (5 :: exQuery) = [0, 100000] := by
  rw [batchEqualFast_perm exWide (List.reverse_perm exQuery).symm,
    batchEqualFast_perm exWide (List.reverse_perm (1000 :: exQuery)).symm,
    batchEqualFast_perm exWide (List.reverse_perm (5 :: exQuery)).symm, exWide_eq]
  decide +kernel
example : estimate [0, 3, 6, 9] 4 64 = 3 ∧ estimate [0, 1, 2, 3] 4 64 = 0 ∧ estimate [0, 1, 2, 3, 8] 4 64 = 1 ∧
    cutIdx [0, 3, 6, 9] 3 = 3 ∧ goSearch 5 (fun i => decide (2 ≤ i)) = 2 := by decide +kernel
-- the round trip: a used, wider receiver holding other columns; a negative value survives
example : (roundTrip (setValue (new 0 0) 77 (2 ^ 62 + 1)) exIdx).map (fun r => ([1, 2, 3, 9, 77].map (getValue r), bitCount r)) =
    some ([some 2, some 70000, some (-3), some 0, none], 64) ∧
    (roundTrip exIdx exT).map (fun r => ([1, 2, 3, 9].map (getValue r), bitCount r)) =
      some ([some 5, some 7, some 5, some 0], 64) := by
  rw [roundTrip_eq, roundTrip_eq, exIdx_eq, exT_eq]
  decide +kernel
-- data that `MarshalBinary` never produces: a nil entry before a non-empty one panics in a narrow receiver, loads in a wide one
example : unmarshalBinary newDefault [some [1, 3], none, some [1, 2]] = none ∧
    (unmarshalBinary (new 7 0) [some [1, 3], none, some [1, 2]]).map (fun r => [1, 2].map (getValue r)) =
      some [some 2, some 0] ∧ unmarshalBinary newDefault [] = none := by decide +kernel

end RModel.BSI32
