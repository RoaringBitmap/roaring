import RModel.Impl.Serial64
import RModel.Spec.FormatSpec64
import RProofs.Properties.C05
import RProofs.Properties.C06
import RProofs.Properties.C09
import RProofs.Rep64
import RProofs.ByteInputDecode
/-!
The 64-bit portable serialization (`Impl/Serial64.lean`: `Rep64.encode`, `decode64`, `Rep64.validate`, tied to the Go
bytes and to the Go readers by the `l2ser64` / `l2dec64` correspondence lines).  Each theorem is built on the 32-bit
theorem about a bucket's inner stream (`Properties/C05`, `C06`, `C09`): exact size, round trip with trailing bytes and exact
consumption, rejection of proper prefixes, totality of the reader, `Validate` against well-formedness, and agreement in both
directions with the independent reading of the 64-bit format specification.  That a 32-bit read takes at least 8 bytes is
read off the decoder as a client of the byte-input layer (`ByteIn.decode_count_ge`); it gives the bound of 12 bytes per
bucket by which the data, not the untrusted count field, limits the number of buckets the reader builds.
-/
namespace RModel.Impl
open RModel

/-! ### the reader on what the writer wrote -/

namespace Serial64

def bucketBytes (b : Bucket) : Bytes := le32 b.high ++ b.bm.encode specParams

theorem encode_eq64 (r : Rep64) : r.encode specParams = le64 r.buckets.length ++ r.buckets.flatMap bucketBytes := rfl

/-- a 32-bit stream has at least 8 bytes, since the reader that accepts it takes as many -/
theorem encode_length_ge (r : Rep) (hwf : r.wf = true) : 8 ≤ (r.encode specParams).length :=
  ByteIn.decode_count_ge (decode_encode r hwf false [])

theorem buckets_length (l : List Bucket) (h : ∀ b ∈ l, b.bm.wf = true) :
    (l.flatMap bucketBytes).length = (l.map fun b => 4 + b.bm.serializedSize specParams).sum := by
  induction l with
  | nil => rfl
  | cons b t ih =>
    simp only [List.flatMap_cons, List.length_append, List.map_cons, List.sum_cons, bucketBytes, le32_length]
    rw [encode_length b.bm (h b (by simp)), ih (fun b hb => h b (List.mem_cons_of_mem _ hb))]

theorem wf_buckets (r : Rep64) (h : r.wf = true) :
    r.buckets.length < 18446744073709551616 ∧
    (∀ b ∈ r.buckets, b.high < 4294967296 ∧ b.bm.wf = true ∧ b.bm.isEmptyGo = false) := by
  simp only [Rep64.wf, Bool.and_eq_true, List.all_eq_true, Bucket.wf, decide_eq_true_eq, Bool.not_eq_true'] at h
  refine ⟨?_, fun b hb => ⟨(h.2 b hb).1.1, (h.2 b hb).1.2, (h.2 b hb).2⟩⟩
  have := strictInc_length_le (r.buckets.map (·.high)) 4294967296 h.1 (fun x hx => by
    obtain ⟨b, hb, rfl⟩ := List.mem_map.mp hx
    exact (h.2 b hb).1.1)
  rw [List.length_map] at this
  omega

end Serial64

open Serial64

/-- bytes written = `serializedSize` (what `GetSerializedSizeInBytes` reports) -/
theorem Rep64.encode_length (r : Rep64) (hwf : r.wf = true) :
    (r.encode specParams).length = r.serializedSize specParams := by
  rw [encode_eq64, List.length_append, le64_length, buckets_length _ (fun b hb => ((wf_buckets r hwf).2 b hb).2.1)]
  rfl

def Bucket.asDecoded (b : Bucket) (flag : Bool) : Bucket := { high := b.high, bm := b.bm.asDecoded flag, flag := false }

theorem Rep64.asDecoded_eq (r : Rep64) (flag : Bool) :
    r.asDecoded flag = { cow := false, buckets := r.buckets.map (Bucket.asDecoded · flag) } := rfl

namespace Serial64

theorem readBuckets_encode (flag : Bool) (l : List Bucket)
    (h : ∀ b ∈ l, b.high < 4294967296 ∧ b.bm.wf = true ∧ b.bm.isEmptyGo = false) (tail : Bytes) :
    readBuckets specParams flag l.length (l.flatMap bucketBytes ++ tail) = .ok (l.map (Bucket.asDecoded · flag), tail) := by
  induction l with
  | nil => rfl
  | cons b t ih =>
    obtain ⟨hk, hw, _⟩ := h b (by simp)
    have hpos := encode_length_ge b.bm hw
    simp only [List.length_cons, List.flatMap_cons, bucketBytes, List.append_assoc, readBuckets]
    rw [rd32_le32 _ hk]
    simp only
    rw [decode_encode b.bm hw flag]
    simp only
    rw [if_neg (by omega), List.drop_left, ih (fun b hb => h b (List.mem_cons_of_mem _ hb))]
    rfl

end Serial64

/-- `decode64 (encode r ++ tail)` gives back exactly `r` (as a reader builds it) and consumes exactly
`(encode r).length` bytes: round trip, exact consumption, and nothing after the stream is looked at. -/
theorem decode64_encode (r : Rep64) (hwf : r.wf = true) (flag : Bool) (tail : Bytes) :
    decode64 specParams flag (r.encode specParams ++ tail) = .ok (r.asDecoded flag, (r.encode specParams).length) := by
  obtain ⟨hn, hb⟩ := wf_buckets r hwf
  have hlen : (r.encode specParams ++ tail).length - tail.length = (r.encode specParams).length := by simp
  unfold decode64
  rw [← hlen]
  generalize (r.encode specParams ++ tail).length = len
  rw [encode_eq64, List.append_assoc, rd64_le64 _ hn]
  simp only
  rw [readBuckets_encode flag r.buckets hb tail]
  rfl

/-- decoding into an existing bitmap keeps its `copyOnWrite` switch -/
theorem readInto_encode (recv r : Rep64) (hwf : r.wf = true) (flag : Bool) (tail : Bytes) :
    recv.readInto specParams flag (r.encode specParams ++ tail) =
      .ok ({ cow := recv.cow, buckets := (r.asDecoded flag).buckets }, (r.encode specParams).length) := by
  simp [Rep64.readInto, decode64_encode r hwf flag tail]

theorem asDecoded_toBSet (r : Rep64) (flag : Bool) : (r.asDecoded flag).toBSet = r.toBSet := by
  simp [Rep64.toBSet, Rep64.asDecoded, Rep.toBSet, List.map_map, Function.comp_def]

theorem roundtrip_wf64 (r : Rep64) (hwf : r.wf = true) (flag : Bool) : (r.asDecoded flag).wf = true := by
  obtain ⟨-, hb⟩ := wf_buckets r hwf
  simp only [Rep64.wf, Bool.and_eq_true, List.all_eq_true, Rep64.asDecoded_eq, List.map_map, List.all_map] at hwf ⊢
  refine ⟨hwf.1, fun b hb' => ?_⟩
  obtain ⟨hk, hw, hne⟩ := hb b hb'
  have e : (b.bm.asDecoded flag).isEmptyGo = b.bm.isEmptyGo := by simp [Rep.isEmptyGo, Rep.asDecoded]
  simp [Bucket.wf, Bucket.asDecoded, hk, roundtrip_wf b.bm hw flag, e, hne]

/-! ### every input -/

namespace Serial64

theorem readBuckets_no_panic (P : SerParams) (flag : Bool) (n : Nat) (bs : Bytes) : readBuckets P flag n bs ≠ .panic := by
  induction n generalizing bs with
  | zero => simp [readBuckets]
  | succ n ih =>
    unfold readBuckets
    split
    · simp
    · rename_i key bs1 _
      split
      · simp
      · rename_i hp; exact absurd hp (decode_no_panic _ _ _)
      · rename_i bm m _
        split
        · simp
        · have := ih (bs1.drop m)
          split <;> simp_all

theorem readBuckets_succ {P : SerParams} {flag : Bool} {n : Nat} {bs : Bytes} {l : List Bucket} {rest : Bytes}
    (h : readBuckets P flag (n + 1) bs = .ok (l, rest)) :
    ∃ key bs1 bm m l', rdLE 4 bs = some (key, bs1) ∧ decode P flag bs1 = .ok (bm, m) ∧ m ≠ 0 ∧
      readBuckets P flag n (bs1.drop m) = .ok (l', rest) ∧ l = { high := key, bm := bm, flag := false } :: l' := by
  unfold readBuckets at h
  split at h
  · cases h
  · split at h
    · cases h
    · cases h
    · split at h
      · cases h
      · split at h
        · obtain ⟨rfl, rfl⟩ := Prod.mk.inj (Outcome.ok.inj h)
          exact ⟨_, _, _, _, _, (rd32_eq bs).symm.trans ‹_›, ‹_›, ‹_›, ‹_›, rfl⟩
        · cases h
        · cases h

theorem readBuckets_ext {P : SerParams} {flag : Bool} {n : Nat} {bs : Bytes} {l : List Bucket} {rest : Bytes}
    (h : readBuckets P flag n bs = .ok (l, rest)) (t : Bytes) : readBuckets P flag n (bs ++ t) = .ok (l, rest ++ t) := by
  induction n generalizing bs l rest with
  | zero => cases h; rfl
  | succ n ih =>
    obtain ⟨key, bs1, bm, m, l', h1, h2, hm, h3, rfl⟩ := readBuckets_succ h
    simp only [readBuckets, rd32_eq, rdLE_ext h1 t, decode_ext h2 t, if_neg hm,
      List.drop_append_of_le_length (decode_count_le h2), ih h3]

theorem readBuckets_length {P : SerParams} {flag : Bool} {n : Nat} {bs : Bytes} {l : List Bucket} {rest : Bytes}
    (h : readBuckets P flag n bs = .ok (l, rest)) : l.length = n ∧ rest.length + 12 * n ≤ bs.length := by
  induction n generalizing bs l rest with
  | zero => cases h; exact ⟨rfl, Nat.le_refl _⟩
  | succ n ih =>
    obtain ⟨key, bs1, bm, m, l', h1, h2, hm, h3, rfl⟩ := readBuckets_succ h
    obtain ⟨ih1, ih2⟩ := ih h3
    have := decode_count_le h2
    have := ByteIn.decode_count_ge h2
    have := (rdLE_lt h1).2
    rw [List.length_drop] at ih2
    simp only [List.length_cons]
    omega

theorem decode64_ok {P : SerParams} {flag : Bool} {bs : Bytes} {r : Rep64} {c : Nat}
    (h : decode64 P flag bs = .ok (r, c)) :
    ∃ count bs1 l rest, rdLE 8 bs = some (count, bs1) ∧ readBuckets P flag count bs1 = .ok (l, rest) ∧
      r = { cow := false, buckets := l } ∧ c = bs.length - rest.length := by
  unfold decode64 at h
  split at h
  · cases h
  · split at h
    · obtain ⟨rfl, rfl⟩ := Prod.mk.inj (Outcome.ok.inj h)
      exact ⟨_, _, _, _, (rd64_eq bs).symm.trans ‹_›, ‹_›, rfl, rfl⟩
    · cases h
    · cases h

end Serial64

/-- the reader is total: it never reaches an unchecked index (the `panic` outcome) on any input, whatever the count says -/
theorem decode64_no_panic (P : SerParams) (flag : Bool) (bs : Bytes) : decode64 P flag bs ≠ .panic := by
  unfold decode64
  split
  · simp
  · rename_i count bs1 _
    have := readBuckets_no_panic P flag count bs1
    split <;> simp_all

theorem decode64_ext {P : SerParams} {flag : Bool} {bs : Bytes} {v : Rep64 × Nat}
    (h : decode64 P flag bs = .ok v) (t : Bytes) : decode64 P flag (bs ++ t) = .ok v := by
  obtain ⟨r, c⟩ := v
  obtain ⟨count, bs1, l, rest, h1, h2, rfl, rfl⟩ := decode64_ok h
  have := (readBuckets_length h2).2
  have := (rdLE_lt h1).2
  simp only [decode64, rd64_eq, rdLE_ext h1 t, readBuckets_ext h2 t, List.length_append]
  congr 2
  omega

theorem decode64_count_le {P : SerParams} {flag : Bool} {bs : Bytes} {r : Rep64} {c : Nat}
    (h : decode64 P flag bs = .ok (r, c)) : c ≤ bs.length := by
  obtain ⟨_, _, _, _, -, -, -, rfl⟩ := decode64_ok h
  omega

/-- **the untrusted count is bounded by the data**: an accepted stream of `c` bytes holds the 8-byte count and at least
12 bytes (key, 32-bit cookie and size words) for every bucket the reader builds — the number of `append`s never exceeds
`(len - 8) / 12` -/
theorem decode64_bucket_bound {P : SerParams} {flag : Bool} {bs : Bytes} {r : Rep64} {c : Nat}
    (h : decode64 P flag bs = .ok (r, c)) : 8 + 12 * r.buckets.length ≤ c ∧ c ≤ bs.length := by
  obtain ⟨count, bs1, l, rest, h1, h2, rfl, rfl⟩ := decode64_ok h
  obtain ⟨hl, hr⟩ := readBuckets_length h2
  have := (rdLE_lt h1).2
  simp only [hl]
  omega

/-- an accepted stream yields exactly as many buckets as its count field says -/
theorem decode64_count {P : SerParams} {flag : Bool} {bs : Bytes} {r : Rep64} {c : Nat}
    (h : decode64 P flag bs = .ok (r, c)) : ∃ count rest, rd64 bs = some (count, rest) ∧ r.buckets.length = count := by
  obtain ⟨count, bs1, l, rest, h1, h2, rfl, -⟩ := decode64_ok h
  exact ⟨count, bs1, (rd64_eq bs).trans h1, (readBuckets_length h2).1⟩

/-- every proper prefix of a valid stream is rejected with an error (never accepted, never a panic) -/
theorem decode64_prefix_rejected (r : Rep64) (hwf : r.wf = true) (flag : Bool) (k : Nat)
    (hk : k < (r.encode specParams).length) : decode64 specParams flag ((r.encode specParams).take k) = .err :=
  proper_prefix_err (decode64_no_panic _ _) decode64_ext decode64_count_le
    (by simpa using decode64_encode r hwf flag []) hk

/-! ### `Validate` -/

/-- every well-formed representation passes (the model of) `roaring64.Validate` -/
theorem wf64_implies_validate (r : Rep64) (h : r.wf = true) : r.validate = true := by
  simp only [Rep64.wf, Bool.and_eq_true, List.all_eq_true, Bucket.wf, decide_eq_true_eq] at h
  simp only [Rep64.validate, Bool.and_eq_true, List.all_eq_true]
  exact ⟨h.1, fun b hb => ⟨wf_implies_validate b.bm (h.2 b hb).1.2, (h.2 b hb).2⟩⟩

namespace Serial64

theorem readBuckets_shape {P : SerParams} (hP : P.arrayMax = 4096) {flag : Bool} {n : Nat} {bs : Bytes} {l : List Bucket}
    {rest : Bytes} (h : readBuckets P flag n bs = .ok (l, rest)) :
    ∀ b ∈ l, b.high < 4294967296 ∧ (b.bm.validate = true → b.bm.wf = true) := by
  induction n generalizing bs l rest with
  | zero => cases h; nofun
  | succ n ih =>
    obtain ⟨key, bs1, bm, m, l', h1, h2, hm, h3, rfl⟩ := readBuckets_succ h
    intro b hb
    rcases List.mem_cons.mp hb with rfl | hb
    · exact ⟨(rdLE_lt h1).1, decoded_valid_is_wf P hP flag bs1 bm m h2⟩
    · exact ih h3 b hb

end Serial64

/-- decoding succeeded and `Validate()==nil` ⇒ well formed: keys strictly increasing and below `2^32`, no empty bucket,
every bucket a well-formed 32-bit bitmap -/
theorem decoded_valid_is_wf64 (P : SerParams) (hP : P.arrayMax = 4096) (flag : Bool) (bs : Bytes) (r : Rep64) (n : Nat)
    (h : decode64 P flag bs = .ok (r, n)) (hv : r.validate = true) : r.wf = true := by
  obtain ⟨count, bs1, l, rest, -, h2, rfl, -⟩ := decode64_ok h
  have hs := readBuckets_shape hP h2
  simp only [Rep64.validate, Bool.and_eq_true, List.all_eq_true] at hv
  simp only [Rep64.wf, Bool.and_eq_true, List.all_eq_true, Bucket.wf, decide_eq_true_eq]
  exact ⟨hv.1, fun b hb => ⟨⟨(hs b hb).1, (hs b hb).2 (hv.2 b hb).1⟩, (hv.2 b hb).2⟩⟩

end RModel.Impl

/-! ### against the independent reading of the 64-bit specification -/

namespace RModel.FormatSpec
open RModel.Impl RModel.Impl.Serial64

theorem toList_extract_drop (b : Bytes) (p : Nat) : (b.extract p b.size).toList = b.toList.drop p := by
  have hlen : (b.toList.drop p).length = b.size - p := by simp
  simp only [Array.toList_extract, List.extract]
  rw [List.take_of_length_le (by omega)]

theorem extract_of_drop {b : Bytes} {p : Nat} {L : List UInt8} (h : b.toList.drop p = L) :
    b.extract p b.size = L.toArray := by
  apply Array.ext'
  rw [toList_extract_drop, h]

theorem u64_eq (b : Bytes) (i : Nat) : u64 b i = (rd64 (b.toList.drop i)).map (·.1) := by
  rw [rd64_eq, rdLE_add_at 4 4, ← rd32_eq, ← rd32_eq, ← u32_eq, ← u32_eq, u64]
  cases u32 b i <;> cases u32 b (i + 4) <;> rfl

theorem u64_le64 {b : Bytes} {n : Nat} {T : List UInt8} (hn : n < 18446744073709551616)
    (h : b.toList.drop 0 = le64 n ++ T) : u64 b 0 = some n := by
  rw [u64_eq, h, rd64_le64 n hn]; rfl

theorem toBSet_nonempty {c : Rep} (hw : c.wf = true) (hne : c.isEmptyGo = false) : c.toBSet.isEmpty = false := by
  obtain ⟨y, hy⟩ := exists_mem_of_wf hw hne
  cases hs : c.toBSet with
  | nil => rw [hs] at hy; simp [BSet.mem] at hy
  | cons a t => rfl

/-- what `buckets64` checks of the keys: strictly increasing, the first one not below `prev` -/
theorem strictInc_tail {a : Nat} {t : List Nat} (h : strictInc (a :: t) = true) :
    strictInc t = true ∧ ∀ c, t.head? = some c → a + 1 ≤ c := by
  cases t with
  | nil => exact ⟨rfl, nofun⟩
  | cons c u =>
    simp only [strictInc, Bool.and_eq_true, decide_eq_true_eq] at h
    exact ⟨h.2, fun c' hc => by cases hc; exact h.1⟩

theorem buckets64_encode (b : Bytes) (l : List Bucket) {pos prev : Nat} {acc : List BSet} {T : List UInt8}
    (hl : ∀ bk ∈ l, bk.high < 4294967296 ∧ bk.bm.wf = true ∧ bk.bm.isEmptyGo = false)
    (hinc : strictInc (l.map (·.high)) = true) (hprev : ∀ c, (l.map (·.high)).head? = some c → prev ≤ c)
    (hd : b.toList.drop pos = l.flatMap bucketBytes ++ T) :
    buckets64 b l.length pos prev acc =
      some (acc.reverse ++ l.map (fun bk => BSet.shiftUp bk.bm.toBSet (bk.high * 4294967296)),
            pos + (l.flatMap bucketBytes).length) := by
  induction l generalizing pos prev acc with
  | nil => simp [buckets64]
  | cons bk t ih =>
    obtain ⟨hk, hw, hne⟩ := hl bk (by simp)
    have d0 : b.toList.drop pos = le32 bk.high ++ (bk.bm.encode specParams ++ (t.flatMap bucketBytes ++ T)) := by
      rw [hd]; simp [bucketBytes]
    have d4 := drop_app d0
    rw [le32_length] at d4
    have hu : u32 b pos = some bk.high := by rw [u32_eq, d0, rd32_le32 _ hk]; rfl
    have hinner : specDecode (b.extract (pos + 4) b.size) = some ⟨bk.bm.toBSet, (bk.bm.encode specParams).length⟩ := by
      rw [extract_of_drop d4]
      exact encode_conforms_append bk.bm hw _
    have hp : ¬ bk.high < prev := Nat.not_lt.mpr (hprev _ rfl)
    obtain ⟨hinc', hprev'⟩ := strictInc_tail hinc
    have hrec := ih (pos := pos + 4 + (bk.bm.encode specParams).length)
      (acc := BSet.shiftUp bk.bm.toBSet (bk.high * 4294967296) :: acc)
      (fun x hx => hl x (List.mem_cons_of_mem _ hx)) hinc' hprev' (drop_app d4)
    simp only [List.length_cons]
    unfold buckets64
    simp only [hu, Option.bind_eq_bind, Option.bind_some, if_neg hp, hinner, toBSet_nonempty hw hne, Bool.false_eq_true, if_false]
    rw [hrec]
    simp [bucketBytes]
    omega

/-- the bytes written by the library for a well-formed 64-bit bitmap decode, under the independent reading of the 64-bit
format specification, to exactly the bitmap's elements, consuming the whole stream -/
theorem encode64_conforms (r : Rep64) (hwf : r.wf = true) :
    specDecode64 (r.encode specParams).toArray = some ⟨r.toBSet, (r.encode specParams).length⟩ := by
  obtain ⟨hn, hb⟩ := wf_buckets r hwf
  have hinc : strictInc (r.buckets.map (·.high)) = true := by
    simp only [Rep64.wf, Bool.and_eq_true] at hwf; exact hwf.1
  generalize hbb : (r.encode specParams).toArray = b
  have hL : b.toList = r.encode specParams := by rw [← hbb]
  have d0 : b.toList.drop 0 = le64 r.buckets.length ++ (r.buckets.flatMap bucketBytes ++ []) := by
    rw [List.drop_zero, hL, encode_eq64, List.append_nil]
  have d8 := drop_app d0
  rw [le64_length, Nat.zero_add] at d8
  have hsize : b.size = 8 + (r.buckets.flatMap bucketBytes).length := by
    rw [← Array.length_toList, hL, encode_eq64, List.length_append, le64_length]
  -- an honest count: the reader, which accepts the stream, found 12 bytes per bucket
  have h12 : 8 + 12 * r.buckets.length ≤ 8 + (r.buckets.flatMap bucketBytes).length := by
    have := (decode64_bucket_bound (decode64_encode r hwf false [])).1
    rwa [Rep64.asDecoded_eq, List.length_map, encode_eq64, List.length_append, le64_length] at this
  have hbk := buckets64_encode b r.buckets (prev := 0) (acc := []) hb hinc (fun _ _ => Nat.zero_le _) d8
  unfold specDecode64
  simp only [u64_le64 hn d0, Option.bind_eq_bind, Option.bind_some, hbk, Option.pure_def]
  rw [if_neg (by omega)]
  simp only [List.reverse_nil, List.nil_append, Option.some.injEq]
  rw [encode_eq64, List.length_append, le64_length]
  rfl

theorem u64_some {b : Bytes} {i v : Nat} (h : u64 b i = some v) :
    rd64 (b.toList.drop i) = some (v, b.toList.drop (i + 8)) := by
  rw [u64_eq, rd64_eq] at h
  exact rd64_eq _ ▸ (rdLE_at_some (by decide) h).1

theorem buckets64_decodes {b : Bytes} (flag : Bool) {n pos prev : Nat} {acc sets : List BSet} {p : Nat}
    (hpos : pos ≤ b.size) (h : buckets64 b n pos prev acc = some (sets, p)) :
    ∃ l, readBuckets specParams flag n (b.toList.drop pos) = .ok (l, b.toList.drop p) ∧
      sets = acc.reverse ++ l.map (fun bk => BSet.shiftUp bk.bm.toBSet (bk.high * 4294967296)) ∧ p ≤ b.size := by
  induction n generalizing pos prev acc with
  | zero =>
    obtain ⟨rfl, rfl⟩ := Prod.mk.inj (Option.some.inj h)
    exact ⟨[], rfl, by simp, hpos⟩
  | succ n ih =>
    unfold buckets64 at h
    simp only [Option.bind_eq_bind, Option.bind_eq_some_iff, Option.bind_none, Option.ite_none_left_eq_some] at h
    obtain ⟨key, hu, -, inner, hs, -, h⟩ := h
    obtain ⟨hrd, hl4⟩ := u32_some hu
    obtain ⟨r, m, hdec, hset, rfl⟩ := conformant_decodes flag _ inner hs
    rw [toList_extract_drop] at hdec
    have hle := decode_count_le hdec
    have hge := ByteIn.decode_count_ge hdec
    rw [List.length_drop, Array.length_toList] at hle
    rw [Array.length_toList] at hl4
    obtain ⟨l, hl, hsets, hp⟩ := ih (by omega) h
    refine ⟨{ high := key, bm := r, flag := false } :: l, ?_, by simp [hsets, hset], hp⟩
    simp only [readBuckets, hrd, hdec, if_neg (show ¬ inner.consumed = 0 by omega), List.drop_drop, hl]

/-- **read direction.**  Every stream the independent reading of the 64-bit specification accepts is accepted by the
reader (either entry point) and read as exactly the set it encodes, consuming exactly the bytes of the stream. -/
theorem conformant_decodes64 (flag : Bool) (bs : Bytes) (d : Decoded) (h : specDecode64 bs = some d) :
    ∃ r n, decode64 specParams flag bs.toList = .ok (r, n) ∧ r.toBSet = d.set ∧ n = d.consumed := by
  unfold specDecode64 at h
  simp only [Option.bind_eq_bind, Option.bind_eq_some_iff, Option.bind_none, Option.ite_none_left_eq_some, Option.pure_def,
    Option.some.injEq] at h
  obtain ⟨n, hu, hsz, ⟨sets, q⟩, hb, rfl⟩ := h
  obtain ⟨l, hl, hsets, hp⟩ := buckets64_decodes flag (by omega) hb
  have hrd := u64_some hu
  rw [List.drop_zero] at hrd
  refine ⟨{ cow := false, buckets := l }, q, ?_, by simp [Rep64.toBSet, hsets], rfl⟩
  simp only [decode64, hrd, hl, List.length_drop, Array.length_toList]
  congr 2
  omega

/-- non-vacuity: the hypotheses of the theorems of this file are met by a concrete representation (two buckets, the
second one under the top key `2^32 - 1`, array and run containers), and their conclusions are observed on it by evaluation -/
example :
    let r : Rep64 := ⟨false, [⟨0, ⟨false, [⟨0, .arr [1, 5, 9], false⟩, ⟨3, .run [(10, 99)], false⟩]⟩, false⟩,
                              ⟨4294967295, ⟨false, [⟨65535, .arr [65535], true⟩]⟩, true⟩]⟩
    r.wf = true ∧ (r.encode specParams).length = 59 ∧ r.serializedSize specParams = 59 ∧
      (decode64 specParams true (r.encode specParams ++ [7, 7]) == .ok (r.asDecoded true, 59)) = true ∧
      (decode64 specParams false ((r.encode specParams).take 58) == .err) = true ∧
      (r.asDecoded true).validate = true := by
  decide +kernel

end RModel.FormatSpec
