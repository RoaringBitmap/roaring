import RModel.Impl.Par
/-!
Theorems about the channel protocols (property C12, the part that is logic): for EVERY schedule —
conservation invariant, no deadlock before the result is delivered, termination (strictly decreasing variant),
nothing in flight when the channels are closed (hence no send on a closed channel and no worker left holding
work: workers blocked on the closed input channel exit), for any number of work items (including zero and more
than the channel capacities), any worker count ≥ 1 and any capacities ≥ 1.
-/
namespace RModel.Par

/-! ### ParHeapOr / ParAnd -/

theorem hinv_init (items : List Bool) : HInv items.length (HState.init items) := by
  simp [HInv, HState.init]

theorem hinv_step (c : HCfg) (n : Nat) (s s' : HState) (h : HInv n s) (st : HStep c n s s') : HInv n s' := by
  obtain ⟨h1, h2, h3, h4⟩ := h
  cases st <;> simp_all [HInv] <;> omega

theorem hvariant_decreases (c : HCfg) (n : Nat) (s s' : HState) (st : HStep c n s s') :
    s'.variant < s.variant := by
  cases st <;> simp [HState.variant, *] <;> omega

/-- no reachable state is stuck before the caller has closed the channels (deadlock freedom) -/
theorem hno_deadlock (c : HCfg) (hw : 0 < c.workers) (hi : 0 < c.capIn) (hr : 0 < c.capRes)
    (n : Nat) (s : HState) (h : HInv n s) (hc : s.closed = false) : ∃ s', HStep c n s s' := by
  obtain ⟨h1, h2, h3, h4⟩ := h
  by_cases hd : s.delivered = true
  · exact ⟨_, HStep.close hd hc⟩
  · have hd' : s.delivered = false := by simpa using hd
    by_cases hq : 0 < s.resQ
    · exact ⟨_, HStep.appenderRecv hq hd'⟩
    · have hq0 : s.resQ = 0 := by omega
      by_cases hh : 0 < s.held
      · exact ⟨_, HStep.workerPut hh (by omega)⟩
      · by_cases hin : 0 < s.inQ
        · exact ⟨_, HStep.workerTake hin (by omega) hc⟩
        · cases hf : s.feed with
          | nil =>
            by_cases he : s.expectedSent = true
            · have : s.appended = n := by simp [hf] at h1; omega
              exact ⟨_, HStep.deliver he this hd'⟩
            · exact ⟨_, HStep.sendExpected hf (by simpa using he)⟩
          | cons b t =>
            cases b with
            | false => exact ⟨_, HStep.feedDirect hf (by omega)⟩
            | true => exact ⟨_, HStep.feedWorker hf (by omega)⟩

/-- when the caller closes the channels nothing is in flight: no later send can hit a closed channel,
and every worker is idle (blocked on the input channel, which the close releases) -/
theorem hquiescent_at_close (n : Nat) (s : HState) (h : HInv n s) (hd : s.delivered = true) : s.quiescent := by
  obtain ⟨h1, h2, h3, h4⟩ := h
  have ⟨he, ha⟩ := h3 hd
  have hf := h2 he
  simp [HState.quiescent, hf] at *
  omega

/-- the result is delivered only after every work item has been appended -/
theorem hdelivered_complete (n : Nat) (s : HState) (h : HInv n s) (hd : s.delivered = true) : s.appended = n :=
  (h.2.2.1 hd).2

/-- a schedule: `HReach c n s t` when finitely many enabled steps lead from `s` to `t` -/
inductive HReach (c : HCfg) (n : Nat) : HState → HState → Prop
  | refl (s) : HReach c n s s
  | step {s t u} : HReach c n s t → HStep c n t u → HReach c n s u

theorem hinv_reach (c : HCfg) (items : List Bool) (s : HState)
    (r : HReach c items.length (HState.init items) s) : HInv items.length s := by
  induction r with
  | refl => exact hinv_init items
  | step _ st ih => exact hinv_step c _ _ _ ih st

/-- the variant never rises along a schedule; as every step lowers it by at least one (`hvariant_decreases`), a schedule from
`s` has at most `s.variant` steps -/
theorem hreach_bound (c : HCfg) (n : Nat) (s t : HState) (r : HReach c n s t) : t.variant ≤ s.variant := by
  induction r with
  | refl => exact Nat.le_refl _
  | step _ st ih => have := hvariant_decreases c n _ _ st; omega

/-! ### ParOr -/

theorem oinv_init (n : Nat) : OInv n (OState.init n) := by simp [OInv, OState.init]

theorem oinv_step (c : OCfg) (n : Nat) (s s' : OState) (h : OInv n s) (st : OStep c n s s') : OInv n s' := by
  obtain ⟨h1, h2⟩ := h
  cases st with
  | feed a b => exact ⟨by simp; omega, by simpa using h2⟩
  | workerTake a b hc => exact ⟨by simp; omega, by simp [hc]⟩
  | workerPut a b => exact ⟨by simp; omega, by simpa using h2⟩
  | collect a b => exact ⟨by simp; omega, by intro hc; have := h2 hc; simp at *; omega⟩
  | close a b => exact ⟨by simpa using h1, by intro _; simpa using a⟩

theorem ovariant_decreases (c : OCfg) (n : Nat) (s s' : OState) (st : OStep c n s s') :
    s'.variant < s.variant := by
  cases st <;> simp [OState.variant, *] <;> omega

theorem ono_deadlock (c : OCfg) (hw : 0 < c.workers) (hs : 0 < c.capSpec) (hk : 0 < c.capChunk)
    (n : Nat) (s : OState) (h : OInv n s) (hc : s.closed = false) : ∃ s', OStep c n s s' := by
  obtain ⟨h1, h2⟩ := h
  by_cases hr : s.received = n
  · exact ⟨_, OStep.close hr hc⟩
  · by_cases hq : 0 < s.chunkQ
    · exact ⟨_, OStep.collect hq (by omega)⟩
    · by_cases hh : 0 < s.held
      · exact ⟨_, OStep.workerPut hh (by omega)⟩
      · by_cases hsq : 0 < s.specQ
        · exact ⟨_, OStep.workerTake hsq (by omega) hc⟩
        · exact ⟨_, OStep.feed (by omega) (by omega)⟩

theorem oquiescent_at_close (n : Nat) (s : OState) (h : OInv n s) (hr : s.received = n) :
    s.toSend = 0 ∧ s.specQ = 0 ∧ s.held = 0 ∧ s.chunkQ = 0 := by
  obtain ⟨h1, _⟩ := h
  omega

/-- non-vacuity: the hypotheses hold for the capacities of the source (128 / 32) with 4 workers, for zero items and for more
items than either capacity -/
example : HInv 0 (HState.init []) ∧ HInv 200 (HState.init (List.replicate 200 true)) ∧
    (0 < (HCfg.mk 4 128 32).workers) := by
  refine ⟨hinv_init [], ?_, by decide⟩
  have := hinv_init (List.replicate 200 true)
  rw [List.length_replicate] at this
  exact this

end RModel.Par
