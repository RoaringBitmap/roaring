import RProofs.RepOps
import RProofs.ContMut
import RProofs.ContQuery
import RProofs.RepMut
import RProofs.RepQueryBase
import RModel.Impl.RepXform

/-!
The whole-bitmap transforms of `RModel/Impl/RepXform.lean` — `AddOffset64`, the static `Flip`, `ToDense` / `DenseSize` /
`FromDense` — denote the verified set-level operations of `BSet` and keep the representation well-formed, for every
well-formed operand (`Rep.wf`).  The model is tied to the Go code by the `l2off / l2sflip / l2dense / l2fromdense`
correspondence check (`Driver/L2Xform.lean`): for a well-formed operand the rendering of the model result is literally the Go
result.

`container.addOffset(off)` splits a container into the half that stays under its key and the half that moves to the next
(`addOffset_holds`, `RProofs/ContMut.lean`); `AddOffset64` merges these halves key by key. `ToDense` is the characteristic bit vector of
the set, cut after the word of the maximum, and `FromDense` reads one back in blocks of 1024 words. The static `Flip` builds
the slot list the in-place `Flip` of `RProofs/RepMut.lean` builds. The theorems about `Rep.*` are in `RModel.Impl`, the
lemmas that serve them in `RModel.Impl.XformP`.
-/
open RModel.Util
namespace RModel.Impl
open RModel RModel.BSet RModel.Driver ContOps ContMut RepOps RepXform

namespace XformP

/-! ### `AddOffset64` -/

/-- an integer `z = 65536 n + r` with `r < 65536` is negative when `n` is; otherwise `n` and `r` are the quotient and
the remainder of `z.toNat` -/
theorem shift_divmod (key : Nat) (p : Nat → Bool) (z n : Int) (r : Nat) (hr : r < 65536) (hz : z = 65536 * n + r) :
    (decide (0 ≤ z) && ((key == z.toNat / 65536) && p (z.toNat % 65536))) = (decide ((key : Int) = n) && p r) := by
  by_cases hn : 0 ≤ n
  · obtain ⟨m, rfl⟩ := Int.eq_ofNat_of_zero_le hn
    have e : z = ((65536 * m + r : Nat) : Int) := by rw [hz]; simp
    rw [e, Int.toNat_natCast, Nat.mul_add_div (by omega), Nat.mul_add_mod, Nat.div_eq_of_lt hr, Nat.add_zero,
      Nat.mod_eq_of_lt hr, decide_eq_true (Int.natCast_nonneg _), Bool.true_and, Bool.beq_eq_decide_eq]
    congr 1
    exact decide_eq_decide.mpr Int.natCast_inj.symm
  · rw [decide_eq_false (by omega), decide_eq_false (by omega), Bool.false_and, Bool.false_and]

theorem mem_optSlot {k : Int} {o : Option Cont} {p : Slot} (h : p ∈ optSlot k o) :
    o = some p.c ∧ 0 ≤ k ∧ k ≤ 65535 ∧ p.key = k.toNat := by
  cases o with
  | none => simp [optSlot] at h
  | some c =>
    simp only [optSlot] at h
    split at h
    · rename_i hk
      simp only [List.mem_singleton] at h
      subst h
      exact ⟨rfl, hk.1, hk.2, rfl⟩
    · simp at h

theorem slotsHas_optSlot (k : Int) (o : Option Cont) (x : Nat) (hx : x < 4294967296) :
    slotsHas (optSlot k o) x = (decide (k = ((x / 65536 : Nat) : Int)) && optHas o (x % 65536)) := by
  cases o with
  | none => simp [optSlot, slotsHas, optHas]
  | some c =>
    simp only [optSlot]
    split
    · rename_i h
      simp only [slotsHas, List.any_cons, List.any_nil, Bool.or_false, optHas]
      congr 1
      rw [Bool.beq_eq_decide_eq]
      apply decide_eq_decide.mpr
      omega
    · rename_i h
      have : ¬ k = ((x / 65536 : Nat) : Int) := by omega
      rw [decide_eq_false this]
      rfl

/-- the two halves a source container contributes; with `off = 0` the container itself and nothing -/
def halves (off : Nat) (c : Cont) : Option Cont × Option Cont := if off = 0 then (some c, none) else c.addOffset off

theorem offPieces_eq (co : Int) (off : Nat) (s : Slot) :
    offPieces co off s =
      optSlot ((s.key : Int) + co) (halves off s.c).1 ++ optSlot ((s.key : Int) + co + 1) (halves off s.c).2 := by
  unfold offPieces halves
  by_cases h : off = 0
  · simp [h, optSlot]
  · simp [h]

theorem halves_holds (c : Cont) (hc : c.wf = true) (off : Nat) (hoff : off < 65536) :
    OptHolds (halves off c).1 (fun y => decide (off ≤ y) && decide (y < 65536) && c.has (y - off)) ∧
      OptHolds (halves off c).2 fun y => c.has (y + 65536 - off) := by
  unfold halves
  split
  · rename_i h
    subst h
    refine ⟨⟨fun y => ?_, optWf_some hc⟩, optHolds_none fun y => has_false_of_ge hc (by omega)⟩
    cases hy : c.has y with
    | false => simp [optHas, hy]
    | true => simp [optHas, hy, has_lt hc hy]
  · exact addOffset_holds c hc off hoff

/-- what one source container contributes: the values `v + d` of its values `v` (inside the universe) -/
theorem slotsHas_offPieces (co : Int) (off : Nat) (hoff : off < 65536) (s : Slot) (hc : s.c.wf = true) (x : Nat)
    (hx : x < 4294967296) :
    slotsHas (offPieces co off s) x =
      (decide (0 ≤ (x : Int) - (co * 65536 + off)) &&
        ((s.key == ((x : Int) - (co * 65536 + off)).toNat / 65536) &&
          s.c.has (((x : Int) - (co * 65536 + off)).toNat % 65536))) := by
  rw [offPieces_eq, slotsHas_append, slotsHas_optSlot _ _ _ hx, slotsHas_optSlot _ _ _ hx,
    (halves_holds s.c hc off hoff).1.has, (halves_holds s.c hc off hoff).2.has]
  have hpf : ∀ w, ¬ w < 65536 → s.c.has w = false := fun w hw => Bool.eq_false_iff.mpr fun h => hw (has_lt hc h)
  have hy : x % 65536 < 65536 := Nat.mod_lt _ (by omega)
  rw [decide_eq_true hy, Bool.and_true]
  generalize hz : (x : Int) - (co * 65536 + off) = z
  by_cases h1 : off ≤ x % 65536
  · -- no borrow: quotient `q - co`, remainder `y - off`; the high half holds nothing at `y`
    rw [shift_divmod s.key s.c.has z ((x / 65536 : Nat) - co) (x % 65536 - off) (by omega) (by omega),
      hpf (x % 65536 + 65536 - off) (by omega), Bool.and_false, Bool.or_false, decide_eq_true h1,
      Bool.true_and]
    congr 1
    exact decide_eq_decide.mpr (by omega)
  · rw [shift_divmod s.key s.c.has z ((x / 65536 : Nat) - co - 1) (x % 65536 + 65536 - off) (by omega) (by omega),
      decide_eq_false h1, Bool.false_and, Bool.and_false, Bool.false_or]
    congr 1
    exact decide_eq_decide.mpr (by omega)

theorem offPieces_ok (co : Int) (off : Nat) (hoff : off < 65536) (s : Slot) (hc : s.c.wf = true) :
    ∀ p ∈ offPieces co off s, p.Wf ∧ (s.key : Int) + co ≤ p.key ∧ (p.key : Int) ≤ s.key + co + 1 := by
  intro p hp
  have hw := halves_holds s.c hc off hoff
  rw [offPieces_eq, List.mem_append] at hp
  rcases hp with hp | hp
  · obtain ⟨h1, h2, h3, h4⟩ := mem_optSlot hp
    exact ⟨⟨by omega, hw.1.wf _ h1⟩, by omega, by omega⟩
  · obtain ⟨h1, h2, h3, h4⟩ := mem_optSlot hp
    exact ⟨⟨by omega, hw.2.wf _ h1⟩, by omega, by omega⟩

theorem optSlot_sorted (k : Int) (o : Option Cont) : slotV.Sorted (optSlot k o) := by
  cases o with
  | none => simp [optSlot]
  | some c => simp only [optSlot]; split <;> simp

theorem offPieces_sorted (co : Int) (off : Nat) (s : Slot) : slotV.Sorted (offPieces co off s) := by
  rw [offPieces_eq]
  refine List.pairwise_append.mpr ⟨optSlot_sorted _ _, optSlot_sorted _ _, fun a ha b hb => ?_⟩
  obtain ⟨_, h2, h3, h4⟩ := mem_optSlot ha
  obtain ⟨_, h2', h3', h4'⟩ := mem_optSlot hb
  show a.key < b.key
  omega

theorem consMerge_spec (p : Slot) (rest : List Slot) (hp : p.Wf) (hr : SlotsWf rest) (hle : ∀ r ∈ rest, p.key ≤ r.key) :
    SlotsWf (consMerge p rest) ∧ (∀ q ∈ consMerge p rest, p.key ≤ q.key) ∧
      ∀ x, slotsHas (consMerge p rest) x = ((p.key == x / 65536 && p.c.has (x % 65536)) || slotsHas rest x) := by
  unfold consMerge
  cases rest with
  | nil =>
    exact ⟨SlotsWf.cons hp SlotsWf.nil (fun _ h => by cases h),
      fun q hq => by rw [List.mem_singleton.mp hq]; exact Nat.le_refl _, fun _ => rfl⟩
  | cons h t =>
    simp only
    split
    · rename_i hk
      have hk' : h.key = p.key := (by simpa using hk : p.key = h.key).symm
      refine ⟨SlotsWf.cons ⟨hp.1, wf_ior2_ne _ _ hp.2 hr.head.2⟩ hr.tail
        (fun r hr' => by have := hr.head_lt r hr'; simp only; omega), fun q hq => ?_, fun x => ?_⟩
      · rcases List.mem_cons.mp hq with rfl | hq
        · exact Nat.le_refl _
        · exact hle q (List.mem_cons_of_mem _ hq)
      · rw [slotsHas_cons, slotsHas_cons, has_ior2 _ _ hp.2 hr.head.2, hk', Bool.and_or_distrib_left, Bool.or_assoc]
    · rename_i hk
      have hk' : p.key ≠ h.key := by simpa using hk
      refine ⟨SlotsWf.cons hp hr (fun r hr' => ?_), fun q hq => ?_, fun _ => rfl⟩
      · have := hle h (by simp)
        rcases List.mem_cons.mp hr' with rfl | hr''
        · omega
        · have := hr.head_lt r hr''; omega
      · rcases List.mem_cons.mp hq with rfl | hq
        · exact Nat.le_refl _
        · exact hle q hq

/-- adjacent slots with equal keys merged: a list with non-decreasing keys becomes well-formed and keeps its members -/
theorem mergeAdj_spec : ∀ (l : List Slot), l.Pairwise (fun a b => a.key ≤ b.key) → (∀ p ∈ l, p.Wf) →
    SlotsWf (l.foldr consMerge []) ∧ (∀ m, (∀ p ∈ l, m ≤ p.key) → ∀ q ∈ l.foldr consMerge [], m ≤ q.key) ∧
      ∀ x, slotsHas (l.foldr consMerge []) x = slotsHas l x
  | [], _, _ => ⟨SlotsWf.nil, fun _ _ _ h => (nomatch h), fun _ => rfl⟩
  | p :: t, hs, hok => by
    have hpt := List.pairwise_cons.mp hs
    have ⟨hp, ht⟩ := List.forall_mem_cons.mp hok
    obtain ⟨w, lb, hm⟩ := mergeAdj_spec t hpt.2 ht
    obtain ⟨w', lb', hm'⟩ := consMerge_spec p _ hp w (lb p.key hpt.1)
    exact ⟨w', fun m hmp q hq => Nat.le_trans (hmp p List.mem_cons_self) (lb' q hq),
      fun x => by rw [List.foldr_cons, hm' x, hm x, slotsHas_cons]⟩

/-- the walk of `AddOffset64` lays the halves of all source containers side by side and merges the neighbours that meet -/
theorem offWalk_eq (co : Int) (off : Nat) (l : List Slot) :
    offWalk co off l = (l.flatMap (offPieces co off)).foldr consMerge [] := by
  induction l with
  | nil => rfl
  | cons s t ih => rw [offWalk, ih, List.flatMap_cons, List.foldr_append]

/-! every slot of the answer is built by `optSlot` or by the merge in `consMerge`, and both build it unflagged -/

theorem optSlot_unflagged {k : Int} {o : Option Cont} {s : Slot} (h : s ∈ optSlot k o) : s.flag = false := by
  cases o with
  | none => cases h
  | some c =>
    simp only [optSlot] at h
    split at h
    · cases List.mem_singleton.mp h; rfl
    · cases h

theorem consMerge_unflagged {p : Slot} {rest : List Slot} (hp : p.flag = false) (hr : ∀ s ∈ rest, s.flag = false) :
    ∀ s ∈ consMerge p rest, s.flag = false := by
  intro s hs
  unfold consMerge at hs
  split at hs
  · split at hs
    · rcases List.mem_cons.mp hs with rfl | h
      · rfl
      · exact hr s (List.mem_cons_of_mem _ h)
    · rcases List.mem_cons.mp hs with rfl | h
      · exact hp
      · exact hr s h
  · cases List.mem_singleton.mp hs; exact hp

theorem offWalk_unflagged (co : Int) (off : Nat) (l : List Slot) : ∀ s ∈ offWalk co off l, s.flag = false := by
  have hp : ∀ p ∈ l.flatMap (offPieces co off), p.flag = false := fun p hp => by
    obtain ⟨s0, _, h⟩ := List.mem_flatMap.mp hp
    rw [offPieces_eq, List.mem_append] at h
    exact h.elim optSlot_unflagged optSlot_unflagged
  rw [offWalk_eq]
  generalize l.flatMap (offPieces co off) = ps at hp
  induction ps with
  | nil => exact fun s hs => by cases hs
  | cons p t ih => exact consMerge_unflagged (hp p List.mem_cons_self) (ih fun q hq => hp q (List.mem_cons_of_mem _ hq))

/-- the walk of `AddOffset64`: well-formed, and the values `v + d` of the source -/
theorem offWalk_spec (co : Int) (off : Nat) (hoff : off < 65536) (l : List Slot) (hl : SlotsWf l) :
    SlotsWf (offWalk co off l) ∧
      ∀ x, x < 4294967296 → slotsHas (offWalk co off l) x =
        (decide (0 ≤ (x : Int) - (co * 65536 + off)) && slotsHas l ((x : Int) - (co * 65536 + off)).toNat) := by
  have hpk := fun s hs => offPieces_ok co off hoff s (hl.ok s hs).2
  obtain ⟨w, _, hm⟩ := mergeAdj_spec (l.flatMap (offPieces co off))
    (List.pairwise_flatMap.mpr ⟨fun s _ => (offPieces_sorted co off s).imp Nat.le_of_lt,
      hl.sorted.imp_of_mem fun {a b} ha hb hab x hx y hy => by
        have := (hpk a ha x hx).2.2
        have := (hpk b hb y hy).2.1
        omega⟩)
    fun p hp => by
      obtain ⟨s, hs, h⟩ := List.mem_flatMap.mp hp
      exact (hpk s hs p h).1
  rw [offWalk_eq]
  refine ⟨w, fun x hx => ?_⟩
  rw [hm, slotsHas, List.any_flatMap, slotsHas, List.and_any_distrib_left]
  exact any_congr_mem fun s hs => slotsHas_offPieces co off hoff s (hl.ok s hs).2 x hx

/-- **membership after `AddOffset64`**: `x` is in the answer iff `x < 2^32`, `x - d ≥ 0` and `x - d` was in the operand -/
theorem _root_.RModel.Impl.Rep.mem_addOffset64 (a : Rep) (ha : a.wf = true) (d : Int) (x : Nat) :
    mem (a.addOffset64 d).toBSet x =
      (decide (x < U32) && decide (0 ≤ (x : Int) - d) && mem a.toBSet ((x : Int) - d).toNat) := by
  have hwa := (slotsWf_iff a).mp ha
  have hoff : (d % 65536).toNat < 65536 := by omega
  obtain ⟨w, hm⟩ := offWalk_spec (d / 65536) _ hoff _ hwa
  rw [mem_rep_slots a hwa.bounded]
  have hd : d = d / 65536 * 65536 + ((d % 65536).toNat : Int) := by omega
  unfold Rep.addOffset64
  simp only
  split
  · rename_i hco
    rw [mem_rep_slots _ (by intro s hs; cases hs)]
    simp only [slotsHas_nil, U32]
    by_cases hx : x < 4294967296
    · by_cases h0 : 0 ≤ (x : Int) - d
      · have : ¬ ((x : Int) - d).toNat < 4294967296 := by omega
        rw [slotsHas_top hwa.ok this]; simp
      · rw [decide_eq_false h0]; simp
    · simp [hx]
  · rw [mem_rep_slots _ w.bounded]
    by_cases hx : x < 4294967296
    · rw [hm x hx, ← hd]
      simp [U32, hx]
    · rw [slotsHas_top w.ok hx]
      simp [U32, hx]

/-- **`AddOffset64` denotes `BSet.shift`** (equality of canonical boundary lists) -/
theorem _root_.RModel.Impl.Rep.toBSet_addOffset64 (a : Rep) (ha : a.wf = true) (d : Int) :
    (a.addOffset64 d).toBSet = BSet.shift U32 a.toBSet d :=
  canon_ext_sinc _ _ (sinc_rep _) (sinc_shift _ _ (sinc_rep a) d)
    (fun x => by rw [Rep.mem_addOffset64 a ha d x, mem_shift U32 _ (sinc_rep a) d x])

theorem _root_.RModel.Impl.Rep.wf_addOffset64 (a : Rep) (ha : a.wf = true) (d : Int) : (a.addOffset64 d).wf = true := by
  have hwa := (slotsWf_iff a).mp ha
  have hoff : (d % 65536).toNat < 65536 := by omega
  rw [slotsWf_iff]
  unfold Rep.addOffset64
  simp only
  split
  · exact SlotsWf.nil
  · exact (offWalk_spec _ _ hoff _ hwa).1

/-! ### dense conversion -/

theorem testBit_blocks (ws : List (BitVec 64)) (j y : Nat) (hy : y < 65536) :
    testBit ws (65536 * j + y) =
      if j = 0 then testBit (ws.take 1024) y else testBit (ws.drop 1024) (65536 * (j - 1) + y) := by
  split
  · rename_i h
    subst h
    rw [testBit_take, Nat.mul_zero, Nat.zero_add, decide_eq_true (by omega), Bool.true_and]
  · rw [testBit_drop]
    congr 1
    omega

/-- blocks of 1024 words one after the other: bit `65536 j + y` is bit `y` of block `j` -/
theorem testBit_flatMap_blocks (f : Nat → List (BitVec 64)) (hf : ∀ k, (f k).length = 1024) (y : Nat) (hy : y < 65536) :
    ∀ (n s j : Nat), testBit ((List.range' s n).flatMap f) (65536 * j + y) = (decide (j < n) && testBit (f (s + j)) y)
  | 0, _, _ => by
    rw [decide_eq_false (Nat.not_lt_zero _), Bool.false_and, List.range'_zero, List.flatMap_nil]
    exact testBit_of_ge [] _ (Nat.zero_le _)
  | n + 1, s, 0 => by
    rw [List.range'_succ, List.flatMap_cons, testBit_blocks _ 0 y hy, if_pos rfl, List.take_left' (hf s),
      decide_eq_true (Nat.succ_pos n), Bool.true_and]
    rfl
  | n + 1, s, j + 1 => by
    rw [List.range'_succ, List.flatMap_cons, testBit_blocks _ (j + 1) y hy, if_neg (Nat.succ_ne_zero j),
      List.drop_left' (hf s), Nat.add_sub_cancel, testBit_flatMap_blocks f hf y hy n (s + 1) j,
      Nat.add_assoc s 1 j, Nat.add_comm 1 j]
    congr 1
    exact decide_eq_decide.mpr (Nat.succ_lt_succ_iff).symm

theorem testBit_flatMap_range (f : Nat → List (BitVec 64)) (hf : ∀ k, (f k).length = 1024) (n x : Nat) :
    testBit ((List.range n).flatMap f) x = (decide (x / 65536 < n) && testBit (f (x / 65536)) (x % 65536)) := by
  have := testBit_flatMap_blocks f hf (x % 65536) (Nat.mod_lt _ (by omega)) n 0 (x / 65536)
  rwa [Nat.div_add_mod, Nat.zero_add, ← List.range_eq_range'] at this

/-- the block `toDense` writes for chunk key `k` -/
def denseBlock (a : Rep) (k : Nat) : List (BitVec 64) :=
  match a.find k with
  | some c => c.toBitmapWords
  | none => emptyWords

theorem find_wf (a : Rep) (hw : SlotsWf a.slots) {k : Nat} {c : Cont} (h : a.find k = some c) : c.wf = true := by
  obtain ⟨s, hs, rfl⟩ := Option.map_eq_some_iff.mp (a.find_eq k ▸ h)
  exact (RepMut.findSlot_wf ((slotsWf_iff a).mpr hw) hs).2.1

theorem length_denseBlock (a : Rep) (hw : SlotsWf a.slots) (k : Nat) : (denseBlock a k).length = 1024 := by
  unfold denseBlock
  cases h : a.find k with
  | none => exact length_emptyWords
  | some c => exact (wordsAre_of_wf (find_wf a hw h)).len

theorem testBit_denseBlock (a : Rep) (hw : SlotsWf a.slots) (x : Nat) :
    testBit (denseBlock a (x / 65536)) (x % 65536) = a.has x := by
  unfold denseBlock Rep.has
  cases h : a.find (x / 65536) with
  | none => exact testBit_emptyWords _
  | some c => exact (wordsAre_of_wf (find_wf a hw h)).mem _

/-- a bitmap with last slot `s`: its largest value is the largest value `v` of `s`, which fixes `DenseSize()` -/
theorem last_max (a : Rep) (ha : a.wf = true) {s : Slot} (h : a.slots.getLast? = some s) :
    ∃ v : Nat, v < 65536 ∧ s.key < 65536 ∧ a.denseSize = (s.key * 65536 + v + 1 + 63) / 64 ∧
      BSet.maximum a.toBSet = some (s.key * 65536 + v) := by
  have hsok := ((slotsWf_iff a).mp ha).ok s (List.mem_of_getLast? h)
  obtain ⟨v, hv, hvh, _⟩ := has_max s.c (wfQ_of_wf hsok.2)
  refine ⟨v, has_lt hsok.2 hvh, hsok.1, by simp [Rep.denseSize, h, hv], ?_⟩
  -- `Rep.maximum` reads the last slot by index
  have hm := Rep.maximum_spec a ha
  have hne : a.slots.length ≠ 0 := fun e => by rw [List.length_eq_zero_iff.mp e] at h; cases h
  rw [Rep.maximum, if_neg hne] at hm
  simp [RepQuery.kAt, RepQuery.cAt, It.slotAt, List.getD_eq_getElem?_getD, ← List.getLast?_eq_getElem?, h, hv,
    RepQuery.combine] at hm
  cases hx : BSet.maximum a.toBSet with
  | none => rw [hx] at hm; cases hm
  | some m =>
    rw [hx] at hm
    simp at hm
    congr 1
    omega

theorem toDense_some {a : Rep} {s : Slot} (h : a.slots.getLast? = some s) :
    a.toDense = ((List.range (s.key + 1)).flatMap (denseBlock a)).take a.denseSize := by
  unfold Rep.toDense
  rw [h]
  rfl

/-- **`ToDense` has `DenseSize()` words** -/
theorem _root_.RModel.Impl.Rep.length_toDense (a : Rep) (ha : a.wf = true) : a.toDense.length = a.denseSize := by
  cases h : a.slots.getLast? with
  | none => simp [Rep.toDense, Rep.denseSize, h]
  | some s =>
    obtain ⟨v, hv, hk, hd, _⟩ := last_max a ha h
    rw [toDense_some h, List.length_take, flatMap_length_const _ 1024 (length_denseBlock a ((slotsWf_iff a).mp ha)),
      List.length_range]
    -- the dense words end inside the last chunk
    omega

/-- **`ToDense` is the characteristic bit vector**: bit `i` of the word list is set iff `i` is in the set -/
theorem _root_.RModel.Impl.Rep.testBit_toDense (a : Rep) (ha : a.wf = true) (i : Nat) : testBit a.toDense i = mem a.toBSet i := by
  have hw := (slotsWf_iff a).mp ha
  cases h : a.slots.getLast? with
  | none =>
    rw [mem_rep_slots a hw.bounded, List.getLast?_eq_none_iff.mp h]
    simp [Rep.toDense, h, testBit, slotsHas]
  | some s =>
    rw [toDense_some h, testBit_take, testBit_flatMap_range _ (length_denseBlock a hw), testBit_denseBlock a hw,
      ← mem_rep a ha]
    cases hx : mem a.toBSet i with
    | false => simp
    | true =>
      -- no value lies above the maximum: `i` is below `64 · DenseSize()` and its chunk key is at most the last key
      obtain ⟨v, hv, _, hd, hm⟩ := last_max a ha h
      have hc := canon_rep a ha
      have : ¬ s.key * 65536 + v < i := fun hlt => by
        rw [((maximum_some _ hc.1 hc.2.2 _).mp hm).2 i hlt] at hx; cases hx
      have h1 : i / 64 < a.denseSize := by omega
      have h2 : i / 65536 < s.key + 1 := by omega
      simp [h1, h2]

/-- one chunk of `FromDense` stores, under its number, the set bits of its (at most 1024) words in a well-formed container -/
theorem piece_denseChunk (k : Nat) (words : List (BitVec 64)) (hl : words.length ≤ 1024) (doCopy : Bool) :
    Piece slotV (fun s => s.c.wf = true) k (testBit words) (denseChunk k words doCopy) := by
  unfold denseChunk
  simp only
  split
  · rename_i hgt
    simp only [arrayMax] at hgt
    split
    · refine .single rfl (wf_bmp_mk ?_ ?_ ?_) fun y => testBit_append_zeros words _ y
      · simp only [List.length_append, List.length_replicate]; omega
      · rw [wordsCard_append_zeros]
      · rw [wordsCard_append_zeros]; exact hgt
    · rename_i hc
      simp only [Bool.or_eq_true, decide_eq_true_eq, not_or] at hc
      exact .single rfl (wf_bmp_mk (by omega) rfl hgt) fun _ => rfl
  · rename_i hle
    simp only [arrayMax] at hle
    split
    · rename_i hpos
      exact .single rfl ((nilOrWf_arr ⟨by rw [length_valsOfWords]; omega, sorted_valsOfWords words,
        fun v hv => by have := lt_of_mem_valsOfWords words v hv; omega⟩).wf_of_has
          (y := (valsOfWords words).head (List.ne_nil_of_length_pos (by rw [length_valsOfWords]; omega)))
          (by simp [Cont.has])) (contains_valsOfWords words)
    · exact .nil (testBit_false_of_card0 words (by omega))

/-- one chunk of `FromDense(…, false)`: an unflagged container is an array or was padded from fewer than 1024 words -/
theorem denseChunk_unflagged (k : Nat) (ws : List (BitVec 64)) :
    ∀ s ∈ denseChunk k ws false, s.key = k ∧ (s.flag = false → (∃ xs, s.c = .arr xs) ∨ ws.length < 1024) := by
  intro s hs
  unfold denseChunk at hs
  simp only [Bool.false_or, decide_eq_true_eq] at hs
  split at hs
  · split at hs
    · cases List.mem_singleton.mp hs; exact ⟨rfl, fun _ => Or.inr ‹_›⟩
    · cases List.mem_singleton.mp hs; exact ⟨rfl, fun hf => by cases hf⟩
  · split at hs
    · cases List.mem_singleton.mp hs; exact ⟨rfl, fun _ => Or.inl ⟨_, rfl⟩⟩
    · cases hs

theorem denseChunks_step (k q y : Nat) (hy : y < 65536) (ws : List (BitVec 64)) :
    ((k == q && testBit (ws.take 1024) y) ||
        (decide (k + 1 ≤ q) && testBit (ws.drop 1024) (65536 * (q - (k + 1)) + y))) =
      (decide (k ≤ q) && testBit ws (65536 * (q - k) + y)) := by
  rw [testBit_blocks ws (q - k) y hy]
  rcases Nat.lt_trichotomy q k with h | h | h
  · simp [Nat.ne_of_gt h, Nat.not_le.mpr h, Nat.not_le.mpr (Nat.lt_succ_of_lt h)]
  · subst h; simp [Nat.not_succ_le_self]
  · have e : q - k - 1 = q - (k + 1) := by omega
    simp [Nat.ne_of_lt h, Nat.le_of_lt h, Nat.succ_le_of_lt h, Nat.sub_ne_zero_of_lt h, e]

/-- the chunks from key `k` on: key range, order, and the bit `65536 (q - k) + y` of `ws` under key `q ≥ k` at place `y` -/
theorem denseChunks_spec (doCopy : Bool) (fuel : Nat) : ∀ (k : Nat) (ws : List (BitVec 64)), ws.length ≤ fuel →
    (∀ s ∈ denseChunks doCopy fuel k ws, k ≤ s.key ∧ 1024 * s.key < 1024 * k + ws.length ∧ s.c.wf = true) ∧
    slotV.Sorted (denseChunks doCopy fuel k ws) ∧
    ∀ x, slotsHas (denseChunks doCopy fuel k ws) x =
      (decide (k ≤ x / 65536) && testBit ws (65536 * (x / 65536 - k) + x % 65536)) := by
  induction fuel with
  | zero =>
    intro k ws hl
    have : ws = [] := List.length_eq_zero_iff.mp (by omega)
    subst this
    simp [denseChunks, slotsHas_nil, testBit]
  | succ fuel ih =>
    intro k ws hl
    by_cases hne : ws = []
    · subst hne
      simp [denseChunks, slotsHas_nil, testBit]
    · rw [denseChunks.eq_3 doCopy k ws fuel (fun h => hne h)]
      have hpos : 0 < ws.length := List.length_pos_iff.mpr hne
      have hlt : (ws.take 1024).length ≤ 1024 := by rw [List.length_take]; omega
      have hld2 : (ws.drop 1024).length = ws.length - 1024 := List.length_drop
      have hp := piece_denseChunk k (ws.take 1024) hlt doCopy
      obtain ⟨r1, r2, r3⟩ := ih (k + 1) (ws.drop 1024) (by omega)
      refine ⟨?_, hp.sorted_append r2 fun s hs => (r1 s hs).1, fun x => ?_⟩
      · intro s hs
        rcases List.mem_append.mp hs with hs | hs
        · have h1 : s.key = k := (hp.ok s hs).1
          exact ⟨by omega, by omega, (hp.ok s hs).2⟩
        · obtain ⟨h1, h2, h3⟩ := r1 s hs
          exact ⟨by omega, by omega, h3⟩
      · refine (hp.has_append _ (x / 65536) (x % 65536)).trans ?_
        show (_ || slotsHas _ x) = _
        rw [r3 x]
        exact denseChunks_step k _ _ (Nat.mod_lt _ (by omega)) ws

/-- **membership after `FromDense`**: the set bits of the word list -/
theorem _root_.RModel.Impl.Rep.mem_fromDense (ws : List (BitVec 64)) (doCopy : Bool) (x : Nat) :
    mem (Rep.fromDense ws doCopy).toBSet x = testBit ws x := by
  obtain ⟨h1, _, h3⟩ := denseChunks_spec doCopy ws.length 0 ws (Nat.le_refl _)
  rw [mem_rep_slots _ (fun s hs => bounded_of_wf (h1 s hs).2.2)]
  unfold Rep.fromDense
  simp only
  rw [h3 x, Nat.sub_zero, Nat.div_add_mod, decide_eq_true (Nat.zero_le _), Bool.true_and]

/-- **`FromDense` denotes the set of the dense words** (`boundsOfBits` of all the bits, the L1 reading of a dense bitmap) -/
theorem _root_.RModel.Impl.Rep.toBSet_fromDense (ws : List (BitVec 64)) (doCopy : Bool) :
    (Rep.fromDense ws doCopy).toBSet = boundsOfBits 0 false (ws.flatMap wordBits) :=
  canon_ext_sinc _ _ (sinc_rep _) (sinc_boundsOfBits 0 false _)
    (fun x => by rw [Rep.mem_fromDense, ← mem_toBSet_bmp 0 ws x]; rfl)

theorem _root_.RModel.Impl.Rep.wf_fromDense (ws : List (BitVec 64)) (doCopy : Bool) (hl : ws.length ≤ 65536 * 1024) :
    (Rep.fromDense ws doCopy).wf = true := by
  obtain ⟨h1, h2, _⟩ := denseChunks_spec doCopy ws.length 0 ws (Nat.le_refl _)
  rw [slotsWf_iff]
  exact ⟨h2, fun s hs => ⟨by have := (h1 s hs).2.1; omega, (h1 s hs).2.2⟩⟩

/-- **round trip**: `FromDense(ToDense(a))` denotes the same set as `a` -/
theorem _root_.RModel.Impl.Rep.toBSet_fromDense_toDense (a : Rep) (ha : a.wf = true) (doCopy : Bool) :
    (Rep.fromDense a.toDense doCopy).toBSet = a.toBSet :=
  canon_ext_sinc _ _ (sinc_rep _) (sinc_rep a)
    (fun x => by rw [Rep.mem_fromDense, Rep.testBit_toDense a ha])

/-- `ToDense` never has more than `65536 · 1024` words, so the round trip is well-formed -/
theorem _root_.RModel.Impl.Rep.wf_fromDense_toDense (a : Rep) (ha : a.wf = true) (doCopy : Bool) :
    (Rep.fromDense a.toDense doCopy).wf = true := by
  apply Rep.wf_fromDense
  rw [Rep.length_toDense a ha]
  cases h : a.slots.getLast? with
  | none => simp [Rep.denseSize, h]
  | some s =>
    obtain ⟨v, hv, hk, hd, _⟩ := last_max a ha h
    omega

/-- **`DenseSize()` is `⌈(Maximum()+1)/64⌉`**, `0` for the empty bitmap (the L1 reading used by the checker) -/
theorem _root_.RModel.Impl.Rep.denseSize_spec (a : Rep) (ha : a.wf = true) :
    a.denseSize = (match BSet.maximum a.toBSet with | some m => (m + 1 + 63) / 64 | none => 0) := by
  cases h : a.slots.getLast? with
  | none =>
    have hc := canon_rep a ha
    have : BSet.maximum a.toBSet = none := by
      rw [maximum_none _ hc.1 hc.2.2]
      intro x
      rw [mem_rep_slots a ((slotsWf_iff a).mp ha).bounded, List.getLast?_eq_none_iff.mp h]
      rfl
    rw [this]
    simp [Rep.denseSize, h]
  | some s =>
    obtain ⟨v, _, _, hd, hm⟩ := last_max a ha h
    rw [hm, hd]

/-! ### static `Flip`

On a key-sorted slot list the lookups of the static `Flip` find what the in-place walk meets, so both build the same slot
list and the static `Flip` inherits everything from `Rep.flip`. -/

open RepMut (alterWalk alterWalk_eq_splice flipF nChunks chunkLo chunkHi keepOpt_toList)

/-- the container of the answer under key `hb` is the step of the in-place `Flip` on the looked-up slot (same chunk
arithmetic, `not` for `inot`) -/
theorem flipKey_eq (a : Rep) (lo hi hb : Nat) :
    flipKey a lo hi hb = (flipF lo hi hb (a.slots.find? (·.key == hb))).toList := by
  unfold flipKey Rep.find
  cases a.slots.find? (·.key == hb) with
  | some s =>
    simp only [Option.map_some, flipF, keepOpt_toList, chunkLo, chunkHi, beq_iff_eq]
    congr 2
    split <;> rfl
  | none =>
    show [({ key := hb, c := RepMut.rangeOfOnes _ _, flag := false } : Slot)] = _
    simp only [flipF, chunkLo, chunkHi, beq_iff_eq, Option.toList_some]
    congr 3
    split <;> rfl

theorem flipStatic_eq_flip (a : Rep) (ha : a.wf = true) (lo hi : Nat) (hlh : lo < hi) :
    a.flipStatic lo hi = (a.flip lo hi).setCow false := by
  unfold Rep.flipStatic Rep.flip Rep.setCow
  rw [if_neg (Nat.not_le_of_gt hlh), if_neg (Nat.not_le_of_gt hlh)]
  simp only [map_copySlot, funext (flipKey_eq a lo hi)]
  rw [alterWalk_eq_splice (flipF lo hi) _ ((hi - 1) / 65536) _ _ _ (by unfold nChunks; omega) ((slotsWf_iff a).mp ha)
    (fun _ _ => rfl)]
  rfl

/-- with an empty range the static `Flip` is `Clone()`, for the bitmap returned and for the operand -/
theorem flipStatic_empty (a : Rep) {lo hi : Nat} (h : hi ≤ lo) :
    a.flipStatic lo hi = a.clone ∧ a.flipStaticSrc lo hi = a.cloneSrc := by
  unfold Rep.flipStatic Rep.flipStaticSrc Rep.clone Rep.cloneSrc
  cases hc : a.cow <;> simp [h]

theorem _root_.RModel.Impl.Rep.wf_flipStatic (a : Rep) (ha : a.wf = true) (lo hi : Nat) (hhi : hi ≤ U32) :
    (a.flipStatic lo hi).wf = true := by
  by_cases h : hi ≤ lo
  · rw [(flipStatic_empty a h).1, Rep.wf_clone]
    exact ha
  · rw [flipStatic_eq_flip a ha lo hi (Nat.lt_of_not_le h)]
    exact Rep.wf_flip a ha lo hi hhi

theorem _root_.RModel.Impl.Rep.mem_flipStatic (a : Rep) (ha : a.wf = true) (lo hi : Nat) (hhi : hi ≤ U32) (x : Nat) :
    mem (a.flipStatic lo hi).toBSet x = (mem a.toBSet x != (decide (lo ≤ x) && decide (x < hi))) := by
  show _ = (_ != inRange lo hi x)
  by_cases h : hi ≤ lo
  · rw [(flipStatic_empty a h).1, Rep.toBSet_clone, inRange_false_of_le h, Bool.bne_false]
  · rw [flipStatic_eq_flip a ha lo hi (Nat.lt_of_not_le h)]
    exact Rep.mem_flip a ha lo hi hhi x

/-- **the static `Flip` denotes `BSet.flipRange`** (for `hi ≤ 2^32`; an empty range gives the operand's set) -/
theorem _root_.RModel.Impl.Rep.toBSet_flipStatic (a : Rep) (ha : a.wf = true) (lo hi : Nat) (hhi : hi ≤ U32) :
    (a.flipStatic lo hi).toBSet = BSet.flipRange a.toBSet lo hi :=
  canon_ext_sinc _ _ (sinc_rep _) (sinc_flipRange _ (sinc_rep a) lo hi)
    (fun x => by rw [Rep.mem_flipStatic a ha lo hi hhi x, mem_flipRange _ (sinc_rep a)])

/-- the operand after the call denotes the same set (only flags change, and only for an empty range under copy-on-write) -/
theorem _root_.RModel.Impl.Rep.toBSet_flipStaticSrc (a : Rep) (lo hi : Nat) : (a.flipStaticSrc lo hi).toBSet = a.toBSet := by
  by_cases h : hi ≤ lo
  · rw [(flipStatic_empty a h).2, Rep.toBSet_cloneSrc]
  · rw [Rep.flipStaticSrc, if_neg fun hh => h hh.1]

end XformP

end RModel.Impl
