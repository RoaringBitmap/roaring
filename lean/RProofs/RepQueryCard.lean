import RProofs.ContQueryBmpCount
import RProofs.ContQueryRun
import RProofs.IterBase
import RModel.Impl.RepQuery
/-!
The container kernels `andCardinality` of `RModel/Impl/RepQuery.lean` count the members of the intersection, as counts over
the membership predicates: ARRAY × ARRAY (galloping and two-pointer walks, with the `intersects` walk `arrIntersects` that
shares their recursion), BITMAP × ARRAY, BITMAP × BITMAP, and the kernels with a RUN operand (`runArrCard`, `runBmpCard`,
`rrCard`).
-/
open RModel.Util
namespace RModel.Impl
open RModel RModel.BSet ContOps ContQuery RepQuery It

/-! ## array and bitmap operands -/

/-! ### BITMAP × ARRAY, BITMAP × BITMAP -/

namespace RepQuery

theorem bitValue_eq (ws : List (BitVec 64)) (v : Nat) : bitValue ws v = if testBit ws v then 1 else 0 := by
  unfold bitValue testBit word
  rw [toNat_bit]

theorem bmpArrCard_eq_countP (ws : List (BitVec 64)) (xs : List Nat) : bmpArrCard ws xs = xs.countP (testBit ws) := by
  induction xs with
  | nil => rfl
  | cons v t ih => rw [bmpArrCard, ih, bitValue_eq, List.countP_cons]; omega

end RepQuery

theorem bmpArrCard_spec (ws : List (BitVec 64)) {xs : List Nat} (hx : xs.Pairwise (· < ·)) (hbx : ∀ v ∈ xs, v < 65536) :
    bmpArrCard ws xs = cnt (fun x => xs.contains x && testBit ws x) 65536 := by
  rw [bmpArrCard_eq_countP, countP_eq_cnt hx 65536 _ (fun v hv _ => hbx v hv)]

theorem bmpBmpCard_spec (w1 w2 : List (BitVec 64)) (h1 : w1.length = 1024) (h2 : w2.length = 1024) :
    wordsCard (andW w1 w2) = cnt (fun x => testBit w1 x && testBit w2 x) 65536 := by
  rw [wordsCard_eq_cnt, ((wordsAre_self h1).and (wordsAre_self h2)).len]
  apply cnt_congr
  intro x _
  exact testBit_andW _ _ (h1.trans h2.symm) x

/-! ### ARRAY × ARRAY -/

namespace RepQuery

theorem contains_drop_iff (large : List Nat) (k x : Nat) :
    (large.drop k).contains x = true ↔ ∃ j, k ≤ j ∧ j < large.length ∧ large.getD j 0 = x := by
  rw [contains_iff_getD]
  constructor
  · rintro ⟨i, hi, e⟩
    rw [List.length_drop] at hi
    refine ⟨k + i, by omega, by omega, ?_⟩
    rw [← e]
    simp [List.getD_eq_getElem?_getD]
  · rintro ⟨j, hk, hj, e⟩
    refine ⟨j - k, by rw [List.length_drop]; omega, ?_⟩
    rw [← e]
    simp only [List.getD_eq_getElem?_getD, List.getElem?_drop]
    congr 2; omega

theorem contains_drop_shift {large : List Nat} {k k' m x : Nat} (hk : k ≤ k')
    (hlt : ∀ j, k ≤ j → j < k' → large.getD j 0 < m) (hx : m ≤ x) :
    (large.drop k).contains x = (large.drop k').contains x := by
  rw [Bool.eq_iff_iff, contains_drop_iff, contains_drop_iff]
  constructor
  · rintro ⟨j, h1, h2, h3⟩
    refine ⟨j, ?_, h2, h3⟩
    apply Classical.byContradiction; intro hc
    have := hlt j h1 (by omega)
    omega
  · rintro ⟨j, h1, h2, h3⟩
    exact ⟨j, by omega, h2, h3⟩

theorem contains_drop_of_ge {large : List Nat} {k : Nat} (hk : large.length ≤ k) (x : Nat) :
    (large.drop k).contains x = false := by
  rw [List.drop_eq_nil_of_le hk]; rfl

theorem contains_drop_skip {large : List Nat} (hl : large.Pairwise (· < ·)) {k k' s : Nat}
    (hlt : ∀ j, k ≤ j → j < k' → large.getD j 0 < s) (hgt : s < large.getD k' 0) :
    (large.drop k).contains s = false := by
  cases hc : (large.drop k).contains s
  · rfl
  · obtain ⟨j, h1, h2, h3⟩ := (contains_drop_iff _ _ _).mp hc
    by_cases hj : j < k'
    · have := hlt j h1 hj; omega
    · have := getD_le_of_sorted hl (show k' ≤ j by omega) h2
      omega

/-- the cursor step `if s1 < s2 { k1 = advanceUntil(largeset, k1, len, s2) }` -/
theorem gallopStep {large : List Nat} (hl : large.Pairwise (· < ·)) (k1 s2 : Nat) (k1a : Nat)
    (hk : k1a = if large.getD k1 0 < s2 then advFrom large (k1 + 1) large.length s2 else k1) :
    k1 ≤ k1a ∧ (∀ j, k1 ≤ j → j < k1a → large.getD j 0 < s2) ∧ (k1a < large.length → s2 ≤ large.getD k1a 0) := by
  by_cases h : large.getD k1 0 < s2
  · rw [if_pos h] at hk
    obtain ⟨a, _, c, d⟩ := advFrom_spec hl (k1 + 1) s2 k1a hk
    refine ⟨by omega, ?_, d⟩
    intro j h1 h2
    by_cases e : j = k1
    · subst e; exact h
    · exact c j (by omega) h2
  · rw [if_neg h] at hk
    subst hk
    exact ⟨Nat.le_refl _, fun j a b => by omega, fun _ => by omega⟩

theorem gallopCard_eq {large : List Nat} (hl : large.Pairwise (· < ·)) : ∀ (small : List Nat), small.Pairwise (· < ·) →
    ∀ k1, gallopCard large small k1 = small.countP (fun x => (large.drop k1).contains x)
  | [], _, _ => rfl
  | s2 :: rest, hsm, k1 => by
    have hp := List.pairwise_cons.mp hsm
    rw [gallopCard.eq_def]
    simp only []
    generalize hk : (if large.getD k1 0 < s2 then advFrom large (k1 + 1) large.length s2 else k1) = k1a
    obtain ⟨g1, g2, g3⟩ := gallopStep hl k1 s2 k1a hk.symm
    by_cases c1 : k1a ≥ large.length
    · rw [if_pos c1]
      symm
      rw [List.countP_eq_zero]
      intro x hx
      have hx' : s2 ≤ x := by
        rcases List.mem_cons.mp hx with e | e
        · omega
        · exact Nat.le_of_lt (hp.1 x e)
      rw [contains_drop_shift g1 g2 hx', contains_drop_of_ge c1]
      simp
    · rw [if_neg c1]
      have c1' : k1a < large.length := by omega
      have g3' := g3 c1'
      rw [List.countP_cons]
      by_cases c2 : s2 < large.getD k1a 0
      · rw [if_pos c2, contains_drop_skip hl g2 c2, gallopCard_eq hl rest hp.2 k1a]
        simp only [Bool.false_eq_true, if_false, Nat.add_zero]
        apply List.countP_congr
        intro x hx
        rw [contains_drop_shift g1 g2 (Nat.le_of_lt (hp.1 x hx))]
      · rw [if_neg c2]
        have e : large.getD k1a 0 = s2 := by omega
        have hin : (large.drop k1).contains s2 = true := (contains_drop_iff _ _ _).mpr ⟨k1a, g1, c1', e⟩
        rw [hin, if_pos rfl]
        match rest, hp with
        | [], _ => rfl
        | s2' :: rest', hp =>
          simp only []
          have hp2 := List.pairwise_cons.mp hp.2
          have hlt2 : s2 < s2' := hp.1 s2' (by simp)
          obtain ⟨a, _, c, d⟩ := advFrom_spec hl (k1a + 1) s2' _ rfl
          generalize advFrom large (k1a + 1) large.length s2' = k1b at a c d
          have hall : ∀ j, k1 ≤ j → j < k1b → large.getD j 0 < s2' := by
            intro j h1 h2
            by_cases hj : j ≤ k1a
            · have := getD_le_of_sorted hl hj c1'; omega
            · exact c j (by omega) h2
          have hshift : (s2' :: rest').countP (fun x => (large.drop k1).contains x) =
              (s2' :: rest').countP (fun x => (large.drop k1b).contains x) := by
            apply List.countP_congr
            intro x hx
            have hx' : s2' ≤ x := by
              rcases List.mem_cons.mp hx with e | e
              · omega
              · exact Nat.le_of_lt (hp2.1 x e)
            rw [contains_drop_shift (by omega) hall hx']
          rw [hshift]
          by_cases c3 : k1b ≥ large.length
          · rw [if_pos c3]
            have : (s2' :: rest').countP (fun x => (large.drop k1b).contains x) = 0 := by
              rw [List.countP_eq_zero]
              intro x _
              rw [contains_drop_of_ge c3]; simp
            omega
          · rw [if_neg c3, gallopCard_eq hl (s2' :: rest') hp.2 k1b]
            omega

/-- the galloping `intersects` stops where the galloping `andCardinality` counts its first common value -/
theorem gallopBool_eq (large : List Nat) : ∀ (small : List Nat) (k1 : Nat),
    gallopBool large small k1 = (gallopCard large small k1 != 0)
  | [], _ => rfl
  | s2 :: rest, k1 => by
    rw [gallopBool, gallopCard.eq_def]
    simp only []
    generalize (if large.getD k1 0 < s2 then advFrom large (k1 + 1) large.length s2 else k1) = k1a
    by_cases c1 : k1a ≥ large.length
    · rw [if_pos c1, if_pos c1]; rfl
    · rw [if_neg c1, if_neg c1]
      by_cases c2 : s2 < large.getD k1a 0
      · rw [if_pos c2, if_pos c2]
        exact gallopBool_eq large rest k1a
      · rw [if_neg c2, if_neg c2]
        cases rest with
        | nil => rfl
        | cons s2' rest' =>
          simp only []
          split
          · rfl
          · exact (bne_iff_ne.mpr (by omega)).symm

theorem gallopBool_iff {large : List Nat} (hl : large.Pairwise (· < ·)) (small : List Nat) (hs : small.Pairwise (· < ·))
    (k1 : Nat) : gallopBool large small k1 = true ↔ ∃ x, x ∈ small ∧ (large.drop k1).contains x = true := by
  rw [gallopBool_eq, bne_iff_ne, gallopCard_eq hl small hs, Ne, List.countP_eq_zero]
  constructor
  · intro h
    apply Classical.byContradiction
    intro hn
    exact h (fun x hx hc => hn ⟨x, hx, hc⟩)
  · rintro ⟨x, hx, hc⟩ h
    exact h x hx hc

end RepQuery

theorem arrAndCard_spec {xs ys : List Nat} (hx : xs.Pairwise (· < ·)) (hy : ys.Pairwise (· < ·)) (hbx : ∀ v ∈ xs, v < 65536) :
    arrAndCard xs ys = cnt (fun x => xs.contains x && ys.contains x) 65536 := by
  have hxy := countP_eq_cnt hx 65536 ys.contains (fun v hv _ => hbx v hv)
  have hyx : ys.countP xs.contains = cnt (fun x => xs.contains x && ys.contains x) 65536 :=
    (countP_eq_cnt hy 65536 xs.contains (fun v _ hv => hbx v (List.contains_iff_mem.mp hv))).trans
      (cnt_congr _ fun _ _ => Bool.and_comm _ _)
  unfold arrAndCard
  split
  · split
    · next h0 => rw [← hxy, List.eq_nil_of_length_eq_zero h0]; rfl
    · rw [gallopCard_eq hy xs hx 0, ← hxy]; rfl
  · split
    · split
      · next h0 => rw [← hyx, List.eq_nil_of_length_eq_zero h0]; rfl
      · rw [gallopCard_eq hx ys hy 0, ← hyx]; rfl
    · rw [ArrayC.inter_card]
      symm
      apply cnt_eq_length (ArrayC.sorted_intersection2by2 xs ys hx)
      intro x
      rw [ArrayC.mem_intersection2by2 xs ys hx hy, Bool.and_eq_true, List.contains_iff_mem, List.contains_iff_mem]
      exact ⟨fun ⟨h1, h2⟩ => ⟨hbx x h1, h1, h2⟩, fun ⟨_, h⟩ => h⟩

theorem arrIntersects_spec {xs ys : List Nat} (hx : xs.Pairwise (· < ·)) (hy : ys.Pairwise (· < ·)) :
    arrIntersects xs ys = true ↔ ∃ x, xs.contains x = true ∧ ys.contains x = true := by
  unfold arrIntersects
  split
  · next h0 =>
    constructor
    · intro h; cases h
    · rintro ⟨x, h1, h2⟩
      rw [List.contains_iff_mem] at h1 h2
      rcases h0 with h0 | h0
      · rw [List.eq_nil_of_length_eq_zero h0] at h1; cases h1
      · rw [List.eq_nil_of_length_eq_zero h0] at h2; cases h2
  · split
    · rw [gallopBool_iff hy xs hx 0]
      simp only [List.drop_zero, List.contains_iff_mem]
    · split
      · rw [gallopBool_iff hx ys hy 0]
        simp only [List.drop_zero, List.contains_iff_mem]
        constructor
        · rintro ⟨x, h1, h2⟩; exact ⟨x, h2, h1⟩
        · rintro ⟨x, h1, h2⟩; exact ⟨x, h2, h1⟩
      · rw [ArrayC.intersects2by2_iff xs ys hx hy]
        simp only [List.contains_iff_mem]

/-! ## a run operand -/

namespace RepQuery

theorem cnt_inRuns_cons (p : Nat × Nat) (t : List (Nat × Nat)) (hs : RunSep (p :: t)) (q : Nat → Bool) (n : Nat) :
    cnt (fun x => inRuns (p :: t) x && q x) n =
      cnt (fun x => (decide (p.1 ≤ x) && decide (x ≤ p.1 + p.2)) && q x) n + cnt (fun x => inRuns t x && q x) n := by
  rw [← cnt_or_disjoint]
  · apply cnt_congr
    intro x _
    rw [inRuns_cons]
    cases q x <;> simp
  · intro x ⟨h1, h2⟩
    simp only [Bool.and_eq_true, decide_eq_true_eq] at h1 h2
    have := inRuns_tail_gt hs h2.1
    omega

end RepQuery

/-! ### `runBmpCard` -/

theorem runBmpCard_spec (ws : List (BitVec 64)) {rs : List (Nat × Nat)} (hs : RunSep rs)
    (hb : ∀ p ∈ rs, p.1 + p.2 ≤ 65535) :
    runBmpCard ws rs = (cnt (fun x => inRuns rs x && testBit ws x) 65536 : Int) := by
  induction rs with
  | nil =>
    rw [cnt_zero_of_none _ _ (fun x _ => by simp [inRuns_nil])]
    rfl
  | cons p t ih =>
    obtain ⟨s, l⟩ := p
    have hsl : s + l ≤ 65535 := hb (s, l) (by simp)
    have hs' : RunSep t := (List.pairwise_cons.mp hs).2
    rw [cnt_inRuns_cons _ _ hs, cnt_Icc _ (by simp only; omega) (by simp only; omega)]
    simp only [runBmpCard]
    rw [ih hs' (fun p hp => hb p (by simp [hp])), add16_eq hsl]
    have := bmpCardInRange_spec ws s (s + l + 1) (by omega) (by omega)
    unfold IsCardInRange at this
    rw [this]
    simp only [Int.natCast_add]

namespace RepQuery

/-! ### `runArrCard` -/

theorem takeWhile_le_sorted {xs : List Nat} (hx : xs.Pairwise (· < ·)) (e : Nat) :
    xs.takeWhile (· ≤ e) = xs.filter (fun v => decide (v ≤ e)) :=
  Util.takeWhile_eq_filter (Util.downClosed_le id e) hx

theorem dropWhile_le_sorted {xs : List Nat} (hx : xs.Pairwise (· < ·)) (e : Nat) :
    xs.dropWhile (· ≤ e) = xs.filter (fun v => decide (e < v)) :=
  (Util.dropWhile_eq_filter (Util.downClosed_le id e) hx).trans
    (List.filter_congr fun x _ => by simp only [← Nat.not_le, decide_not, id])

theorem runArrCard_nil (rs : List (Nat × Nat)) : runArrCard rs [] = 0 := by
  cases rs with
  | nil => rfl
  | cons p t => obtain ⟨s, l⟩ := p; simp [runArrCard]

theorem runArrCard_cons (s l : Nat) (rt : List (Nat × Nat)) (xs : List Nat) :
    runArrCard ((s, l) :: rt) xs =
      ((xs.dropWhile (· < s)).takeWhile (· ≤ add16 s l)).length +
        runArrCard rt ((xs.dropWhile (· < s)).dropWhile (· ≤ add16 s l)) := by
  simp only [runArrCard]
  split
  · next h =>
    simp only [List.isEmpty_iff] at h
    simp [h, runArrCard_nil]
  · split
    · next h =>
      simp only [List.isEmpty_iff] at h
      simp [h, runArrCard_nil]
    · rfl

/-- stands in for `congr 1`, which runs into the recursion limit on the goal of `runArrCard_spec` -/
theorem add_congr2 {a b c d : Nat} (h1 : a = c) (h2 : b = d) : a + b = c + d := by rw [h1, h2]

end RepQuery

theorem runArrCard_spec {rs : List (Nat × Nat)} {xs : List Nat} (hs : RunSep rs) (hb : ∀ p ∈ rs, p.1 + p.2 ≤ 65535)
    (hx : xs.Pairwise (· < ·)) (hbx : ∀ v ∈ xs, v < 65536) :
    runArrCard rs xs = cnt (fun x => inRuns rs x && xs.contains x) 65536 := by
  induction rs generalizing xs with
  | nil =>
    rw [cnt_zero_of_none _ _ (fun x _ => by simp [inRuns_nil])]
    rfl
  | cons p t ih =>
    obtain ⟨s, l⟩ := p
    have hsl : s + l ≤ 65535 := hb (s, l) (by simp)
    have hs' : RunSep t := (List.pairwise_cons.mp hs).2
    have hx1 : (xs.filter (fun v => decide (s ≤ v))).Pairwise (· < ·) := hx.filter _
    rw [cnt_inRuns_cons _ _ hs, runArrCard_cons, add16_eq hsl, It.dropWhile_lt_sorted _ hx,
      takeWhile_le_sorted hx1, dropWhile_le_sorted hx1]
    refine add_congr2 ?_ ?_
    · symm
      apply cnt_eq_length (hx1.filter _)
      intro x
      simp only [List.mem_filter, decide_eq_true_eq, Bool.and_eq_true, List.contains_iff_mem]
      constructor
      · rintro ⟨⟨h1, h2⟩, h3⟩
        exact ⟨hbx x h1, ⟨h2, h3⟩, h1⟩
      · rintro ⟨_, ⟨h2, h3⟩, h1⟩
        exact ⟨⟨h1, h2⟩, h3⟩
    · rw [ih hs' (fun p hp => hb p (by simp [hp])) (hx1.filter _)
        (fun v hv => hbx v (List.mem_filter.mp (List.mem_filter.mp hv).1).1)]
      apply cnt_congr
      intro x _
      rw [has_filter, has_filter]
      cases hin : inRuns t x
      · rfl
      · have := inRuns_tail_gt hs hin
        have e1 : decide (s ≤ x) = true := by simp; omega
        have e2 : decide (s + l < x) = true := by simp; omega
        simp [e1, e2]

namespace RepQuery

/-! ### `rrCard` -/

/-- membership in a list of `(start, last)` pairs -/
def inPairs (ps : List (Nat × Nat)) (x : Nat) : Bool := ps.any fun (s, e) => decide (s ≤ x) && decide (x ≤ e)

/-- `(start, last)` pairs: separated and increasing -/
abbrev PSep (ps : List (Nat × Nat)) : Prop := ps.Pairwise (fun p q => p.2 + 1 < q.1)

/-- the `(start, last)` pairs of a well-formed run list: separated, increasing, non-empty intervals below `2^16` -/
structure PWf (ps : List (Nat × Nat)) : Prop where
  sep : PSep ps
  valid : ∀ p ∈ ps, p.1 ≤ p.2
  bound : ∀ p ∈ ps, p.2 ≤ 65535

theorem PWf.suffix {l l' : List (Nat × Nat)} (h : PWf l) (hs : l' <:+ l) : PWf l' :=
  ⟨h.sep.sublist hs.sublist, fun p hp => h.valid p (hs.subset hp), fun p hp => h.bound p (hs.subset hp)⟩

theorem PWf.tail {p : Nat × Nat} {t : List (Nat × Nat)} (h : PWf (p :: t)) : PWf t := h.suffix (List.suffix_cons p t)

theorem PWf.head {p : Nat × Nat} {t : List (Nat × Nat)} (h : PWf (p :: t)) : p.1 ≤ p.2 ∧ p.2 ≤ 65535 :=
  ⟨h.valid p (by simp), h.bound p (by simp)⟩

theorem PWf.trim {s e s' : Nat} {t : List (Nat × Nat)} (h : PWf ((s, e) :: t)) (hs : s' ≤ e) : PWf ((s', e) :: t) :=
  ⟨List.pairwise_cons.mpr (List.pairwise_cons.mp h.sep), List.forall_mem_cons.mpr ⟨hs, h.tail.valid⟩,
    List.forall_mem_cons.mpr ⟨h.head.2, h.tail.bound⟩⟩

theorem inPairs_nil (x : Nat) : inPairs [] x = false := rfl

theorem inPairs_cons (p : Nat × Nat) (t : List (Nat × Nat)) (x : Nat) :
    inPairs (p :: t) x = ((decide (p.1 ≤ x) && decide (x ≤ p.2)) || inPairs t x) := by
  simp [inPairs]

theorem inPairs_iff (ps : List (Nat × Nat)) (x : Nat) : inPairs ps x = true ↔ ∃ p ∈ ps, p.1 ≤ x ∧ x ≤ p.2 := by
  simp [inPairs]

theorem inPairs_tail_gt {p : Nat × Nat} {t : List (Nat × Nat)} (h : PSep (p :: t)) {x : Nat}
    (hx : inPairs t x = true) : p.2 + 1 < x := by
  obtain ⟨q, hq, h1, _⟩ := (inPairs_iff t x).mp hx
  have := (List.pairwise_cons.mp h).1 q hq
  omega

theorem inPairs_ge_head {p : Nat × Nat} {t : List (Nat × Nat)} (h : PWf (p :: t)) {x : Nat}
    (hx : inPairs (p :: t) x = true) : p.1 ≤ x := by
  rw [inPairs_cons, Bool.or_eq_true, Bool.and_eq_true, decide_eq_true_eq] at hx
  rcases hx with hx | hx
  · exact hx.1
  · have := inPairs_tail_gt h.sep hx
    have := h.head.1
    omega

theorem inPairs_lt {ps : List (Nat × Nat)} (hb : ∀ p ∈ ps, p.2 ≤ 65535) {x : Nat} (h : inPairs ps x = true) :
    x < 65536 := by
  obtain ⟨q, hq, _, h2⟩ := (inPairs_iff ps x).mp h
  have := hb q hq
  omega

theorem skipTo_suffix (l : List (Nat × Nat)) (key : Nat) : skipTo l key <:+ l := by
  fun_induction skipTo l key with
  | case1 p q t key h ih => exact List.IsSuffix.trans ih (List.suffix_cons _ _)
  | case2 p q t key h => exact List.suffix_refl _
  | case3 l key h => exact List.suffix_refl _

theorem inPairs_skipTo (l : List (Nat × Nat)) (key : Nat) (hs : PSep l) {x : Nat} (hx : key ≤ x) :
    inPairs (skipTo l key) x = inPairs l x := by
  fun_induction skipTo l key with
  | case1 p q t key h ih =>
    have := (List.pairwise_cons.mp hs).1 q (by simp)
    rw [ih (List.pairwise_cons.mp hs).2 hx, inPairs_cons p, show decide (x ≤ p.2) = false from decide_eq_false (by omega),
      Bool.and_false, Bool.false_or]
  | case2 p q t key h => rfl
  | case3 l key h => rfl

/-- `findNextIntervalThatIntersectsStartingFrom`: an interval that ends before `key` and the intervals skipped after it
meet no set whose members are all `≥ key` -/
theorem cnt_skipTo {p : Nat × Nat} {t : List (Nat × Nat)} (h : PSep (p :: t)) {key : Nat} (hk : p.2 < key)
    {Q : Nat → Bool} (hQ : ∀ x, Q x = true → key ≤ x) (n : Nat) :
    cnt (fun x => inPairs (skipTo t key) x && Q x) n = cnt (fun x => inPairs (p :: t) x && Q x) n := by
  apply cnt_congr
  intro x _
  cases hq : Q x
  · rw [Bool.and_false, Bool.and_false]
  · have hx := hQ x hq
    rw [inPairs_skipTo t key (List.pairwise_cons.mp h).2 hx, inPairs_cons,
      show decide (x ≤ p.2) = false from decide_eq_false (by omega), Bool.and_false, Bool.false_or]

/-- `cnt_overlap` at one point `x`; `TA`, `TB` stand for membership in the two tails, which lie beyond `ea + 1`, `eb + 1` -/
theorem overlap_at (sa ea sb eb x : Nat) (TA TB : Bool) (h1 : TA = true → ea + 1 < x) (h2 : TB = true → eb + 1 < x)
    (hle : eb ≤ ea) (hov : max sa sb ≤ eb) :
    (((decide (sa ≤ x) && decide (x ≤ ea)) || TA) && ((decide (sb ≤ x) && decide (x ≤ eb)) || TB)) =
      ((decide (max sa sb ≤ x) && decide (x ≤ eb)) || (((decide (eb + 1 ≤ x) && decide (x ≤ ea)) || TA) && TB)) := by
  rw [Bool.eq_iff_iff]
  simp only [Bool.or_eq_true, Bool.and_eq_true, decide_eq_true_eq]
  cases TA <;> cases TB <;>
    simp only [Bool.false_eq_true, or_false, and_false, or_true, and_true, true_implies, false_implies] at h1 h2 ⊢ <;>
    omega

/-- two overlapping first intervals, the second ending first: the overlap, and what is left of the first interval against
the rest of the second list -/
theorem cnt_overlap {sa ea sb eb : Nat} {ta tb : List (Nat × Nat)} (ha : PSep ((sa, ea) :: ta))
    (hb : PSep ((sb, eb) :: tb)) (hle : eb ≤ ea) (hov : max sa sb ≤ eb) (hbd : eb < 65536) :
    cnt (fun x => inPairs ((sa, ea) :: ta) x && inPairs ((sb, eb) :: tb) x) 65536 =
      eb + 1 - max sa sb + cnt (fun x => inPairs ((eb + 1, ea) :: ta) x && inPairs tb x) 65536 := by
  have hta : ∀ x, inPairs ta x = true → ea + 1 < x := fun x h => inPairs_tail_gt ha h
  have htb : ∀ x, inPairs tb x = true → eb + 1 < x := fun x h => inPairs_tail_gt hb h
  have e : ∀ x, (inPairs ((sa, ea) :: ta) x && inPairs ((sb, eb) :: tb) x) =
      ((decide (max sa sb ≤ x) && decide (x ≤ eb)) || (inPairs ((eb + 1, ea) :: ta) x && inPairs tb x)) := by
    intro x
    simp only [inPairs_cons]
    exact overlap_at sa ea sb eb x _ _ (hta x) (htb x) hle hov
  rw [cnt_congr 65536 (fun x _ => e x), cnt_or_disjoint, cnt_range _ eb 65536 hbd (by omega)]
  intro x ⟨h1, h2⟩
  simp only [Bool.and_eq_true, decide_eq_true_eq] at h1 h2
  have := htb x h2.2
  omega

theorem inPairs_cons_empty {s e : Nat} (h : e < s) (t : List (Nat × Nat)) (x : Nat) :
    inPairs ((s, e) :: t) x = inPairs t x := by
  rw [inPairs_cons]
  by_cases hx : s ≤ x
  · rw [show decide (x ≤ e) = false from decide_eq_false (by omega), Bool.and_false, Bool.false_or]
  · rw [show decide (s ≤ x) = false from decide_eq_false hx, Bool.false_and, Bool.false_or]

theorem rrCard_eq_cnt (a b : List (Nat × Nat)) (ha : PWf a) (hb : PWf b) :
    rrCard a b = cnt (fun x => inPairs a x && inPairs b x) 65536 := by
  fun_induction rrCard a b with
  | case1 b => exact (cnt_zero_of_none _ _ (fun x _ => rfl)).symm
  | case2 a h => exact (cnt_zero_of_none _ _ (fun x _ => by rw [inPairs_nil, Bool.and_false])).symm
  | case3 sa ea ta sb eb tb hno hlt ih =>
    have := ha.head; have := hb.head
    rw [ih (ha.tail.suffix (skipTo_suffix ta sb)) hb]
    exact cnt_skipTo ha.sep (by omega) (fun x hx => inPairs_ge_head hb hx) _
  | case4 sa ea ta sb eb tb hno hlt hgt ih =>
    have := ha.head; have := hb.head
    rw [ih ha (hb.tail.suffix (skipTo_suffix tb sa))]
    exact (cnt_and_comm _ _ _).trans ((cnt_skipTo hb.sep (by omega) (fun x hx => inPairs_ge_head ha hx) _).trans
      (cnt_and_comm _ _ _))
  | case5 sa ea ta sb eb tb hno hlt hgt =>
    have := ha.head; have := hb.head
    omega
  | case6 sa ea ta sb eb tb hov n hlt ih =>
    have := ha.head; have := hb.head
    rw [ih (ha.trim (by omega)) hb.tail, cnt_overlap ha.sep hb.sep (by omega) (by omega) (by omega)]
    show min ea eb - max sa sb + 1 + _ = _
    omega
  | case7 sa ea ta sb eb tb hov n hlt hgt ih =>
    have := ha.head; have := hb.head
    rw [ih ha.tail (hb.trim (by omega)), cnt_and_comm (inPairs ta), cnt_and_comm (inPairs ((sa, ea) :: ta)),
      cnt_overlap hb.sep ha.sep (by omega) (by omega) (by omega)]
    show min ea eb - max sa sb + 1 + _ = _
    omega
  | case8 sa ea ta sb eb tb hov n hlt hgt ih =>
    have := ha.head; have := hb.head
    have e := cnt_congr 65536 (p := fun x => inPairs ((eb + 1, ea) :: ta) x && inPairs tb x)
      (q := fun x => inPairs ta x && inPairs tb x) (fun x _ => by rw [inPairs_cons_empty (by omega)])
    rw [ih ha.tail hb.tail, cnt_overlap ha.sep hb.sep (by omega) (by omega) (by omega), e]
    show min ea eb - max sa sb + 1 + _ = _
    omega

/-- on run lists that stay below `2^16` the `(start, last)` pairs are computed without wrap-around -/
theorem runPairs_eq {rs : List (Nat × Nat)} (hb : ∀ p ∈ rs, p.1 + p.2 ≤ 65535) :
    runPairs rs = rs.map fun p => (p.1, p.1 + p.2) :=
  List.map_congr_left fun p hp => by rw [← add16_eq (hb p hp)]

theorem inPairs_runPairs (rs : List (Nat × Nat)) (hb : ∀ p ∈ rs, p.1 + p.2 ≤ 65535) (x : Nat) :
    inPairs (runPairs rs) x = inRuns rs x := by
  rw [runPairs_eq hb, inPairs, List.any_map]
  rfl

theorem pwf_runPairs {rs : List (Nat × Nat)} (hs : RunSep rs) (hb : ∀ p ∈ rs, p.1 + p.2 ≤ 65535) :
    PWf (runPairs rs) := by
  rw [runPairs_eq hb]
  refine ⟨List.pairwise_map.mpr hs, fun q hq => ?_, fun q hq => ?_⟩
  · obtain ⟨p, -, rfl⟩ := List.mem_map.mp hq
    exact Nat.le_add_right _ _
  · obtain ⟨p, hp, rfl⟩ := List.mem_map.mp hq
    exact hb p hp

end RepQuery

theorem rrCard_spec {r1 r2 : List (Nat × Nat)} (h1 : RunSep r1) (b1 : ∀ p ∈ r1, p.1 + p.2 ≤ 65535)
    (h2 : RunSep r2) (b2 : ∀ p ∈ r2, p.1 + p.2 ≤ 65535) :
    rrCard (runPairs r1) (runPairs r2) = cnt (fun x => inRuns r1 x && inRuns r2 x) 65536 := by
  rw [rrCard_eq_cnt _ _ (pwf_runPairs h1 b1) (pwf_runPairs h2 b2)]
  apply cnt_congr
  intro x _
  rw [inPairs_runPairs r1 b1, inPairs_runPairs r2 b2]

end RModel.Impl
