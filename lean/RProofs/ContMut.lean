import RModel.Impl.ContMut
import RProofs.ContEfficient
import RProofs.ContLazy
import RModel.Impl.RepMut
import RModel.Impl.RepXform
/-!
The L2 mutation kernels of `RModel/Impl/ContMut.lean` (the representation-exact model of the Go kernels
`iaddReturnMinimized / iremoveReturnMinimized / iadd / iremove / iaddRange / iremoveRange / not / inot` of the three
container kinds, tied to the Go code by the `kern` correspondence check, verdict `l2Mut`) compute the set operations
`BSet.add / remove / addRange / removeRange / flipRange` and return well-formed (or empty) containers, for a
well-formed receiver and in-domain arguments (`x < 65536`, `hi ≤ 65536`); likewise the in-place binary kernels
`iand / ior / ixor / iandNot` compute `BSet.inter / union / xor / diff`.  Each kernel is judged once by `Cont.Holds`
(`ContOps.lean`).  `iaddRange` / `iremoveRange` and the bare `iadd` / `iremove` leave a run container a run container, which need
not be the smallest representation any more: their results are judged by `Cont.HoldsL` (`Cont.wfLoose`), and `minimizeRun`
(`RModel/Impl/RepMut.lean`, what `Bitmap.AddRange/RemoveRange` call afterwards) makes them well-formed.  Last section:
`addOffset` (`RModel/Impl/RepXform.lean`) splits a container into the two halves `AddOffset64` stores under neighbouring keys.
-/
open RModel.Util
namespace RModel.Impl
open RModel RModel.BSet RModel.Driver ContOps ContMut

/-! ### sorted insertion -/

theorem mem_insertVal (x : Nat) (xs : List Nat) (y : Nat) : y ∈ insertVal x xs ↔ (y ∈ xs ∨ y = x) := by
  fun_induction insertVal x xs <;> grind

theorem contains_insertVal (x : Nat) (xs : List Nat) (y : Nat) :
    (insertVal x xs).contains y = (xs.contains y || decide (y = x)) := by
  rw [Bool.eq_iff_iff]; simp [mem_insertVal]

theorem sorted_insertVal (x : Nat) (xs : List Nat) (h : xs.Pairwise (· < ·)) : (insertVal x xs).Pairwise (· < ·) := by
  fun_induction insertVal x xs <;> grind [List.pairwise_cons, mem_insertVal]

theorem length_insertVal_le (x : Nat) (xs : List Nat) : (insertVal x xs).length ≤ xs.length + 1 := by
  fun_induction insertVal x xs <;> grind

theorem length_insertVal_pos (x : Nat) (xs : List Nat) : 0 < (insertVal x xs).length := by
  fun_induction insertVal x xs <;> simp

theorem insertVal_of_mem (x : Nat) (xs : List Nat) (h : xs.Pairwise (· < ·)) (hx : x ∈ xs) : insertVal x xs = xs := by
  fun_induction insertVal x xs <;> grind [List.pairwise_cons]

/-! ### the range `[lo,hi)` as a run list and as bitmap words -/

abbrev inRange (lo hi y : Nat) : Bool := decide (lo ≤ y) && decide (y < hi)

theorem inRange_false_of_le {lo hi : Nat} (h : hi ≤ lo) (y : Nat) : inRange lo hi y = false := by
  rw [inRange, Bool.and_eq_false_iff, decide_eq_false_iff_not, decide_eq_false_iff_not]; omega

theorem lt_of_inRange {lo hi N : Nat} (h : hi ≤ N) {y : Nat} (hy : inRange lo hi y = true) : y < N :=
  Nat.lt_of_lt_of_le (of_decide_eq_true (Bool.and_eq_true_iff.mp hy).2) h

theorem inRuns_rangeRuns (lo hi x : Nat) : inRuns (rangeRuns lo hi) x = inRange lo hi x :=
  inRuns_pre lo hi x

theorem sep_rangeRuns (lo hi : Nat) : RunSep (rangeRuns lo hi) := sep_opt _ _

theorem bound_rangeRuns (lo hi : Nat) (h : hi ≤ 65536) : RunBound 65535 (rangeRuns lo hi) := by
  unfold rangeRuns
  split <;> rename_i hlt
  · intro p hp
    simp only [List.mem_singleton] at hp
    subst hp; simp only; omega
  · intro p hp; simp at hp

theorem wordsAre_range (lo : Nat) {hi : Nat} (h : hi ≤ 65536) :
    WordsAre (wordsOfRuns (rangeRuns lo hi)) (inRange lo hi) :=
  (wordsAre_ofRuns (bound_rangeRuns lo hi h)).congr (inRuns_rangeRuns lo hi)

theorem WordsAre.setRange {ws : List (BitVec 64)} {p : Nat → Bool} (hw : WordsAre ws p) (lo : Nat) {hi : Nat} (h : hi ≤ 65536) :
    WordsAre (setRangeW ws lo hi) fun x => p x || inRange lo hi x := hw.or (wordsAre_range lo h)

/-- bits from 65536 on are not set, so the range may reach beyond -/
theorem WordsAre.clearRange {ws : List (BitVec 64)} {p : Nat → Bool} (hw : WordsAre ws p) (lo hi : Nat) :
    WordsAre (clearRangeW ws lo hi) fun x => p x && !inRange lo hi x :=
  (hw.andNot (wordsAre_ofRuns_lt _)).congr fun x => by
    rw [inRuns_rangeRuns]
    cases h : p x
    · rfl
    · simp [hw.lt h]

theorem WordsAre.flipRange {ws : List (BitVec 64)} {p : Nat → Bool} (hw : WordsAre ws p) (lo : Nat) {hi : Nat} (h : hi ≤ 65536) :
    WordsAre (flipRangeW ws lo hi) fun x => p x != inRange lo hi x := hw.xor (wordsAre_range lo h)

/-! ### one bit: cardinality bookkeeping -/

theorem wordsCard_setBit (ws : List (BitVec 64)) (x : Nat) (hl : ws.length = 1024) (hx : x < 65536) :
    wordsCard (setBit ws x) = wordsCard ws + (if testBit ws x then 0 else 1) := by
  have hw : ArrWf [x] := ⟨by simp, by simp, by simp, by simpa using hx⟩
  have := card_bmpOrArr ws [x] hl hw
  simp only [List.foldl_cons, List.foldl_nil] at this
  rw [this]
  cases h : testBit ws x <;> simp [h]

theorem wordsCard_clearBit (ws : List (BitVec 64)) (x : Nat) :
    wordsCard (clearBit ws x) + (if testBit ws x then 1 else 0) = wordsCard ws := by
  have := card_bmpAndNotArr ws [x] (by simp)
  simp only [List.foldl_cons, List.foldl_nil] at this
  rw [← this]
  cases h : testBit ws x <;> simp [h]

/-! ### single values -/

theorem sorted_single (x : Nat) : RunSorted [(x, 0)] := by simp [RunSorted]
theorem sep_single (x : Nat) : RunSep [(x, 0)] := by simp [RunSep]
theorem inRuns_single (x y : Nat) : inRuns [(x, 0)] y = decide (y = x) := by
  rw [Bool.eq_iff_iff]; simp [inRuns]; omega

theorem runAdd_spec (rs : List (Nat × Nat)) (hs : RunSep rs) (x : Nat) :
    RunSep (runAdd rs x) ∧ ∀ y, inRuns (runAdd rs x) y = (inRuns rs y || decide (y = x)) := by
  have sp := runUnion_spec rs [(x, 0)] (sorted_of_sep hs) (sorted_single x)
  exact ⟨sp.1, fun y => by rw [runAdd, sp.2, inRuns_single]⟩

theorem runRemove_spec (rs : List (Nat × Nat)) (hs : RunSep rs) (x : Nat) :
    RunSep (runRemove rs x) ∧ ∀ y, inRuns (runRemove rs x) y = (inRuns rs y && !decide (y = x)) := by
  have sp := runDiff_spec rs [(x, 0)] hs (sep_single x)
  exact ⟨sp.1, fun y => by rw [runRemove, sp.2, inRuns_single]⟩

theorem lt_of_decide_eq {x N : Nat} (hx : x < N) {y : Nat} (h : decide (y = x) = true) : y < N := of_decide_eq_true h ▸ hx

theorem has_bmpAdd (c : Int) (ws : List (BitVec 64)) (hl : ws.length = 1024) (x : Nat) (hx : x < 65536) (y : Nat) :
    (bmpAdd c ws x).1.has y = (testBit ws y || decide (y = x)) := ((wordsAre_self hl).setBit hx).mem y

theorem or_decide_eq_of_mem {p : Nat → Bool} {x : Nat} (h : p x = true) (y : Nat) : (p y || decide (y = x)) = p y := by
  by_cases hyx : y = x
  · subst hyx; simp [h]
  · simp [hyx]

theorem and_not_decide_eq_of_not_mem {p : Nat → Bool} {x : Nat} (h : ¬ p x = true) (y : Nat) :
    (p y && !decide (y = x)) = p y := by
  by_cases hyx : y = x
  · subst hyx; simp [h]
  · simp [hyx]

theorem wordsCard_of_cardDelta {c : Int} {ws ws' : List (BitVec 64)} (hc : c = (wordsCard ws : Int)) :
    c + cardDelta ws ws' = (wordsCard ws' : Int) := by
  simp only [cardDelta]; omega

/-- a bitmap result with the full check of `iorArray` / `iaddReturnMinimized`: the run container `[0,65535]` when all
65536 bits are set -/
theorem holds_bmpOrFull {c : Int} {ws : List (BitVec 64)} {p : Nat → Bool} (h : WordsAre ws p) (hc : c = (wordsCard ws : Int))
    (hgt : 4096 < wordsCard ws) : (if c == 65536 then fullRun else Cont.bmp c ws).Holds p := by
  split <;> rename_i hfull
  · exact holds_full h (by simp only [beq_iff_eq] at hfull; omega)
  · exact holds_bmp h hc hgt

theorem arrOk_insertVal {xs : List Nat} (hxs : ArrWf xs) {x : Nat} (hx : x < 65536) (hlen : xs.length < 4096) :
    ArrOk (insertVal x xs) :=
  ⟨by have := length_insertVal_le x xs; omega, sorted_insertVal x xs hxs.sorted,
    fun v hv => ((mem_insertVal x xs v).mp hv).elim (hxs.bound v) (fun h => h ▸ hx)⟩

theorem iaddRM_holds (a : Cont) (ha : a.wf = true) (x : Nat) (hx : x < 65536) :
    (a.iaddRM x).Holds fun y => a.has y || decide (y = x) := by
  cases a with
  | arr xs =>
    have hxs := wf_arr ha
    simp only [Cont.iaddRM]
    split <;> rename_i hc
    · exact (holds_of_wf ha).congr fun y => (or_decide_eq_of_mem (p := xs.contains) hc y).symm
    · split <;> rename_i hlen
      · -- 4096 values already: `toBitmapContainer()`, then `iadd`
        have hw := wordsAre_ofArr hxs.bound
        have htb : testBit (wordsOfArr xs) x = false := by rw [hw.mem]; simpa using hc
        have hcard := wordsCard_setBit (wordsOfArr xs) x hw.len hx
        rw [wordsCard_wordsOfArr xs hxs, htb] at hcard
        simp only [arrayMax] at hlen
        simp only [bmpAdd, htb]
        exact holds_bmp (hw.setBit hx) (by rw [hcard]; simp) (by rw [hcard]; simp; omega)
      · exact ⟨contains_insertVal x xs, nilOrWf_arr (arrOk_insertVal hxs hx (by simpa only [arrayMax, Nat.not_le] using hlen))⟩
  | bmp c ws =>
    obtain ⟨hl, hc, hgt⟩ := wf_bmp ha
    have hcard := wordsCard_setBit ws x hl hx
    exact holds_bmpOrFull ((wordsAre_self hl).setBit hx) (by rw [hcard, hc]; split <;> simp) (by omega)
  | run rs =>
    have hrs := wf_run ha
    exact holds_runToEfficient (runAdd_spec rs (wf_run ha).sep x) (lt_of_table (f := (· || ·)) rfl (has_lt ha) (lt_of_decide_eq hx))

theorem has_iaddRM (a : Cont) (ha : a.wf = true) (x : Nat) (hx : x < 65536) (y : Nat) :
    (a.iaddRM x).has y = (a.has y || decide (y = x)) := (iaddRM_holds a ha x hx).has y

theorem has_iadd (a : Cont) (ha : a.wf = true) (x : Nat) (hx : x < 65536) (y : Nat) :
    (a.iadd x).1.has y = (a.has y || decide (y = x)) := by
  cases a with
  | arr xs => simp only [Cont.iadd, has_arr, contains_insertVal]
  | bmp c ws => exact has_bmpAdd c ws (wf_bmp ha).1 x hx y
  | run rs => exact (runAdd_spec rs (wf_run ha).sep x).2 y

/-- `iadd(x)` reports whether the value was new -/
theorem iadd_bool (a : Cont) (x : Nat) : (a.iadd x).2 = !a.has x := by
  cases a <;> rfl

theorem contains_filter_ne (xs : List Nat) (x y : Nat) :
    (xs.filter (· != x)).contains y = (xs.contains y && !decide (y = x)) := by
  rw [has_filter]
  by_cases h : y = x <;> simp [h]

theorem iremoveRM_holds (a : Cont) (ha : a.wf = true) (x : Nat) :
    (a.iremoveRM x).Holds fun y => a.has y && !decide (y = x) := by
  cases a with
  | arr xs => exact ⟨contains_filter_ne xs x, nilOrWf_filter (wf_arr ha) _⟩
  | bmp c ws =>
    obtain ⟨hl, hc, hgt⟩ := wf_bmp ha
    have hcard := wordsCard_clearBit ws x
    have hw := (wordsAre_self hl).clearBit x
    simp only [Cont.iremoveRM, bmpRemoveRM]
    split <;> rename_i hb
    · rw [hb, if_pos rfl] at hcard
      split <;> rename_i h4 <;> simp only [beq_iff_eq] at h4
      · exact holds_valsOfWords hw (by omega)
      · exact holds_bmp hw (by omega) (by omega)
    · exact (holds_of_wf ha).congr fun y => (and_not_decide_eq_of_not_mem (p := testBit ws) hb y).symm
  | run rs =>
    have hrs := wf_run ha
    exact holds_runToEfficient (runRemove_spec rs (wf_run ha).sep x) fun h => has_lt ha (Bool.and_eq_true_iff.mp h).1

theorem has_iremoveRM (a : Cont) (ha : a.wf = true) (x : Nat) (y : Nat) :
    (a.iremoveRM x).has y = (a.has y && !decide (y = x)) := (iremoveRM_holds a ha x).has y

theorem has_iremove (a : Cont) (ha : a.wf = true) (x : Nat) (y : Nat) :
    (a.iremove x).1.has y = (a.has y && !decide (y = x)) := by
  cases a with
  | arr xs => simp only [Cont.iremove, has_arr, contains_filter_ne]
  | bmp c ws =>
    simp only [Cont.iremove, bmpRemove]
    split <;> rename_i hb
    · simp only [has_bmp, testBit_clearBit]
    · exact (and_not_decide_eq_of_not_mem (p := testBit ws) hb y).symm
  | run rs => exact (runRemove_spec rs (wf_run ha).sep x).2 y

/-- `iremove(x)` reports whether the value was present -/
theorem iremove_bool (a : Cont) (x : Nat) : (a.iremove x).2 = a.has x := by
  cases a with
  | arr xs => rfl
  | bmp c ws => simp only [Cont.iremove, bmpRemove, has_bmp]; split <;> simp_all
  | run rs => rfl

/-! ### single values: the abstraction -/

theorem toBSet_iaddRM (a : Cont) (ha : a.wf = true) (x : Nat) (hx : x < 65536) :
    (a.iaddRM x).toBSet 0 = BSet.add (a.toBSet 0) x :=
  toBSet_combine_with _ rfl (sinc_single x) fun y => by rw [has_iaddRM a ha x hx, mem_single]

theorem toBSet_iadd (a : Cont) (ha : a.wf = true) (x : Nat) (hx : x < 65536) :
    (a.iadd x).1.toBSet 0 = BSet.add (a.toBSet 0) x :=
  toBSet_combine_with _ rfl (sinc_single x) fun y => by rw [has_iadd a ha x hx, mem_single]

theorem iadd_bool_mem (a : Cont) (x : Nat) : (a.iadd x).2 = !mem (a.toBSet 0) x := by
  rw [iadd_bool, mem_toBSet]

theorem toBSet_iremoveRM (a : Cont) (ha : a.wf = true) (x : Nat) :
    (a.iremoveRM x).toBSet 0 = BSet.remove (a.toBSet 0) x :=
  toBSet_combine_with _ rfl (sinc_single x) fun y => by rw [has_iremoveRM a ha x, mem_single]

theorem toBSet_iremove (a : Cont) (ha : a.wf = true) (x : Nat) :
    (a.iremove x).1.toBSet 0 = BSet.remove (a.toBSet 0) x :=
  toBSet_combine_with _ rfl (sinc_single x) fun y => by rw [has_iremove a ha x, mem_single]

theorem iremove_bool_mem (a : Cont) (x : Nat) : (a.iremove x).2 = mem (a.toBSet 0) x := by
  rw [iremove_bool, mem_toBSet]

/-! ### single values: well-formedness of the result (C09 at kernel level) -/

theorem wf_iaddRM (a : Cont) (ha : a.wf = true) (x : Nat) (hx : x < 65536) : (a.iaddRM x).wf = true :=
  (iaddRM_holds a ha x hx).nw.wf_of_has (y := x) (by rw [has_iaddRM a ha x hx]; simp)

theorem wf_iremoveRM (a : Cont) (ha : a.wf = true) (x : Nat) :
    (a.iremoveRM x).card = 0 ∨ (a.iremoveRM x).wf = true := (iremoveRM_holds a ha x).wfe

theorem emptyOrWf_iremoveRM (a : Cont) (ha : a.wf = true) (x : Nat) : (a.iremoveRM x).EmptyOrWf :=
  (iremoveRM_holds a ha x).emptyOrWf

/-! ### ranges -/

/-- the array `arrayContainer.iaddRange` builds — the values below `lo`, the whole range, the values from `hi` on — is
sorted and holds the old values and the range -/
theorem splice_range {xs : List Nat} (hs : xs.Pairwise (· < ·)) {lo hi : Nat} (hlt : lo < hi) :
    (xs.filter (· < lo) ++ List.range' lo (hi - lo) ++ xs.filter (hi ≤ ·)).Pairwise (· < ·) ∧
    ∀ y, (xs.filter (· < lo) ++ List.range' lo (hi - lo) ++ xs.filter (hi ≤ ·)).contains y =
      (xs.contains y || inRange lo hi y) := by
  refine ⟨sorted_splice xs _ lo hi hs (List.pairwise_lt_range' 1)
    (by intro v hv; simp only [List.mem_range'_1] at hv; omega) (by omega), fun y => ?_⟩
  rw [contains_splice, contains_range'_sub lo hi y]
  cases xs.contains y <;> by_cases h1 : y < lo <;> by_cases h2 : hi ≤ y <;> simp [h1, h2] <;> omega

/-- `bitmapContainer.iremoveRange`: the cardinality kept through `cardDelta` is the true one, so the re-typing is right -/
theorem holds_bmpRemoveRange {c : Int} {ws : List (BitVec 64)} {p : Nat → Bool} (hw : WordsAre ws p)
    (hc : c = (wordsCard ws : Int)) (lo hi : Nat) : (bmpRemoveRange c ws lo hi).Holds fun y => p y && !inRange lo hi y :=
  holds_ofCard (hw.clearRange lo hi) (wordsCard_of_cardDelta hc)

theorem wordsCard_flip_full (ws : List (BitVec 64)) (hl : ws.length = 1024) :
    wordsCard (flipRangeW ws 0 65536) + wordsCard ws = 65536 := by
  have hf := (wordsAre_self hl).flipRange 0 (Nat.le_refl 65536)
  rw [wordsCard_eq_count hf.len, wordsCard_eq_count hl,
    List.filter_congr (q := fun x => !testBit ws x) fun x hx => by
      rw [hf.mem]
      simp [inRange, List.mem_range.mp hx]]
  have := length_filter_split (List.range 65536) (testBit ws)
  rw [List.length_range] at this
  omega

/-- `bitmapContainer.inot`: each of the three ways of getting the new cardinality gives the true one -/
theorem holds_bmpNot {c : Int} {ws : List (BitVec 64)} {p : Nat → Bool} (hw : WordsAre ws p) (hc : c = (wordsCard ws : Int))
    (lo hi : Nat) (hhi : hi ≤ 65536) : (bmpNot c ws lo hi).Holds fun y => p y != inRange lo hi y := by
  simp only [bmpNot]
  generalize hc' : (if ((hi : Int) - (lo : Int) == 65536) = true then 65536 - c
      else if (hi : Int) - (lo : Int) > 32768 then (wordsCard (flipRangeW ws lo hi) : Int)
      else c + cardDelta ws (flipRangeW ws lo hi)) = c'
  have hcc : c' = (wordsCard (flipRangeW ws lo hi) : Int) := by
    rw [← hc']
    split
    · rename_i h
      simp only [beq_iff_eq] at h
      have h0 : lo = 0 := by omega
      have h1 : hi = 65536 := by omega
      subst h0; subst h1
      have := wordsCard_flip_full ws hw.len
      omega
    · split
      · rfl
      · exact wordsCard_of_cardDelta hc
  exact holds_ofCard (hw.flipRange lo hhi) hcc

theorem runFlip_spec (rs : List (Nat × Nat)) (hs : RunSep rs) (lo hi : Nat) :
    RunSep (runFlip rs lo hi) ∧ ∀ y, inRuns (runFlip rs lo hi) y = (inRuns rs y != inRange lo hi y) := by
  have d1 := runDiff_spec _ _ (sep_rangeRuns lo hi) hs
  have d2 := runDiff_spec _ _ hs (sep_rangeRuns lo hi)
  have u := runUnion_spec _ _ (sorted_of_sep d1.1) (sorted_of_sep d2.1)
  refine ⟨u.1, fun y => ?_⟩
  simp only [runFlip]
  rw [u.2, d1.2, d2.2, inRuns_rangeRuns]
  cases inRuns rs y <;> cases inRange lo hi y <;> rfl

theorem notRange_holds (a : Cont) (ha : a.wf = true) (lo hi : Nat) (hhi : hi ≤ 65536) :
    (a.notRange lo hi).Holds fun y => a.has y != inRange lo hi y := by
  cases a with
  | arr xs =>
    have hxs := wf_arr ha
    simp only [Cont.notRange, arrNot]
    split <;> rename_i hlt
    · exact (holds_of_wf ha).congr fun y => by rw [inRange_false_of_le hlt]; simp
    · split <;> rename_i hcard
      · exact holds_bmpNot (wordsAre_ofArr hxs.bound) (by rw [wordsCard_wordsOfArr xs hxs]) lo hi hhi
      · have hmid : ∀ v ∈ (List.range' lo (hi - lo)).filter (fun v => !xs.contains v), lo ≤ v ∧ v < hi := by
          intro v hv; simp only [List.mem_filter, List.mem_range'_1] at hv; omega
        refine holds_arr (sorted_splice xs _ lo hi hxs.sorted ((List.pairwise_lt_range' 1).sublist List.filter_sublist) hmid
          (by omega)) (fun y => ?_) (lt_of_table (f := (· != ·)) rfl (has_lt ha) (lt_of_inRange hhi)) ?_
        · simp only [has_arr, contains_splice, has_filter, contains_range'_sub lo hi y]
          cases xs.contains y <;> by_cases h1 : y < lo <;> by_cases h2 : hi ≤ y <;> simp [h1, h2] <;> omega
        · have h3 := length_three_way xs lo hi (by omega)
          have h2 := length_filter_split (List.range' lo (hi - lo)) (fun v => xs.contains v)
          have hcur : ((List.range' lo (hi - lo)).filter (fun v => xs.contains v)).length =
              (xs.filter fun v => decide (lo ≤ v) && decide (v < hi)).length := by
            apply length_eq_of_mem_iff ((nodup_of_sorted (List.pairwise_lt_range' 1)).filter _)
              ((nodup_of_sorted hxs.sorted).filter _)
            intro v
            simp only [List.mem_filter, List.mem_range'_1, List.contains_eq_mem, decide_eq_true_eq, Bool.and_eq_true]
            constructor
            · rintro ⟨h1, h2⟩; exact ⟨h2, by omega, by omega⟩
            · rintro ⟨h1, h2, h3⟩; exact ⟨by omega, h1⟩
          simp only [List.length_append, List.length_range', arrayMax] at hcard h2 ⊢
          omega
  | bmp c ws =>
    obtain ⟨hl, hc, hgt⟩ := wf_bmp ha
    exact holds_bmpNot (wordsAre_self hl) hc lo hi hhi
  | run rs =>
    have hrs := wf_run ha
    exact holds_runToEfficient (runFlip_spec rs (wf_run ha).sep lo hi) (lt_of_table (f := (· != ·)) rfl (has_lt ha) (lt_of_inRange hhi))

theorem has_notRange (a : Cont) (ha : a.wf = true) (lo hi : Nat) (hhi : hi ≤ 65536) (y : Nat) :
    (a.notRange lo hi).has y = (a.has y != inRange lo hi y) := (notRange_holds a ha lo hi hhi).has y

theorem inotRange_holds (a : Cont) (ha : a.wf = true) (lo hi : Nat) (hhi : hi ≤ 65536) :
    (a.inotRange lo hi).Holds fun y => a.has y != inRange lo hi y := notRange_holds a ha lo hi hhi

theorem has_inotRange (a : Cont) (ha : a.wf = true) (lo hi : Nat) (hhi : hi ≤ 65536) (y : Nat) :
    (a.inotRange lo hi).has y = (a.has y != inRange lo hi y) := (inotRange_holds a ha lo hi hhi).has y

/-! ### ranges: the kernels that keep a run container a run container -/

/-- well-formedness without the storage-minimality demand on run containers: what the in-place range kernels of run
containers keep (`Bitmap.AddRange/RemoveRange` re-type afterwards) -/
def Cont.wfLoose : Cont → Bool
  | .run rs => !rs.isEmpty && runsOk rs
  | c => c.wf

theorem wfLoose_of_wf {c : Cont} (h : c.wf = true) : c.wfLoose = true := by
  cases c with
  | arr xs => exact h
  | bmp cd ws => exact h
  | run rs =>
    simp only [Cont.wf, Bool.and_eq_true] at h
    simp only [Cont.wfLoose, Bool.and_eq_true]
    exact h.1

/-- `NilOrWf` for the kernels that leave a run container a run container: loosely well-formed, or one of the two empty
containers they leave behind -/
abbrev Cont.NilOrLoose (c : Cont) : Prop := c = .arr [] ∨ c = .run [] ∨ c.wfLoose = true

theorem Cont.NilOrWf.loose {c : Cont} (h : c.NilOrWf) : c.NilOrLoose := h.imp_right fun h => Or.inr (wfLoose_of_wf h)

theorem Cont.NilOrLoose.wfe {c : Cont} (h : c.NilOrLoose) : c.card = 0 ∨ c.wfLoose = true := by
  rcases h with rfl | rfl | h
  · exact Or.inl rfl
  · exact Or.inl rfl
  · exact Or.inr h

/-- `isEmpty()` answers truthfully and a non-empty container is well-formed up to run minimality -/
def Cont.EmptyOrLoose (c : Cont) : Prop :=
  (c.isEmptyGo = true ∧ ∀ y, c.has y = false) ∨ (c.isEmptyGo = false ∧ c.wfLoose = true)

theorem Cont.NilOrLoose.emptyOrLoose {c : Cont} (h : c.NilOrLoose) : c.EmptyOrLoose := by
  rcases h with rfl | rfl | h
  · exact Or.inl ⟨rfl, fun _ => rfl⟩
  · exact Or.inl ⟨rfl, fun _ => rfl⟩
  · refine Or.inr ⟨?_, h⟩
    cases c with
    | arr vs => exact isEmptyGo_of_wf h
    | bmp k ws => exact isEmptyGo_of_wf h
    | run rs =>
      simp only [Cont.wfLoose, Bool.and_eq_true, Bool.not_eq_true'] at h
      exact h.1

theorem nilOrLoose_run {rs : List (Nat × Nat)} (hs : RunSep rs) (hb : RunBound 65535 rs) : (Cont.run rs).NilOrLoose := by
  cases rs with
  | nil => exact Or.inr (Or.inl rfl)
  | cons p t => exact Or.inr (Or.inr (by simp only [Cont.wfLoose, Bool.and_eq_true]; exact ⟨by simp, runsOk_of _ hs hb⟩))

/-- `Cont.Holds` up to run minimality -/
structure Cont.HoldsL (r : Cont) (p : Nat → Bool) : Prop where
  has : ∀ x, r.has x = p x
  nl : r.NilOrLoose

theorem Cont.Holds.loose {r : Cont} {p : Nat → Bool} (h : r.Holds p) : r.HoldsL p := ⟨h.has, h.nw.loose⟩

theorem holdsL_run {rs : List (Nat × Nat)} {p : Nat → Bool} (hs : RunSep rs ∧ ∀ x, inRuns rs x = p x)
    (hb : ∀ {x}, p x = true → x < 65536) : (Cont.run rs).HoldsL p :=
  ⟨hs.2, nilOrLoose_run hs.1 (bound_of_inRuns fun x hx => Nat.le_of_lt_succ (hb ((hs.2 x).symm.trans hx)))⟩

theorem wfLoose_of_wfe_has {c : Cont} (h : c.card = 0 ∨ c.wfLoose = true) {y : Nat} (hy : c.has y = true) :
    c.wfLoose = true := by
  rcases h with h | h
  · rw [has_of_card_zero c h y] at hy; simp at hy
  · exact h

theorem iaddRange_holds (a : Cont) (ha : a.wf = true) (lo hi : Nat) (hhi : hi ≤ 65536) :
    (a.iaddRange lo hi).HoldsL fun y => a.has y || inRange lo hi y := by
  cases a with
  | arr xs =>
    have hxs := wf_arr ha
    simp only [Cont.iaddRange, arrAddRange]
    split <;> rename_i hlt
    · exact ((holds_of_wf ha).congr fun y => by rw [inRange_false_of_le hlt]; simp).loose
    · obtain ⟨hso, hco⟩ := splice_range hxs.sorted (lo := lo) (hi := hi) (Nat.not_le.mp hlt)
      split <;> rename_i hcard
      · -- to a bitmap: as many bits as the spliced list would have values
        have hw := (wordsAre_ofArr hxs.bound).setRange lo hhi
        have hcnt := wordsCard_eq_length (ws := setRangeW (wordsOfArr xs) lo hi) (nodup_of_sorted hso) fun y => by
          rw [hw.mem, ← hco, List.contains_iff_mem]
        refine (holds_bmp hw (wordsCard_of_cardDelta (by rw [wordsCard_wordsOfArr xs hxs])) ?_).loose
        rw [hcnt]
        simp only [List.length_append, List.length_range', arrayMax] at hcard ⊢
        omega
      · refine (holds_arr hso hco (lt_of_table (f := (· || ·)) rfl (has_lt ha) (lt_of_inRange hhi)) ?_).loose
        simp only [List.length_append, List.length_range', arrayMax] at hcard ⊢; omega
  | bmp c ws =>
    obtain ⟨hl, hc, hgt⟩ := wf_bmp ha
    have hw := (wordsAre_self hl).setRange lo hhi
    refine (holds_bmp hw (wordsCard_of_cardDelta hc) ?_).loose
    exact Nat.lt_of_lt_of_le hgt (wordsCard_mono fun y hy => by rw [hw.mem, hy]; rfl)
  | run rs =>
    have hrs := wf_run ha
    have sp := runUnion_spec _ _ (sorted_of_sep hrs.sep) (sorted_of_sep (sep_rangeRuns lo hi))
    exact holdsL_run ⟨sp.1, fun y => (sp.2 y).trans (by rw [inRuns_rangeRuns]; rfl)⟩
      (lt_of_table (f := (· || ·)) rfl (has_lt ha) (lt_of_inRange hhi))

theorem iremoveRange_holds (a : Cont) (ha : a.wf = true) (lo hi : Nat) :
    (a.iremoveRange lo hi).HoldsL fun y => a.has y && !inRange lo hi y := by
  cases a with
  | arr xs =>
    refine ((holds_filter (wf_arr ha) _).congr fun y => ?_).loose
    simp only [has_arr, inRange]
    cases xs.contains y <;> by_cases h1 : y < lo <;> by_cases h2 : hi ≤ y <;> simp [h1, h2] <;> omega
  | bmp c ws =>
    exact (holds_bmpRemoveRange (wordsAre_of_wf ha) (wf_bmp ha).2.1 lo hi).loose
  | run rs =>
    have hrs := wf_run ha
    have sp := runDiff_spec _ _ hrs.sep (sep_rangeRuns lo hi)
    exact holdsL_run ⟨sp.1, fun y => (sp.2 y).trans (by rw [inRuns_rangeRuns]; rfl)⟩ fun h => has_lt ha (Bool.and_eq_true_iff.mp h).1

theorem has_iaddRange (a : Cont) (ha : a.wf = true) (lo hi : Nat) (hhi : hi ≤ 65536) (y : Nat) :
    (a.iaddRange lo hi).has y = (a.has y || inRange lo hi y) := (iaddRange_holds a ha lo hi hhi).has y

theorem has_iremoveRange (a : Cont) (ha : a.wf = true) (lo hi : Nat) (y : Nat) :
    (a.iremoveRange lo hi).has y = (a.has y && !inRange lo hi y) := (iremoveRange_holds a ha lo hi).has y

theorem wf_iaddRange (a : Cont) (ha : a.wf = true) (lo hi : Nat) (hhi : hi ≤ 65536) :
    (a.iaddRange lo hi).card = 0 ∨ (a.iaddRange lo hi).wfLoose = true := (iaddRange_holds a ha lo hi hhi).nl.wfe

theorem wf_iremoveRange (a : Cont) (ha : a.wf = true) (lo hi : Nat) :
    (a.iremoveRange lo hi).card = 0 ∨ (a.iremoveRange lo hi).wfLoose = true := (iremoveRange_holds a ha lo hi).nl.wfe

theorem emptyOrLoose_iremoveRange (a : Cont) (ha : a.wf = true) (lo hi : Nat) : (a.iremoveRange lo hi).EmptyOrLoose :=
  (iremoveRange_holds a ha lo hi).nl.emptyOrLoose

/-- the result of `iaddRange` is never empty -/
theorem wf_iaddRange' (a : Cont) (ha : a.wf = true) (lo hi : Nat) (hhi : hi ≤ 65536) :
    (a.iaddRange lo hi).wfLoose = true := by
  obtain ⟨y, hy⟩ := wf_has_member a ha
  exact wfLoose_of_wfe_has (wf_iaddRange a ha lo hi hhi) (by rw [has_iaddRange a ha lo hi hhi, hy]; rfl)

/-! ### ranges: the abstraction -/

theorem toBSet_iaddRange (a : Cont) (ha : a.wf = true) (lo hi : Nat) (hhi : hi ≤ 65536) :
    (a.iaddRange lo hi).toBSet 0 = BSet.addRange (a.toBSet 0) lo hi :=
  toBSet_combine_with _ rfl (sinc_range lo hi) fun y => by rw [has_iaddRange a ha lo hi hhi, mem_range]

theorem toBSet_iremoveRange (a : Cont) (ha : a.wf = true) (lo hi : Nat) (hhi : hi ≤ 65536) :
    (a.iremoveRange lo hi).toBSet 0 = BSet.removeRange (a.toBSet 0) lo hi :=
  toBSet_combine_with _ rfl (sinc_range lo hi) fun y => by rw [has_iremoveRange a ha lo hi, mem_range]

theorem toBSet_notRange (a : Cont) (ha : a.wf = true) (lo hi : Nat) (hhi : hi ≤ 65536) :
    (a.notRange lo hi).toBSet 0 = BSet.flipRange (a.toBSet 0) lo hi :=
  toBSet_combine_with _ rfl (sinc_range lo hi) fun y => by rw [has_notRange a ha lo hi hhi, mem_range]

theorem toBSet_inotRange (a : Cont) (ha : a.wf = true) (lo hi : Nat) (hhi : hi ≤ 65536) :
    (a.inotRange lo hi).toBSet 0 = BSet.flipRange (a.toBSet 0) lo hi := toBSet_notRange a ha lo hi hhi

/-! ### ranges: where the result is well-formed in the full sense -/

def Cont.isRunC : Cont → Bool
  | .run _ => true
  | _ => false

theorem wf_of_wfLoose {c : Cont} (hk : c.isRunC = false) (h : c.wfLoose = true) : c.wf = true := by
  cases c with
  | run rs => cases hk
  | arr xs => exact h
  | bmp k ws => exact h

theorem isRunC_iaddRange (a : Cont) (lo hi : Nat) : (a.iaddRange lo hi).isRunC = a.isRunC := by
  cases a with
  | run rs => rfl
  | bmp c ws => rfl
  | arr xs =>
    simp only [Cont.iaddRange, arrAddRange]
    split
    · rfl
    · split <;> rfl

theorem isRunC_iremoveRange (a : Cont) (lo hi : Nat) : (a.iremoveRange lo hi).isRunC = a.isRunC := by
  cases a with
  | run rs => rfl
  | arr xs => rfl
  | bmp c ws => simp only [Cont.iremoveRange, bmpRemoveRange]; split <;> rfl

theorem wf_iaddRange_nonrun (a : Cont) (ha : a.wf = true) (hk : a.isRunC = false) (lo hi : Nat) (hhi : hi ≤ 65536) :
    (a.iaddRange lo hi).wf = true :=
  wf_of_wfLoose ((isRunC_iaddRange a lo hi).trans hk) (wf_iaddRange' a ha lo hi hhi)

theorem wf_iremoveRange_nonrun (a : Cont) (ha : a.wf = true) (hk : a.isRunC = false) (lo hi : Nat) :
    (a.iremoveRange lo hi).card = 0 ∨ (a.iremoveRange lo hi).wf = true :=
  (wf_iremoveRange a ha lo hi).imp_right (wf_of_wfLoose ((isRunC_iremoveRange a lo hi).trans hk))

theorem wf_notRange (a : Cont) (ha : a.wf = true) (lo hi : Nat) (hlh : lo ≤ hi) (hhi : hi ≤ 65536) :
    (a.notRange lo hi).card = 0 ∨ (a.notRange lo hi).wf = true := (notRange_holds a ha lo hi hhi).wfe

theorem wf_inotRange (a : Cont) (ha : a.wf = true) (lo hi : Nat) (hlh : lo ≤ hi) (hhi : hi ≤ 65536) :
    (a.inotRange lo hi).card = 0 ∨ (a.inotRange lo hi).wf = true := wf_notRange a ha lo hi hlh hhi

/-! ### the in-place binary kernels: one case analysis each; an arm that is an arm of another kernel (the static one, `lazyIOR`) goes by that kernel's theorem -/

/-- `RModel/Impl/LazyOps.lean` writes the same Go method `iand` out arm by arm as `Cont.aggIand2` -/
theorem iand2_eq_aggIand2 (a b : Cont) : a.iand2 b = a.aggIand2 b := by
  cases a <;> cases b <;> rfl

theorem ior2_run (rs : List (Nat × Nat)) (b : Cont) : (Cont.run rs).ior2 b = (Cont.run rs).or2 b := by
  cases b <;> rfl

theorem iand2_holds (a b : Cont) (ha : a.wf = true) (hb : b.wf = true) :
    (a.iand2 b).Holds fun x => a.has x && b.has x :=
  iand2_eq_aggIand2 a b ▸ aggIand2_holds a b ha hb

/-- the `iorRun16` heuristic branch, `iaddRange` run by run on an array (or bitmap) receiver: each step is judged by
`iaddRange`'s own judgement; whether the receiver stays an array plays no part -/
theorem fold_iaddRange_spec (rs : List (Nat × Nat)) (hb : RunBound 65535 rs) :
    ∀ (a : Cont), a.wf = true → a.isRunC = false →
      (rs.foldl (fun acc p => acc.iaddRange p.1 (p.1 + p.2 + 1)) a).Holds fun y => a.has y || inRuns rs y := by
  induction rs with
  | nil => intro a ha _; exact (holds_of_wf ha).congr fun y => (Bool.or_false _).symm
  | cons p t ih =>
    intro a ha hk
    have hhi : p.1 + p.2 + 1 ≤ 65536 := Nat.succ_le_succ (hb p List.mem_cons_self)
    refine (ih (fun q hq => hb q (List.mem_cons_of_mem _ hq)) _ (wf_iaddRange_nonrun a ha hk _ _ hhi)
      ((isRunC_iaddRange a _ _).trans hk)).congr fun y => ?_
    rw [has_iaddRange a ha _ _ hhi, inRuns_cons, Bool.or_assoc]
    simp only [inRange, Nat.lt_succ_iff]

theorem ior2_holds (a b : Cont) (ha : a.wf = true) (hb : b.wf = true) :
    (a.ior2 b).Holds fun x => a.has x || b.has x := by
  cases a with
  | run rs => rw [ior2_run]; exact or2_holds _ _ ha hb
  | arr xs =>
    have hxs := wf_arr ha
    cases b with
    | bmp c2 ws2 => exact or2_holds _ _ ha hb
    | arr ys => exact lazyIOR2_arr_holds xs _ ha hb
    | run rs =>
      have hrs := wf_run hb
      simp only [Cont.ior2]
      split <;> rename_i hf
      · exact holds_or_full (has_lt ha) hb hf
      · split <;> rename_i hh
        · exact fold_iaddRange_spec rs hrs.bound _ ha rfl
        · exact (holds_runOrArr hrs hxs).congr fun x => Bool.or_comm _ _
  | bmp c ws =>
    obtain ⟨hl, hc, hgt⟩ := wf_bmp ha
    cases b with
    | bmp c2 ws2 => exact or2_holds _ _ ha hb
    | arr ys =>
      have hys := wf_arr hb
      have hcard := card_bmpOrArr ws ys hl hys
      exact holds_bmpOrFull ((wordsAre_self hl).setBits hys.bound) (by rw [hcard, hc]; omega) (by omega)
    | run rs =>
      have ho := (wordsAre_self hl).or (wordsAre_ofRuns (wf_run hb).bound)
      simp only [Cont.ior2]
      split <;> rename_i hf
      · exact holds_or_full (has_lt ha) hb hf
      · rw [wordsCard_of_cardDelta hc]
        exact holds_bmpOrFull ho rfl (Nat.lt_of_lt_of_le hgt (wordsCard_mono fun x hx => by rw [ho.mem, hx]; rfl))

theorem ixor2_holds (a b : Cont) (ha : a.wf = true) (hb : b.wf = true) :
    (a.ixor2 b).Holds fun x => a.has x != b.has x := by
  -- everything but array × array / array × bitmap goes through `ixorBitmap`
  have hAB := holds_ofWordsAB ((wordsAre_of_wf ha).xor (wordsAre_of_wf hb))
  -- run × bitmap: the bitmap kernel of `xor`
  have hX := holds_ofWordsXor ((wordsAre_of_wf ha).xor (wordsAre_of_wf hb))
  cases a with
  | arr xs =>
    cases b with
    | arr ys => exact xor2_holds _ _ ha hb
    | bmp c2 ws2 => exact xor2_holds _ _ ha hb
    | run rs =>
      exact (holds_ofWordsAB ((wordsAre_of_wf hb).xor (wordsAre_of_wf ha))).congr fun x => Bool.xor_comm _ _
  | bmp c ws => cases b <;> exact hAB
  | run rs =>
    cases b with
    | bmp c2 ws2 => exact hX
    | arr ys => exact hAB
    | run rs2 => exact hAB

/-- run × array / run × bitmap `iandNot`: both operands as bitmap words, word-wise and-not, then the bitmap
container's `toEfficientContainer` -/
theorem iandNot2_run_words (rs : List (Nat × Nat)) (b : Cont) (hk : b.isRunC = false) :
    (Cont.run rs).iandNot2 b =
      (Cont.bmp (wordsCard (andNotW (Cont.run rs).toBitmapWords b.toBitmapWords))
        (andNotW (Cont.run rs).toBitmapWords b.toBitmapWords)).toEfficient := by
  cases b with
  | run rs2 => simp [Cont.isRunC] at hk
  | arr ys => rfl
  | bmp c2 ws2 => rfl

theorem iandNot2_holds (a b : Cont) (ha : a.wf = true) (hb : b.wf = true) :
    (a.iandNot2 b).Holds fun x => a.has x && !b.has x := by
  have hw := (wordsAre_of_wf ha).andNot (wordsAre_of_wf hb)
  cases a with
  | arr xs =>
    cases b with
    | arr ys => exact andNot2_holds _ _ ha hb
    | bmp c2 ws2 => exact andNot2_holds _ _ ha hb
    | run rs => exact holds_filter (wf_arr ha) _
  | bmp c ws =>
    cases b with
    | arr ys => exact andNot2_holds _ _ ha hb
    | bmp c2 ws2 => exact andNot2_holds _ _ ha hb
    | run rs => exact holds_ofCard hw (wordsCard_of_cardDelta (wf_bmp ha).2.1)
  | run rs =>
    cases b with
    | arr ys => exact (holds_toEfficient_bmp hw.len rfl).congr hw.mem
    | bmp c2 ws2 => exact (holds_toEfficient_bmp hw.len rfl).congr hw.mem
    | run rs2 => exact andNot2_holds _ _ ha hb

/-! #### membership, well-formedness (C09 at kernel level) and abstraction of the in-place kernels -/

theorem has_iand2 (a b : Cont) (ha : a.wf = true) (hb : b.wf = true) (x : Nat) :
    (a.iand2 b).has x = (a.has x && b.has x) := (iand2_holds a b ha hb).has x

theorem has_ior2 (a b : Cont) (ha : a.wf = true) (hb : b.wf = true) (x : Nat) :
    (a.ior2 b).has x = (a.has x || b.has x) := (ior2_holds a b ha hb).has x

theorem has_ixor2 (a b : Cont) (ha : a.wf = true) (hb : b.wf = true) (x : Nat) :
    (a.ixor2 b).has x = (a.has x != b.has x) := (ixor2_holds a b ha hb).has x

theorem has_iandNot2 (a b : Cont) (ha : a.wf = true) (hb : b.wf = true) (x : Nat) :
    (a.iandNot2 b).has x = (a.has x && !b.has x) := (iandNot2_holds a b ha hb).has x

theorem wf_iand2 (a b : Cont) (ha : a.wf = true) (hb : b.wf = true) :
    (a.iand2 b).card = 0 ∨ (a.iand2 b).wf = true := (iand2_holds a b ha hb).wfe

theorem wf_ior2 (a b : Cont) (ha : a.wf = true) (hb : b.wf = true) :
    (a.ior2 b).card = 0 ∨ (a.ior2 b).wf = true := (ior2_holds a b ha hb).wfe

theorem wf_ixor2 (a b : Cont) (ha : a.wf = true) (hb : b.wf = true) :
    (a.ixor2 b).card = 0 ∨ (a.ixor2 b).wf = true := (ixor2_holds a b ha hb).wfe

theorem wf_iandNot2 (a b : Cont) (ha : a.wf = true) (hb : b.wf = true) :
    (a.iandNot2 b).card = 0 ∨ (a.iandNot2 b).wf = true := (iandNot2_holds a b ha hb).wfe

theorem wf_ior2_ne (a b : Cont) (ha : a.wf = true) (hb : b.wf = true) : (a.ior2 b).wf = true :=
  (ior2_holds a b ha hb).wf_of_or_left ha

theorem toBSet_iand2 (a b : Cont) (ha : a.wf = true) (hb : b.wf = true) :
    (a.iand2 b).toBSet 0 = BSet.inter (a.toBSet 0) (b.toBSet 0) :=
  toBSet_combine _ rfl (has_iand2 a b ha hb)

theorem toBSet_ior2 (a b : Cont) (ha : a.wf = true) (hb : b.wf = true) :
    (a.ior2 b).toBSet 0 = BSet.union (a.toBSet 0) (b.toBSet 0) :=
  toBSet_combine _ rfl (has_ior2 a b ha hb)

theorem toBSet_ixor2 (a b : Cont) (ha : a.wf = true) (hb : b.wf = true) :
    (a.ixor2 b).toBSet 0 = BSet.xor (a.toBSet 0) (b.toBSet 0) :=
  toBSet_combine _ rfl (has_ixor2 a b ha hb)

theorem toBSet_iandNot2 (a b : Cont) (ha : a.wf = true) (hb : b.wf = true) :
    (a.iandNot2 b).toBSet 0 = BSet.diff (a.toBSet 0) (b.toBSet 0) :=
  toBSet_combine _ rfl (has_iandNot2 a b ha hb)

/-! ### the bare `iadd` / `iremove` kernels: what they keep

They are only reachable through the `…ReturnMinimized` forms, which guard the two cases in which the bare kernel
leaves the well-formed domain: an array of 4096 values receiving a new value (it becomes a 4097-value array), and a
bitmap of 4097 values losing one (it stays a 4096-value bitmap).  Outside these two cases the receiver stays
well-formed (run receivers: up to minimality). -/

theorem wf_iadd (a : Cont) (ha : a.wf = true) (x : Nat) (hx : x < 65536)
    (hguard : ∀ xs, a = .arr xs → xs.length < 4096 ∨ xs.contains x = true) : (a.iadd x).1.wfLoose = true := by
  have hmem : (a.iadd x).1.has x = true := by rw [has_iadd a ha x hx]; simp
  refine wfLoose_of_wfe_has ?_ hmem
  cases a with
  | arr xs =>
    have hxs := wf_arr ha
    simp only [Cont.iadd]
    apply Or.imp_right wfLoose_of_wf
    rcases hguard xs rfl with h | h
    · exact (nilOrWf_arr (arrOk_insertVal hxs hx h)).wfe
    · rw [insertVal_of_mem x xs hxs.sorted (by simpa using h)]
      right; exact ha
  | bmp c ws =>
    obtain ⟨hl, hc, hgt⟩ := wf_bmp ha
    have hcard := wordsCard_setBit ws x hl hx
    right
    simp only [Cont.iadd, bmpAdd]
    apply wfLoose_of_wf
    refine wf_bmp_mk ((wordsAre_self hl).setBit hx).len ?_ (by rw [hcard]; omega)
    rw [hcard, hc]
    cases testBit ws x <;> simp
  | run rs =>
    have hrs := wf_run ha
    exact (holdsL_run (runAdd_spec rs hrs.sep x) (lt_of_table (f := (· || ·)) rfl (has_lt ha) (lt_of_decide_eq hx))).nl.wfe

theorem wf_iremove (a : Cont) (ha : a.wf = true) (x : Nat)
    (hguard : ∀ c ws, a = .bmp c ws → c ≠ 4097 ∨ testBit ws x = false) :
    (a.iremove x).1.card = 0 ∨ (a.iremove x).1.wfLoose = true := by
  cases a with
  | arr xs => exact Or.imp_right wfLoose_of_wf (nilOrWf_filter (wf_arr ha) _).wfe
  | bmp c ws =>
    obtain ⟨hl, hc, hgt⟩ := wf_bmp ha
    have hcard := wordsCard_clearBit ws x
    right
    apply wfLoose_of_wf
    simp only [Cont.iremove, bmpRemove]
    split
    · rename_i hb
      rw [hb] at hcard
      simp only [if_true] at hcard
      rcases hguard c ws rfl with h | h
      · exact wf_bmp_mk ((wordsAre_self hl).clearBit x).len (by omega) (by omega)
      · rw [hb] at h; simp at h
    · exact ha
  | run rs =>
    have hrs := wf_run ha
    exact (holdsL_run (runRemove_spec rs hrs.sep x) fun h => has_lt ha (Bool.and_eq_true_iff.mp h).1).nl.wfe

/-! ### `minimizeRunContainer`, `rangeOfOnes` -/

namespace RepMut
open RepMut

theorem minimizeRun_spec (c : Cont) (h : c.wfLoose = true) :
    (minimizeRun c).wf = true ∧ ∀ y, (minimizeRun c).has y = c.has y := by
  cases c with
  | arr vs => exact ⟨h, fun _ => rfl⟩
  | bmp k ws => exact ⟨h, fun _ => rfl⟩
  | run rs =>
    simp only [Cont.wfLoose, Bool.and_eq_true, Bool.not_eq_true', List.isEmpty_eq_false_iff] at h
    obtain ⟨hs, hb⟩ := runsOk_spec rs h.2
    refine ⟨?_, has_runToEfficient rs hb⟩
    cases rs with
    | nil => exact absurd rfl h.1
    | cons p t =>
      exact (nilOrWf_runToEfficient _ hs hb).wf_of_has (y := p.1) (by rw [has_runToEfficient _ hb]; simp [inRuns])

/-- `rangeOfOnes(st, la)` is the minimised one-run container -/
theorem rangeOfOnes_spec (st la : Nat) (h1 : st ≤ la) (h2 : la ≤ 65535) :
    (rangeOfOnes st la).wf = true ∧ ∀ y, (rangeOfOnes st la).has y = inRange st (la + 1) y := by
  have hl : (Cont.run [(st, la - st)]).wfLoose = true := by
    simp only [Cont.wfLoose, List.isEmpty_cons, Bool.not_false, Bool.true_and, runsOk, decide_eq_true_eq]
    omega
  refine ⟨(minimizeRun_spec _ hl).1, fun y => ((minimizeRun_spec _ hl).2 y).trans ?_⟩
  simp only [Cont.has, inRuns, List.any_cons, List.any_nil, Bool.or_false, inRange]
  congr 1
  apply decide_eq_decide.mpr; omega

end RepMut

namespace XformP
open RepXform

/-! ### `container.addOffset`: the half that stays under the key and the half that moves to the next -/

/-- an array half, `nil` when it would be empty -/
theorem optHolds_arr {l : List Nat} {p : Nat → Bool} (hs : l.Pairwise (· < ·)) (hm : ∀ x, l.contains x = p x)
    (hb : ∀ {x}, p x = true → x < 65536) (hlen : l.length ≤ 4096) : OptHolds (if l.isEmpty then none else some (.arr l)) p := by
  cases l with
  | nil => exact optHolds_none fun y => (hm y).symm
  | cons a t => exact optHolds_some (holds_arr hs hm hb hlen) (y := a) (by rw [← hm]; simp)

/-- a run half, `nil` when it would be empty, else finished with `toEfficientContainer` -/
theorem optHolds_run {l : List (Nat × Nat)} {p : Nat → Bool} (hs : RunSep l ∧ ∀ x, inRuns l x = p x)
    (hb : ∀ {x}, p x = true → x < 65536) : OptHolds (if l.isEmpty then none else some (runToEfficient l)) p := by
  cases l with
  | nil => exact optHolds_none fun y => (hs.2 y).symm
  | cons q t => exact optHolds_some (holds_runToEfficient hs hb) (y := q.1) (by rw [← hs.2, inRuns_cons]; simp)

/-- a bitmap half as `ofWordsArrArr` types it, there when its words have a bit -/
theorem optHolds_words {ws : List (BitVec 64)} {p : Nat → Bool} (h : WordsAre ws p) (hpos : 0 < wordsCard ws) :
    OptHolds (some (ofWordsArrArr ws)) p := by
  obtain ⟨y, hy⟩ := exists_testBit_of_card_pos hpos
  exact optHolds_some (holds_ofWordsArrArr h) ((h.mem y).symm.trans hy)

/-- no bitmap half when its words have no bit -/
theorem optHolds_words_none {ws : List (BitVec 64)} {p : Nat → Bool} (h : WordsAre ws p) (h0 : wordsCard ws = 0) :
    OptHolds none p :=
  optHolds_none fun y => (h.mem y).symm.trans (testBit_false_of_card0 _ h0 y)

theorem contains_arrLo (xs : List Nat) (off y : Nat) :
    ((xs.filter fun v => v + off < 65536).map (· + off)).contains y
      = (decide (off ≤ y) && decide (y < 65536) && xs.contains (y - off)) := by
  rw [Bool.eq_iff_iff]
  simp only [List.contains_iff_mem, List.mem_map, List.mem_filter, decide_eq_true_eq, Bool.and_eq_true]
  constructor
  · rintro ⟨v, ⟨hv, hlt⟩, rfl⟩
    refine ⟨⟨by omega, hlt⟩, ?_⟩
    rw [Nat.add_sub_cancel]; exact hv
  · rintro ⟨⟨h1, h2⟩, h3⟩
    exact ⟨y - off, ⟨h3, by omega⟩, by omega⟩

theorem contains_arrHi (xs : List Nat) (off y : Nat) (hoff : off ≤ 65536) :
    ((xs.filter fun v => !decide (v + off < 65536)).map (· + off - 65536)).contains y
      = xs.contains (y + 65536 - off) := by
  rw [Bool.eq_iff_iff]
  simp only [List.contains_iff_mem, List.mem_map, List.mem_filter, Bool.not_eq_true', decide_eq_false_iff_not]
  constructor
  · rintro ⟨v, ⟨hv, hlt⟩, rfl⟩
    have : v + off - 65536 + 65536 - off = v := by omega
    rw [this]; exact hv
  · intro h
    exact ⟨y + 65536 - off, ⟨h, by omega⟩, by omega⟩

/-- a run list mapped run by run, `f q` being what of the run `q` is seen through the window `w` after the translation `τ`:
members and separation of the result are read off one run -/
theorem runs_flatMap_spec {f : Nat × Nat → List (Nat × Nat)} {w : Nat → Bool} {τ : Nat → Nat} {rs : List (Nat × Nat)}
    (hs : RunSep rs) (hf : ∀ q, RunSep (f q)) (hmem : ∀ q y, inRuns (f q) y = (w y && inRuns [q] (τ y)))
    (hτ : ∀ y y', w y = true → w y' = true → τ y + 1 < τ y' → y + 1 < y') :
    RunSep (rs.flatMap f) ∧ ∀ y, inRuns (rs.flatMap f) y = (w y && inRuns rs (τ y)) := by
  constructor
  · unfold RunSep
    rw [List.pairwise_flatMap]
    refine ⟨fun q _ => hf q, hs.imp fun {q q'} h x hx y hy => ?_⟩
    have h1 := inRuns_end hx
    have h2 := inRuns_start hy
    rw [hmem, Bool.and_eq_true] at h1 h2
    have := hτ _ _ h1.1 h2.1 (by
      have a := h1.2; have b := h2.2
      simp only [inRuns_cons, inRuns_nil, Bool.or_false, Bool.and_eq_true, decide_eq_true_eq] at a b
      omega)
    omega
  · intro y
    induction rs with
    | nil => simp [inRuns]
    | cons q t ih =>
      rw [List.flatMap_cons, inRuns_append, hmem, ih hs.of_cons, inRuns_cons q t, inRuns_cons, inRuns_nil, Bool.or_false,
        Bool.and_or_distrib_left]

/-- the low half: every run shifted and cut at 65535 -/
theorem runOffLo_spec (rs : List (Nat × Nat)) (off : Nat) (hs : RunSep rs) :
    RunSep (runOffLo rs off) ∧
      ∀ y, inRuns (runOffLo rs off) y = (decide (off ≤ y) && decide (y < 65536) && inRuns rs (y - off)) := by
  unfold runOffLo
  refine runs_flatMap_spec (w := fun y => decide (off ≤ y) && decide (y < 65536)) (τ := (· - off)) hs
    (fun ⟨s, l⟩ => ?_) (fun ⟨s, l⟩ y => ?_) fun y y' h h' => ?_
  · simp only; split <;> simp
  · rw [Bool.eq_iff_iff]; simp only; split <;> simp [inRuns] <;> omega
  · simp only [Bool.and_eq_true, decide_eq_true_eq] at h h'; omega

/-- the high half: what of every shifted run lies beyond 65535, moved down by a chunk -/
theorem runOffHi_spec (rs : List (Nat × Nat)) (off : Nat) (hoff : off ≤ 65536) (hs : RunSep rs) :
    RunSep (runOffHi rs off) ∧ ∀ y, inRuns (runOffHi rs off) y = inRuns rs (y + 65536 - off) := by
  unfold runOffHi
  refine runs_flatMap_spec (w := fun _ => true) (τ := (· + 65536 - off)) hs
    (fun ⟨s, l⟩ => ?_) (fun ⟨s, l⟩ y => ?_) fun y y' _ _ => ?_
  · simp only; split <;> (try split) <;> simp
  · rw [Bool.eq_iff_iff]; simp only; split <;> (try split) <;> simp [inRuns] <;> omega
  · omega

theorem length_shiftedWords (ws : List (BitVec 64)) (off : Nat) (hl : ws.length = 1024) (hoff : off < 65536) :
    (shiftedWords ws off).length = 2048 := by
  unfold shiftedWords
  simp only [List.length_append, List.length_replicate, List.length_zipWith, List.length_cons, List.length_nil]
  omega

theorem testBit_shiftedWords (ws : List (BitVec 64)) (off x : Nat) :
    testBit (shiftedWords ws off) x = (decide (off ≤ x) && testBit ws (x - off)) := by
  unfold shiftedWords
  simp only
  rw [testBit_append_zeros, testBit_zeros_append, testBit_shiftZip ws _ (Nat.mod_lt _ (by omega)), Nat.sub_sub,
    ← Bool.and_assoc, ← Bool.decide_and, Nat.div_add_mod]
  congr 1
  exact decide_eq_decide.mpr (by omega)

theorem testBit_shiftLo (ws : List (BitVec 64)) (off y : Nat) :
    testBit ((shiftedWords ws off).take 1024) y = (decide (off ≤ y) && decide (y < 65536) && testBit ws (y - off)) := by
  rw [testBit_take, testBit_shiftedWords]
  have : decide (y / 64 < 1024) = decide (y < 65536) := by
    apply decide_eq_decide.mpr; omega
  rw [this]
  cases decide (off ≤ y) <;> cases decide (y < 65536) <;> simp

theorem testBit_shiftHi (ws : List (BitVec 64)) (off y : Nat) (hoff : off ≤ 65536) :
    testBit ((shiftedWords ws off).drop 1024) y = testBit ws (y + 65536 - off) := by
  rw [testBit_drop, testBit_shiftedWords]
  have : off ≤ y + 64 * 1024 := by omega
  simp [this]

/-- shifting loses no bit: the window has as many as `ws`, so the two halves share them out -/
theorem wordsCard_shiftedWords (ws : List (BitVec 64)) (off : Nat) : wordsCard (shiftedWords ws off) = wordsCard ws := by
  rw [← length_valsOfWords ws, ← List.length_map (· + off)]
  refine wordsCard_eq_length (nodup_of_sorted ?_) fun x => ?_
  · rw [List.pairwise_map]
    exact (sorted_valsOfWords ws).imp (by intro a b h; omega)
  · rw [testBit_shiftedWords, Bool.and_eq_true, decide_eq_true_eq, List.mem_map]
    simp only [mem_valsOfWords]
    constructor
    · rintro ⟨v, hv, rfl⟩
      exact ⟨Nat.le_add_left _ _, by rw [Nat.add_sub_cancel]; exact hv⟩
    · rintro ⟨h1, h2⟩
      exact ⟨x - off, h2, by omega⟩

theorem arrAddOffset_holds (xs : List Nat) (hxs : ArrWf xs) (off : Nat) (hoff : off ≤ 65536) :
    OptHolds (arrAddOffset xs off).1 (fun y => decide (off ≤ y) && decide (y < 65536) && xs.contains (y - off)) ∧
      OptHolds (arrAddOffset xs off).2 fun y => xs.contains (y + 65536 - off) := by
  have hlen : ∀ (q : Nat → Bool) (g : Nat → Nat), ((xs.filter q).map g).length ≤ 4096 := fun q g => by
    rw [List.length_map]; exact Nat.le_trans (List.length_filter_le _ _) hxs.le
  unfold arrAddOffset
  constructor
  · refine optHolds_arr ?_ (contains_arrLo xs off) (fun h => ?_) (hlen _ _)
    · rw [List.pairwise_map]
      exact (hxs.sorted.filter _).imp (by intro a b h; omega)
    · simp only [Bool.and_eq_true, decide_eq_true_eq] at h; exact h.1.2
  · refine optHolds_arr ?_ (fun y => contains_arrHi xs off y hoff) (fun h => ?_) (hlen _ _)
    · rw [List.pairwise_map]
      refine (hxs.sorted.filter _).imp_of_mem fun {a b} ha _ h => ?_
      simp only [List.mem_filter, Bool.not_eq_true', decide_eq_false_iff_not] at ha
      omega
    · have := hxs.bound _ (List.contains_iff_mem.mp h); omega

theorem bmpAddOffset_spec (c : Int) (ws : List (BitVec 64)) (hw : (Cont.bmp c ws).wf = true) (off : Nat)
    (hoff : off < 65536) :
    OptHolds (bmpAddOffset c ws off).1 (fun y => decide (off ≤ y) && decide (y < 65536) && testBit ws (y - off)) ∧
      OptHolds (bmpAddOffset c ws off).2 fun y => testBit ws (y + 65536 - off) := by
  obtain ⟨hl, hc, hgt⟩ := wf_bmp hw
  have hlen := length_shiftedWords ws off hl hoff
  have wlo : WordsAre ((shiftedWords ws off).take 1024) _ := ⟨by rw [List.length_take, hlen]; rfl, testBit_shiftLo ws off⟩
  have whi : WordsAre ((shiftedWords ws off).drop 1024) _ :=
    ⟨by rw [List.length_drop, hlen], fun y => testBit_shiftHi ws off y (Nat.le_of_lt hoff)⟩
  have hsum : wordsCard ((shiftedWords ws off).take 1024) + wordsCard ((shiftedWords ws off).drop 1024) = wordsCard ws := by
    rw [← wordsCard_append, List.take_append_drop, wordsCard_shiftedWords]
  unfold bmpAddOffset
  rw [show (c == 0) = false by rw [hc]; simp only [beq_eq_false_iff_ne, ne_eq]; omega]
  simp only [Bool.false_eq_true, if_false, beq_iff_eq]
  split <;> rename_i hall
  · -- the low half holds everything: it stays a bitmap, there is no high half
    exact ⟨⟨wlo.mem, optWf_some (wf_bmp_mk wlo.len rfl (by omega))⟩, optHolds_words_none whi (by omega)⟩
  · have Hi := optHolds_words whi (by omega)
    split <;> rename_i h0
    · exact ⟨optHolds_words_none wlo h0, Hi⟩
    · exact ⟨optHolds_words wlo (Nat.pos_of_ne_zero h0), Hi⟩

/-- **the two halves** of `container.addOffset(off)`, `off < 65536`, for a well-formed container: the low half holds `v + off`
for the values with `v + off < 65536`, the high half `v + off - 65536` for the others; each is `nil` or well-formed -/
theorem _root_.RModel.Impl.addOffset_holds (c : Cont) (hc : c.wf = true) (off : Nat) (hoff : off < 65536) :
    OptHolds (c.addOffset off).1 (fun y => decide (off ≤ y) && decide (y < 65536) && c.has (y - off)) ∧
      OptHolds (c.addOffset off).2 fun y => c.has (y + 65536 - off) := by
  cases c with
  | arr xs => exact arrAddOffset_holds xs (wf_arr hc) off (Nat.le_of_lt hoff)
  | bmp k ws => exact bmpAddOffset_spec k ws hc off hoff
  | run rs =>
    have hrs := wf_run hc
    show OptHolds (runAddOffset rs off).1 _ ∧ OptHolds (runAddOffset rs off).2 _
    unfold runAddOffset
    exact ⟨optHolds_run (runOffLo_spec rs off hrs.sep) fun h => by
        simp only [Bool.and_eq_true, decide_eq_true_eq] at h; exact h.1.2,
      optHolds_run (runOffHi_spec rs off (Nat.le_of_lt hoff) hrs.sep) fun h => by
        have := lt_of_inRuns hrs.bound h; omega⟩

end XformP

end RModel.Impl
