import RProofs.Words
import RProofs.ArrayC
import RModel.Impl.RepOps
import RProofs.Util.List
import RProofs.Intervals
/-!
The L2 container kernels of `RModel/Impl/ContOps.lean` (`Cont.and2 / or2 / xor2 / andNot2`, the representation-exact
model of the Go kernels, tied to the Go code by the `kern` correspondence check) compute the set operations and
return well-formed (or empty) containers, for well-formed operands.

A kernel result is judged once: `Cont.Holds r p` says that `r` has exactly the values with `p` and is the empty array container
or well-formed (`OptHolds o p` is the same judgement for a result that is `nil` when empty).  Each kernel has one case
analysis along the Go dispatch (`and2_holds` …), and `has_X`, `wf_X`, `toBSet_X` are read off it.  A word result is given by
its members (`WordsAre`, `Words.lean`) and comes in one of three shapes; each run-list algorithm has one induction that gives
separation and members, and bounds are read off the members.  The abstraction `Cont.toBSet` is read per kind at an arbitrary
base (the bitmap level reads a container at `key * 65536`; base `0` is the case the kernel statements speak of).  At the end
`Cont.EmptyOrWf` (`isEmpty()` answers truthfully and a non-empty result is well-formed), which every `Cont.Holds` result
satisfies.
-/
open RModel.Util
namespace RModel.Impl
open RModel RModel.BSet RModel.Driver ContOps

/-! ### what well-formedness gives -/

structure ArrWf (vs : List Nat) : Prop where
  pos : 0 < vs.length
  le : vs.length ≤ 4096
  sorted : vs.Pairwise (· < ·)
  bound : ∀ v ∈ vs, v < 65536

theorem wf_arr {vs : List Nat} (h : (Cont.arr vs).wf = true) : ArrWf vs := by
  simp only [Cont.wf, Bool.and_eq_true, decide_eq_true_eq, List.all_eq_true] at h
  exact ⟨h.1.1.1, h.1.1.2, pairwise_of_strictInc _ h.1.2, h.2⟩

theorem wf_bmp {c : Int} {ws : List (BitVec 64)} (h : (Cont.bmp c ws).wf = true) :
    ws.length = 1024 ∧ c = (wordsCard ws : Int) ∧ 4096 < wordsCard ws := by
  simp only [Cont.wf, Bool.and_eq_true, beq_iff_eq, decide_eq_true_eq] at h
  refine ⟨h.1.1, h.1.2, ?_⟩
  have h2 := h.2
  rw [h.1.2] at h2
  simp only [wordsCard]
  omega

/-! ### membership of the re-typed word results -/

theorem has_ofWordsAB (ws : List (BitVec 64)) (x : Nat) : (ofWordsAB ws).has x = testBit ws x := by
  simp only [ofWordsAB]
  split
  · rfl
  · simp only [Cont.has, contains_valsOfWords]

/-- the re-typing step of `orArray` / `xorArray` on the bitmap path is that of `andBitmap`, with the test the other way round -/
theorem ofWordsArrArr_eq (ws : List (BitVec 64)) : ofWordsArrArr ws = ofWordsAB ws := by
  simp only [ofWordsArrArr, ofWordsAB]
  by_cases h : wordsCard ws ≤ arrayMax
  · rw [if_pos h, if_neg (Nat.not_lt.mpr h)]
  · rw [if_neg h, if_pos (Nat.lt_of_not_le h)]

theorem has_ofWordsArrArr (ws : List (BitVec 64)) (x : Nat) : (ofWordsArrArr ws).has x = testBit ws x := by
  rw [ofWordsArrArr_eq, has_ofWordsAB]

theorem has_fullRun (x : Nat) : fullRun.has x = decide (x < 65536) := by
  simp [fullRun, Cont.has, inRuns]; omega

theorem has_ofWordsOr (ws : List (BitVec 64)) (hl : ws.length = 1024) (x : Nat) : (ofWordsOr ws).has x = testBit ws x := by
  simp only [ofWordsOr]
  split <;> rename_i hc
  · rw [has_fullRun, testBit_of_full ws hl (by simpa using hc)]
  · rfl

/-! ### run lists: what `runsOk` gives -/

abbrev RunBound (M : Nat) (rs : List (Nat × Nat)) : Prop := ∀ p ∈ rs, p.1 + p.2 ≤ M

theorem runsOk_spec : ∀ (rs : List (Nat × Nat)), runsOk rs = true → RunSep rs ∧ RunBound 65535 rs
  | [], _ => by simp [RunSep]
  | [(s, l)], h => by
    simp only [runsOk, decide_eq_true_eq] at h
    simp [RunSep]; exact h
  | (s, l) :: (s', l') :: t, h => by
    simp only [runsOk, Bool.and_eq_true, decide_eq_true_eq] at h
    have ih := runsOk_spec ((s', l') :: t) h.2
    have hb' := ih.2 (s', l') (by simp)
    simp only at hb'
    refine ⟨List.pairwise_cons.mpr ⟨?_, ih.1⟩, ?_⟩
    · intro q hq
      rcases List.mem_cons.mp hq with rfl | hq'
      · exact h.1
      · have := (List.pairwise_cons.mp ih.1).1 q hq'
        simp only at this ⊢; omega
    · intro p hp
      rcases List.mem_cons.mp hp with rfl | hp'
      · simp only; omega
      · exact ih.2 p hp'

structure RunWf (rs : List (Nat × Nat)) : Prop where
  ne : rs ≠ []
  sep : RunSep rs
  bound : ∀ p ∈ rs, p.1 + p.2 ≤ 65535
  minimal : runMinimal rs.length (runsCard rs) = true

theorem wf_run {rs : List (Nat × Nat)} (h : (Cont.run rs).wf = true) : RunWf rs := by
  simp only [Cont.wf, Bool.and_eq_true, Bool.not_eq_true', List.isEmpty_eq_false_iff] at h
  have := runsOk_spec rs h.1.2
  exact ⟨h.1.1, this.1, this.2, h.2⟩

theorem inRuns_iff (rs : List (Nat × Nat)) (x : Nat) : inRuns rs x = true ↔ ∃ p ∈ rs, p.1 ≤ x ∧ x ≤ p.1 + p.2 := by
  simp [inRuns]

theorem le_of_inRuns {M : Nat} {rs : List (Nat × Nat)} (hb : RunBound M rs) {x : Nat} (h : inRuns rs x = true) : x ≤ M := by
  obtain ⟨p, hp, _, h2⟩ := (inRuns_iff rs x).mp h
  exact Nat.le_trans h2 (hb p hp)

theorem lt_of_inRuns {rs : List (Nat × Nat)} (hb : RunBound 65535 rs) {x : Nat} (h : inRuns rs x = true) :
    x < 65536 := Nat.lt_succ_of_le (le_of_inRuns hb h)

theorem isFullRun_eq {rs : List (Nat × Nat)} (h : isFullRun rs = true) : rs = [(0, 65535)] := by
  unfold isFullRun at h
  split at h
  · rename_i s l
    simp only [Bool.and_eq_true, beq_iff_eq] at h
    obtain ⟨rfl, h2⟩ := h
    simp at h2; simp [h2]
  · simp at h

theorem inRuns_full (x : Nat) : inRuns [(0, 65535)] x = decide (x < 65536) := by
  simp [inRuns]; omega

theorem has_lt {c : Cont} (hc : c.wf = true) {x : Nat} (h : c.has x = true) : x < 65536 := by
  cases c with
  | arr vs =>
    exact (wf_arr hc).bound x (by simpa [Cont.has] using h)
  | bmp cd ws => exact testBit_lt (wf_bmp hc).1 h
  | run rs => exact lt_of_inRuns (wf_run hc).bound h

theorem has_false_of_ge {c : Cont} (hc : c.wf = true) {x : Nat} (h : ¬ x < 65536) : c.has x = false :=
  Bool.eq_false_iff.mpr fun hx => h (has_lt hc hx)

theorem wordsAre_ofRuns {rs : List (Nat × Nat)} (hb : RunBound 65535 rs) : WordsAre (wordsOfRuns rs) (inRuns rs) :=
  (wordsAre_ofRuns_lt rs).congr fun x => by
    cases h : inRuns rs x
    · rfl
    · simp [lt_of_inRuns hb h]

theorem wordsAre_of_wf {c : Cont} (hc : c.wf = true) : WordsAre c.toBitmapWords c.has := by
  cases c with
  | arr vs => exact wordsAre_ofArr (wf_arr hc).bound
  | bmp cd ws => exact wordsAre_self (wf_bmp hc).1
  | run rs => exact wordsAre_ofRuns (wf_run hc).bound

theorem contains_expandRuns (rs : List (Nat × Nat)) (x : Nat) : (expandRuns rs).contains x = inRuns rs x := by
  rw [Bool.eq_iff_iff]
  simp [expandRuns, inRuns_iff, ← Nat.add_assoc, Nat.lt_succ_iff]

theorem has_runToEfficientCard (rs : List (Nat × Nat)) (hb : RunBound 65535 rs) (card x : Nat) :
    (runToEfficientCard rs card).has x = inRuns rs x := by
  simp only [runToEfficientCard]
  split
  · rfl
  · split
    · simp only [Cont.has, contains_expandRuns]
    · simp only [Cont.has, (wordsAre_ofRuns hb).mem]

theorem has_runToEfficient (rs : List (Nat × Nat)) (hb : RunBound 65535 rs) (x : Nat) :
    (runToEfficient rs).has x = inRuns rs x := has_runToEfficientCard rs hb _ x

/-! ### the run-list algorithms

For each algorithm one induction gives both that the result is separated and what its members are: that the runs put out
first lie before (and not adjacent to) those put out later is read off the members of the latter. -/

theorem inRuns_cons (p : Nat × Nat) (t : List (Nat × Nat)) (x : Nat) :
    inRuns (p :: t) x = ((decide (p.1 ≤ x) && decide (x ≤ p.1 + p.2)) || inRuns t x) := by
  simp [inRuns]

theorem inRuns_append (a b : List (Nat × Nat)) (x : Nat) : inRuns (a ++ b) x = (inRuns a x || inRuns b x) := by
  simp [inRuns]

theorem inRuns_nil (x : Nat) : inRuns [] x = false := rfl

theorem inRuns_start {rs : List (Nat × Nat)} {p : Nat × Nat} (hp : p ∈ rs) : inRuns rs p.1 = true :=
  (inRuns_iff rs _).mpr ⟨p, hp, Nat.le_refl _, Nat.le_add_right _ _⟩

theorem inRuns_end {rs : List (Nat × Nat)} {p : Nat × Nat} (hp : p ∈ rs) : inRuns rs (p.1 + p.2) = true :=
  (inRuns_iff rs _).mpr ⟨p, hp, Nat.le_add_right _ _, Nat.le_refl _⟩

/-- a bound on the members is a bound on the runs: results are judged by their members -/
theorem bound_of_inRuns {M : Nat} {rs : List (Nat × Nat)} (h : ∀ x, inRuns rs x = true → x ≤ M) : RunBound M rs :=
  fun _ hp => h _ (inRuns_end hp)

theorem inRuns_tail_gt {p : Nat × Nat} {t : List (Nat × Nat)} (h : RunSep (p :: t)) {x : Nat} (hx : inRuns t x = true) :
    p.1 + p.2 + 1 < x := by
  obtain ⟨q, hq, h1, _⟩ := (inRuns_iff t x).mp hx
  have := (List.pairwise_cons.mp h).1 q hq
  omega

theorem sep_shrink_head {s l s' l' : Nat} {t : List (Nat × Nat)} (h : RunSep ((s, l) :: t)) (he : s' + l' ≤ s + l) :
    RunSep ((s', l') :: t) :=
  List.pairwise_cons.mpr ⟨fun q hq => by have := (List.pairwise_cons.mp h).1 q hq; simp only at this ⊢; omega, h.of_cons⟩

theorem sep_cons {q : Nat × Nat} {r : List (Nat × Nat)} (hr : RunSep r) (h : ∀ x, inRuns r x = true → q.1 + q.2 + 1 < x) :
    RunSep (q :: r) :=
  List.pairwise_cons.mpr ⟨fun p hp => h p.1 (inRuns_start hp), hr⟩

theorem sep_opt (c : Prop) [Decidable c] (p : Nat × Nat) : RunSep (if c then [p] else []) := by
  split <;> simp [RunSep]

theorem sep_opt_append {c : Prop} [Decidable c] {q : Nat × Nat} {r : List (Nat × Nat)} (hr : RunSep r)
    (h : c → ∀ x, inRuns r x = true → q.1 + q.2 + 1 < x) : RunSep ((if c then [q] else []) ++ r) := by
  split <;> rename_i hc
  · exact sep_cons hr (h hc)
  · exact hr

theorem inRuns_out (sa sb ea eb x : Nat) :
    inRuns (if max sa sb ≤ min ea eb then [(max sa sb, min ea eb - max sa sb)] else []) x =
      (decide (sa ≤ x ∧ sb ≤ x) && decide (x ≤ ea ∧ x ≤ eb)) := by
  have h1 : max sa sb ≤ x ↔ sa ≤ x ∧ sb ≤ x := Nat.max_le
  have h2 : x ≤ min ea eb ↔ x ≤ ea ∧ x ≤ eb := Nat.le_min
  split <;> rename_i h
  · simp only [inRuns, List.any_cons, List.any_nil, Bool.or_false]
    rw [show max sa sb + (min ea eb - max sa sb) = min ea eb by omega]
    simp only [h1, h2]
  · simp only [inRuns_nil]
    by_cases h3 : sa ≤ x ∧ sb ≤ x <;> by_cases h4 : x ≤ ea ∧ x ≤ eb <;> simp [h3, h4]
    exact h (Nat.le_trans (h1.mpr h3) (h2.mpr h4))

theorem runInter_spec (a b : List (Nat × Nat)) (ha : RunSep a) (hb : RunSep b) :
    RunSep (runInter a b) ∧ ∀ x, inRuns (runInter a b) x = (inRuns a x && inRuns b x) := by
  fun_induction runInter a b with
  | case1 b => exact ⟨.nil, fun _ => rfl⟩
  | case2 a h => exact ⟨.nil, fun x => (Bool.and_false _).symm⟩
  | case3 sa la ta sb lb tb lo hi out hlt ih =>
    obtain ⟨hs, hm⟩ := ih ha.of_cons hb
    refine ⟨sep_opt_append hs fun hc x hx => ?_, fun x => ?_⟩
    · rw [hm, Bool.and_eq_true] at hx
      have := inRuns_tail_gt ha hx.1
      simp only [lo, hi] at hc this ⊢
      omega
    · -- `x` is in the overlap iff in both heads; a tail only has members beyond its own head
      rw [inRuns_append, hm, show inRuns out x = _ from inRuns_out sa sb (sa + la) (sb + lb) x]
      have hta := inRuns_tail_gt ha (x := x)
      have htb := inRuns_tail_gt hb (x := x)
      simp only [inRuns_cons] at hta htb ⊢
      grind
  | case4 sa la ta sb lb tb lo hi out hlt hlt2 ih =>
    obtain ⟨hs, hm⟩ := ih ha hb.of_cons
    refine ⟨sep_opt_append hs fun hc x hx => ?_, fun x => ?_⟩
    · rw [hm, Bool.and_eq_true] at hx
      have := inRuns_tail_gt hb hx.2
      simp only [lo, hi] at hc this ⊢
      omega
    · rw [inRuns_append, hm, show inRuns out x = _ from inRuns_out sa sb (sa + la) (sb + lb) x]
      have hta := inRuns_tail_gt ha (x := x)
      have htb := inRuns_tail_gt hb (x := x)
      simp only [inRuns_cons] at hta htb ⊢
      grind
  | case5 sa la ta sb lb tb lo hi out hlt hlt2 ih =>
    obtain ⟨hs, hm⟩ := ih ha.of_cons hb.of_cons
    refine ⟨sep_opt_append hs fun hc x hx => ?_, fun x => ?_⟩
    · rw [hm, Bool.and_eq_true] at hx
      have := inRuns_tail_gt ha hx.1
      simp only [lo, hi] at hc this ⊢
      omega
    · rw [inRuns_append, hm, show inRuns out x = _ from inRuns_out sa sb (sa + la) (sb + lb) x]
      have hta := inRuns_tail_gt ha (x := x)
      have htb := inRuns_tail_gt hb (x := x)
      simp only [inRuns_cons] at hta htb ⊢
      grind

theorem inRuns_pre (sa sb x : Nat) :
    inRuns (if sa < sb then [(sa, sb - 1 - sa)] else []) x = (decide (sa ≤ x) && decide (x < sb)) := by
  rw [Bool.eq_iff_iff]
  split <;> simp [inRuns] <;> omega

theorem runDiff_spec (a b : List (Nat × Nat)) (ha : RunSep a) (hb : RunSep b) :
    RunSep (runDiff a b) ∧ ∀ x, inRuns (runDiff a b) x = (inRuns a x && !inRuns b x) := by
  fun_induction runDiff a b with
  | case1 b => exact ⟨.nil, fun _ => rfl⟩
  | case2 a h => exact ⟨ha, fun x => (Bool.and_true _).symm⟩
  | case3 sa la ta sb lb tb hlt ih =>
    obtain ⟨hs, hm⟩ := ih ha.of_cons hb
    refine ⟨sep_cons hs fun x hx => ?_, fun x => ?_⟩
    · rw [hm, Bool.and_eq_true] at hx
      exact inRuns_tail_gt ha hx.1
    · rw [inRuns_cons, hm]
      have hta := inRuns_tail_gt ha (x := x)
      have htb := inRuns_tail_gt hb (x := x)
      simp only [inRuns_cons] at hta htb ⊢
      grind
  | case4 sa la ta sb lb tb hlt hlt2 ih =>
    obtain ⟨hs, hm⟩ := ih ha hb.of_cons
    refine ⟨hs, fun x => ?_⟩
    rw [hm]
    have hta := inRuns_tail_gt ha (x := x)
    have htb := inRuns_tail_gt hb (x := x)
    simp only [inRuns_cons] at hta htb ⊢
    grind
  | case5 sa la ta sb lb tb hlt hlt2 pre hlt3 ih =>
    obtain ⟨hs, hm⟩ := ih (sep_shrink_head ha (by omega)) hb.of_cons
    refine ⟨sep_opt_append hs fun hc x hx => ?_, fun x => ?_⟩
    · rw [hm, inRuns_cons, Bool.and_eq_true] at hx
      have := inRuns_tail_gt ha (x := x)
      grind
    · rw [inRuns_append, hm, show inRuns pre x = _ from inRuns_pre sa sb x]
      have hta := inRuns_tail_gt ha (x := x)
      have htb := inRuns_tail_gt hb (x := x)
      simp only [inRuns_cons] at hta htb ⊢
      grind
  | case6 sa la ta sb lb tb hlt hlt2 pre hlt3 ih =>
    obtain ⟨hs, hm⟩ := ih ha.of_cons hb
    refine ⟨sep_opt_append hs fun hc x hx => ?_, fun x => ?_⟩
    · rw [hm, Bool.and_eq_true] at hx
      have := inRuns_tail_gt ha hx.1
      simp only at this ⊢
      omega
    · rw [inRuns_append, hm, show inRuns pre x = _ from inRuns_pre sa sb x]
      have hta := inRuns_tail_gt ha (x := x)
      have htb := inRuns_tail_gt hb (x := x)
      simp only [inRuns_cons] at hta htb ⊢
      grind

theorem runMerge_eq (a b : List (Nat × Nat)) : runMerge a b = List.merge a b fun p q => decide (p.1 ≤ q.1) := by
  fun_induction runMerge a b <;> simp_all

theorem mem_runMerge (a b : List (Nat × Nat)) (p : Nat × Nat) : p ∈ runMerge a b ↔ p ∈ a ∨ p ∈ b := by
  rw [runMerge_eq]; exact List.mem_merge

theorem inRuns_runMerge (a b : List (Nat × Nat)) (x : Nat) : inRuns (runMerge a b) x = (inRuns a x || inRuns b x) := by
  rw [Bool.eq_iff_iff]
  simp only [Bool.or_eq_true, inRuns_iff, mem_runMerge, or_and_right, exists_or]

theorem sorted_runMerge (a b : List (Nat × Nat)) (ha : RunSorted a) (hb : RunSorted b) : RunSorted (runMerge a b) := by
  rw [runMerge_eq]
  exact (List.pairwise_merge (fun _ _ _ h1 h2 => by simp only [decide_eq_true_eq] at *; omega)
    (fun _ _ => by simp only [Bool.or_eq_true, decide_eq_true_eq]; omega) a b
    (ha.imp decide_eq_true) (hb.imp decide_eq_true)).imp of_decide_eq_true

theorem runUnion_spec (a b : List (Nat × Nat)) (ha : RunSorted a) (hb : RunSorted b) :
    RunSep (runUnion a b) ∧ ∀ x, inRuns (runUnion a b) x = (inRuns a x || inRuns b x) := by
  have hs := sorted_runMerge a b ha hb
  have hm := inRuns_runMerge a b
  rw [runUnion]
  generalize runMerge a b = m at hs hm
  cases m with
  | nil => exact ⟨.nil, hm⟩
  | cons p t => exact ⟨(coalesce_spec p t hs).1, fun x => ((coalesce_spec p t hs).2 x).trans (hm x)⟩

theorem sorted_of_sep {rs : List (Nat × Nat)} (h : RunSep rs) : RunSorted rs :=
  h.imp (by intro p q hpq; omega)

theorem sorted_singletons {ys : List Nat} (h : ys.Pairwise (· < ·)) : RunSorted (ys.map fun v => (v, 0)) := by
  exact List.pairwise_map.mpr (h.imp (by intro a b hab; simp only; omega))

theorem inRuns_singletons (ys : List Nat) (x : Nat) : inRuns (ys.map fun v => (v, 0)) x = ys.contains x := by
  rw [← memPairs_runRanges, It.runRanges, List.map_map]
  exact It.memPairs_singles ys x

/-! ### membership as each kind tests it -/

theorem has_filter (xs : List Nat) (p : Nat → Bool) (x : Nat) :
    (xs.filter p).contains x = (xs.contains x && p x) := by
  simp only [List.contains_eq_mem, List.mem_filter, Bool.decide_and]
  simp

@[simp] theorem has_arr (v : List Nat) (x : Nat) : (Cont.arr v).has x = v.contains x := rfl
@[simp] theorem has_bmp (c : Int) (ws : List (BitVec 64)) (x : Nat) : (Cont.bmp c ws).has x = testBit ws x := rfl
@[simp] theorem has_run (rs : List (Nat × Nat)) (x : Nat) : (Cont.run rs).has x = inRuns rs x := rfl

theorem bool_and_bound {p : Bool} {x : Nat} (h : p = true → x < 65536) : (p && decide (x < 65536)) = p := by
  cases p <;> simp_all

/-! ### array-typed results -/

/-- what an array payload must satisfy for "empty or well-formed" -/
structure ArrOk (l : List Nat) : Prop where
  le : l.length ≤ 4096
  sorted : l.Pairwise (· < ·)
  bound : ∀ v ∈ l, v < 65536

/-- well-formed, or the empty array container: the one empty container a kernel returns, so that `isEmpty()` (which for
a bitmap container trusts the cached cardinality) answers truthfully on every result -/
abbrev Cont.NilOrWf (c : Cont) : Prop := c = .arr [] ∨ c.wf = true

theorem Cont.NilOrWf.wfe {c : Cont} (h : c.NilOrWf) : c.card = 0 ∨ c.wf = true :=
  h.imp_left fun e => by rw [e]; rfl

theorem nilOrWf_arr {l : List Nat} (h : ArrOk l) : (Cont.arr l).NilOrWf := by
  cases l with
  | nil => left; rfl
  | cons a t =>
    right
    simp only [Cont.wf, Bool.and_eq_true, decide_eq_true_eq, List.all_eq_true]
    exact ⟨⟨⟨by simp, h.le⟩, strictInc_of_pairwise _ h.sorted⟩, h.bound⟩

theorem ArrWf.ok {l : List Nat} (h : ArrWf l) : ArrOk l := ⟨h.le, h.sorted, h.bound⟩

theorem arrOk_of_sublist {l xs : List Nat} (hs : l.Sublist xs) (hx : ArrOk xs) : ArrOk l :=
  ⟨Nat.le_trans hs.length_le hx.le, hx.sorted.sublist hs, fun v hv => hx.bound v (hs.subset hv)⟩

theorem arrOk_valsOfWords {ws : List (BitVec 64)} (hl : ws.length = 1024) (hc : wordsCard ws ≤ 4096) :
    ArrOk (valsOfWords ws) :=
  ⟨by rw [length_valsOfWords]; exact hc, sorted_valsOfWords ws,
    fun v hv => by have := lt_of_mem_valsOfWords ws v hv; omega⟩

/-! ### bitmap-typed results -/

theorem wf_bmp_mk {ws : List (BitVec 64)} {c : Int} (hl : ws.length = 1024) (hc : c = (wordsCard ws : Int))
    (hgt : 4096 < wordsCard ws) : (Cont.bmp c ws).wf = true := by
  simp only [Cont.wf, Bool.and_eq_true, beq_iff_eq, decide_eq_true_eq]
  refine ⟨⟨hl, ?_⟩, ?_⟩
  · rw [hc]; rfl
  · rw [hc]; omega

/-! ### bitmap × array kernels: the incrementally maintained cardinality is the true one -/

theorem card_bmpOrArr (ws : List (BitVec 64)) (ys : List Nat) (hl : ws.length = 1024) (hys : ArrWf ys) :
    wordsCard (ys.foldl setBit ws) = wordsCard ws + (ys.filter fun v => !testBit ws v).length := by
  have ht := ((wordsAre_self hl).setBits hys.bound).mem
  have := card_agree_outside (ws := ws) (ws' := ys.foldl setBit ws) (nodup_of_sorted hys.sorted) fun x hx => by
    rw [ht, List.contains_eq_mem, decide_eq_false hx, Bool.or_false]
  have e : ys.filter (testBit (ys.foldl setBit ws)) = ys := List.filter_eq_self.mpr fun x hx => by rw [ht]; simp [hx]
  rw [e, length_filter_split ys (testBit ws)] at this
  omega

theorem card_bmpXorArr (ws : List (BitVec 64)) (ys : List Nat) (hl : ws.length = 1024) (hys : ArrWf ys) :
    wordsCard (ys.foldl flipBit ws) + (ys.filter fun v => testBit ws v).length =
      wordsCard ws + (ys.filter fun v => !testBit ws v).length := by
  have ht := ((wordsAre_self hl).flipBits hys.bound (nodup_of_sorted hys.sorted)).mem
  have := card_agree_outside (ws := ws) (ws' := ys.foldl flipBit ws) (nodup_of_sorted hys.sorted) fun x hx => by
    rw [ht, List.contains_eq_mem, decide_eq_false hx, Bool.xor_false]
  have e : ys.filter (testBit (ys.foldl flipBit ws)) = ys.filter fun v => !testBit ws v :=
    List.filter_congr fun x hx => by rw [ht]; simp [hx]
  rw [e] at this
  exact this

theorem card_bmpAndNotArr (ws : List (BitVec 64)) (ys : List Nat) (hnd : ys.Nodup) :
    wordsCard (ys.foldl clearBit ws) + (ys.filter fun v => testBit ws v).length = wordsCard ws := by
  have ht := fun x => testBit_foldl_clearBit ys ws x
  have := card_agree_outside (ws := ws) (ws' := ys.foldl clearBit ws) hnd fun x hx => by
    rw [ht, List.contains_eq_mem, decide_eq_false hx, Bool.not_false, Bool.and_true]
  have e : ys.filter (testBit (ys.foldl clearBit ws)) = [] :=
    List.filter_eq_nil_iff.mpr fun x hx => by rw [ht]; simp [hx]
  rw [e] at this
  exact this

/-! ### run-typed results -/

theorem runsOk_of : ∀ (rs : List (Nat × Nat)), RunSep rs → RunBound 65535 rs → runsOk rs = true
  | [], _, _ => rfl
  | [(s, l)], _, hb => by
    have := hb (s, l) (by simp)
    simp only [runsOk, decide_eq_true_eq]; exact this
  | (s, l) :: (s', l') :: t, hs, hb => by
    have hp := List.pairwise_cons.mp hs
    simp only [runsOk, Bool.and_eq_true, decide_eq_true_eq]
    exact ⟨hp.1 (s', l') (by simp), runsOk_of _ hp.2 (fun q hq => hb q (by simp [hq]))⟩

theorem mem_expandRuns (rs : List (Nat × Nat)) (x : Nat) : x ∈ expandRuns rs ↔ inRuns rs x = true := by
  rw [← contains_expandRuns]; simp

theorem length_expandRuns (rs : List (Nat × Nat)) : (expandRuns rs).length = runsCard rs := by
  induction rs <;> grind [expandRuns, runsCard]

theorem sorted_expandRuns (rs : List (Nat × Nat)) (hs : RunSep rs) : (expandRuns rs).Pairwise (· < ·) := by
  induction rs with
  | nil => simp [expandRuns]
  | cons p t ih =>
    obtain ⟨s, l⟩ := p
    have hp := List.pairwise_cons.mp hs
    simp only [expandRuns, List.flatMap_cons]
    rw [List.pairwise_append]
    refine ⟨List.pairwise_lt_range', ih hp.2, ?_⟩
    intro a ha b hb
    have h1 := List.mem_range'_1.mp ha
    have h2 : inRuns t b = true := (mem_expandRuns t b).mp hb
    have := inRuns_tail_gt hs h2
    simp only at this; omega

theorem wordsCard_wordsOfRuns (rs : List (Nat × Nat)) (hs : RunSep rs) (hb : RunBound 65535 rs) :
    wordsCard (wordsOfRuns rs) = runsCard rs := by
  rw [← length_expandRuns]
  exact wordsCard_eq_length (nodup_of_sorted (sorted_expandRuns rs hs))
    (fun x => by rw [mem_expandRuns, (wordsAre_ofRuns hb).mem])

/-- as many bits as values, for a list of any length (`ArrWf` caps it at 4096) -/
theorem wordsCard_wordsOfArr_sorted (l : List Nat) (hs : l.Pairwise (· < ·)) (hb : ∀ v ∈ l, v < 65536) :
    wordsCard (wordsOfArr l) = l.length :=
  wordsCard_eq_length (nodup_of_sorted hs) (fun x => by rw [(wordsAre_ofArr hb).mem]; simp)

theorem wordsCard_wordsOfArr (xs : List Nat) (hxs : ArrWf xs) : wordsCard (wordsOfArr xs) = xs.length :=
  wordsCard_wordsOfArr_sorted xs hxs.sorted hxs.bound

theorem wf_run_mk {rs : List (Nat × Nat)} (hs : RunSep rs) (hb : RunBound 65535 rs)
    (hmin : 2 + 4 * rs.length < min 8224 (2 * runsCard rs)) : (Cont.run rs).wf = true := by
  have hne : rs ≠ [] := by
    intro h; subst h; simp [runsCard] at hmin
  simp only [Cont.wf, Bool.and_eq_true, Bool.not_eq_true', List.isEmpty_eq_false_iff, runMinimal, decide_eq_true_eq]
  exact ⟨⟨hne, runsOk_of rs hs hb⟩, hmin⟩

theorem nilOrWf_runToEfficient (rs : List (Nat × Nat)) (hs : RunSep rs) (hb : RunBound 65535 rs) :
    (runToEfficient rs).NilOrWf := by
  simp only [runToEfficient, runToEfficientCard]
  split <;> rename_i hmin
  · exact Or.inr (wf_run_mk hs hb hmin)
  · split <;> rename_i hle
    · apply nilOrWf_arr
      refine ⟨by rw [length_expandRuns]; exact hle, sorted_expandRuns rs hs, ?_⟩
      intro v hv
      exact lt_of_inRuns hb ((mem_expandRuns rs v).mp hv)
    · right
      have := wordsCard_wordsOfRuns rs hs hb
      exact wf_bmp_mk (length_wordsOfRuns rs) (by rw [this]) (by simp only [arrayMax] at hle; omega)

theorem nilOrWf_fullRun : fullRun.NilOrWf := by
  right; decide

/-! ### `Cont.Holds`: how a kernel result is judged -/

/-- `r` has exactly the values satisfying `p` and is a well-formed or an empty container: what every kernel result is
shown to be -/
structure Cont.Holds (r : Cont) (p : Nat → Bool) : Prop where
  has : ∀ x, r.has x = p x
  nw : r.NilOrWf

theorem Cont.Holds.wfe {r : Cont} {p : Nat → Bool} (h : r.Holds p) : r.card = 0 ∨ r.wf = true := h.nw.wfe

theorem Cont.Holds.congr {r : Cont} {p q : Nat → Bool} (h : r.Holds p) (e : ∀ x, p x = q x) : r.Holds q :=
  ⟨fun x => (h.has x).trans (e x), h.nw⟩

theorem Cont.Holds.arr {l : List Nat} {p : Nat → Bool} (h : ArrOk l) (hp : ∀ x, (Cont.arr l).has x = p x) :
    (Cont.arr l).Holds p :=
  ⟨hp, nilOrWf_arr h⟩

theorem holds_of_wf {c : Cont} (h : c.wf = true) : c.Holds c.has := ⟨fun _ => rfl, Or.inr h⟩

/-- membership in an optional container (`none` = Go `nil` = nothing) -/
def optHas (o : Option Cont) (y : Nat) : Bool :=
  match o with
  | some c => c.has y
  | none => false

def optWf (o : Option Cont) : Prop := ∀ c, o = some c → c.wf = true

theorem optWf_none : optWf none := fun _ h => by cases h
theorem optWf_some {c : Cont} (h : c.wf = true) : optWf (some c) := fun _ h' => by cases h'; exact h

/-- an optional container has exactly the values satisfying `p` and, when it is there, is well-formed -/
structure OptHolds (o : Option Cont) (p : Nat → Bool) : Prop where
  has : ∀ y, optHas o y = p y
  wf : optWf o

theorem OptHolds.congr {o : Option Cont} {p q : Nat → Bool} (h : OptHolds o p) (e : ∀ y, p y = q y) : OptHolds o q :=
  ⟨fun y => (h.has y).trans (e y), h.wf⟩

theorem has_of_card_zero (c : Cont) (h : c.card = 0) (y : Nat) : c.has y = false := by
  refine Bool.eq_false_iff.mpr fun hy => ?_
  cases c with
  | arr xs => exact absurd h (Nat.ne_of_gt (List.length_pos_of_mem (List.contains_iff_mem.mp hy)))
  | bmp cd ws =>
    have := List.length_pos_of_mem ((mem_valsOfWords ws y).mpr hy)
    rw [length_valsOfWords] at this
    exact absurd h (Nat.ne_of_gt this)
  | run rs =>
    obtain ⟨p, hp, _⟩ := (inRuns_iff rs y).mp hy
    cases rs with
    | nil => cases hp
    | cons q t => simp only [Cont.card, List.map_cons, List.sum_cons] at h; omega

theorem wf_of_wfe_has {c : Cont} (h : c.card = 0 ∨ c.wf = true) {y : Nat} (hy : c.has y = true) : c.wf = true := by
  rcases h with h | h
  · rw [has_of_card_zero c h y] at hy; simp at hy
  · exact h

theorem Cont.NilOrWf.wf_of_has {c : Cont} (h : c.NilOrWf) {y : Nat} (hy : c.has y = true) : c.wf = true := by
  rcases h with rfl | h
  · cases hy
  · exact h

theorem optHolds_none {p : Nat → Bool} (h : ∀ y, p y = false) : OptHolds none p := ⟨fun y => (h y).symm, optWf_none⟩

/-- an optional result that has a member is a kernel result, well-formed for having a member -/
theorem optHolds_some {c : Cont} {p : Nat → Bool} (h : c.Holds p) {y : Nat} (hy : p y = true) : OptHolds (some c) p :=
  ⟨h.has, optWf_some (h.nw.wf_of_has ((h.has y).trans hy))⟩

theorem wf_has_member (c : Cont) (h : c.wf = true) : ∃ y, c.has y = true := by
  cases c with
  | arr xs =>
    have hxs := wf_arr h
    cases xs with
    | nil => have := hxs.pos; simp at this
    | cons a t => exact ⟨a, by simp⟩
  | bmp cd ws =>
    exact exists_testBit_of_card_pos (Nat.zero_lt_of_lt (wf_bmp h).2.2)
  | run rs =>
    have hrs := wf_run h
    cases rs with
    | nil => exact absurd rfl hrs.ne
    | cons p t => exact ⟨p.1, by simp [inRuns]⟩

/-- a union with a well-formed (hence non-empty) operand is not empty -/
theorem Cont.Holds.wf_of_or_left {r a : Cont} {q : Nat → Bool} (h : r.Holds fun x => a.has x || q x) (ha : a.wf = true) :
    r.wf = true :=
  have ⟨y, hy⟩ := wf_has_member _ ha
  h.nw.wf_of_has (by rw [h.has, hy]; rfl)

theorem nilOrWf_filter {xs : List Nat} (hxs : ArrWf xs) (p : Nat → Bool) :
    (Cont.arr (xs.filter p)).NilOrWf :=
  nilOrWf_arr (arrOk_of_sublist List.filter_sublist hxs.ok)

theorem holds_filter {xs : List Nat} (hxs : ArrWf xs) (p : Nat → Bool) :
    (Cont.arr (xs.filter p)).Holds fun x => xs.contains x && p x :=
  ⟨has_filter xs p, nilOrWf_filter hxs p⟩

theorem holds_arr {l : List Nat} {p : Nat → Bool} (hs : l.Pairwise (· < ·)) (hm : ∀ x, l.contains x = p x)
    (hb : ∀ {x}, p x = true → x < 65536) (hlen : l.length ≤ 4096) : (Cont.arr l).Holds p :=
  ⟨hm, nilOrWf_arr ⟨hlen, hs, fun v hv => hb ((hm v).symm.trans (List.contains_iff_mem.mpr hv))⟩⟩

/-! the three shapes a word result is given: bitmap-typed, its set bits as an array, the run container `[0,65535]` when all
65536 bits are set -/

theorem holds_bmp {c : Int} {ws : List (BitVec 64)} {p : Nat → Bool} (h : WordsAre ws p) (hc : c = (wordsCard ws : Int))
    (hgt : 4096 < wordsCard ws) : (Cont.bmp c ws).Holds p :=
  ⟨h.mem, Or.inr (wf_bmp_mk h.len hc hgt)⟩

theorem holds_valsOfWords {ws : List (BitVec 64)} {p : Nat → Bool} (h : WordsAre ws p) (hle : wordsCard ws ≤ 4096) :
    (Cont.arr (valsOfWords ws)).Holds p :=
  ⟨fun x => (contains_valsOfWords ws x).trans (h.mem x), nilOrWf_arr (arrOk_valsOfWords h.len hle)⟩

theorem holds_full {ws : List (BitVec 64)} {p : Nat → Bool} (h : WordsAre ws p) (hc : wordsCard ws = 65536) : fullRun.Holds p :=
  ⟨fun x => by rw [has_fullRun, ← h.mem, testBit_of_full ws h.len hc], nilOrWf_fullRun⟩

theorem holds_ofWordsAB {ws : List (BitVec 64)} {p : Nat → Bool} (h : WordsAre ws p) : (ofWordsAB ws).Holds p := by
  simp only [ofWordsAB]
  split <;> rename_i hgt
  · exact holds_bmp h rfl hgt
  · exact holds_valsOfWords h (by simp only [arrayMax] at hgt; omega)

theorem holds_ofWordsArrArr {ws : List (BitVec 64)} {p : Nat → Bool} (h : WordsAre ws p) : (ofWordsArrArr ws).Holds p := by
  rw [ofWordsArrArr_eq]; exact holds_ofWordsAB h

theorem holds_ofWordsXor {ws : List (BitVec 64)} {p : Nat → Bool} (h : WordsAre ws p) : (ofWordsXor ws).Holds p := by
  simp only [ofWordsXor]
  split <;> rename_i hgt
  · split <;> rename_i hc
    · exact holds_full h (by simpa using hc)
    · exact holds_bmp h rfl hgt
  · exact holds_valsOfWords h (by simp only [arrayMax] at hgt; omega)

theorem holds_ofWordsOr {ws : List (BitVec 64)} {p : Nat → Bool} (h : WordsAre ws p) (hgt : 4096 < wordsCard ws) :
    (ofWordsOr ws).Holds p := by
  simp only [ofWordsOr]
  split <;> rename_i hc
  · exact holds_full h (by simpa using hc)
  · exact holds_bmp h rfl hgt

theorem lt_of_table {f : Bool → Bool → Bool} (hf : f false false = false) {p q : Nat → Bool} {N : Nat}
    (hp : ∀ {x}, p x = true → x < N) (hq : ∀ {x}, q x = true → x < N) {x : Nat} (h : f (p x) (q x) = true) : x < N := by
  cases hpx : p x with
  | true => exact hp hpx
  | false =>
    cases hqx : q x with
    | true => exact hq hqx
    | false => rw [hpx, hqx, hf] at h; cases h

theorem holds_runToEfficient {rs : List (Nat × Nat)} {p : Nat → Bool} (hs : RunSep rs ∧ ∀ x, inRuns rs x = p x)
    (hb : ∀ {x}, p x = true → x < 65536) : (runToEfficient rs).Holds p :=
  have hb' : RunBound 65535 rs := bound_of_inRuns fun x hx => Nat.le_of_lt_succ (hb ((hs.2 x).symm.trans hx))
  ⟨fun x => (has_runToEfficient rs hb' x).trans (hs.2 x), nilOrWf_runToEfficient rs hs.1 hb'⟩

/-- the re-typing step of the bitmap kernels that keep the cardinality incrementally: array when it is `≤ 4096`, else
bitmap -/
theorem holds_ofCard {c : Int} {ws : List (BitVec 64)} {p : Nat → Bool} (h : WordsAre ws p) (hc : c = (wordsCard ws : Int)) :
    (if c ≤ (arrayMax : Int) then Cont.arr (valsOfWords ws) else Cont.bmp c ws).Holds p := by
  split <;> rename_i hle
  · exact holds_valsOfWords h (by simp only [arrayMax] at hle; omega)
  · exact holds_bmp h hc (by simp only [arrayMax] at hle; omega)

/-! ### the four kernels: one case analysis each, along the Go dispatch -/

/-- the `isFull` shortcuts: a full run container is neutral for `and` … -/
theorem holds_and_full {c : Cont} (hc : c.wf = true) {rs : List (Nat × Nat)} (hf : isFullRun rs = true) :
    c.Holds fun x => c.has x && inRuns rs x := by
  cases isFullRun_eq hf
  exact (holds_of_wf hc).congr fun x => by rw [inRuns_full]; exact (bool_and_bound (has_lt hc)).symm

/-- … and absorbing for `or`, whatever the other operand is as long as its values are below `2^16` -/
theorem holds_or_full {c : Cont} (hc : ∀ {x}, c.has x = true → x < 65536) {rs : List (Nat × Nat)} (hr : (Cont.run rs).wf = true)
    (hf : isFullRun rs = true) : (Cont.run rs).Holds fun x => c.has x || inRuns rs x := by
  cases isFullRun_eq hf
  exact (holds_of_wf hr).congr fun x => by
    rw [has_run, inRuns_full]
    cases h : c.has x
    · rfl
    · simp [hc h]

theorem and2_holds (a b : Cont) (ha : a.wf = true) (hb : b.wf = true) :
    (a.and2 b).Holds fun x => a.has x && b.has x := by
  have hw := holds_ofWordsAB ((wordsAre_of_wf ha).and (wordsAre_of_wf hb))
  have hw' := (holds_ofWordsAB ((wordsAre_of_wf hb).and (wordsAre_of_wf ha))).congr fun x => Bool.and_comm _ _
  cases a with
  | arr xs =>
    have hxs := wf_arr ha
    cases b with
    | arr ys =>
      refine ⟨fun x => ?_, nilOrWf_arr (arrOk_of_sublist (ArrayC.sublist_intersection2by2 xs ys) hxs.ok)⟩
      simp only [Cont.and2, has_arr, List.contains_eq_mem,
        ArrayC.mem_intersection2by2 _ _ hxs.sorted (wf_arr hb).sorted, Bool.decide_and]
    | bmp c ws => exact holds_filter hxs _
    | run rs =>
      simp only [Cont.and2]
      split <;> rename_i hf
      · exact holds_and_full ha hf
      · split <;> rename_i he
        · exact absurd (List.isEmpty_iff.mp he) (wf_run hb).ne
        · exact holds_filter hxs _
  | bmp c ws =>
    cases b with
    | arr ys => exact (holds_filter (wf_arr hb) _).congr fun x => Bool.and_comm _ _
    | bmp c2 ws2 => exact hw
    | run rs =>
      simp only [Cont.and2]
      split <;> rename_i hf
      · exact holds_and_full ha hf
      · exact hw'
  | run rs =>
    have hrs := wf_run ha
    simp only [Cont.and2]
    split <;> rename_i hf
    · exact (holds_and_full hb hf).congr fun x => Bool.and_comm _ _
    · cases b with
      | arr ys =>
        simp only []
        split <;> rename_i he
        · exact absurd (List.isEmpty_iff.mp he) hrs.ne
        · exact (holds_filter (wf_arr hb) _).congr fun x => Bool.and_comm _ _
      | bmp c2 ws2 => exact hw
      | run rs2 =>
        have hrs2 := wf_run hb
        exact holds_runToEfficient (runInter_spec _ _ hrs.sep hrs2.sep) (lt_of_table rfl (has_lt ha) (has_lt hb))

theorem holds_runOrArr {rs : List (Nat × Nat)} {ys : List Nat} (hrs : RunWf rs) (hys : ArrWf ys) :
    (runOrArr rs ys).Holds fun x => inRuns rs x || ys.contains x := by
  have hso := sorted_singletons hys.sorted
  rw [runOrArr, if_neg (by have := hys.pos; cases ys <;> simp_all), if_neg (by simpa using hrs.ne)]
  have sp := runUnion_spec _ _ (sorted_of_sep hrs.sep) hso
  exact holds_runToEfficient ⟨sp.1, fun x => by rw [sp.2, inRuns_singletons]⟩
    (lt_of_table (f := (· || ·)) rfl (lt_of_inRuns hrs.bound) fun h => hys.bound _ (List.contains_iff_mem.mp h))

theorem has_runOrArr (rs : List (Nat × Nat)) (ys : List Nat) (hrs : RunWf rs) (hys : ArrWf ys) (x : Nat) :
    (runOrArr rs ys).has x = (inRuns rs x || ys.contains x) := (holds_runOrArr hrs hys).has x

/-- `bitmapContainer.orArray`: the incrementally kept cardinality is the true one -/
theorem holds_bmpOrArr {c : Int} {ws : List (BitVec 64)} (hw : (Cont.bmp c ws).wf = true) {ys : List Nat} (hys : ArrWf ys) :
    (bmpOrArr c ws ys).Holds fun x => testBit ws x || ys.contains x := by
  obtain ⟨hl, hc, hgt⟩ := wf_bmp hw
  have := card_bmpOrArr ws ys hl hys
  exact holds_bmp ((wordsAre_self hl).setBits hys.bound) (by rw [this, hc]; omega) (by omega)

theorem holds_bmpXorArr {c : Int} {ws : List (BitVec 64)} (hw : (Cont.bmp c ws).wf = true) {ys : List Nat} (hys : ArrWf ys) :
    (bmpXorArr c ws ys).Holds fun x => testBit ws x ^^ ys.contains x := by
  obtain ⟨hl, hc, hgt⟩ := wf_bmp hw
  have := card_bmpXorArr ws ys hl hys
  exact holds_ofCard ((wordsAre_self hl).flipBits hys.bound (nodup_of_sorted hys.sorted)) (by omega)

theorem holds_bmpAndNotArr {c : Int} {ws : List (BitVec 64)} (hw : (Cont.bmp c ws).wf = true) {ys : List Nat} (hys : ArrWf ys) :
    (bmpAndNotArr c ws ys).Holds fun x => testBit ws x && !ys.contains x := by
  obtain ⟨hl, hc, hgt⟩ := wf_bmp hw
  have := card_bmpAndNotArr ws ys (nodup_of_sorted hys.sorted)
  exact holds_ofCard ((wordsAre_self hl).clearBits ys) (by omega)

/-- `orBitmap`: one operand above 4096 values keeps the result a bitmap (or the full run) -/
theorem holds_orW {a b : List (BitVec 64)} {p q : Nat → Bool} (ha : WordsAre a p) (hb : WordsAre b q)
    (hgt : 4096 < wordsCard a ∨ 4096 < wordsCard b) : (ofWordsOr (orW a b)).Holds fun x => p x || q x := by
  have ho := ha.or hb
  refine holds_ofWordsOr ho (hgt.elim (fun h => Nat.lt_of_lt_of_le h ?_) fun h => Nat.lt_of_lt_of_le h ?_)
  · exact wordsCard_mono fun x hx => by rw [ho.mem, ← ha.mem, hx]; rfl
  · exact wordsCard_mono fun x hx => by rw [ho.mem, ← hb.mem, hx, Bool.or_true]

theorem bound_union2by2 {xs ys : List Nat} {n : Nat} (hx : ∀ v ∈ xs, v < n) (hy : ∀ v ∈ ys, v < n) :
    ∀ v ∈ ArrayC.union2by2 xs ys, v < n :=
  fun v hv => ((ArrayC.mem_union2by2 xs ys v).mp hv).elim (hx v) (hy v)

theorem union2by2_wf {xs ys : List Nat} (hxs : ArrWf xs) (hys : ArrWf ys) :
    (ArrayC.union2by2 xs ys).Pairwise (· < ·) ∧ (∀ v ∈ ArrayC.union2by2 xs ys, v < 65536) ∧
      ∀ x, (ArrayC.union2by2 xs ys).contains x = (xs.contains x || ys.contains x) :=
  ⟨ArrayC.sorted_union2by2 xs ys hxs.sorted hys.sorted,
    bound_union2by2 hxs.bound hys.bound,
    fun x => by simp only [List.contains_eq_mem, ArrayC.mem_union2by2, Bool.decide_or]⟩

theorem or2_holds (a b : Cont) (ha : a.wf = true) (hb : b.wf = true) :
    (a.or2 b).Holds fun x => a.has x || b.has x := by
  have hw := holds_orW (wordsAre_of_wf ha) (wordsAre_of_wf hb)
  have hw' := fun h => (holds_orW (wordsAre_of_wf hb) (wordsAre_of_wf ha) h).congr fun x => Bool.or_comm _ _
  cases a with
  | arr xs =>
    have hxs := wf_arr ha
    cases b with
    | arr ys =>
      have hys := wf_arr hb
      simp only [Cont.or2]
      split <;> rename_i hsum
      · exact holds_ofWordsArrArr (((wordsAre_ofArr hys.bound).setBits hxs.bound).congr fun x => Bool.or_comm _ _)
      · refine holds_arr (union2by2_wf hxs hys).1 (union2by2_wf hxs hys).2.2 (lt_of_table rfl (has_lt ha) (has_lt hb)) ?_
        have := ArrayC.length_union2by2_le xs ys
        simp only [arrayMax] at hsum
        omega
    | bmp c ws => exact (holds_bmpOrArr hb hxs).congr fun x => Bool.or_comm _ _
    | run rs =>
      simp only [Cont.or2]
      split <;> rename_i hf
      · exact holds_or_full (has_lt ha) hb hf
      · exact (holds_runOrArr (wf_run hb) hxs).congr fun x => Bool.or_comm _ _
  | bmp c ws =>
    have hgt := (wf_bmp ha).2.2
    cases b with
    | arr ys => exact holds_bmpOrArr ha (wf_arr hb)
    | bmp c2 ws2 => exact hw (Or.inl hgt)
    | run rs =>
      simp only [Cont.or2]
      split <;> rename_i hf
      · exact holds_or_full (has_lt ha) hb hf
      · exact hw' (Or.inr hgt)
  | run rs =>
    have hrs := wf_run ha
    simp only [Cont.or2]
    split <;> rename_i hf
    · exact (holds_or_full (has_lt hb) ha hf).congr fun x => Bool.or_comm _ _
    · cases b with
      | arr ys => exact holds_runOrArr hrs (wf_arr hb)
      | bmp c2 ws2 => exact hw (Or.inr (wf_bmp hb).2.2)
      | run rs2 =>
        have hrs2 := wf_run hb
        exact holds_runToEfficient (runUnion_spec _ _ (sorted_of_sep hrs.sep) (sorted_of_sep hrs2.sep))
          (lt_of_table rfl (has_lt ha) (has_lt hb))

theorem xor2_holds (a b : Cont) (ha : a.wf = true) (hb : b.wf = true) :
    (a.xor2 b).Holds fun x => a.has x ^^ b.has x := by
  have hw := holds_ofWordsXor ((wordsAre_of_wf ha).xor (wordsAre_of_wf hb))
  have hw' := (holds_ofWordsXor ((wordsAre_of_wf hb).xor (wordsAre_of_wf ha))).congr fun x => Bool.xor_comm _ _
  cases a with
  | arr xs =>
    have hxs := wf_arr ha
    cases b with
    | arr ys =>
      have hys := wf_arr hb
      simp only [Cont.xor2]
      split <;> rename_i hsum
      · exact holds_ofWordsArrArr (((wordsAre_empty.flipBits hys.bound (nodup_of_sorted hys.sorted)).flipBits hxs.bound
          (nodup_of_sorted hxs.sorted)).congr fun x => by rw [Bool.false_xor, Bool.xor_comm]; rfl)
      · refine holds_arr (ArrayC.sorted_exclusiveUnion2by2 _ _ hxs.sorted hys.sorted) (fun x => ?_)
          (lt_of_table (f := (· ^^ ·)) rfl (has_lt ha) (has_lt hb)) ?_
        · simp only [has_arr, List.contains_eq_mem, ArrayC.mem_exclusiveUnion2by2 _ _ hxs.sorted hys.sorted]
          by_cases h1 : x ∈ xs <;> by_cases h2 : x ∈ ys <;> simp [h1, h2]
        · have := ArrayC.length_exclusiveUnion2by2_le xs ys; simp only [arrayMax] at hsum; omega
    | bmp c ws => exact (holds_bmpXorArr hb hxs).congr fun x => Bool.xor_comm _ _
    | run rs => exact hw'
  | bmp c ws =>
    cases b with
    | arr ys => exact holds_bmpXorArr ha (wf_arr hb)
    | bmp c2 ws2 => exact hw
    | run rs => exact hw'
  | run rs =>
    simp only [Cont.xor2]
    exact hw

theorem andNot2_holds (a b : Cont) (ha : a.wf = true) (hb : b.wf = true) :
    (a.andNot2 b).Holds fun x => a.has x && !b.has x := by
  -- the fall-through arm of the Go dispatch: both operands as bitmaps
  have hgen := holds_ofWordsAB ((wordsAre_of_wf ha).andNot (wordsAre_of_wf hb))
  cases a with
  | arr xs =>
    have hxs := wf_arr ha
    cases b with
    | arr ys =>
      refine ⟨fun x => ?_, nilOrWf_arr (arrOk_of_sublist (ArrayC.sublist_difference xs ys) hxs.ok)⟩
      simp only [Cont.andNot2, has_arr, List.contains_eq_mem, ArrayC.mem_difference _ _ hxs.sorted (wf_arr hb).sorted]
      by_cases h1 : x ∈ xs <;> by_cases h2 : x ∈ ys <;> simp [h1, h2]
    | bmp c ws => exact holds_filter hxs _
    | run rs => exact hgen
  | bmp c ws =>
    cases b with
    | arr ys => exact holds_bmpAndNotArr ha (wf_arr hb)
    | bmp c2 ws2 => exact hgen
    | run rs => exact hgen
  | run rs =>
    cases b with
    | arr ys => exact hgen
    | bmp c2 ws2 => exact hgen
    | run rs2 =>
      have hrs := wf_run ha
      have hrs2 := wf_run hb
      exact holds_runToEfficient (runDiff_spec _ _ hrs.sep hrs2.sep) (lt_of_table (f := fun p q => p && !q) rfl (has_lt ha) (has_lt hb))

/-! ### membership and well-formedness (property C09 at kernel level) of the four kernels -/

theorem has_and2 (a b : Cont) (ha : a.wf = true) (hb : b.wf = true) (x : Nat) :
    (a.and2 b).has x = (a.has x && b.has x) := (and2_holds a b ha hb).has x

theorem has_or2 (a b : Cont) (ha : a.wf = true) (hb : b.wf = true) (x : Nat) :
    (a.or2 b).has x = (a.has x || b.has x) := (or2_holds a b ha hb).has x

theorem has_xor2 (a b : Cont) (ha : a.wf = true) (hb : b.wf = true) (x : Nat) :
    (a.xor2 b).has x = (a.has x ^^ b.has x) := (xor2_holds a b ha hb).has x

theorem has_andNot2 (a b : Cont) (ha : a.wf = true) (hb : b.wf = true) (x : Nat) :
    (a.andNot2 b).has x = (a.has x && !b.has x) := (andNot2_holds a b ha hb).has x

theorem wf_and2 (a b : Cont) (ha : a.wf = true) (hb : b.wf = true) :
    (a.and2 b).card = 0 ∨ (a.and2 b).wf = true := (and2_holds a b ha hb).wfe

theorem wf_or2 (a b : Cont) (ha : a.wf = true) (hb : b.wf = true) :
    (a.or2 b).card = 0 ∨ (a.or2 b).wf = true := (or2_holds a b ha hb).wfe

theorem wf_xor2 (a b : Cont) (ha : a.wf = true) (hb : b.wf = true) :
    (a.xor2 b).card = 0 ∨ (a.xor2 b).wf = true := (xor2_holds a b ha hb).wfe

theorem wf_andNot2 (a b : Cont) (ha : a.wf = true) (hb : b.wf = true) :
    (a.andNot2 b).card = 0 ∨ (a.andNot2 b).wf = true := (andNot2_holds a b ha hb).wfe

theorem wf_or2_ne (a b : Cont) (ha : a.wf = true) (hb : b.wf = true) : (a.or2 b).wf = true :=
  (or2_holds a b ha hb).wf_of_or_left ha

/-! ### the abstraction `Cont.toBSet` read per kind (a value list, the bits of the word list, a run list), at any base -/

theorem mem_toBSet_arr (base : Nat) (vals : List Nat) (x : Nat) :
    mem ((Cont.arr vals).toBSet base) x = vals.any (fun v => x == base + v) := by
  simp only [Cont.toBSet]
  rw [mem_unionAll _ (by intro s hs; simp at hs; obtain ⟨v, _, rfl⟩ := hs; exact sinc_single _)]
  simp only [List.any_map]
  congr 1
  funext v
  simp [Function.comp, mem_single, Bool.beq_eq_decide_eq]

theorem sinc_toBSet_arr (base : Nat) (vals : List Nat) : SInc ((Cont.arr vals).toBSet base) := by
  simp only [Cont.toBSet]
  exact sinc_unionAll _ (by intro s hs; simp at hs; obtain ⟨v, _, rfl⟩ := hs; exact sinc_single _)

theorem mem_toBSet_run (base : Nat) (runs : List (Nat × Nat)) (x : Nat) :
    mem ((Cont.run runs).toBSet base) x = runs.any (fun p => decide (base + p.1 ≤ x) && decide (x ≤ base + p.1 + p.2)) := by
  simp only [Cont.toBSet]
  rw [mem_unionAll _ (by intro s hs; simp at hs; obtain ⟨a, b, _, rfl⟩ := hs; simp [SInc]; omega)]
  simp only [List.any_map]
  congr 1
  funext p
  obtain ⟨s, l⟩ := p
  simp only [Function.comp, mem_pair]
  congr 1
  simp; omega

theorem sinc_toBSet_run (base : Nat) (runs : List (Nat × Nat)) : SInc ((Cont.run runs).toBSet base) := by
  simp only [Cont.toBSet]
  exact sinc_unionAll _ (by intro s hs; simp at hs; obtain ⟨a, b, _, rfl⟩ := hs; simp [SInc]; omega)

theorem boundsOfBits_lb (pos : Nat) (prev : Bool) (bits : List Bool) : ∀ z ∈ boundsOfBits pos prev bits, pos ≤ z := by
  fun_induction boundsOfBits pos prev bits <;> grind

theorem sinc_boundsOfBits (pos : Nat) (prev : Bool) (bits : List Bool) : SInc (boundsOfBits pos prev bits) := by
  induction bits generalizing pos prev with
  | nil => simp [boundsOfBits, SInc]; split <;> simp
  | cons b t ih =>
    simp only [boundsOfBits]
    split
    · refine List.pairwise_cons.mpr ⟨?_, ih _ _⟩
      intro z hz
      have := boundsOfBits_lb _ _ _ z hz; omega
    · exact ih _ _

theorem mem_boundsOfBits_add (pos : Nat) (prev : Bool) (bits : List Bool) (k : Nat) :
    mem (boundsOfBits pos prev bits) (pos + k) = (bits.getD k false != prev) := by
  induction bits generalizing pos prev k with
  | nil => cases prev <;> simp [boundsOfBits, mem]
  | cons b t ih =>
    have hl : ∀ p, mem (boundsOfBits (pos + 1) p t) pos = false := fun p =>
      mem_of_lt_all _ _ (fun z hz => by have := boundsOfBits_lb _ _ _ z hz; omega)
    cases k with
    | zero =>
      cases b <;> cases prev <;> simp [boundsOfBits, mem, hl]
    | succ k =>
      have e : pos + (k + 1) = pos + 1 + k := by omega
      cases b <;> cases prev <;> simp [boundsOfBits, mem, e, ih] <;> omega

theorem mem_boundsOfBits (pos : Nat) (prev : Bool) (bits : List Bool) (x : Nat) :
    mem (boundsOfBits pos prev bits) x = (decide (pos ≤ x) && (bits.getD (x - pos) false != prev)) := by
  by_cases hx : x < pos
  · rw [mem_of_lt_all _ _ (fun z hz => by have := boundsOfBits_lb _ _ _ z hz; omega)]
    simp; omega
  · have := mem_boundsOfBits_add pos prev bits (x - pos)
    rw [show pos + (x - pos) = x by omega] at this
    rw [this]; simp; omega

theorem wordBits_length (w : BitVec 64) : (wordBits w).length = 64 := by simp [wordBits]

theorem wordBits_getD (w : BitVec 64) (j : Nat) : (wordBits w).getD j false = w.getLsbD j := by
  simp only [wordBits, List.getD_eq_getElem?_getD, List.getElem?_map]
  by_cases h : j < 64
  · simp [List.getElem?_range h]
  · have : (List.range 64)[j]? = none := by simp; omega
    rw [this]
    simp
    exact BitVec.getLsbD_of_ge w j (by omega)

theorem flatMap_wordBits_getD (ws : List (BitVec 64)) (x : Nat) :
    (ws.flatMap wordBits).getD x false = ContOps.testBit ws x := by
  induction ws generalizing x with
  | nil => simp [ContOps.testBit]
  | cons w t ih =>
    rw [List.flatMap_cons, testBit_cons, List.getD_eq_getElem?_getD]
    by_cases h : x < 64
    · rw [if_pos h, List.getElem?_append_left (by rw [wordBits_length]; exact h), ← List.getD_eq_getElem?_getD,
        wordBits_getD]
    · rw [if_neg h, List.getElem?_append_right (by rw [wordBits_length]; omega), wordBits_length,
        ← List.getD_eq_getElem?_getD, ih]

theorem mem_toBSet_base (c : Cont) (base x : Nat) :
    mem (c.toBSet base) x = (decide (base ≤ x) && c.has (x - base)) := by
  cases c with
  | arr v =>
    have e : ∀ a, (x == base + a) = (decide (base ≤ x) && (x - base == a)) := fun a => by
      rw [Bool.beq_eq_decide_eq, Bool.beq_eq_decide_eq, ← Bool.decide_and]; exact decide_eq_decide.mpr (by omega)
    rw [mem_toBSet_arr]
    simp only [e, ← List.and_any_distrib_left, Cont.has, List.contains_eq_any_beq]
  | bmp c ws =>
    simp only [Cont.toBSet, mem_boundsOfBits, flatMap_wordBits_getD, Cont.has]
    simp
  | run rs =>
    have e : ∀ p : Nat × Nat, (decide (base + p.1 ≤ x) && decide (x ≤ base + p.1 + p.2)) =
        (decide (base ≤ x) && (decide (p.1 ≤ x - base) && decide (x - base ≤ p.1 + p.2))) := fun p => by
      rw [← Bool.decide_and, ← Bool.decide_and, ← Bool.decide_and]; exact decide_eq_decide.mpr (by omega)
    rw [mem_toBSet_run]
    simp only [e, ← List.and_any_distrib_left, Cont.has, inRuns]

theorem sinc_toBSet_base (c : Cont) (base : Nat) : SInc (c.toBSet base) := by
  cases c with
  | arr v => exact sinc_toBSet_arr base v
  | bmp c ws => exact sinc_boundsOfBits _ _ _
  | run rs => exact sinc_toBSet_run base rs

theorem sinc_toBSet (c : Cont) : SInc (c.toBSet 0) := sinc_toBSet_base c 0

theorem mem_toBSet (c : Cont) (x : Nat) : mem (c.toBSet 0) x = c.has x := by
  rw [mem_toBSet_base, Nat.sub_zero, decide_eq_true (Nat.zero_le x), Bool.true_and]

theorem mem_toBSet_bmp (c : Int) (ws : List (BitVec 64)) (x : Nat) :
    mem ((Cont.bmp c ws).toBSet 0) x = ContOps.testBit ws x := mem_toBSet _ x

/-! ### the four kernels on the abstraction -/

theorem mem_and2 (a b : Cont) (ha : a.wf = true) (hb : b.wf = true) (x : Nat) :
    mem ((a.and2 b).toBSet 0) x = (mem (a.toBSet 0) x && mem (b.toBSet 0) x) := by
  simp only [mem_toBSet, has_and2 a b ha hb]

theorem mem_or2 (a b : Cont) (ha : a.wf = true) (hb : b.wf = true) (x : Nat) :
    mem ((a.or2 b).toBSet 0) x = (mem (a.toBSet 0) x || mem (b.toBSet 0) x) := by
  simp only [mem_toBSet, has_or2 a b ha hb]

theorem mem_xor2 (a b : Cont) (ha : a.wf = true) (hb : b.wf = true) (x : Nat) :
    mem ((a.xor2 b).toBSet 0) x = (mem (a.toBSet 0) x != mem (b.toBSet 0) x) := by
  rw [mem_toBSet, mem_toBSet, mem_toBSet, has_xor2 a b ha hb]

theorem mem_andNot2 (a b : Cont) (ha : a.wf = true) (hb : b.wf = true) (x : Nat) :
    mem ((a.andNot2 b).toBSet 0) x = (mem (a.toBSet 0) x && !mem (b.toBSet 0) x) := by
  simp only [mem_toBSet, has_andNot2 a b ha hb]

theorem toBSet_eq_of_has {r : Cont} {s : BSet} (hs : SInc s) (h : ∀ x, r.has x = mem s x) : r.toBSet 0 = s :=
  canon_ext_sinc _ _ (sinc_toBSet r) hs fun x => by rw [mem_toBSet, h]

theorem toBSet_combine_with {r a : Cont} (f : Bool → Bool → Bool) (hf : f false false = false) {k : BSet} (hk : SInc k)
    (h : ∀ x, r.has x = f (a.has x) (mem k x)) :
    r.toBSet 0 = combine f (a.toBSet 0) k false false :=
  (combine_eq_of_mem f hf (sinc_toBSet a) hk (sinc_toBSet r) fun x => by rw [mem_toBSet, mem_toBSet, h]).symm

theorem toBSet_combine {r a b : Cont} (f : Bool → Bool → Bool) (hf : f false false = false)
    (h : ∀ x, r.has x = f (a.has x) (b.has x)) :
    r.toBSet 0 = combine f (a.toBSet 0) (b.toBSet 0) false false :=
  toBSet_combine_with f hf (sinc_toBSet b) fun x => by rw [h, mem_toBSet]

theorem toBSet_and2 (a b : Cont) (ha : a.wf = true) (hb : b.wf = true) :
    (a.and2 b).toBSet 0 = BSet.inter (a.toBSet 0) (b.toBSet 0) :=
  toBSet_combine _ rfl (has_and2 a b ha hb)

theorem toBSet_or2 (a b : Cont) (ha : a.wf = true) (hb : b.wf = true) :
    (a.or2 b).toBSet 0 = BSet.union (a.toBSet 0) (b.toBSet 0) :=
  toBSet_combine _ rfl (has_or2 a b ha hb)

theorem toBSet_xor2 (a b : Cont) (ha : a.wf = true) (hb : b.wf = true) :
    (a.xor2 b).toBSet 0 = BSet.xor (a.toBSet 0) (b.toBSet 0) :=
  toBSet_combine _ rfl (has_xor2 a b ha hb)

theorem toBSet_andNot2 (a b : Cont) (ha : a.wf = true) (hb : b.wf = true) :
    (a.andNot2 b).toBSet 0 = BSet.diff (a.toBSet 0) (b.toBSet 0) :=
  toBSet_combine _ rfl (has_andNot2 a b ha hb)

/-- `toEfficientContainer` of a run container (run → run / array / bitmap by serialized size) keeps the set -/
theorem toBSet_runToEfficient (rs : List (Nat × Nat)) (hb : RunBound 65535 rs) :
    (runToEfficient rs).toBSet 0 = (Cont.run rs).toBSet 0 :=
  toBSet_eq_of_has (sinc_toBSet _) fun x => by rw [mem_toBSet, has_runToEfficient rs hb, has_run]

/-! ### members below `2^16` -/

/-- a container that only reports values of one chunk -/
def Cont.Bounded (c : Cont) : Prop := ∀ y, c.has y = true → y < 65536

theorem bounded_of_wf {c : Cont} (h : c.wf = true) : c.Bounded := fun _ hy => has_lt h hy

/-! ### `isEmpty()` on kernel results -/

/-- `isEmpty()` answers truthfully and a non-empty container is well-formed -/
def Cont.EmptyOrWf (c : Cont) : Prop := (c.isEmptyGo = true ∧ ∀ y, c.has y = false) ∨ (c.isEmptyGo = false ∧ c.wf = true)

theorem isEmptyGo_of_wf {c : Cont} (h : c.wf = true) : c.isEmptyGo = false := by
  cases c with
  | arr vs =>
    have := (wf_arr h).pos
    cases vs <;> simp_all [Cont.isEmptyGo]
  | bmp k ws =>
    -- the cached cardinality is the true one, and that is above 4096
    obtain ⟨_, hc, hgt⟩ := wf_bmp h
    simp only [Cont.isEmptyGo]
    apply beq_false_of_ne
    omega
  | run rs =>
    have := (wf_run h).ne
    cases rs <;> simp_all [Cont.isEmptyGo]

theorem Cont.NilOrWf.emptyOrWf {c : Cont} (h : c.NilOrWf) : c.EmptyOrWf := by
  rcases h with rfl | h
  · exact Or.inl ⟨rfl, fun _ => rfl⟩
  · exact Or.inr ⟨isEmptyGo_of_wf h, h⟩

theorem Cont.Holds.emptyOrWf {r : Cont} {p : Nat → Bool} (h : r.Holds p) : r.EmptyOrWf := h.nw.emptyOrWf

theorem emptyOrWf_and2 (a b : Cont) (ha : a.wf = true) (hb : b.wf = true) : (a.and2 b).EmptyOrWf :=
  (and2_holds a b ha hb).emptyOrWf

theorem isEmptyGo_of_no_member {c : Cont} (hc : c.EmptyOrWf) (h : ∀ y, c.has y = false) : c.isEmptyGo = true := by
  rcases hc with ⟨he, _⟩ | ⟨_, hw⟩
  · exact he
  · obtain ⟨y, hy⟩ := wf_has_member _ hw
    rw [h y] at hy; cases hy

end RModel.Impl
