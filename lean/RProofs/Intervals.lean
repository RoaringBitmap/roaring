import RProofs.BSet
import RModel.Impl.ContOps
import RModel.Impl.Iter2
/-!
Lists of disjoint intervals.

The one notion is a list of half-open pairs `(lo, hi)` with membership `memPairs`; `Sep l`: every pair is non-empty and the
pairs are ascending and NON-TOUCHING (`b_i < a_{i+1}`); `WSep l`: the same with `b_i ≤ a_{i+1}`; `Asc l`: non-empty and
ascending by start only (overlaps allowed).  The other encodings of an interval list are read through a map into this one,
with one equation for membership and one for separation:

* boundary lists `[lo₀, hi₀, lo₁, hi₁, …]` (the oracle): `pairsOf` and `boundsOf`, inverse to each other;
* run lists `(start, length - 1)` (the run container): `runRanges`;
* strictly increasing value lists (the array container): one range `(v, v + 1)` per value.

A separated list is determined by its members (`sep_ext`): this is uniqueness of strictly increasing boundary lists
(`BSet.canon_ext_sinc`) read through `boundsOf`, and read through `runRanges` it is uniqueness of separated run lists
(`runs_ext`).  Fusing an ascending list into the separated list with the same members (`coalesceGo`) is done once, here: the
closure `emit` of `Ranges()`, the run container's `coalesce`, the array walk `arrRangesGo` and the boundary walk
`sortedValsBounds` are all this function.
-/
namespace RModel.Impl.It
open RModel RModel.Impl RModel.Impl.ContOps

/-! ### pairs, membership, separation -/

def inPair (x : Nat) (p : Nat × Nat) : Bool := decide (p.1 ≤ x) && decide (x < p.2)

def memPairs (l : List (Nat × Nat)) (x : Nat) : Bool := l.any (inPair x)

/-- non-empty, ascending, non-touching -/
def Sep (l : List (Nat × Nat)) : Prop := (∀ p ∈ l, p.1 < p.2) ∧ l.Pairwise (fun p q => p.2 < q.1)

/-- non-empty, ascending, possibly touching -/
def WSep (l : List (Nat × Nat)) : Prop := (∀ p ∈ l, p.1 < p.2) ∧ l.Pairwise (fun p q => p.2 ≤ q.1)

/-- non-empty, ascending by start, possibly overlapping -/
def Asc (l : List (Nat × Nat)) : Prop := (∀ p ∈ l, p.1 < p.2) ∧ l.Pairwise (fun p q => p.1 ≤ q.1)

theorem memPairs_nil (x : Nat) : memPairs [] x = false := rfl

theorem memPairs_cons (p : Nat × Nat) (t : List (Nat × Nat)) (x : Nat) :
    memPairs (p :: t) x = ((decide (p.1 ≤ x) && decide (x < p.2)) || memPairs t x) := rfl

theorem memPairs_append (a b : List (Nat × Nat)) (x : Nat) : memPairs (a ++ b) x = (memPairs a x || memPairs b x) := by
  simp only [memPairs, List.any_append]

theorem memPairs_iff (l : List (Nat × Nat)) (x : Nat) : memPairs l x = true ↔ ∃ p ∈ l, p.1 ≤ x ∧ x < p.2 := by
  simp only [memPairs, inPair, List.any_eq_true, Bool.and_eq_true, decide_eq_true_eq]

theorem memPairs_false_of_lt {l : List (Nat × Nat)} {x : Nat} (h : ∀ q ∈ l, x < q.1) : memPairs l x = false :=
  Bool.eq_false_iff.mpr fun hm => by
    obtain ⟨p, hp, h1, _⟩ := (memPairs_iff l x).mp hm
    exact Nat.lt_irrefl _ (Nat.lt_of_lt_of_le (h p hp) h1)

theorem memPairs_false_of_ge {l : List (Nat × Nat)} {x : Nat} (h : ∀ q ∈ l, q.2 ≤ x) : memPairs l x = false :=
  Bool.eq_false_iff.mpr fun hm => by
    obtain ⟨p, hp, _, h2⟩ := (memPairs_iff l x).mp hm
    exact Nat.lt_irrefl _ (Nat.lt_of_lt_of_le h2 (h p hp))

theorem memPairs_start {l : List (Nat × Nat)} {p : Nat × Nat} (hp : p ∈ l) (h : p.1 < p.2) : memPairs l p.1 = true :=
  (memPairs_iff l p.1).mpr ⟨p, hp, Nat.le_refl _, h⟩

theorem Sep.nil : Sep [] := ⟨fun _ h => (nomatch h), List.Pairwise.nil⟩
theorem WSep.nil : WSep [] := ⟨fun _ h => (nomatch h), List.Pairwise.nil⟩

theorem Sep.head {p : Nat × Nat} {t : List (Nat × Nat)} (h : Sep (p :: t)) : p.1 < p.2 := h.1 p (List.mem_cons_self ..)

theorem Sep.head_lt {p : Nat × Nat} {t : List (Nat × Nat)} (h : Sep (p :: t)) : ∀ q ∈ t, p.2 < q.1 :=
  (List.pairwise_cons.mp h.2).1

theorem Sep.cons {p : Nat × Nat} {t : List (Nat × Nat)} (hp : p.1 < p.2) (hlt : ∀ q ∈ t, p.2 < q.1) (ht : Sep t) :
    Sep (p :: t) :=
  ⟨List.forall_mem_cons.mpr ⟨hp, ht.1⟩, List.pairwise_cons.mpr ⟨hlt, ht.2⟩⟩

theorem Asc.tail {p : Nat × Nat} {t : List (Nat × Nat)} (h : Asc (p :: t)) : Asc t :=
  ⟨fun q hq => h.1 q (List.mem_cons_of_mem _ hq), (List.pairwise_cons.mp h.2).2⟩

theorem Asc.head {p : Nat × Nat} {t : List (Nat × Nat)} (h : Asc (p :: t)) : p.1 < p.2 := h.1 p (List.mem_cons_self ..)

theorem Asc.head_le {p : Nat × Nat} {t : List (Nat × Nat)} (h : Asc (p :: t)) : ∀ q ∈ t, p.1 ≤ q.1 :=
  (List.pairwise_cons.mp h.2).1

theorem Sep.wsep {l : List (Nat × Nat)} (h : Sep l) : WSep l := ⟨h.1, h.2.imp (fun h => Nat.le_of_lt h)⟩

theorem WSep.asc {l : List (Nat × Nat)} (h : WSep l) : Asc l :=
  ⟨h.1, h.2.imp_of_mem fun {p _} hp _ hpq => Nat.le_trans (Nat.le_of_lt (h.1 p hp)) hpq⟩

theorem WSep.append {a b : List (Nat × Nat)} (ha : WSep a) (hb : WSep b) (hab : ∀ p ∈ a, ∀ q ∈ b, p.2 ≤ q.1) :
    WSep (a ++ b) :=
  ⟨List.forall_mem_append.mpr ⟨ha.1, hb.1⟩, List.pairwise_append.mpr ⟨ha.2, hb.2, hab⟩⟩

theorem memPairs_cons_sep {p : Nat × Nat} {t : List (Nat × Nat)} (h : Sep (p :: t)) (x : Nat) :
    memPairs (p :: t) x = if x < p.1 then false else if x < p.2 then true else memPairs t x := by
  rw [memPairs_cons]
  split
  · next h1 =>
    rw [decide_eq_false (Nat.not_le_of_lt h1), memPairs_false_of_lt fun q hq =>
      Nat.lt_trans (Nat.lt_trans h1 h.head) (h.head_lt q hq)]
    rfl
  · next h1 =>
    rw [decide_eq_true (Nat.le_of_not_lt h1), Bool.true_and]
    split
    · next h2 => rw [decide_eq_true h2, Bool.true_or]
    · next h2 => rw [decide_eq_false h2, Bool.false_or]

theorem Sep.bounds {l : List (Nat × Nat)} (h : Sep l) {lo hi : Nat} (hm : ∀ x, memPairs l x = true → lo ≤ x ∧ x < hi)
    {q : Nat × Nat} (hq : q ∈ l) : lo ≤ q.1 ∧ q.2 ≤ hi := by
  have hlt := h.1 q hq
  have a := hm q.1 (memPairs_start hq hlt)
  have b := hm (q.2 - 1) ((memPairs_iff l _).mpr ⟨q, hq, by omega, by omega⟩)
  omega

/-! ### boundary lists -/

def pairsOf : BSet → List (Nat × Nat)
  | lo :: hi :: t => (lo, hi) :: pairsOf t
  | _ => []

def boundsOf (l : List (Nat × Nat)) : BSet := l.flatMap fun p => [p.1, p.2]

theorem pairsOf_boundsOf : ∀ (l : List (Nat × Nat)), pairsOf (boundsOf l) = l
  | [] => rfl
  | p :: t => congrArg (p :: ·) (pairsOf_boundsOf t)

theorem even_boundsOf : ∀ (l : List (Nat × Nat)), BSet.Even (boundsOf l)
  | [] => rfl
  | _ :: t => (Nat.add_mod_right (boundsOf t).length 2).trans (even_boundsOf t)

theorem sinc_boundsOf {l : List (Nat × Nat)} (h : Sep l) : BSet.SInc (boundsOf l) := by
  refine List.pairwise_flatMap.mpr ⟨fun p hp => ?_, h.2.imp_of_mem fun {p q} hp hq hpq x hx y hy => ?_⟩
  · simpa using h.1 p hp
  · have := h.1 p hp
    have := h.1 q hq
    simp only [List.mem_cons, List.not_mem_nil, or_false] at hx hy
    omega

theorem fst_mem_pairsOf : ∀ (s : BSet) (q : Nat × Nat), q ∈ pairsOf s → q.1 ∈ s
  | [], _, h => nomatch h
  | [_], _, h => nomatch h
  | lo :: hi :: t, q, h => by
    rcases List.mem_cons.mp h with rfl | h
    · exact List.mem_cons_self ..
    · exact List.mem_cons_of_mem _ (List.mem_cons_of_mem _ (fst_mem_pairsOf t q h))

theorem sep_pairsOf : ∀ (s : BSet), BSet.SInc s → Sep (pairsOf s)
  | [], _ => Sep.nil
  | [_], _ => Sep.nil
  | lo :: hi :: t, hs => by
    have h1 := List.pairwise_cons.mp hs
    have h2 := List.pairwise_cons.mp h1.2
    simp only [pairsOf]
    refine Sep.cons (h1.1 hi (by simp)) ?_ (sep_pairsOf t h2.2)
    intro q hq
    exact h2.1 q.1 (fst_mem_pairsOf t q hq)

theorem memPairs_pairsOf (s : BSet) (hs : BSet.SInc s) (he : BSet.Even s) (x : Nat) : memPairs (pairsOf s) x = BSet.mem s x := by
  induction s, hs, he using BSet.even_induction with
  | nil => rfl
  | step lo hi t hlh ht _ _ _ _ ih => rw [pairsOf, memPairs_cons, ih, BSet.mem_cons2_or lo hi t hlh ht]

theorem mem_boundsOf {l : List (Nat × Nat)} (h : Sep l) (x : Nat) : BSet.mem (boundsOf l) x = memPairs l x := by
  rw [← memPairs_pairsOf _ (sinc_boundsOf h) (even_boundsOf l), pairsOf_boundsOf]

/-- uniqueness: a separated pair list is determined by its members, as its boundary list is -/
theorem sep_ext (l1 l2 : List (Nat × Nat)) (h1 : Sep l1) (h2 : Sep l2) (h : ∀ x, memPairs l1 x = memPairs l2 x) :
    l1 = l2 := by
  rw [← pairsOf_boundsOf l1, ← pairsOf_boundsOf l2,
    BSet.canon_ext_sinc _ _ (sinc_boundsOf h1) (sinc_boundsOf h2) fun x => by rw [mem_boundsOf h1, mem_boundsOf h2, h]]

/-! ### fusing an ascending list -/

/-- two overlapping or touching intervals, the second starting inside the first or at its end -/
theorem inPair_union {a b c d : Nat} (h1 : a ≤ c) (h2 : c ≤ b) (x : Nat) :
    (decide (a ≤ x) && decide (x < if d > b then d else b)) =
      ((decide (a ≤ x) && decide (x < b)) || (decide (c ≤ x) && decide (x < d))) := by
  rw [Bool.eq_iff_iff]
  simp only [Bool.and_eq_true, Bool.or_eq_true, decide_eq_true_eq]
  split <;> omega

/-- `pend` is the interval being grown: a pair that starts inside it or at its end is fused into it -/
def coalesceGo (pend : Nat × Nat) : List (Nat × Nat) → List (Nat × Nat)
  | [] => [pend]
  | p :: t =>
    if p.1 ≤ pend.2 then coalesceGo (pend.1, if p.2 > pend.2 then p.2 else pend.2) t
    else pend :: coalesceGo p t

def coalesceP : List (Nat × Nat) → List (Nat × Nat)
  | [] => []
  | p :: t => coalesceGo p t

theorem coalesceGo_spec : ∀ (l : List (Nat × Nat)) (pend : Nat × Nat), pend.1 < pend.2 → (∀ q ∈ l, pend.1 ≤ q.1) → Asc l →
    Sep (coalesceGo pend l) ∧ (∀ q ∈ coalesceGo pend l, pend.1 ≤ q.1) ∧
      ∀ x, memPairs (coalesceGo pend l) x = memPairs (pend :: l) x
  | [], pend, hp, _, _ => by
    rw [coalesceGo]
    refine ⟨Sep.cons hp (fun _ hq => nomatch hq) Sep.nil, fun q hq => ?_, fun x => rfl⟩
    rw [List.mem_singleton.mp hq]
    exact Nat.le_refl _
  | p :: t, pend, hp, hle, h => by
    have hpp := h.head
    have hle' := hle p (List.mem_cons_self ..)
    simp only [coalesceGo]
    by_cases c : p.1 ≤ pend.2
    · rw [if_pos c]
      obtain ⟨i1, i2, i3⟩ := coalesceGo_spec t (pend.1, if p.2 > pend.2 then p.2 else pend.2) (by dsimp only; split <;> omega)
        (fun q hq => hle q (List.mem_cons_of_mem _ hq)) h.tail
      refine ⟨i1, i2, fun x => ?_⟩
      rw [i3 x, memPairs_cons, memPairs_cons, memPairs_cons, ← Bool.or_assoc]
      exact congrArg (· || memPairs t x) (inPair_union hle' c x)
    · rw [if_neg c]
      obtain ⟨i1, i2, i3⟩ := coalesceGo_spec t p hpp h.head_le h.tail
      refine ⟨Sep.cons hp (fun q hq => by have := i2 q hq; omega) i1, ?_, ?_⟩
      · exact List.forall_mem_cons.mpr ⟨Nat.le_refl _, fun q hq => by have := i2 q hq; omega⟩
      · intro x
        rw [memPairs_cons, i3 x, memPairs_cons pend]

theorem coalesceP_spec (l : List (Nat × Nat)) (h : Asc l) :
    Sep (coalesceP l) ∧ ∀ x, memPairs (coalesceP l) x = memPairs l x := by
  cases l with
  | nil => exact ⟨Sep.nil, fun _ => rfl⟩
  | cons p t =>
    obtain ⟨i1, _, i3⟩ := coalesceGo_spec t p h.head h.head_le h.tail
    exact ⟨i1, i3⟩

/-! ### value lists: one range per value -/

theorem wsep_singles {l : List Nat} (h : l.Pairwise (· < ·)) : WSep (l.map fun v => (v, v + 1)) := by
  refine ⟨fun q hq => ?_, List.pairwise_map.mpr h⟩
  obtain ⟨v, _, rfl⟩ := List.mem_map.mp hq
  exact Nat.lt_succ_self v

theorem memPairs_singles : ∀ (l : List Nat) (x : Nat), memPairs (l.map fun v => (v, v + 1)) x = l.contains x
  | [], _ => rfl
  | v :: t, x => by
    rw [List.map_cons, memPairs_cons, memPairs_singles t x, List.contains_cons]
    congr 1
    rw [Bool.eq_iff_iff]
    simp only [Bool.and_eq_true, decide_eq_true_eq, beq_iff_eq]
    omega

end RModel.Impl.It

/-! ### run lists -/

namespace RModel.Impl
open RModel RModel.BSet ContOps It

/-- sorted, non-overlapping, non-adjacent -/
abbrev RunSep (rs : List (Nat × Nat)) : Prop := rs.Pairwise (fun p q => p.1 + p.2 + 1 < q.1)

/-- sorted by start (overlaps and adjacency allowed) -/
abbrev RunSorted (rs : List (Nat × Nat)) : Prop := rs.Pairwise (fun p q => p.1 ≤ q.1)

theorem memPairs_runRanges (rs : List (Nat × Nat)) (x : Nat) : memPairs (runRanges rs) x = inRuns rs x := by
  simp only [memPairs, runRanges, List.any_map, inRuns]
  exact List.any_congr rfl fun p => by simp only [Function.comp, inPair, Nat.lt_succ_iff]

theorem runRanges_nonempty {rs : List (Nat × Nat)} : ∀ q ∈ runRanges rs, q.1 < q.2 := fun q hq => by
  obtain ⟨p, _, rfl⟩ := List.mem_map.mp hq
  exact Nat.lt_succ_of_le (Nat.le_add_right ..)

theorem sep_runRanges {rs : List (Nat × Nat)} : Sep (runRanges rs) ↔ RunSep rs :=
  ⟨fun h => List.pairwise_map.mp h.2, fun h => ⟨runRanges_nonempty, List.pairwise_map.mpr h⟩⟩

theorem asc_runRanges {rs : List (Nat × Nat)} (h : RunSorted rs) : Asc (runRanges rs) :=
  ⟨runRanges_nonempty, List.pairwise_map.mpr h⟩

theorem runRanges_inj {a b : List (Nat × Nat)} (h : runRanges a = runRanges b) : a = b :=
  (List.map_inj_right fun p q e => by
    have e1 := congrArg Prod.fst e
    have e2 := congrArg Prod.snd e
    simp only at e1 e2
    exact Prod.ext e1 (by omega)).mp h

theorem runs_ext (a b : List (Nat × Nat)) (ha : RunSep a) (hb : RunSep b) (h : ∀ x, inRuns a x = inRuns b x) : a = b :=
  runRanges_inj (sep_ext _ _ (sep_runRanges.mpr ha) (sep_runRanges.mpr hb) fun x => by
    rw [memPairs_runRanges, memPairs_runRanges, h])

/-- the end of the run that `coalesce` grows, as a half-open end -/
theorem coalesce_end (s l e : Nat) :
    s + (max (s + l) e - s) + 1 = if e + 1 > s + l + 1 then e + 1 else s + l + 1 := by
  by_cases h : s + l < e
  · rw [Nat.max_eq_right (Nat.le_of_lt h), if_pos (Nat.succ_lt_succ h),
      Nat.add_sub_cancel' (Nat.le_trans (Nat.le_add_right s l) (Nat.le_of_lt h))]
  · rw [Nat.max_eq_left (Nat.le_of_not_lt h), if_neg (fun c => h (Nat.lt_of_succ_lt_succ c)), Nat.add_sub_cancel_left]

theorem runRanges_coalesce : ∀ (t : List (Nat × Nat)) (cur : Nat × Nat),
    runRanges (coalesce cur t) = coalesceGo (cur.1, cur.1 + cur.2 + 1) (runRanges t)
  | [], _ => rfl
  | (s', l') :: t, (s, l) => by
    show runRanges (if s' ≤ s + l + 1 then _ else _) = if s' ≤ s + l + 1 then _ else _
    split
    · exact (runRanges_coalesce t _).trans
        (congrArg (fun e => coalesceGo (s, e) (runRanges t)) (coalesce_end s l (s' + l')))
    · exact congrArg (_ :: ·) (runRanges_coalesce t _)

theorem coalesce_spec (cur : Nat × Nat) (t : List (Nat × Nat)) (h : RunSorted (cur :: t)) :
    RunSep (coalesce cur t) ∧ ∀ x, inRuns (coalesce cur t) x = inRuns (cur :: t) x := by
  obtain ⟨c1, -, c3⟩ := coalesceGo_spec (runRanges t) (cur.1, cur.1 + cur.2 + 1) (by simp only; omega)
    (asc_runRanges h).head_le (asc_runRanges h).tail
  rw [← runRanges_coalesce] at c1 c3
  exact ⟨sep_runRanges.mp c1, fun x => by rw [← memPairs_runRanges, c3]; exact memPairs_runRanges (cur :: t) x⟩

theorem runRanges_runsOfBounds : ∀ (s : BSet), SInc s → runRanges (runsOfBounds s) = pairsOf s
  | [], _ => rfl
  | [_], _ => rfl
  | lo :: hi :: t, hs => by
    have hlh : lo < hi := (List.pairwise_cons.mp hs).1 hi (List.mem_cons_self ..)
    show (lo, lo + (hi - 1 - lo) + 1) :: runRanges (runsOfBounds t) = (lo, hi) :: pairsOf t
    rw [runRanges_runsOfBounds t hs.of_cons.of_cons, show lo + (hi - 1 - lo) + 1 = hi by omega]

theorem inRuns_runsOfBounds (s : BSet) (hs : SInc s) (he : s.length % 2 = 0) (x : Nat) :
    inRuns (runsOfBounds s) x = mem s x := by
  rw [← memPairs_runRanges, runRanges_runsOfBounds s hs, memPairs_pairsOf s hs he]

theorem sep_runsOfBounds (s : BSet) (hs : SInc s) : RunSep (runsOfBounds s) :=
  sep_runRanges.mp (runRanges_runsOfBounds s hs ▸ sep_pairsOf s hs)

end RModel.Impl
