import RProofs.ContQuery
/-!
`numberOfRuns`, `isFull`, `isEmpty` of the container query model (`RModel/Impl/ContQuery.lean`) against the set
abstraction: the model of the Go `numberOfRuns` kernels computes the number of maximal runs of the set, i.e. half the
length of the canonical boundary list.  Both sides are counted as the run ends of the membership predicate below `2^16`
(`nrEnds`: the values `x` with `p x` and not `p (x + 1)`).
-/
namespace RModel.Impl
open RModel RModel.BSet ContOps ContQuery

theorem isEmptyQ_spec (c : Cont) (hc : c.wf = true) : c.isEmptyQ = BSet.isEmpty (c.toBSet 0) := by
  refine glue_isEmpty (sinc_toBSet c) (even_toBSet hc) (mem_toBSet c) ⟨fun h => False.elim ?_, fun h => False.elim ?_⟩
  · -- no kind answers `true`: array and run lists are not empty, the cardinality field of a bitmap is above 4096
    cases c with
    | arr xs =>
      have := (wf_arr hc).pos
      have : xs.length = 0 := by simpa [Cont.isEmptyQ] using h
      omega
    | bmp cd ws =>
      have := wf_bmp hc
      have : cd = 0 := by simpa [Cont.isEmptyQ] using h
      omega
    | run rs => exact (wf_run hc).ne (by simpa [Cont.isEmptyQ] using h)
  · obtain ⟨y, hy⟩ := wf_has_member c hc
    exact Util.true_false_elim hy (h y)

/-! ### isFull -/

theorem nr_full_iff {c : Cont} (hc : c.wf = true) : c.toBSet 0 = [0, 65536] ↔ ∀ x, x < 65536 → c.has x = true := by
  constructor
  · intro h x hx
    rw [← mem_toBSet, h, mem_pair]; simp [hx]
  · intro h
    apply canon_ext 65536 _ _ (canon_toBSet hc)
    · refine ⟨by simp, by simp, by simp⟩
    · intro x
      rw [mem_toBSet, mem_pair]
      by_cases hx : x < 65536
      · rw [h x hx]; simp [hx]
      · rw [has_none_above (fun _ h => has_lt hc h) (by omega)]; simp [hx]

/-- a separated run list is determined by its members (`runs_ext`), so the one that holds everything is the full run -/
theorem nr_run_full {rs : List (Nat × Nat)} (h : RunWf rs) (hall : ∀ x, x < 65536 → inRuns rs x = true) :
    rs = [(0, 65535)] :=
  runs_ext rs _ h.sep (List.pairwise_singleton _ _) fun x => by
    rw [show inRuns [(0, 65535)] x = decide (x < 65536) by simp [inRuns, Nat.lt_succ_iff]]
    by_cases hx : x < 65536
    · rw [hall x hx, decide_eq_true hx]
    · rw [decide_eq_false hx]
      exact Bool.eq_false_iff.mpr fun hc => hx (lt_of_inRuns h.bound hc)

/-- full means `2^16` members: the cardinality test of the bitmap kind, never true of an array -/
theorem nr_full_iff_card {c : Cont} (hc : c.wf = true) : c.toBSet 0 = [0, 65536] ↔ c.getCardinalityQ = 65536 := by
  rw [nr_full_iff hc, has_card c (wfQ_of_wf hc), ← cnt_eq_self_iff]
  exact ⟨fun h => congrArg Nat.cast h, fun h => Int.ofNat.inj h⟩

theorem isFullQ_spec (c : Cont) (hc : c.wf = true) : c.isFullQ = (c.toBSet 0 == [0, 65536]) := by
  rw [Bool.eq_iff_iff, beq_iff_eq]
  cases c with
  | arr xs =>
    have := (wf_arr hc).le
    rw [nr_full_iff_card hc]
    exact ⟨fun h => (nomatch h), fun h => by have h' : ((xs.length : Nat) : Int) = 65536 := h; omega⟩
  | bmp cd ws => exact beq_iff_eq.trans (nr_full_iff_card hc).symm
  | run rs =>
    have hw := wf_run hc
    rw [nr_full_iff hc]
    constructor
    · intro h x hx
      simp only [Cont.isFullQ, runIsFull, Bool.and_eq_true, beq_iff_eq] at h
      obtain ⟨hlen, hs, hlast⟩ := h
      rw [RunQ.rLast_eq hw.bound (by omega)] at hlast
      exact (RunQ.inRuns_idx rs x).mpr ⟨0, by omega, by omega, by omega⟩
    · intro hall
      rw [nr_run_full hw hall]
      decide

/-! ### the run ends of a membership predicate -/

/-- `x` is the last value of a maximal run of `p` -/
def nrEnd (p : Nat → Bool) (x : Nat) : Bool := p x && !p (x + 1)

def nrEnds (p : Nat → Bool) (n : Nat) : Nat := cnt (nrEnd p) n

/-- `q` is `p` with the interval `[a, b]` added strictly below (and not adjacent to) every member of `p`: one more run
end, at `b` -/
theorem nr_ends_prepend (p q : Nat → Bool) (a b n : Nat) (hab : a ≤ b) (hbn : b < n)
    (h1 : ∀ x, x < a → q x = false) (h2 : ∀ x, a ≤ x → x ≤ b → q x = true)
    (h4 : ∀ x, b + 1 ≤ x → q x = p x) (h5 : ∀ x, x ≤ b + 1 → p x = false) :
    nrEnds q n = nrEnds p n + 1 := by
  have key : ∀ x, nrEnd q x = (decide (x = b) || nrEnd p x) := by
    intro x
    simp only [nrEnd]
    by_cases c1 : x < a
    · rw [h1 x c1, h5 x (by omega)]; simp; omega
    · by_cases c2 : x < b
      · rw [h2 x (by omega) (by omega), h2 (x + 1) (by omega) (by omega), h5 x (by omega)]; simp; omega
      · by_cases c3 : x = b
        · subst c3
          rw [h2 x (by omega) (Nat.le_refl _), h4 _ (Nat.le_refl _), h5 _ (Nat.le_refl _)]; simp
        · rw [h4 x (by omega), h4 (x + 1) (by omega)]; simp [c3]
  unfold nrEnds
  rw [← cnt_insert_absent (nrEnd p) b n hbn (by simp [nrEnd, h5 b (by omega)])]
  exact cnt_congr n (fun x _ => key x)

/-! ### the boundary list: half its length is the number of run ends -/

theorem nr_ends_none (p : Nat → Bool) (n : Nat) (h : ∀ x, x < n → p x = false) : nrEnds p n = 0 :=
  cnt_zero_of_none _ n fun u hu => by rw [nrEnd, h u hu, Bool.false_and]

theorem nr_bset_ends (s : BSet) (hs : SInc s) (he : Even s) :
    ∀ U, (∀ b ∈ s, b ≤ U) → s.length / 2 = nrEnds (mem s) U := by
  induction s, hs, he using even_induction with
  | nil =>
    intro U _
    exact (nr_ends_none (mem []) U (fun _ _ => rfl)).symm
  | step lo hi r hlh ht _ _ _ _ ih =>
    intro U hU
    obtain ⟨f1, f2, f3, f4⟩ := step_facts lo hi r hlh ht
    have hhi : hi ≤ U := hU hi (by simp)
    rw [nr_ends_prepend (mem r) (mem (lo :: hi :: r)) lo (hi - 1) U (by omega) (by omega) f1
      (fun x a b => f2 x a (by omega)) (fun x a => f3 x (by omega)) (fun x a => f4 x (by omega)),
      ← ih U (fun b hb => hU b (by simp [hb]))]
    simp only [List.length_cons]; omega

theorem nr_toBSet_ends {c : Cont} (hc : c.wf = true) : (c.toBSet 0).length / 2 = nrEnds c.has 65536 := by
  rw [nr_bset_ends _ (sinc_toBSet c) (even_toBSet hc) 65536 (canon_toBSet hc).2.1, funext (mem_toBSet c)]

/-! ### run container -/

theorem nr_run_ends : ∀ (rs : List (Nat × Nat)), RunSep rs → (∀ p ∈ rs, p.1 + p.2 ≤ 65535) →
    nrEnds (inRuns rs) 65536 = rs.length
  | [], _, _ => by rw [nr_ends_none _ _ (fun x _ => inRuns_nil x)]; rfl
  | p :: t, hsep, hb => by
    have hbp := hb p (by simp)
    have hnt : ∀ x, x ≤ p.1 + p.2 + 1 → inRuns t x = false := fun x hx => inRuns_tail_false hsep hx
    rw [nr_ends_prepend (inRuns t) (inRuns (p :: t)) p.1 (p.1 + p.2) 65536 (by omega) (by omega)
      (fun x hx => by rw [inRuns_cons, hnt x (by omega)]; simp; omega)
      (fun x h1 h2 => by rw [inRuns_cons]; simp [h1, h2])
      (fun x hx => by rw [inRuns_cons]; simp; omega)
      hnt,
      nr_run_ends t (List.pairwise_cons.mp hsep).2 (fun q hq => hb q (by simp [hq]))]
    simp

/-! ### array container -/

/-- Putting `a` in front of a list of larger values creates one run end, at `a`, unless `a + 1` follows; this is what
the loop of `numberOfRuns` counts, pair by pair. -/
theorem nr_ends_cons (a : Nat) (t : List Nat) (ht : ∀ v ∈ t, a < v) (n : Nat) (han : a < n) :
    nrEnds (a :: t).contains n = nrEnds t.contains n + (if t.contains (a + 1) then 0 else 1) := by
  have hlt : ∀ y, y ≤ a → t.contains y = false := fun y hy => by
    cases h : t.contains y
    · rfl
    · have := ht y (by simpa using h); omega
  have key : ∀ x, nrEnd (a :: t).contains x = ((decide (x = a) && !t.contains (a + 1)) || nrEnd t.contains x) := by
    intro x
    simp only [nrEnd, List.contains_cons]
    by_cases c1 : x = a
    · subst c1
      rw [hlt x (Nat.le_refl x), beq_self_eq_true, beq_false_of_ne (Nat.succ_ne_self x)]
      simp
    · rw [beq_false_of_ne c1, decide_eq_false c1]
      by_cases c2 : x + 1 = a
      · rw [hlt x (by omega)]; simp
      · rw [beq_false_of_ne c2]; simp
  unfold nrEnds
  rw [cnt_congr n (fun x _ => key x)]
  cases h : t.contains (a + 1)
  · simpa using cnt_insert_absent (nrEnd t.contains) a n han (by unfold nrEnd; rw [hlt a (Nat.le_refl a)]; rfl)
  · simp

theorem nr_arr_loop : ∀ (xs : List Nat), xs ≠ [] → xs.Pairwise (· < ·) → (∀ v ∈ xs, v < 65536) →
    ∃ k, arrRunsLoop xs = some k ∧ nrEnds xs.contains 65536 = k + 1
  | [], h, _, _ => absurd rfl h
  | [a], _, _, hb => by
    refine ⟨0, rfl, ?_⟩
    rw [nr_ends_cons a [] (by simp) 65536 (hb a (by simp))]
    exact congrArg (· + 1) (cnt_eq_of_none _ (Nat.zero_le _) (fun _ _ _ => rfl))
  | prev :: cur :: t, _, hs, hb => by
    have hs1 := List.pairwise_cons.mp hs
    have hpc : prev < cur := hs1.1 cur (by simp)
    have hbc := hb cur (by simp)
    obtain ⟨k, hk, hn⟩ := nr_arr_loop (cur :: t) (by simp) hs1.2 (fun v hv => hb v (by simp [hv]))
    have hp1 : (cur :: t).contains (prev + 1) = decide (cur = prev + 1) := by
      have ht : prev + 1 ∉ t := fun hh => by
        have := (List.pairwise_cons.mp hs1.2).1 _ hh
        omega
      simp [ht, eq_comm]
    rw [nr_ends_cons prev (cur :: t) hs1.1 65536 (by omega), hp1, hn]
    unfold arrRunsLoop
    rw [add16_eq (by omega)]
    by_cases e : cur = prev + 1
    · rw [if_pos e]
      exact ⟨k, hk, by simp [e]⟩
    · rw [if_neg e, if_neg (by omega), if_neg (by omega), hk]
      exact ⟨k + 1, rfl, by simp [e]⟩

theorem nr_arr {xs : List Nat} (hw : ArrWf xs) : arrNumberOfRuns xs = (nrEnds xs.contains 65536 : Int) := by
  have hne : xs ≠ [] := by intro h; have := hw.pos; simp [h] at this
  obtain ⟨k, hk, hn⟩ := nr_arr_loop xs hne hw.sorted hw.bound
  rw [hn]
  unfold arrNumberOfRuns
  split
  · next h => have := hw.pos; omega
  · next h =>
    have : k = 0 := by
      cases xs with
      | nil => simp at h
      | cons a t =>
        cases t with
        | nil => simpa [arrRunsLoop] using hk.symm
        | cons b t' => simp at h
    rw [this]; rfl
  · rw [hk]; simp

/-! ### bitmap container -/

theorem nr_word_inner (w : BitVec 64) :
    popcount (~~~w &&& (w <<< 1)) = cnt (fun j => w.getLsbD j && !w.getLsbD (j + 1)) 63 := by
  rw [popcount_eq_cnt]
  apply cnt_shift (s := 1) (l := 63) (p := fun j => w.getLsbD j && !w.getLsbD (j + 1))
  intro j hj
  simp only [BitVec.getLsbD_and, BitVec.getLsbD_not, BitVec.getLsbD_shiftLeft]
  by_cases h0 : j = 0
  · subst h0; simp
  · have e : j - 1 + 1 = j := by omega
    simp only [e]
    simp [show j < 64 by omega, show ¬ j < 1 by omega, show 1 ≤ j by omega, Bool.and_comm]

theorem nr_word_carry (w nw : BitVec 64) :
    ((w >>> 63) &&& ~~~nw).toNat = (w.getLsbD 63 && !nw.getLsbD 0).toNat := by
  have : (w >>> 63) &&& ~~~nw = if (w.getLsbD 63 && !nw.getLsbD 0) = true then 1#64 else 0#64 := by
    apply BitVec.eq_of_getLsbD_eq
    intro i hi
    simp only [BitVec.getLsbD_and, BitVec.getLsbD_not, BitVec.getLsbD_ushiftRight]
    by_cases h0 : i = 0
    · subst h0
      cases w.getLsbD 63 <;> cases nw.getLsbD 0 <;> simp
    · have : w.getLsbD (63 + i) = false := BitVec.getLsbD_of_ge _ _ (by omega)
      rw [this]
      split <;> simp [h0]
  rw [this]
  cases (w.getLsbD 63 && !nw.getLsbD 0) <;> rfl

theorem nr_word_last (w : BitVec 64) :
    (if w &&& 0x8000000000000000#64 ≠ 0#64 then 1 else 0 : Nat) = (w.getLsbD 63).toNat := by
  have e : (0x8000000000000000#64) = 1#64 <<< 63 := by decide
  have := and_one_shift_ne_zero w 63 (by omega)
  rw [e]
  cases h : w.getLsbD 63
  · rw [if_neg (fun hc => by rw [this, h] at hc; exact Bool.noConfusion hc)]; rfl
  · rw [if_pos (this.mpr h)]; rfl

theorem nr_ends_word (ws : List (BitVec 64)) (k : Nat) :
    nrEnds (testBit ws) (64 * (k + 1)) = nrEnds (testBit ws) (64 * k)
      + cnt (fun j => (word ws k).getLsbD j && !(word ws k).getLsbD (j + 1)) 63
      + ((word ws k).getLsbD 63 && !(word ws (k + 1)).getLsbD 0).toNat := by
  unfold nrEnds
  rw [show 64 * (k + 1) = 64 * k + (63 + 1) by omega, cnt_add, cnt_succ]
  have h1 : cnt (fun i => nrEnd (testBit ws) (64 * k + i)) 63
      = cnt (fun j => (word ws k).getLsbD j && !(word ws k).getLsbD (j + 1)) 63 := by
    apply cnt_congr
    intro j hj
    simp only [nrEnd]
    rw [testBit_word ws k j (by omega), Nat.add_assoc, testBit_word ws k (j + 1) (by omega)]
  have h2 : nrEnd (testBit ws) (64 * k + 63) = ((word ws k).getLsbD 63 && !(word ws (k + 1)).getLsbD 0) := by
    simp only [nrEnd]
    rw [testBit_word ws k 63 (by omega), show 64 * k + 63 + 1 = 64 * (k + 1) + 0 by omega,
      testBit_word ws (k + 1) 0 (by omega)]
  rw [h1, h2, Nat.add_assoc, Bool.toNat, Bool.cond_eq_ite]

theorem nr_bmp_loop (ws : List (BitVec 64)) : ∀ (t : List (BitVec 64)) (k : Nat), ws.drop k = t →
    nrEnds (testBit ws) (64 * k) + bmpRunsLoop t = nrEnds (testBit ws) (64 * ws.length) := by
  intro t
  induction t with
  | nil =>
    intro k hd
    have hk : ws.length ≤ k := by simpa using hd
    simp only [bmpRunsLoop, Nat.add_zero]
    exact cnt_eq_of_none (nrEnd (testBit ws)) (by omega)
      (fun u h1 h2 => by simp [nrEnd, testBit_of_ge ws u h1])
  | cons w t ih =>
    intro k hd
    obtain ⟨-, hw, ht⟩ := word_of_drop hd
    have hi := ih (k + 1) ht
    rw [nr_ends_word, hw] at hi
    cases t with
    | nil =>
      have hk : ws.length ≤ k + 1 := by simpa using ht
      have hz : word ws (k + 1) = 0#64 := by
        unfold word; simp [List.getD_eq_getElem?_getD, List.getElem?_eq_none hk]
      rw [hz] at hi
      simp only [bmpRunsLoop, nr_word_inner, nr_word_last] at hi ⊢
      simp only [BitVec.getLsbD_zero, Bool.not_false, Bool.and_true] at hi
      omega
    | cons nw t' =>
      rw [(word_of_drop ht).2.1] at hi
      simp only [bmpRunsLoop, nr_word_inner, nr_word_carry] at hi ⊢
      omega

theorem nr_bmp {ws : List (BitVec 64)} (hl : ws.length = 1024) :
    bmpRunsLoop ws = nrEnds (testBit ws) 65536 := by
  have := nr_bmp_loop ws ws 0 rfl
  rw [hl] at this
  simp only [nrEnds, Nat.mul_zero, cnt_zero, Nat.zero_add] at this
  exact this

/-! ### the theorem -/

theorem numRuns_eq_ends (c : Cont) (hc : c.wf = true) : c.numberOfRunsQ = (nrEnds c.has 65536 : Int) := by
  cases c with
  | arr xs => exact nr_arr (wf_arr hc)
  | bmp cd ws =>
    obtain ⟨hl, hcd, hgt⟩ := wf_bmp hc
    simp only [Cont.numberOfRunsQ, bmpNumberOfRuns]
    rw [if_neg (by omega), nr_bmp hl]
    rfl
  | run rs => exact congrArg Nat.cast (nr_run_ends rs (wf_run hc).sep (wf_run hc).bound).symm

theorem numberOfRunsQ_spec (c : Cont) (hc : c.wf = true) :
    c.numberOfRunsQ = (((c.toBSet 0).length / 2 : Nat) : Int) := by
  rw [numRuns_eq_ends c hc, nr_toBSet_ends hc]

end RModel.Impl
