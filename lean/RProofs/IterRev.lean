import RProofs.Iter
import RProofs.IterRun
/-!
Iteration protocols: the reverse iterators — the interface field `iter` of `intReverseIterator` (`RIt`) over the
three container kinds, and the bitmap-level `IntRevIt`.

`rem` is kept ASCENDING (the values still to be delivered; they come out last first), so `next` takes `t ++ [v]` to `t`, and
a drain is a forward drain of `rem.reverse`: draining `IntRevIt.create r` yields `(BSet.toList r.toBSet).reverse`.
-/
open RModel.Util
namespace RModel.Impl.It
open RModel RModel.Impl RModel.Impl.ContOps RModel.Impl.ContQuery

namespace RIt

def Inv : RIt → Prop
  | .none => True
  | .arr a => a.locP ≤ a.slice.length ∧ ∀ v ∈ a.slice, v < 65536
  | .run r => r.Inv
  | .bmp b => b.Inv

/-- the values still to be delivered, ascending (they come out last first) -/
def rem : RIt → List Nat
  | .none => []
  | .arr a => a.rem
  | .run r => r.rem
  | .bmp b => b.rem

theorem hasNext_iff {it : RIt} (hi : it.Inv) : it.hasNext = true ↔ it.rem ≠ [] := by
  cases it with
  | none => simp [hasNext, rem]
  | arr a => exact ArrRevIt.hasNext_iff a hi.1
  | run r => exact RunRevIt.hasNext_iff hi
  | bmp b => exact BmpRevIt.hasNext_iff hi

theorem next_spec {it : RIt} (hi : it.Inv) {v : Nat} {t : List Nat} (h : it.rem = t ++ [v]) :
    it.next.1 = v ∧ it.next.2.Inv ∧ it.next.2.rem = t := by
  cases it with
  | none =>
    have := congrArg List.length h
    simp [rem] at this
  | arr a =>
    obtain ⟨h1, h2, h3⟩ := ArrRevIt.next_spec hi.1 h
    exact ⟨h1, ⟨h3, hi.2⟩, h2⟩
  | run r =>
    obtain ⟨h1, h2, h3, -⟩ := RunRevIt.next_spec hi h
    exact ⟨h1, h2, h3⟩
  | bmp b =>
    obtain ⟨h1, h2, h3, -⟩ := BmpRevIt.next_spec hi h
    exact ⟨h1, h2, h3⟩

theorem ofCont_spec {c : Cont} (h : c.wf = true) : (ofCont c).Inv ∧ (ofCont c).rem = valsOfCont c := by
  cases c with
  | arr xs =>
    have hw := wf_arr h
    refine ⟨⟨Nat.le_refl _, hw.bound⟩, ?_⟩
    show xs.take xs.length = xs
    exact List.take_length
  | run rs =>
    have hw := wf_run h
    obtain ⟨h1, h2, -⟩ := RunRevIt.init_spec rs hw.sep hw.bound
    exact ⟨h1, h2⟩
  | bmp k ws =>
    obtain ⟨hl, hc, -⟩ := wf_bmp h
    obtain ⟨h1, h2, -⟩ := BmpRevIt.init_spec k ws hl hc
    exact ⟨h1, h2⟩

theorem rem_lt {it : RIt} (hi : it.Inv) {v : Nat} (hv : v ∈ it.rem) : v < 65536 := by
  cases it with
  | none => cases hv
  | arr a => exact hi.2 v (List.mem_of_mem_take hv)
  | run r => exact lt_of_inRuns hi.2.1 ((mem_expandRuns _ _).mp (mem_remBelow.mp hv).1)
  | bmp b => exact valsOfWords_lt hi.1 (mem_remBelow.mp hv).1

theorem follows : Follows Inv (fun it => it.rem.reverse) hasNext next := .ofRev hasNext_iff next_spec

theorem drain_spec (fuel : Nat) (it : RIt) (hi : it.Inv) (hf : it.rem.length ≤ fuel) : it.drain fuel = it.rem.reverse :=
  drain_of_protocol follows drain (fun _ => rfl) (fun _ _ => rfl) fuel it hi (by rw [List.length_reverse]; exact hf)

/-- draining a fresh reverse container iterator yields the sorted member list reversed — for every container kind -/
theorem drain_ofCont {c : Cont} (h : c.wf = true) (fuel : Nat) (hf : (valsOfCont c).length ≤ fuel) :
    (ofCont c).drain fuel = (valsOfCont c).reverse := by
  obtain ⟨h1, h2⟩ := ofCont_spec h
  rw [drain_spec fuel _ h1 (by rw [h2]; exact hf), h2]

end RIt

theorem take_slots {slots : List Slot} {k : Nat} (h0 : 0 < k) (h : k ≤ slots.length) :
    slots.take k = slots.take (k - 1) ++ [slotAt slots (k - 1)] :=
  Util.take_getD _ h0 h

namespace IntRevIt

def Inv (ii : IntRevIt) : Prop :=
  SlotsWf ii.slots ∧ ii.posP ≤ ii.slots.length ∧
    (0 < ii.posP → ii.hs = (slotAt ii.slots (ii.posP - 1)).key * 65536 ∧ ii.iter.Inv ∧ ii.iter.rem ≠ [])

/-- the values still to be delivered, ascending: all earlier containers, then the rest of the current one -/
def rem (ii : IntRevIt) : List Nat :=
  if 0 < ii.posP then
    (ii.slots.take (ii.posP - 1)).flatMap slotVals ++ ii.iter.rem.map (ii.hs + ·)
  else []

theorem hasNext_iff {ii : IntRevIt} (hi : ii.Inv) : ii.hasNext = true ↔ ii.rem ≠ [] := by
  unfold hasNext rem
  by_cases h : 0 < ii.posP
  · have := (hi.2.2 h).2.2
    simp [h, this]
  · simp [h]

theorem init_spec (ii : IntRevIt) (hw : SlotsWf ii.slots) (hp : ii.posP ≤ ii.slots.length) :
    ii.init.Inv ∧ ii.init.rem = (ii.slots.take ii.posP).flatMap slotVals ∧ ii.init.slots = ii.slots ∧
      ii.init.posP = ii.posP := by
  unfold init
  by_cases h : 0 < ii.posP
  · rw [if_pos h]
    have hk : ii.posP - 1 < ii.slots.length := by omega
    have hm := hw.ok _ (slotAt_mem hk)
    obtain ⟨c1, c2⟩ := RIt.ofCont_spec hm.2
    refine ⟨⟨hw, hp, fun _ => ⟨shl16 _, c1, c2 ▸ valsOfCont_ne_nil hm.2⟩⟩, ?_, rfl, rfl⟩
    simp only [rem]
    rw [if_pos (by exact h), c2, shl16, take_slots h hp, List.flatMap_append, List.flatMap_cons, List.flatMap_nil,
      List.append_nil]
    rfl
  · rw [if_neg h]
    refine ⟨⟨hw, hp, fun h' => absurd h' h⟩, ?_, rfl, rfl⟩
    have h0 : ii.posP = 0 := by omega
    simp only [rem]
    rw [if_neg (by exact h), h0]
    rfl

/-- `Initialize(b)` on a USED iterator object (whatever state it is in) starts the enumeration of `b` -/
theorem reinit_spec (ii : IntRevIt) (r : Rep) (h : r.wf = true) :
    (ii.reinit r).Inv ∧ (ii.reinit r).rem = valsOfRep r := by
  obtain ⟨h1, h2, -, -⟩ :=
    init_spec { ii with slots := r.slots, posP := r.slots.length } ((slotsWf_iff r).mp h) (Nat.le_refl _)
  refine ⟨h1, h2.trans ?_⟩
  show (r.slots.take r.slots.length).flatMap slotVals = _
  rw [List.take_length]
  rfl

theorem create_spec (r : Rep) (h : r.wf = true) : (create r).Inv ∧ (create r).rem = valsOfRep r :=
  reinit_spec {} r h

theorem next_spec {ii : IntRevIt} (hi : ii.Inv) {v : Nat} {t : List Nat} (h : ii.rem = t ++ [v]) :
    ii.next.1 = v ∧ ii.next.2.Inv ∧ ii.next.2.rem = t ∧ ii.next.2.slots = ii.slots := by
  have hp : 0 < ii.posP := Nat.pos_of_ne_zero fun hc => by
    rw [rem, if_neg (by omega)] at h
    exact absurd (congrArg List.length h) (by simp)
  obtain ⟨e1, e2, e3⟩ := hi.2.2 hp
  rcases eq_nil_or_snoc ii.iter.rem with hr | ⟨t0, v0, hr⟩
  · exact absurd hr e3
  rw [rem, if_pos hp, hr, List.map_append, ← List.append_assoc] at h
  obtain ⟨rfl, hv⟩ := List.append_inj' h rfl
  obtain rfl : ii.hs + v0 = v := (List.cons.inj hv).1
  have hlt : v0 < 65536 := RIt.rem_lt e2 (by rw [hr]; simp)
  obtain ⟨n1, n2, n3⟩ := RIt.next_spec e2 hr
  have hval : ii.iter.next.1 ||| ii.hs = ii.hs + v0 := by rw [n1]; exact or_hs_eq_add hlt (by omega)
  unfold next
  simp only []
  by_cases hn : ii.iter.next.2.hasNext = true
  · simp only [hn, Bool.not_true, Bool.false_eq_true, if_false]
    refine ⟨hval, ⟨hi.1, hi.2.1, fun _ => ⟨e1, n2, (RIt.hasNext_iff n2).mp hn⟩⟩, ?_, trivial⟩
    rw [rem, if_pos hp, n3]
  · have hnil : t0 = [] := n3 ▸ Classical.not_not.mp fun hc => hn ((RIt.hasNext_iff n2).mpr hc)
    simp only [Bool.not_eq_true] at hn
    simp only [hn, Bool.not_false, if_true]
    obtain ⟨i1, i2, i3, -⟩ := init_spec { ii with iter := ii.iter.next.2, posP := ii.posP - 1 } hi.1
      (Nat.le_trans (Nat.sub_le _ _) hi.2.1)
    refine ⟨hval, i1, ?_, i3⟩
    rw [i2, hnil]
    simp

theorem rem_lt32 {ii : IntRevIt} (hi : ii.Inv) {x : Nat} (hx : x ∈ ii.rem) : x < 4294967296 := by
  have hp : 0 < ii.posP := by
    apply Classical.byContradiction; intro hc
    simp only [rem, hc, if_false] at hx; cases hx
  simp only [rem, hp, if_true, List.mem_append] at hx
  rcases hx with h | h
  · obtain ⟨s, hs, hxs⟩ := List.mem_flatMap.mp h
    have hs' := List.mem_of_mem_take hs
    have := ((mem_slotVals (hi.1.ok s hs').2 x).mp hxs).1
    have := (hi.1.ok s hs').1
    omega
  · obtain ⟨v, hv, rfl⟩ := List.mem_map.mp h
    obtain ⟨e1, e2, e3⟩ := hi.2.2 hp
    have := RIt.rem_lt e2 hv
    have hk := (hi.1.ok _ (slotAt_mem (show ii.posP - 1 < ii.slots.length by have := hi.2.1; omega))).1
    omega

theorem follows : Follows Inv (fun ii => ii.rem.reverse) hasNext next :=
  .ofRev hasNext_iff fun hi _ _ h => let ⟨a, b, c, _⟩ := next_spec hi h; ⟨a, b, c⟩

theorem drain_spec (fuel : Nat) (ii : IntRevIt) (hi : ii.Inv) (hf : ii.rem.length ≤ fuel) :
    (ii.drain fuel).1 = ii.rem.reverse :=
  drain_of_protocol follows (fun n s => (drain n s).1) (fun _ => rfl) (fun _ _ => apply_ite Prod.fst _ _ _) fuel ii hi
    (by rw [List.length_reverse]; exact hf)

/-- C04, `ReverseIterator()`: draining a fresh bitmap-level reverse iterator yields the members of the denoted set, each
once, in decreasing order -/
theorem drain_create (r : Rep) (h : r.wf = true) (fuel : Nat) (hf : BSet.card r.toBSet ≤ fuel) :
    ((create r).drain fuel).1 = (BSet.toList r.toBSet).reverse := by
  obtain ⟨h1, h2⟩ := create_spec r h
  have e := valsOfRep_eq_toList r h
  rw [drain_spec fuel _ h1 (by rw [h2, e, BSet.toList_length]; exact hf), h2, e]

end IntRevIt

end RModel.Impl.It
