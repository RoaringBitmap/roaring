import RModel.Impl.BSI32
import RProofs.BSIShared
/-!
Theorems about the plane-level model of `BitSliceIndexing.BSI` (`RModel/Impl/BSI32.lean`).

For a column `c` the *raw word* `raw b c : Nat` is the unsigned number whose bit `i` (`i < 64`) is the membership of `c` in
plane `i`; planes with index `≥ 64` are never read by the Go code.  `colValue b c = i64 (raw b c)` is the `int64` reading
(bit 63 = two's complement sign) and `value b c : Option Int` adds the existence test: `getValue b c = value b c`
(`getValue_eq`).  `word ps c` is the unbounded word over ALL planes: `Add` / `Increment` are additions of such words (a carry
may leave plane 63), reduced modulo `2^64` only when the result is read.

Every operation of the model is described by what `getValue` returns after it, under the invariant `WF` (canonical finite
sets, planes ⊆ existence set), which every operation preserves.  The upward plane loops are `List.mapIdx`s (`mapIdx_of_rec`), so
a plane of the result is read off with `getD_mapIdx`.  The downward walk of `compareColumn` is the unsigned comparison of the
words with bit 63 flipped (the verdict is inverted on the sign plane), and flipping bit 63 turns the `int64` order into the
`uint64` order.  `Sum`, `Add` and `Increment` are congruences modulo `2^64` between the plane arithmetic and the `int64` values.
Three operations are instances of others and inherit their theorems: on a well-formed index `SetValue(c, v)` is
`SetMany({c}, v)` and `Clone` is the identity; `Increment(f)` is `Add` of the index holding `1` on `f`.
The examples at the end evaluate the model on concrete indexes (`decide +kernel`).
`col`, `encN`, `Sub` and the lemmas about `Inside`, `Store`, the match trie and the other notions shared with the 64-bit index stand in
`RProofs/BSIShared.lean`, the canonical finite sets `Good` in `RProofs/BSetQuery.lean`.
-/
open RModel.Util
namespace RModel.BSI32
open RModel.BSet
open RModel.BSI (Good Sub col encN good_nil good_union good_inter good_diff good_single sub_nil sub_refl sub_right_union sub_xor sub_inter
  inside_left_union inside_right_union inside_sweep inside_write inside_replicate_nil inside_append_nil getD_mapIdx forall_mem_mapIdx isum isum_add isum_mul isum_ind isum_zero isum_congr)

/-! ### scalar facts -/

theorem u64_lt (v : Int) : u64 v < 18446744073709551616 := by
  simp only [u64]; omega

theorem u64_cast (v : Int) : ((u64 v : Nat) : Int) = v % 18446744073709551616 := by
  simp only [u64]; omega

theorem i64_range (n : Nat) : min64 ≤ i64 n ∧ i64 n ≤ max64 := by
  simp only [i64, min64, max64]
  by_cases h : n % 18446744073709551616 < 9223372036854775808
  · rw [if_pos h]; omega
  · rw [if_neg h]; omega

theorem i64_cong (n : Nat) : ∃ q : Int, i64 n = (n : Int) + q * 18446744073709551616 := by
  simp only [i64]
  by_cases h : n % 18446744073709551616 < 9223372036854775808
  · rw [if_pos h]; exact ⟨-((n / 18446744073709551616 : Nat) : Int), by omega⟩
  · rw [if_neg h]; exact ⟨-((n / 18446744073709551616 : Nat) : Int) - 1, by omega⟩

theorem i64_u64 (v : Int) (h1 : min64 ≤ v) (h2 : v ≤ max64) : i64 (u64 v) = v := by
  obtain ⟨q, hq⟩ := i64_cong (u64 v)
  have hr := i64_range (u64 v)
  have hu := u64_cast v
  simp only [min64, max64] at h1 h2 hr
  omega

theorem u64_i64 (n : Nat) (h : n < 18446744073709551616) : u64 (i64 n) = n := by
  obtain ⟨q, hq⟩ := i64_cong n
  have hu := u64_cast (i64 n)
  omega

theorem u64_lt_u64 (n v : Int) (h0 : 0 ≤ n) (h : n < v) (hv : v ≤ max64) : u64 n < u64 v := by
  simp only [u64, max64] at *
  omega

theorem bit64_eq (v : Int) (i : Nat) : bit64 v i = (u64 v).testBit i := by
  simp only [bit64]
  by_cases h : i < 64
  · simp [h]
  · have : u64 v < 2 ^ i := by
      have h1 := u64_lt v
      have : (2 : Nat) ^ 64 ≤ 2 ^ i := Nat.pow_le_pow_right (by decide) (by omega)
      omega
    simp [h, Nat.testBit_lt_two_pow this]

theorem lt_two_pow_len64 (v : Int) : u64 v < 2 ^ len64 v := by
  simp only [len64]
  split
  · simp [*]
  · exact Nat.lt_log2_self

theorem len64_le_64 (v : Int) : len64 v ≤ 64 := by
  simp only [len64]
  split
  · omega
  · rename_i h
    have h1 := u64_lt v
    have : (u64 v).log2 < 64 := (Nat.log2_lt h).mpr (by simpa using h1)
    omega

/-! ### raw words -/

/-- the unsigned 64-bit word of column `c`: bit `i < 64` = membership in plane `i` -/
def raw (b : Index) (c : Nat) : Nat := encN ((col b.planes c).take 64)

/-- the `int64` stored in the planes for column `c` (whether or not the column exists) -/
def colValue (b : Index) (c : Nat) : Int := i64 (raw b c)

/-- the abstraction: the partial map `column → int64` denoted by an index -/
def value (b : Index) (c : Nat) : Option Int := if mem b.ebm c then some (colValue b c) else none

theorem encN_take_lt (l : List Bool) (n : Nat) : encN (l.take n) < 2 ^ n := by
  have h := RModel.BSI.encN_lt (l.take n)
  have : (2 : Nat) ^ (l.take n).length ≤ 2 ^ n := Nat.pow_le_pow_right (by decide) (by simp; omega)
  omega

theorem raw_lt (b : Index) (c : Nat) : raw b c < 18446744073709551616 := encN_take_lt _ 64

theorem testBit_raw (b : Index) (c i : Nat) :
    (raw b c).testBit i = (decide (i < 64) && mem (b.planes.getD i []) c) := by
  rw [raw, RModel.BSI.testBit_encN, getD_take, RModel.BSI.getD_col]

theorem orBits_eq (c : Nat) : ∀ (ps : List BSet) (i : Nat),
    orBits c ps i = 2 ^ i * encN ((col ps c).take (64 - i))
  | [], i => by simp [orBits, encN]
  | p :: ps, i => by
    rw [orBits, orBits_eq c ps (i + 1)]
    by_cases h : i < 64
    · rw [show 64 - i = (64 - (i + 1)) + 1 by omega, RModel.BSI.col_cons, List.take_succ_cons, encN, Nat.pow_succ,
        decide_eq_true h, Bool.and_true, Nat.mul_add, Nat.mul_assoc]
      cases mem p c <;>
        simp only [Bool.false_eq_true, if_true, if_false, Bool.toNat_true, Bool.toNat_false, Nat.mul_one, Nat.mul_zero]
    · rw [show 64 - i = 0 by omega, show 64 - (i + 1) = 0 by omega, decide_eq_false h, Bool.and_false]
      rfl

/-- `GetValue` reads the abstraction. -/
theorem getValue_eq (b : Index) (c : Nat) : getValue b c = value b c := by
  simp only [getValue, value, colValue, raw, orBits_eq]
  cases mem b.ebm c <;> simp

theorem getValueD_eq (b : Index) (c : Nat) : getValueD b c = if mem b.ebm c then colValue b c else 0 := by
  simp only [getValueD, getValue_eq, value]
  cases mem b.ebm c <;> simp

theorem colValue_range (b : Index) (c : Nat) : min64 ≤ colValue b c ∧ colValue b c ≤ max64 := i64_range _

theorem u64_colValue (b : Index) (c : Nat) : u64 (colValue b c) = raw b c := u64_i64 _ (raw_lt b c)

theorem getValue_some (b : Index) (c : Nat) (v : Int) (h : getValue b c = some v) :
    mem b.ebm c = true ∧ colValue b c = v ∧ u64 v = raw b c := by
  rw [getValue_eq, value] at h
  split at h
  · rename_i he
    cases h
    exact ⟨he, rfl, u64_colValue b c⟩
  · cases h

theorem raw_inj (a b : Index) (c c' : Nat) (h : colValue a c = colValue b c') : raw a c = raw b c' := by
  rw [← u64_colValue, ← u64_colValue, h]

/-- only the first 64 planes enter the raw word -/
theorem raw_congr (b b' : Index) (c c' : Nat)
    (h : ∀ i, i < 64 → mem (b.planes.getD i []) c = mem (b'.planes.getD i []) c') : raw b c = raw b' c' := by
  apply Nat.eq_of_testBit_eq
  intro i
  rw [testBit_raw, testBit_raw]
  by_cases hi : i < 64
  · rw [h i hi]
  · simp [hi]

theorem getValue_congr (b b' : Index) (c : Nat) (he : mem b.ebm c = mem b'.ebm c)
    (h : ∀ i, i < 64 → mem (b.planes.getD i []) c = mem (b'.planes.getD i []) c) : getValue b c = getValue b' c := by
  rw [getValue_eq, getValue_eq, value, value, colValue, colValue, he, raw_congr b b' c c h]

/-! ### the invariant -/

structure WF (b : Index) : Prop where
  ebm : Good b.ebm
  planes : ∀ p ∈ b.planes, Good p
  sub : ∀ p ∈ b.planes, ∀ x, mem p x = true → mem b.ebm x = true

theorem WF.getD_good {b : Index} (h : WF b) (i : Nat) : Good (b.planes.getD i []) :=
  BSI.good_getD _ h.planes i

theorem WF.getD_sub {b : Index} (h : WF b) (i x : Nat) (hx : mem (b.planes.getD i []) x = true) :
    mem b.ebm x = true :=
  BSI.getD_of_forall _ (fun p => ∀ x, mem p x = true → mem b.ebm x = true) h.sub (by simp) i x hx

/-- `BSI.Inside` with `Sub` unfolded: the `inside_*` and `sub_*` lemmas of `BSIShared.lean` apply to it as they stand -/
def Inside (E : BSet) (ps : List BSet) : Prop := ∀ p ∈ ps, Good p ∧ ∀ x, mem p x = true → mem E x = true

theorem WF.inside {b : Index} (h : WF b) : Inside b.ebm b.planes := fun p hp => ⟨h.planes p hp, h.sub p hp⟩

theorem wf_of_inside (b : Index) (he : Good b.ebm) (h : Inside b.ebm b.planes) : WF b :=
  ⟨he, fun p hp => (h p hp).1, fun p hp => (h p hp).2⟩

/-- the set `CompareValue`, `MinMax`, `Sum`, `Increment` iterate: the found set, the existence set when nil -/
theorem good_found (b : Index) (h : WF b) (found : Option BSet) (hf : ∀ f, found = some f → Good f) :
    Good (found.getD b.ebm) := RModel.BSI.found_getD _ h.ebm found hf

theorem raw_absent (b : Index) (h : WF b) (c : Nat) (hc : mem b.ebm c = false) : raw b c = 0 := by
  rw [raw, RModel.BSI.col_absent _ _ h.inside c hc, List.take_replicate, RModel.BSI.encN_replicate_false]

theorem colValue_absent (b : Index) (h : WF b) (c : Nat) (hc : mem b.ebm c = false) : colValue b c = 0 := by
  simp [colValue, raw_absent b h c hc, i64]

theorem getValueD_eq_colValue (b : Index) (h : WF b) (c : Nat) : getValueD b c = colValue b c := by
  rw [getValueD_eq]
  cases hc : mem b.ebm c
  · simp [colValue_absent b h c hc]
  · simp

theorem wf_new (mx mn : Int) : WF (new mx mn) :=
  wf_of_inside _ good_nil (inside_replicate_nil _ _)

theorem getValue_new (mx mn : Int) (c : Nat) : getValue (new mx mn) c = none := by
  simp [getValue_eq, value, new]

/-! ### `SetMany` -/

theorem widen_length (b : Index) (v : Int) :
    (widen b v).length = if auto b then max b.planes.length (len64 v) else b.planes.length := by
  simp only [widen]
  split
  · simp; omega
  · rfl

theorem getD_widen (b : Index) (v : Int) (i : Nat) : (widen b v).getD i [] = b.planes.getD i [] := by
  simp only [widen]
  split
  · exact getD_append_replicate _ _ _ _
  · rfl

theorem wf_widen (b : Index) (h : WF b) (v : Int) (p : BSet) (hp : p ∈ widen b v) :
    Good p ∧ ∀ x, mem p x = true → mem b.ebm x = true := by
  simp only [widen] at hp
  split at hp
  · exact inside_append_nil _ _ _ h.inside p hp
  · exact h.inside p hp

theorem writeMany_eq (f : BSet) (v : Int) : ∀ (ps : List BSet) (i : Nat),
    writeMany f v ps i = ps.mapIdx (fun k p => if bit64 v (i + k) then union p f else diff p f) :=
  RModel.BSI.mapIdx_of_rec (writeMany f v) (fun k p => if bit64 v k then union p f else diff p f) (fun _ => rfl) (fun _ _ _ => rfl)

@[simp] theorem writeMany_length (f : BSet) (v : Int) : ∀ (ps : List BSet) (i : Nat),
    (writeMany f v ps i).length = ps.length :=
  fun ps i => by rw [writeMany_eq, List.length_mapIdx]

theorem getD_writeMany (f : BSet) (hf : SInc f) (v : Int) (ps : List BSet) (i k : Nat) (h : ∀ p ∈ ps, SInc p) (x : Nat) :
    mem ((writeMany f v ps i).getD k []) x =
      if mem f x then (decide (k < ps.length) && bit64 v (i + k)) else mem (ps.getD k []) x := by
  rw [writeMany_eq, getD_mapIdx]
  by_cases hk : k < ps.length
  · have hp := RModel.BSI.sinc_getD ps h k
    generalize ps.getD k [] = p at hp ⊢
    cases bit64 v (i + k) <;> cases hm : mem f x <;> simp [hk, hm, mem_union, mem_diff, hp, hf]
  · simp [hk]

theorem wf_setMany (b : Index) (h : WF b) (f : BSet) (hf : Good f) (v : Int) : WF (setMany b f v) := by
  apply wf_of_inside _ (good_union _ _ h.ebm hf)
  show Inside (union b.ebm f) (writeMany f v (widen b v) 0)
  rw [writeMany_eq]
  exact inside_write _ f (sub_right_union _ _ f h.ebm.1 hf.1 (sub_refl f hf)) _ _
    (inside_left_union _ _ _ h.ebm.1 hf.1 (wf_widen b h v))

theorem raw_of_bits (b : Index) (c : Nat) (v : Int) (L : Nat)
    (h : ∀ i, i < 64 → mem (b.planes.getD i []) c = (decide (i < L) && bit64 v i)) : raw b c = u64 v % 2 ^ L := by
  apply Nat.eq_of_testBit_eq
  intro i
  rw [testBit_raw, Nat.testBit_mod_two_pow, ← bit64_eq]
  by_cases hi : i < 64
  · rw [h i hi, decide_eq_true hi, Bool.true_and]
  · simp [bit64, hi]

theorem mem_setMany_plane (b : Index) (h : WF b) (f : BSet) (hf : Good f) (v : Int) (k x : Nat) :
    mem ((setMany b f v).planes.getD k []) x =
      if mem f x then (decide (k < (widen b v).length) && bit64 v k) else mem (b.planes.getD k []) x := by
  show mem ((writeMany f v (widen b v) 0).getD k []) x = _
  rw [getD_writeMany f hf.1 v _ 0 k (fun p hp => (wf_widen b h v p hp).1.1) x, Nat.zero_add, getD_widen]

/-- `SetMany`: the columns of the found set get the (truncated) value, all others keep theirs. -/
theorem get_setMany (b : Index) (h : WF b) (f : BSet) (hf : Good f) (v : Int) (c : Nat) :
    getValue (setMany b f v) c =
      if mem f c then some (i64 (u64 v % 2 ^ (widen b v).length)) else getValue b c := by
  have he : mem (setMany b f v).ebm c = (mem b.ebm c || mem f c) := mem_union _ _ h.ebm.1 hf.1 c
  cases hm : mem f c
  · exact getValue_congr _ _ c (by rw [he, hm, Bool.or_false]) (fun i _ => by rw [mem_setMany_plane b h f hf, hm]; rfl)
  · have hr : raw (setMany b f v) c = u64 v % 2 ^ (widen b v).length :=
      raw_of_bits _ c v _ (fun i _ => by rw [mem_setMany_plane b h f hf, hm, if_pos rfl])
    rw [getValue_eq, value, he, hm, Bool.or_true, if_pos rfl, colValue, hr]
    rfl

/-! ### `SetValue(c, v)` is `SetMany({c}, v)` -/

/-- on planes inside the existence set `E` the point write is the set write at `{c}`: `Add` / `Remove` are `Or` / `AndNot` with the
one-column set, and where the column is new the Go code skips a `Remove` that would find nothing -/
theorem writeBits_eq_writeMany (E : BSet) (c : Nat) (v : Int) : ∀ (ps : List BSet) (i : Nat), Inside E ps →
    writeBits (mem E c) c v ps i = writeMany (single c) v ps i
  | [], _, _ => rfl
  | p :: ps, i, h => by
    obtain ⟨hp, hps⟩ := List.forall_mem_cons.mp h
    rw [writeBits, writeMany, writeBits_eq_writeMany E c v ps (i + 1) hps]
    congr 1
    cases hb : bit64 v i
    · cases he : mem E c
      · have : mem p c = false := by
          cases hm : mem p c
          · rfl
          · rw [hp.2 c hm] at he; cases he
        exact (remove_eq_self p hp.1 c this).symm
      · rfl
    · rfl

theorem setValue_eq_setMany (b : Index) (h : WF b) (c : Nat) (v : Int) : setValue b c v = setMany b (single c) v := by
  rw [setValue, setMany, writeBits_eq_writeMany b.ebm c v _ 0 (wf_widen b h v)]; rfl

theorem wf_setValue (b : Index) (h : WF b) (c : Nat) (v : Int) : WF (setValue b c v) :=
  setValue_eq_setMany b h c v ▸ wf_setMany b h _ (good_single c) v

theorem exists_set (b : Index) (h : WF b) (c c' : Nat) (v : Int) :
    mem (setValue b c v).ebm c' = true ↔ c' = c ∨ mem b.ebm c' = true := by
  show mem (add b.ebm c) c' = true ↔ _
  rw [mem_add _ h.ebm.1]
  simp [Bool.or_eq_true, or_comm]

theorem mem_setValue_plane (b : Index) (h : WF b) (c : Nat) (v : Int) (k x : Nat) :
    mem ((setValue b c v).planes.getD k []) x =
      if x = c then (decide (k < (widen b v).length) && bit64 v k) else mem (b.planes.getD k []) x := by
  rw [setValue_eq_setMany b h, mem_setMany_plane b h _ (good_single c), mem_single]
  by_cases e : x = c <;> simp [e]

/-- `SetValue` then `GetValue` on the same column returns the value truncated to
the width of the index (after auto-sizing), read as an `int64`. -/
theorem get_set_same_gen (b : Index) (h : WF b) (c : Nat) (v : Int) :
    getValue (setValue b c v) c = some (i64 (u64 v % 2 ^ (widen b v).length)) := by
  rw [setValue_eq_setMany b h, get_setMany b h _ (good_single c), mem_single, decide_eq_true rfl, if_pos rfl]

/-- every `int64` written to an auto-sized index, and every `int64` whose `uint64` pattern fits the
planes of a fixed-width index (in particular EVERY `int64` when the index has 64 planes, i.e. was declared with a
negative bound), is read back exactly. -/
theorem get_set_same (b : Index) (h : WF b) (c : Nat) (v : Int) (h1 : min64 ≤ v) (h2 : v ≤ max64)
    (hfit : auto b = true ∨ len64 v ≤ b.planes.length) :
    getValue (setValue b c v) c = some v := by
  rw [get_set_same_gen b h]
  have hl : len64 v ≤ (widen b v).length := by
    rw [widen_length]
    rcases hfit with ha | hl
    · simp [ha]; omega
    · split <;> omega
  have h3 := lt_two_pow_len64 v
  have : u64 v < 2 ^ (widen b v).length :=
    Nat.lt_of_lt_of_le h3 (Nat.pow_le_pow_right (by decide) hl)
  rw [Nat.mod_eq_of_lt this, i64_u64 v h1 h2]

/-- every other column keeps its value (also when the write widens the index). -/
theorem get_set_other (b : Index) (h : WF b) (c c' : Nat) (hc : c' ≠ c) (v : Int) :
    getValue (setValue b c v) c' = getValue b c' := by
  rw [setValue_eq_setMany b h, get_setMany b h _ (good_single c), mem_single, decide_eq_false hc]; rfl

/-! ### the index is the finite map of its updates -/

/-- `BSI.lastWrite` (equal by `rfl`), which is what `Store.foldl_lastWrite` speaks of -/
def lastWrite (us : List (Nat × Int)) (c : Nat) (init : Option Int) : Option Int :=
  us.foldl (fun acc u => if u.1 = c then some u.2 else acc) init

/-- the auto-sized 32-bit index as a store of `int64`s -/
def store : RModel.BSI.Store Index where
  set := setValue
  get := getValue
  I := fun b => WF b ∧ auto b = true
  P := fun v => min64 ≤ v ∧ v ≤ max64
  inv := fun b c v h => ⟨wf_setValue b h.1 c v, h.2⟩
  same := fun b c v h hv => get_set_same b h.1 c v hv.1 hv.2 (Or.inl h.2)
  other := fun b c c' v h hc => get_set_other b h.1 c c' hc v

/-- the index is the finite map of its updates: after any sequence of `SetValue`s of `int64` values on a fresh auto-sized index,
`GetValue` returns the last value written to the column, if any. -/
theorem get_foldl_setValue (us : List (Nat × Int)) (hus : ∀ u ∈ us, min64 ≤ u.2 ∧ u.2 ≤ max64) (c : Nat) :
    getValue (us.foldl (fun b (c, v) => setValue b c v) newDefault) c = lastWrite us c none :=
  ((store.foldl_lastWrite us _ ⟨wf_new 0 0, rfl⟩).2 hus c).trans (congrArg _ (getValue_new 0 0 c))

theorem wf_foldl_setValue (us : List (Nat × Int)) :
    WF (us.foldl (fun b (c, v) => setValue b c v) newDefault) :=
  (store.foldl_lastWrite us _ ⟨wf_new 0 0, rfl⟩).1.1

/-! ### `ClearValues`, `NewBSIRetainSet`, `Clone` -/

theorem wf_clearValues (b : Index) (h : WF b) (f : BSet) (hf : Good f) : WF (clearValues b f) :=
  wf_of_inside _ (good_diff _ _ h.ebm hf) (inside_sweep _ _ rfl rfl (by decide) _ f _ h.ebm hf h.inside)

theorem wf_retainSet (b : Index) (h : WF b) (f : BSet) (hf : Good f) : WF (retainSet b f) :=
  wf_of_inside _ (good_inter _ _ h.ebm hf) (inside_sweep _ _ rfl rfl (by decide) _ f _ h.ebm hf h.inside)

/-- the cleared columns disappear, every other column keeps its value. -/
theorem get_clearValues (b : Index) (h : WF b) (f : BSet) (hf : SInc f) (c : Nat) :
    getValue (clearValues b f) c = if mem f c then none else getValue b c := by
  rw [getValue_eq, getValue_eq]
  exact (RModel.BSI.view_map (fun l => i64 (encN (l.take 64))) _ b.ebm b.planes c (!mem f c) (mem_diff _ _ h.ebm.1 hf c)
    (fun p hp => mem_diff _ _ (h.planes p hp).1 hf c)).trans (by cases mem f c <;> rfl)

/-- exactly the columns of `f` survive, with their values. -/
theorem get_retainSet (b : Index) (h : WF b) (f : BSet) (hf : SInc f) (c : Nat) :
    getValue (retainSet b f) c = if mem f c then getValue b c else none := by
  rw [getValue_eq, getValue_eq]
  exact RModel.BSI.view_map (fun l => i64 (encN (l.take 64))) _ b.ebm b.planes c (mem f c) (mem_inter _ _ h.ebm.1 hf c)
    (fun p hp => mem_inter _ _ (h.planes p hp).1 hf c)

/-- the planes of a well-formed index are reproduced exactly by `Clone` (not only the denoted map) -/
theorem clone_planes (b : Index) (h : WF b) : (clone b).planes = b.planes ∧ (clone b).ebm = b.ebm := by
  constructor
  · show b.planes.map (fun p => inter p b.ebm) = b.planes
    rw [List.map_congr_left (fun p hp => RModel.BSI.inter_eq_left p _ (h.planes p hp) h.ebm (h.sub p hp))]; simp
  · exact RModel.BSI.inter_eq_left _ _ h.ebm h.ebm (fun _ hx => hx)

theorem clone_eq (b : Index) (h : WF b) : clone b = b := by
  obtain ⟨h1, h2⟩ := clone_planes b h
  cases b
  simp only [clone, retainSet] at h1 h2 ⊢
  rw [h1, h2]

theorem wf_clone (b : Index) (h : WF b) : WF (clone b) := (clone_eq b h).symm ▸ h

theorem get_clone (b : Index) (h : WF b) (c : Nat) : getValue (clone b) c = getValue b c := by rw [clone_eq b h]

/-! ### `ofSorted` -/

theorem ofSorted_cons (x : Nat) (xs : List Nat) : ∃ t, ofSorted (x :: xs) = x :: t := by
  rw [ofSorted]
  split
  · exact ⟨_, rfl⟩
  · split <;> exact ⟨_, rfl⟩

theorem combine_or_nil : ∀ (a : BSet) (ia : Bool), combine (· || ·) a [] ia false = a
  | [], _ => by rw [combine]
  | x :: a, ia => by rw [combine, combine_or_nil a (!ia)]; cases ia <;> rfl

theorem add_nil (x : Nat) : add [] x = [x, x + 1] := by simp [add, union, single, combine, emit]

/-- `Add(x)` below every boundary puts `[x, x + 1)` in front, fused with an interval that starts at `x + 1` -/
theorem add_below (x lo : Nat) (rest : BSet) (hx : x < lo) :
    add (lo :: rest) x = if lo = x + 1 then x :: rest else x :: (x + 1) :: lo :: rest := by
  rw [add, union, single, combine, if_neg (by omega), if_pos hx, combine, if_neg (by omega)]
  by_cases e : lo = x + 1
  · rw [if_neg (by omega)]; simp [emit, e, combine_or_nil]
  · rw [if_pos (by omega)]; simp [emit, e, combine_or_nil]

/-- `ofSorted` adds the members from the largest down: `ofSorted (x :: xs) = add (ofSorted xs) x` -/
theorem ofSorted_spec : ∀ (l : List Nat), l.Pairwise (· < ·) →
    SInc (ofSorted l) ∧ Even (ofSorted l) ∧ ∀ z, mem (ofSorted l) z = decide (z ∈ l)
  | [], _ => by simp [ofSorted, Even]
  | x :: xs, h => by
    have hp := List.pairwise_cons.mp h
    obtain ⟨ih1, ih2, ih3⟩ := ofSorted_spec xs hp.2
    have hlb : ∀ z ∈ ofSorted xs, x < z := by
      cases xs with
      | nil => exact fun z hz => nomatch hz
      | cons y ys =>
        obtain ⟨t, ht⟩ := ofSorted_cons y ys
        rw [ht] at ih1 ⊢
        exact lt_all_of_lt_head ih1 (hp.1 y List.mem_cons_self)
    have e : ofSorted (x :: xs) = add (ofSorted xs) x := by
      rw [ofSorted]
      cases hs : ofSorted xs with
      | nil => exact (add_nil x).symm
      | cons lo rest => exact (add_below x lo rest (hlb lo (hs ▸ List.mem_cons_self))).symm
    rw [e]
    have hg := RModel.BSI.good_add _ x ⟨ih1, ih2⟩
    exact ⟨hg.1, hg.2, fun z => by rw [mem_add _ ih1, ih3]; simp only [List.mem_cons, Bool.decide_or, Bool.or_comm]⟩

theorem good_ofSorted (l : List Nat) (h : l.Pairwise (· < ·)) : Good (ofSorted l) :=
  ⟨(ofSorted_spec l h).1, (ofSorted_spec l h).2.1⟩

/-! ### `CompareValue` -/

/-- the verdict of `compareColumn`: `-1`, `0`, `1` as `x` is below, equal to, above `y` -/
def cmpInt (x y : Int) : Int := if x < y then -1 else if x = y then 0 else 1

theorem getD_eq_nil_of_le (ps : List BSet) (j : Nat) (h : ps.length ≤ j) : ps.getD j [] = [] := by
  rw [List.getD_eq_getElem?_getD, List.getElem?_eq_none h]; rfl

theorem decide_lt_bitCount_and_mem (b : Index) (c j : Nat) :
    (decide (j < bitCount b) && mem (b.planes.getD j []) c) = mem (b.planes.getD j []) c := by
  by_cases h : j < b.planes.length
  · simp [bitCount, h]
  · rw [getD_eq_nil_of_le _ _ (Nat.le_of_not_lt h)]; simp

theorem cmpInt_of_lt {x y : Int} (h : x < y) : cmpInt x y = -1 := if_pos h

theorem cmpInt_of_gt {x y : Int} (h : y < x) : cmpInt x y = 1 := by
  rw [cmpInt, if_neg (by omega), if_neg (by omega)]

theorem cmpInt_add_right (x y z : Int) : cmpInt (x + z) (y + z) = cmpInt x y := by
  simp only [cmpInt, Int.add_lt_add_iff_right, Int.add_left_inj]

/-- flipping bit 63 turns the `int64` order into the order of the `uint64` patterns -/
theorem i64_flip (x : Nat) (hx : x < 18446744073709551616) :
    ((x ^^^ 2 ^ 63 : Nat) : Int) = i64 x + 9223372036854775808 := by
  rw [nat_xor_two_pow x 63 hx, show (2 : Nat) ^ 63 = 9223372036854775808 by decide]
  simp only [i64, Nat.mod_eq_of_lt hx]
  split <;> split <;> omega

/-- the walk is the unsigned comparison of the words with bit 63 flipped (the verdict is inverted on the sign plane): equal digits
leave the verdict to the lower planes, different digits decide it (the lower parts differ by less than the digit's weight) -/
theorem compareColumn_flip (b : Index) (c : Nat) (k : Int) : ∀ n, n ≤ 64 →
    compareColumn b c k n = cmpInt (((raw b c ^^^ 2 ^ 63) % 2 ^ n : Nat) : Int) (((u64 k ^^^ 2 ^ 63) % 2 ^ n : Nat) : Int)
  | 0, _ => by simp [compareColumn, cmpInt, Nat.mod_one]
  | j + 1, hj => by
    have hs : (decide (j < bitCount b) && mem (b.planes.getD j []) c) = (raw b c).testBit j := by
      rw [decide_lt_bitCount_and_mem, testBit_raw, decide_eq_true (show j < 64 by omega), Bool.true_and]
    -- the plane bit is the bit of the flipped word, flipped back on the sign plane
    have hx : ∀ x : Nat, x.testBit j = ((x ^^^ 2 ^ 63).testBit j != (j == 63)) := fun x => by
      have : decide (63 = j) = (j == 63) := by
        by_cases e : j = 63
        · subst e; rfl
        · rw [decide_eq_false (fun h => e h.symm), beq_false_of_ne e]
      rw [Nat.testBit_xor, Nat.testBit_two_pow, this]
      cases x.testBit j <;> cases (j == 63) <;> rfl
    have hb : ∀ x y s : Bool, ((x != s) == (y != s)) = (x == y) := by decide
    have hb' : ∀ x s : Bool, ((x != s) != s) = x := by decide
    have h1 := Nat.mod_lt (raw b c ^^^ 2 ^ 63) (Nat.two_pow_pos j)
    have h2 := Nat.mod_lt (u64 k ^^^ 2 ^ 63) (Nat.two_pow_pos j)
    rw [compareColumn, hs, bit64_eq, hx (raw b c), hx (u64 k), hb, hb', compareColumn_flip b c k j (by omega),
      mod_succ_testBit, mod_succ_testBit, Int.natCast_add, Int.natCast_add]
    generalize (raw b c ^^^ 2 ^ 63) % 2 ^ j = a at *
    generalize (u64 k ^^^ 2 ^ 63) % 2 ^ j = a' at *
    cases (raw b c ^^^ 2 ^ 63).testBit j <;> cases (u64 k ^^^ 2 ^ 63).testBit j
    · exact (cmpInt_add_right _ _ _).symm
    · exact (cmpInt_of_lt (by simp only [Bool.toNat_true, Bool.toNat_false, Nat.mul_zero, Nat.mul_one]; omega)).symm
    · exact (cmpInt_of_gt (by simp only [Bool.toNat_true, Bool.toNat_false, Nat.mul_zero, Nat.mul_one]; omega)).symm
    · exact (cmpInt_add_right _ _ _).symm

theorem compareColumn_spec (b : Index) (c : Nat) (k : Int) (h1 : min64 ≤ k) (h2 : k ≤ max64) :
    compareColumn b c k 64 = cmpInt (colValue b c) k := by
  have p : (2 : Nat) ^ 64 = 18446744073709551616 := by decide
  rw [compareColumn_flip b c k 64 (Nat.le_refl _),
    Nat.mod_eq_of_lt (Nat.xor_lt_two_pow (p ▸ raw_lt b c) (by decide)),
    Nat.mod_eq_of_lt (Nat.xor_lt_two_pow (p ▸ u64_lt k) (by decide)),
    i64_flip _ (raw_lt b c), i64_flip _ (u64_lt k), cmpInt_add_right, i64_u64 k h1 h2]
  rfl

def pred (op : Op) (v k k2 : Int) : Prop :=
  match op with
  | .LT => v < k
  | .LE => v ≤ k
  | .EQ => v = k
  | .GE => v ≥ k
  | .GT => v > k
  | .RANGE => k ≤ v ∧ v ≤ k2

theorem cmpInt_lt (x y : Int) : cmpInt x y < 0 ↔ x < y := by
  simp only [cmpInt]; split <;> (try split) <;> omega

theorem cmpInt_le (x y : Int) : cmpInt x y ≤ 0 ↔ x ≤ y := by
  simp only [cmpInt]; split <;> (try split) <;> omega

theorem cmpInt_eq (x y : Int) : cmpInt x y = 0 ↔ x = y := by
  simp only [cmpInt]; split <;> (try split) <;> omega

theorem cmpInt_ge (x y : Int) : cmpInt x y ≥ 0 ↔ x ≥ y := by
  simp only [cmpInt]; split <;> (try split) <;> omega

theorem cmpInt_gt (x y : Int) : cmpInt x y > 0 ↔ x > y := by
  simp only [cmpInt]; split <;> (try split) <;> omega

theorem keep_spec (b : Index) (op : Op) (k k2 : Int) (c : Nat)
    (hk : min64 ≤ k ∧ k ≤ max64) (hk2 : min64 ≤ k2 ∧ k2 ≤ max64) :
    keep b op k k2 c = true ↔ pred op (colValue b c) k k2 := by
  simp only [keep, compareColumn_spec b c k hk.1 hk.2, compareColumn_spec b c k2 hk2.1 hk2.2]
  cases op <;>
    simp only [pred, decide_eq_true_eq, Bool.and_eq_true, cmpInt_lt, cmpInt_le, cmpInt_eq, cmpInt_ge, cmpInt_gt]

theorem good_compareValue (b : Index) (h : WF b) (op : Op) (k k2 : Int) (found : Option BSet)
    (hf : ∀ f, found = some f → Good f) : Good (compareValue b op k k2 found) := by
  have hg := good_found b h found hf
  exact good_ofSorted _ ((toList_sorted _ hg.1 hg.2).filter _)

/-- for each of the six operations and every `int64` constant(s), `CompareValue` returns exactly the
columns of the found set (the existence set when nil) whose stored `int64` — negative values included — satisfies the
comparison.  (A column of an explicit found set that has no value counts with the all-zero word, i.e. as `0`:
`colValue_absent`.) -/
theorem compare_spec (b : Index) (h : WF b) (op : Op) (k k2 : Int) (found : Option BSet)
    (hf : ∀ f, found = some f → Good f) (hk : min64 ≤ k ∧ k ≤ max64) (hk2 : min64 ≤ k2 ∧ k2 ≤ max64) (c : Nat) :
    mem (compareValue b op k k2 found) c = true ↔
      mem (found.getD b.ebm) c = true ∧ pred op (colValue b c) k k2 := by
  have hg := good_found b h found hf
  rw [compareValue, (ofSorted_spec _ ((toList_sorted _ hg.1 hg.2).filter _)).2.2, decide_eq_true_eq, List.mem_filter,
    mem_toList _ hg.1 hg.2, keep_spec b op k k2 c hk hk2]

/-- the same in terms of `GetValue`, for found sets inside the existence set (outside it `GetValue` reports no value where
`compareColumn` sees `0`) -/
theorem compare_spec_get (b : Index) (h : WF b) (op : Op) (k k2 : Int) (found : Option BSet)
    (hf : ∀ f, found = some f → Good f ∧ ∀ x, mem f x = true → mem b.ebm x = true)
    (hk : min64 ≤ k ∧ k ≤ max64) (hk2 : min64 ≤ k2 ∧ k2 ≤ max64) (c : Nat) :
    mem (compareValue b op k k2 found) c = true ↔
      mem (found.getD b.ebm) c = true ∧ ∃ v, getValue b c = some v ∧ pred op v k k2 := by
  rw [compare_spec b h op k k2 found (fun f e => (hf f e).1) hk hk2]
  constructor
  · rintro ⟨h1, h2⟩
    refine ⟨h1, colValue b c, ?_, h2⟩
    have : mem b.ebm c = true := by
      cases found with
      | none => exact h1
      | some f => exact (hf f rfl).2 c h1
    simp [getValue_eq, value, this]
  · rintro ⟨h1, v, h2, h3⟩
    exact ⟨h1, (getValue_some b c v h2).2.1 ▸ h3⟩

/-! ### `MinMax` -/

theorem minMaxStep_eq (isMax : Bool) (a x : Int) : minMaxStep isMax a x = if isMax then max a x else min a x := by
  cases isMax <;>
    simp only [minMaxStep, Bool.true_and, Bool.false_and, Bool.not_true, Bool.not_false, Bool.false_or, Bool.or_false,
      decide_eq_true_eq, Bool.false_eq_true, if_true, if_false] <;>
    split <;> omega

/-- the reduction returns its start value or the value of some column, and bounds the start value and every column -/
theorem foldl_minMax (isMax : Bool) (g : Nat → Int) : ∀ (L : List Nat) (init : Int),
    (L.foldl (fun acc c => minMaxStep isMax acc (g c)) init = init ∨
      ∃ c ∈ L, g c = L.foldl (fun acc c => minMaxStep isMax acc (g c)) init) ∧
    (if isMax then init ≤ L.foldl (fun acc c => minMaxStep isMax acc (g c)) init
      else L.foldl (fun acc c => minMaxStep isMax acc (g c)) init ≤ init) ∧
    ∀ c ∈ L, if isMax then g c ≤ L.foldl (fun acc c => minMaxStep isMax acc (g c)) init
      else L.foldl (fun acc c => minMaxStep isMax acc (g c)) init ≤ g c
  | [], init => by cases isMax <;> simp
  | a :: t, init => by
    obtain ⟨ih1, ih2, ih3⟩ := foldl_minMax isMax g t (minMaxStep isMax init (g a))
    simp only [List.foldl_cons]
    generalize t.foldl (fun acc c => minMaxStep isMax acc (g c)) (minMaxStep isMax init (g a)) = r at ih1 ih2 ih3
    have hs := minMaxStep_eq isMax init (g a)
    generalize minMaxStep isMax init (g a) = m at hs ih1 ih2
    cases isMax <;> simp only [if_true, if_false, Bool.false_eq_true] at hs ih2 ih3 ⊢
    all_goals
      refine ⟨?_, by omega, List.forall_mem_cons.mpr ⟨by omega, ih3⟩⟩
      rcases ih1 with e | ⟨c, hc, e⟩
      · by_cases hm : m = init
        · exact Or.inl (e.trans hm)
        · exact Or.inr ⟨a, List.mem_cons_self, by omega⟩
      · exact Or.inr ⟨c, List.mem_cons_of_mem _ hc, e⟩

theorem getValueD_range (b : Index) (c : Nat) : min64 ≤ getValueD b c ∧ getValueD b c ≤ max64 := by
  rw [getValueD_eq]
  split
  · exact colValue_range b c
  · simp [min64, max64]

/-- over a non-empty candidate set (found set, or the existence set when nil) `MinMax` returns the
value of some candidate column, and it is the greatest (`MAX`) / least (`MIN`) of the candidates' values; values are
the `int64`s `GetValue` returns (two's complement, negative values included). -/
theorem minMax_spec (b : Index) (h : WF b) (isMax : Bool) (found : Option BSet)
    (hf : ∀ f, found = some f → Good f) (c0 : Nat) (hc0 : mem (found.getD b.ebm) c0 = true) :
    (∃ c, mem (found.getD b.ebm) c = true ∧ getValueD b c = minMax b isMax found) ∧
    ∀ c, mem (found.getD b.ebm) c = true →
      if isMax then getValueD b c ≤ minMax b isMax found else minMax b isMax found ≤ getValueD b c := by
  have hg := good_found b h found hf
  have hm : ∀ c, c ∈ toList (found.getD b.ebm) ↔ mem (found.getD b.ebm) c = true := fun c => mem_toList _ hg.1 hg.2 c
  obtain ⟨k1, -, k3⟩ := foldl_minMax isMax (getValueD b) (toList (found.getD b.ebm)) (if isMax then min64 else max64)
  simp only [minMax]
  generalize (toList (found.getD b.ebm)).foldl (fun acc c => minMaxStep isMax acc (getValueD b c))
    (if isMax then min64 else max64) = r at k1 k3
  refine ⟨?_, fun c hc => k3 c ((hm c).mpr hc)⟩
  rcases k1 with e | ⟨c, hc, e⟩
  · -- the reduction never left the sentinel: the candidate `c0` holds the sentinel's value
    refine ⟨c0, hc0, ?_⟩
    have h0 := k3 c0 ((hm c0).mpr hc0)
    have hr0 := getValueD_range b c0
    cases isMax <;> simp only [if_true, if_false, Bool.false_eq_true] at h0 e <;> omega
  · exact ⟨c, (hm c).mp hc, e⟩

/-- an empty candidate set yields the sentinel -/
theorem minMax_empty (b : Index) (isMax : Bool) (found : Option BSet) (he : found.getD b.ebm = []) :
    minMax b isMax found = if isMax then min64 else max64 := by
  simp [minMax, he, toList]

/-! ### `Sum` -/

theorem encN_mod (l : List Bool) (n : Nat) : encN l % 2 ^ n = encN (l.take n) := by
  apply Nat.eq_of_testBit_eq
  intro i
  rw [Nat.testBit_mod_two_pow, RModel.BSI.testBit_encN, RModel.BSI.testBit_encN, getD_take]

/-- the wrapped plane sum is congruent to the sum of the full column words -/
theorem sumLoop_mod (f : BSet) (hf : Good f) : ∀ (ps : List BSet) (i : Nat), (∀ p ∈ ps, Good p) →
    ((sumLoop f ps i : Nat) : Int) % 18446744073709551616 =
      isum (toList f) (fun c => (2 : Int) ^ i * (encN (col ps c) : Nat)) % 18446744073709551616
  | [], i, _ => by
    rw [sumLoop, isum_congr _ (fun c => (2 : Int) ^ i * (encN (col [] c) : Nat)) (fun _ => 0) (fun c _ => Int.mul_zero _),
      isum_zero]
    rfl
  | p :: ps, i, h => by
    obtain ⟨hp, hps⟩ := List.forall_mem_cons.mp h
    have ih := sumLoop_mod f hf ps (i + 1) hps
    have e1 : isum (toList f) (fun c => (2 : Int) ^ i * (encN (col (p :: ps) c) : Nat)) =
        2 ^ i * ((toList f).countP (fun c => mem p c) : Int) +
          isum (toList f) (fun c => (2 : Int) ^ (i + 1) * (encN (col ps c) : Nat)) := by
      rw [← isum_ind, ← isum_mul, ← isum_add]
      apply isum_congr; intro c _
      rw [RModel.BSI.col_cons, encN, Int.pow_succ, Int.natCast_add, Int.natCast_mul, Int.mul_add, Int.mul_assoc]
      cases mem p c <;> rfl
    have hA : ((List.countP (fun c => mem p c) (toList f) * 2 ^ i : Nat) : Int) =
        2 ^ i * (List.countP (fun c => mem p c) (toList f) : Int) := by
      rw [Int.natCast_mul, Int.natCast_pow, Int.mul_comm]; rfl
    -- the loop adds `|f ∩ p| * 2^i` and reduces modulo `2^64`; both sides are now sums of the same terms under `%`
    rw [sumLoop, e1, RModel.BSI.card_inter_eq_countP _ _ hf hp]
    omega

theorem i64_mod (n : Nat) : i64 (n % 18446744073709551616) = i64 n := by
  simp only [i64, Nat.mod_mod]

/-- wrap-around of an integer into the `int64` range (`int64` arithmetic in Go) -/
def wrap (z : Int) : Int := i64 (u64 z)

theorem i64_eq_wrap (n : Nat) (z : Int) (h : (n : Int) % 18446744073709551616 = z % 18446744073709551616) :
    i64 n = wrap z := by
  rw [wrap, ← i64_mod n]
  congr 1
  have := u64_cast z
  omega

theorem wrap_id (z : Int) (h1 : min64 ≤ z) (h2 : z ≤ max64) : wrap z = z := i64_u64 z h1 h2

theorem isum_emod_congr (L : List Nat) (g g' : Nat → Int)
    (h : ∀ c ∈ L, g c % 18446744073709551616 = g' c % 18446744073709551616) :
    isum L g % 18446744073709551616 = isum L g' % 18446744073709551616 := by
  induction L with
  | nil => rfl
  | cons a t ih =>
    show (g a + isum t g) % _ = (g' a + isum t g') % _
    rw [Int.add_emod, h a List.mem_cons_self, ih (fun c hc => h c (List.mem_cons_of_mem _ hc)), ← Int.add_emod]

/-- `Sum(foundSet)` is the `int64` (wrap-around) sum of the values `GetValue` returns over the columns
of the found set (the existence set when nil), and the cardinality of that set. -/
theorem sum_spec (b : Index) (h : WF b) (found : Option BSet) (hf : ∀ f, found = some f → Good f) :
    (sum b found).1 = wrap (((toList (found.getD b.ebm)).map (getValueD b)).sum) ∧
    (sum b found).2 = card (found.getD b.ebm) := by
  have hg := good_found b h found hf
  refine ⟨?_, rfl⟩
  show i64 (sumLoop (found.getD b.ebm) b.planes 0) = _
  apply i64_eq_wrap
  refine (sumLoop_mod _ hg b.planes 0 h.planes).trans (isum_emod_congr _ _ (getValueD b) (fun c _ => ?_))
  rw [getValueD_eq_colValue b h c, colValue]
  obtain ⟨q, hq⟩ := i64_cong (raw b c)
  have hm : encN (col b.planes c) % 18446744073709551616 = raw b c := by
    simpa [raw] using encN_mod (col b.planes c) 64
  rw [hq, Int.pow_zero, Int.one_mul]
  omega

/-- when the true sum is an `int64`, `Sum` returns it -/
theorem sum_exact (b : Index) (h : WF b) (found : Option BSet) (hf : ∀ f, found = some f → Good f)
    (h1 : min64 ≤ ((toList (found.getD b.ebm)).map (getValueD b)).sum)
    (h2 : ((toList (found.getD b.ebm)).map (getValueD b)).sum ≤ max64) :
    (sum b found).1 = ((toList (found.getD b.ebm)).map (getValueD b)).sum := by
  rw [(sum_spec b h found hf).1, wrap_id _ h1 h2]

/-! ### `Add` / `Increment`: ripple-carry addition on the planes -/

theorem encN_append : ∀ (a b : List Bool), encN (a ++ b) = encN a + 2 ^ a.length * encN b
  | [], b => by simp [encN]
  | x :: a, b => by
    rw [List.cons_append, encN, encN_append a b, encN, List.length_cons, Nat.pow_succ]
    grind

theorem word_cons (p : BSet) (ps : List BSet) (c : Nat) : word (p :: ps) c = (mem p c).toNat + 2 * word ps c := rfl

theorem word_append (ps qs : List BSet) (c : Nat) : word (ps ++ qs) c = word ps c + 2 ^ ps.length * word qs c := by
  simp only [word, col, List.map_append, encN_append, List.length_map]

theorem raw_eq_word (b : Index) (c : Nat) : raw b c = word b.planes c % 18446744073709551616 := by
  have := encN_mod (col b.planes c) 64
  simp only [raw, word]
  omega

theorem addCarry_word (c : Nat) : ∀ (ps : List BSet) (f : BSet), (∀ p ∈ ps, Good p) → Good f →
    word (addCarry ps f) c = word ps c + (mem f c).toNat
  | [], f, _, hf => by
    simp only [addCarry, word, RModel.BSI.col_cons, RModel.BSI.col_nil, encN, mem_xor [] f List.Pairwise.nil hf.1]
    cases mem f c <;> simp
  | p :: ps, f, h, hf => by
    obtain ⟨hp, hps⟩ := List.forall_mem_cons.mp h
    have hc := good_inter p f hp hf
    simp only [addCarry]
    split
    · rw [word_cons, addCarry_word c ps _ hps hc, word_cons,
        mem_xor _ _ hp.1 hf.1, mem_inter _ _ hp.1 hf.1]
      cases mem p c <;> cases mem f c <;> simp <;> omega
    · rename_i he
      have he' : inter p f = [] := by simpa [isEmpty] using he
      have : (mem p c && mem f c) = false := by
        rw [← mem_inter _ _ hp.1 hf.1, he']; rfl
      rw [word_cons, word_cons, mem_xor _ _ hp.1 hf.1]
      cases hm : mem p c <;> cases hf' : mem f c <;> simp [hm, hf'] at this ⊢ <;> omega

theorem addDigit_word (c : Nat) (ps : List BSet) (f : BSet) (i : Nat) (hi : i ≤ ps.length)
    (h : ∀ p ∈ ps, Good p) (hf : Good f) :
    word (addDigit ps f i) c = word ps c + 2 ^ i * (mem f c).toNat := by
  have e : word ps c = word (ps.take i) c + 2 ^ i * word (ps.drop i) c := by
    conv => lhs; rw [← List.take_append_drop i ps]
    rw [word_append, List.length_take, Nat.min_eq_left hi]
  rw [addDigit, word_append, List.length_take, Nat.min_eq_left hi,
    addCarry_word c _ f (forall_drop _ _ _ h) hf, e, Nat.mul_add, Nat.add_assoc]

theorem addCarry_length_pos (ps : List BSet) (f : BSet) : 1 ≤ (addCarry ps f).length := by
  cases ps with
  | nil => simp [addCarry]
  | cons p ps => simp only [addCarry]; split <;> simp

theorem addDigit_length (ps : List BSet) (f : BSet) (i : Nat) (hi : i ≤ ps.length) :
    i + 1 ≤ (addDigit ps f i).length := by
  have := addCarry_length_pos (ps.drop i) f
  simp only [addDigit, List.length_append, List.length_take]
  omega

theorem inside_addCarry (E : BSet) : ∀ (ps : List BSet) (f : BSet), Inside E ps → Sub E f → Inside E (addCarry ps f)
  | [], f, _, hf => by
    intro q hq
    rw [addCarry, List.mem_singleton] at hq
    exact hq ▸ sub_xor _ _ _ (sub_nil E) hf
  | p :: ps, f, h, hf => by
    obtain ⟨hp, hrest⟩ := List.forall_mem_cons.mp h
    rw [addCarry]
    split
    · exact List.forall_mem_cons.mpr ⟨sub_xor _ _ _ hp hf, inside_addCarry E ps _ hrest (sub_inter _ _ _ hp hf.1)⟩
    · exact List.forall_mem_cons.mpr ⟨sub_xor _ _ _ hp hf, hrest⟩

theorem inside_addDigit (E : BSet) (ps : List BSet) (f : BSet) (i : Nat) (h : Inside E ps) (hf : Sub E f) :
    Inside E (addDigit ps f i) :=
  List.forall_mem_append.mpr ⟨forall_take _ _ _ h, inside_addCarry E _ f (forall_drop _ _ _ h) hf⟩

theorem addLoop_spec (E : BSet) (c : Nat) : ∀ (qs ps : List BSet) (i : Nat), i ≤ ps.length → Inside E ps → Inside E qs →
    Inside E (addLoop ps qs i) ∧ word (addLoop ps qs i) c = word ps c + 2 ^ i * word qs c
  | [], ps, i, _, h, _ => by simp [addLoop, h, word, encN]
  | q :: qs, ps, i, hi, h, hq => by
    obtain ⟨hq0, hqs⟩ := List.forall_mem_cons.mp hq
    have h1 := inside_addDigit E ps q i h hq0
    have h2 := addDigit_word c ps q i hi (fun p hp => (h p hp).1) hq0.1
    have h3 := addDigit_length ps q i hi
    have ih := addLoop_spec E c qs (addDigit ps q i) (i + 1) h3 h1 hqs
    refine ⟨ih.1, ?_⟩
    rw [addLoop, ih.2, h2, word_cons, Nat.pow_succ]
    grind

theorem inside_union (b o : Index) (h : WF b) (ho : WF o) :
    Inside (union b.ebm o.ebm) b.planes ∧ Inside (union b.ebm o.ebm) o.planes :=
  ⟨inside_left_union _ _ _ h.ebm.1 ho.ebm.1 h.inside, inside_right_union _ _ _ h.ebm.1 ho.ebm.1 ho.inside⟩

theorem wf_addIndex (b o : Index) (h : WF b) (ho : WF o) : WF (addIndex b o) :=
  wf_of_inside _ (good_union _ _ h.ebm ho.ebm)
    (addLoop_spec _ 0 o.planes b.planes 0 (Nat.zero_le _) (inside_union b o h ho).1 (inside_union b o h ho).2).1

theorem word_addIndex (b o : Index) (h : WF b) (ho : WF o) (c : Nat) :
    word (addIndex b o).planes c = word b.planes c + word o.planes c := by
  have := (addLoop_spec _ c o.planes b.planes 0 (Nat.zero_le _) (inside_union b o h ho).1 (inside_union b o h ho).2).2
  show word (addLoop b.planes o.planes 0) c = _
  simpa using this

theorem i64_add_mod (x y : Nat) :
    i64 ((x + y) % 18446744073709551616) = wrap (i64 (x % 18446744073709551616) + i64 (y % 18446744073709551616)) := by
  apply i64_eq_wrap
  obtain ⟨q1, h1⟩ := i64_cong (x % 18446744073709551616)
  obtain ⟨q2, h2⟩ := i64_cong (y % 18446744073709551616)
  omega

/-- `b.Add(other)` adds the two maps column-wise in `int64` arithmetic (wrap-around); a column missing
on one side counts as `0`. -/
theorem get_addIndex (b o : Index) (h : WF b) (ho : WF o) (c : Nat) :
    getValue (addIndex b o) c =
      if mem b.ebm c || mem o.ebm c then some (wrap (getValueD b c + getValueD o c)) else none := by
  rw [getValue_eq, value]
  have he : mem (addIndex b o).ebm c = (mem b.ebm c || mem o.ebm c) := mem_union _ _ h.ebm.1 ho.ebm.1 c
  rw [he, getValueD_eq_colValue b h, getValueD_eq_colValue o ho, colValue, colValue, colValue,
    raw_eq_word, raw_eq_word, raw_eq_word, word_addIndex b o h ho, i64_add_mod]

/-- the index holding `1` on the columns of `f`: one plane -/
def ones (f : BSet) : Index := { planes := [f], ebm := f, maxValue := 0, minValue := 0 }

theorem increment_eq_addIndex (b : Index) (found : Option BSet) : increment b found = addIndex b (ones (found.getD b.ebm)) := rfl

theorem wf_ones (f : BSet) (hf : Good f) : WF (ones f) :=
  ⟨hf, fun p hp => by rw [List.mem_singleton.mp hp]; exact hf, fun p hp x hx => by rw [List.mem_singleton.mp hp] at hx; exact hx⟩

theorem getValueD_ones (f : BSet) (c : Nat) : getValueD (ones f) c = if mem f c then 1 else 0 := by
  rw [getValueD_eq, colValue, raw, ones]
  cases hm : mem f c <;> simp [BSI.col, BSI.encN, hm, i64]

theorem wf_increment (b : Index) (h : WF b) (found : Option BSet) (hf : ∀ f, found = some f → Good f) :
    WF (increment b found) := wf_addIndex b _ h (wf_ones _ (good_found b h found hf))

/-- `Increment`: the columns of the found set (all existing columns when nil) are incremented (`int64`
wrap-around), a column of the found set without value becomes `1`; every other column is unchanged. -/
theorem get_increment (b : Index) (h : WF b) (found : Option BSet) (hf : ∀ f, found = some f → Good f) (c : Nat) :
    getValue (increment b found) c =
      if mem (found.getD b.ebm) c then some (wrap (getValueD b c + 1)) else getValue b c := by
  rw [increment_eq_addIndex, get_addIndex b _ h (wf_ones _ (good_found b h found hf)), getValueD_ones]
  show (if (mem b.ebm c || mem (found.getD b.ebm) c) = true then _ else _) = _
  cases hm : mem (found.getD b.ebm) c
  · -- not incremented: `+ 0`, and an `int64` is not wrapped
    have hr := getValueD_range b c
    rw [Bool.or_false, if_neg Bool.false_ne_true, if_neg Bool.false_ne_true, Int.add_zero, wrap_id _ hr.1 hr.2,
      getValueD_eq, getValue_eq, value]
    cases mem b.ebm c <;> rfl
  · simp

/-! ### `ParOr` -/

/-- one plane of `ParOr`: the union of the plane with the participants' planes of the same index -/
theorem fold_plane (j : Nat) (bs : List Index) (hb : ∀ x ∈ bs, WF x) (acc : BSet) (ha : Good acc) :
    Good (bs.foldl (fun acc x => if x.planes.length > j then union acc (x.planes.getD j []) else acc) acc) ∧
    ∀ c, mem (bs.foldl (fun acc x => if x.planes.length > j then union acc (x.planes.getD j []) else acc) acc) c =
      (mem acc c || bs.any (fun x => mem (x.planes.getD j []) c)) :=
  foldl_inv_any (I := Good) (P := WF) (mb := fun x c => mem (x.planes.getD j []) c) (fun a x ha hx => by
    have hg := hx.getD_good j
    split
    · exact ⟨good_union _ _ ha hg, mem_union _ _ ha.1 hg.1⟩
    · rename_i hlen
      exact ⟨ha, fun c => by rw [getD_eq_nil_of_le _ _ (by omega)]; simp⟩) bs acc ha hb

theorem fold_ebm (bs : List Index) (hb : ∀ x ∈ bs, WF x) (acc : BSet) (ha : Good acc) :
    Good (bs.foldl (fun acc x => union acc x.ebm) acc) ∧
    ∀ c, mem (bs.foldl (fun acc x => union acc x.ebm) acc) c = (mem acc c || bs.any (fun x => mem x.ebm c)) :=
  RModel.BSI.foldl_union_any (·.ebm) bs (fun x hx => (hb x hx).ebm) acc ha

theorem parOrPlanes_eq (bs : List Index) : ∀ (ps : List BSet) (j : Nat),
    parOrPlanes bs ps j = ps.mapIdx (fun k p =>
      bs.foldl (fun acc x => if x.planes.length > j + k then union acc (x.planes.getD (j + k) []) else acc) p) :=
  RModel.BSI.mapIdx_of_rec (parOrPlanes bs)
    (fun k p => bs.foldl (fun acc x => if x.planes.length > k then union acc (x.planes.getD k []) else acc) p)
    (fun _ => rfl) (fun _ _ _ => rfl)

theorem getD_parOrPlanes (bs : List Index) (hb : ∀ x ∈ bs, WF x) (c : Nat) (ps : List BSet) (j k : Nat)
    (h : ∀ p ∈ ps, Good p) :
    mem ((parOrPlanes bs ps j).getD k []) c =
      (mem (ps.getD k []) c || (decide (k < ps.length) && bs.any (fun x => mem (x.planes.getD (j + k) []) c))) := by
  rw [parOrPlanes_eq, getD_mapIdx]
  by_cases hk : k < ps.length
  · rw [if_pos hk, (fold_plane (j + k) bs hb _ (RModel.BSI.good_getD ps h k)).2, decide_eq_true hk, Bool.true_and]
  · simp [hk]

theorem mem_parOr_plane (b : Index) (h : WF b) (bs : List Index) (hb : ∀ x ∈ bs, WF x) (i c : Nat) :
    mem ((parOr b bs).planes.getD i []) c =
      (mem (b.planes.getD i []) c || bs.any (fun x => mem (x.planes.getD i []) c)) := by
  have hbits : b.planes.length ≤ bs.foldl (fun m x => if x.planes.length > m then bitCount x else m) b.planes.length ∧
      ∀ x ∈ bs, x.planes.length ≤ bs.foldl (fun m x => if x.planes.length > m then bitCount x else m) b.planes.length :=
    RModel.BSI.foldl_max_ge (fun x : Index => x.planes.length) bs b.planes.length
  simp only [parOr]
  generalize bs.foldl (fun m x => if x.planes.length > m then bitCount x else m) b.planes.length = bits at hbits
  rw [getD_parOrPlanes bs hb c _ 0 i (fun p hp => (inside_append_nil _ _ _ h.inside p hp).1),
    getD_append_replicate, Nat.zero_add]
  by_cases hi : i < (b.planes ++ List.replicate (bits - b.planes.length) ([] : BSet)).length
  · rw [decide_eq_true hi, Bool.true_and]
  · have hlen : bits ≤ i := by simp at hi; omega
    have : bs.any (fun x => mem (x.planes.getD i []) c) = false := by
      rw [List.any_eq_false]
      intro x hx
      rw [getD_eq_nil_of_le _ _ (by have := hbits.2 x hx; omega)]
      simp
    rw [this, Bool.and_false]

theorem mem_parOr_ebm (b : Index) (h : WF b) (bs : List Index) (hb : ∀ x ∈ bs, WF x) (c : Nat) :
    mem (parOr b bs).ebm c = (mem b.ebm c || bs.any (fun x => mem x.ebm c)) :=
  (fold_ebm bs hb b.ebm h.ebm).2 c

theorem wf_parOr (b : Index) (h : WF b) (bs : List Index) (hb : ∀ x ∈ bs, WF x) : WF (parOr b bs) := by
  refine wf_of_inside _ (fold_ebm bs hb b.ebm h.ebm).1 ?_
  show Inside _ (parOrPlanes bs _ 0)
  rw [parOrPlanes_eq]
  refine forall_mem_mapIdx _ _ _ _ (inside_append_nil _ _ _ h.inside) (fun k p hg => ?_)
  rw [Nat.zero_add]
  refine ⟨(fold_plane k bs hb p hg.1).1, fun c hc => ?_⟩
  rw [(fold_plane k bs hb p hg.1).2] at hc
  rw [mem_parOr_ebm b h bs hb]
  simp only [Bool.or_eq_true, List.any_eq_true] at hc ⊢
  rcases hc with hc | ⟨x, hx, hc⟩
  · exact Or.inl (hg.2 c hc)
  · exact Or.inr ⟨x, hx, (hb x hx).getD_sub k c hc⟩

theorem testBit_raw_parOr (b : Index) (h : WF b) (bs : List Index) (hb : ∀ x ∈ bs, WF x) (c i : Nat) :
    (raw (parOr b bs) c).testBit i = ((raw b c).testBit i || bs.any (fun x => (raw x c).testBit i)) := by
  simp only [testBit_raw, mem_parOr_plane b h bs hb]
  cases decide (i < 64) <;> simp

/-- `ParOr` on one column: the participants that hold it agree on its word `w`, the others contribute the word `0` -/
theorem or_words_eq {β : Type} (W : β → Nat) (R w : Nat) (bs : List β)
    (hR : ∀ i, R.testBit i = bs.any (fun x => (W x).testBit i)) (hy : ∃ y ∈ bs, W y = w)
    (h : ∀ x ∈ bs, W x = w ∨ W x = 0) : R = w := by
  apply Nat.eq_of_testBit_eq
  intro i
  rw [hR, Bool.eq_iff_iff, List.any_eq_true]
  constructor
  · rintro ⟨x, hx, hbit⟩
    rcases h x hx with e | e
    · rwa [e] at hbit
    · rw [e] at hbit; simp at hbit
  · obtain ⟨y, hy, e⟩ := hy
    exact fun hbit => ⟨y, hy, by rwa [e]⟩

/-- `ParOr` ("concatenation; overlapping columns must carry identical values"): when every participant
(target included) that has column `c` stores the same value `v`, the result stores `v`; a column nobody has stays absent. -/
theorem get_parOr (b : Index) (h : WF b) (bs : List Index) (hb : ∀ x ∈ bs, WF x) (c : Nat) (v : Int)
    (hv : ∀ x ∈ b :: bs, mem x.ebm c = true → getValue x c = some v) :
    getValue (parOr b bs) c = if mem b.ebm c || bs.any (fun x => mem x.ebm c) then some v else none := by
  rw [getValue_eq, value, mem_parOr_ebm b h bs hb]
  cases hany : (mem b.ebm c || bs.any (fun x => mem x.ebm c))
  · rfl
  · -- some participant `y` has the column; the others have the same word or (absent) the word `0`: the OR is the word of `y`
    obtain ⟨y, hy, hym⟩ := List.any_eq_true.mp (show (b :: bs).any (fun x => mem x.ebm c) = true from hany)
    have hw : ∀ x ∈ b :: bs, WF x := List.forall_mem_cons.mpr ⟨h, hb⟩
    have hcol : ∀ x ∈ b :: bs, mem x.ebm c = true → colValue x c = v := fun x hx hm =>
      (getValue_some x c v (hv x hx hm)).2.1
    have hraw := or_words_eq (fun x => raw x c) (raw (parOr b bs) c) (raw y c) (b :: bs)
      (testBit_raw_parOr b h bs hb c) ⟨y, hy, rfl⟩ (fun x hx => by
        cases hm : mem x.ebm c
        · exact Or.inr (raw_absent x (hw x hx) c hm)
        · exact Or.inl (raw_inj x y c c ((hcol x hx hm).trans (hcol y hy hym).symm)))
    rw [if_pos rfl, if_pos rfl, colValue, hraw, ← colValue, hcol y hy hym]

/-! ### `MarshalBinary` / `UnmarshalBinary` -/

theorem wf_unmarshalFrom (r s : Index) (hs : WF s) : WF (unmarshalFrom r s) :=
  wf_of_inside _ hs.ebm (inside_append_nil _ _ _ hs.inside)

/-- loading the serialised form of `s` into ANY receiver (fresh or already used, narrower or
wider) yields the map of `s`. -/
theorem get_unmarshalFrom (r s : Index) (c : Nat) : getValue (unmarshalFrom r s) c = getValue s c := by
  refine getValue_congr _ _ c rfl (fun i _ => ?_)
  show mem ((s.planes ++ List.replicate (r.planes.length - s.planes.length) ([] : BSet)).getD i []) c = _
  rw [getD_append_replicate]

/-! ### `BatchEqual`: the value list; the match trie on the planes of an index -/

/-- a value is dropped by `BatchEqual` when it cannot be represented in `bitCount` planes -/
def dropped (bitCount : Nat) (v : Int) : Bool := decide (bitCount < 64) && (decide (v < 0) || decide (u64 v ≥ 2 ^ bitCount))

theorem batchVals_eq (bc : Nat) (values : List Int) :
    batchVals bc values = ((values.filter (fun v => !dropped bc v)).map u64).foldl (fun acc x => insertU x acc) [] := by
  rw [List.foldl_map, List.foldl_filter]
  refine congrArg (fun f => values.foldl f []) (funext fun acc => funext fun v => ?_)
  show (if dropped bc v = true then acc else insertU (u64 v) acc) = _
  cases dropped bc v <;> rfl

theorem batchVals_sorted (bc : Nat) (values : List Int) : (batchVals bc values).Pairwise (· < ·) := by
  rw [batchVals_eq]; exact (foldl_insertU _ [] List.Pairwise.nil).1

theorem mem_batchVals (bc : Nat) (values : List Int) (z : Nat) :
    z ∈ batchVals bc values ↔ ∃ v ∈ values, dropped bc v = false ∧ u64 v = z := by
  rw [batchVals_eq, (foldl_insertU _ [] List.Pairwise.nil).2]
  simp only [List.not_mem_nil, false_or, List.mem_map, List.mem_filter, Bool.not_eq_true', and_assoc]

/-- the value list does not depend on the order of the query: both lists are sorted and have the same members -/
theorem batchVals_perm (bc : Nat) {values values' : List Int} (hp : values.Perm values') :
    batchVals bc values = batchVals bc values' :=
  sorted_ext _ _ (batchVals_sorted bc values) (batchVals_sorted bc values')
    (fun z => by simp only [mem_batchVals, hp.mem_iff])

theorem batchVals_lt (bc : Nat) (hbc : bc ≤ 64) (values : List Int) (z : Nat) (hz : z ∈ batchVals bc values) : z < 2 ^ bc := by
  obtain ⟨v, _, hd, rfl⟩ := (mem_batchVals bc values z).mp hz
  by_cases h : bc < 64
  · simp only [dropped, h, decide_true, Bool.true_and, Bool.or_eq_false_iff, decide_eq_false_iff_not] at hd
    omega
  · have : bc = 64 := by omega
    subst this
    exact u64_lt v

theorem distinct_batchVals (bc : Nat) (hbc : bc ≤ 64) (values : List Int) : DistinctMod bc (batchVals bc values) :=
  distinctMod_of_sorted _ _ (batchVals_sorted bc values) (batchVals_lt bc hbc values)

theorem word_eq_raw (b : Index) (h64 : bitCount b ≤ 64) (c : Nat) :
    word b.planes c = raw b c ∧ raw b c < 2 ^ bitCount b := by
  have hl : (col b.planes c).length = b.planes.length := RModel.BSI.col_length _ _
  have ht : (col b.planes c).take 64 = col b.planes c := List.take_of_length_le (by simp only [bitCount] at h64; omega)
  have := RModel.BSI.encN_lt (col b.planes c)
  rw [hl] at this
  refine ⟨by simp only [word, raw, ht], ?_⟩
  simpa only [raw, ht, bitCount] using this

/-- the encoded value list against the stored value: the link between the `uint64` patterns `BatchEqual` works with and the
`int64`s of the caller.  Needs no bound on the width: with fewer than 64 planes a dropped value cannot be stored. -/
theorem batchVals_key (b : Index) (values : List Int) (hv : ∀ v ∈ values, min64 ≤ v ∧ v ≤ max64) (c : Nat) :
    (∃ v, getValue b c = some v ∧ u64 v ∈ batchVals (bitCount b) values) ↔ ∃ v ∈ values, getValue b c = some v := by
  constructor
  · rintro ⟨v, hg, hm⟩
    obtain ⟨v', hv', _, e⟩ := (mem_batchVals _ values _).mp hm
    refine ⟨v', hv', ?_⟩
    have hr : min64 ≤ v ∧ v ≤ max64 := (getValue_some b c v hg).2.1 ▸ colValue_range b c
    have : v' = v := by
      rw [← i64_u64 v' (hv v' hv').1 (hv v' hv').2, ← i64_u64 v hr.1 hr.2, e]
    rw [this]; exact hg
  · rintro ⟨v, hvm, hg⟩
    refine ⟨v, hg, (mem_batchVals _ values _).mpr ⟨v, hvm, ?_, rfl⟩⟩
    by_cases hbc : bitCount b < 64
    · -- the stored word is below `2^BitCount ≤ 2^63`: `v` is not negative and `uint64(v)` is that word, so `v` is kept
      obtain ⟨_, e, hraw⟩ := getValue_some b c v hg
      have hlt : raw b c < 2 ^ bitCount b := (word_eq_raw b (by omega) c).2
      have : (2 : Nat) ^ bitCount b ≤ 2 ^ 63 := Nat.pow_le_pow_right (by decide) (by omega)
      have p63 : (2 : Nat) ^ 63 = 9223372036854775808 := by decide
      have hnn : 0 ≤ v := by
        rw [← e, colValue]
        simp only [i64]
        rw [Nat.mod_eq_of_lt (raw_lt b c), if_pos (by omega)]
        omega
      simp only [dropped, hbc, decide_true, Bool.true_and, Bool.or_eq_false_iff, decide_eq_false_iff_not]
      omega
    · simp [dropped, hbc]

/-- the trie path on an index of at most 64 planes: the existing columns whose `uint64` pattern is in the value list -/
theorem trie_mem (b : Index) (h : WF b) (h64 : bitCount b ≤ 64) (values : List Int)
    (hne : batchVals (bitCount b) values ≠ []) (c : Nat) :
    Good (matchTrie b (bitCount b) (batchVals (bitCount b) values) b.ebm) ∧
    (mem (matchTrie b (bitCount b) (batchVals (bitCount b) values) b.ebm) c = true ↔
      ∃ v, getValue b c = some v ∧ u64 v ∈ batchVals (bitCount b) values) := by
  have hw := word_eq_raw b h64 c
  have hm := matchTrie_spec b h.planes c (bitCount b) _ b.ebm hne (distinct_batchVals _ h64 values) h.ebm
  refine ⟨hm.1, ?_⟩
  rw [hm.2, Bool.and_eq_true, List.any_eq_true]
  constructor
  · rintro ⟨he, z, hz, e⟩
    have hz' := batchVals_lt _ h64 values _ hz
    simp only [beq_iff_eq, Nat.mod_eq_of_lt hz', hw.1, Nat.mod_eq_of_lt hw.2] at e
    refine ⟨colValue b c, by simp [getValue_eq, value, he], ?_⟩
    rw [u64_colValue, ← e]; exact hz
  · rintro ⟨v, hg, hz⟩
    obtain ⟨he, _, hraw⟩ := getValue_some b c v hg
    exact ⟨he, u64 v, hz, by simp only [beq_iff_eq, hw.1, Nat.mod_eq_of_lt hw.2, hraw]⟩

/-- the early exits of `BatchEqual` are right: nothing can match -/
theorem no_match_of_isEmpty (b : Index) (values : List Int) (c : Nat) (he : (b.ebm.isEmpty || values.isEmpty) = true) :
    ¬ ∃ v ∈ values, getValue b c = some v := by
  rintro ⟨v, hvm, hg⟩
  rcases Bool.or_eq_true _ _ ▸ he with he | he
  · rw [getValue_eq, value, mem_of_isEmpty _ he c] at hg; cases hg
  · rw [List.isEmpty_iff.mp he] at hvm; cases hvm

theorem no_match_of_vals_nil (b : Index) (values : List Int) (hv : ∀ v ∈ values, min64 ≤ v ∧ v ≤ max64) (c : Nat)
    (hnil : batchVals (bitCount b) values = []) : ¬ ∃ v ∈ values, getValue b c = some v := by
  intro hex
  obtain ⟨v, _, hz⟩ := (batchVals_key b values hv c).mpr hex
  rw [hnil] at hz
  cases hz

/-- on an index with at most 64 planes, `BatchEqual(values)` (when answered by the match trie)
returns exactly the existing columns whose value is one of the given `int64`s. -/
theorem batchEqual_spec (b : Index) (h : WF b) (h64 : bitCount b ≤ 64) (values : List Int)
    (hv : ∀ v ∈ values, min64 ≤ v ∧ v ≤ max64) (r : BSet) (hr : batchEqual b values = some r) (c : Nat) :
    mem r c = true ↔ ∃ v ∈ values, getValue b c = some v := by
  simp only [batchEqual] at hr
  split at hr
  · rename_i he
    cases hr
    simpa using no_match_of_isEmpty b values c he
  · split at hr
    · rename_i hve
      cases hr
      simpa using no_match_of_vals_nil b values hv c (by simpa using hve)
    · rename_i hvne
      split at hr
      · cases hr
      · cases hr
        rw [(trie_mem b h h64 values (fun e => hvne (by simp [e])) c).2]
        exact batchVals_key b values hv c

/-! ### non-vacuity: concrete indexes -/

/-- auto-sized index: 5, 70000 (widening 3 → 17 planes), then −3 (widening to 64 planes: bit 63 is the sign), column 1
overwritten by the narrower 2, column 9 holds 0 -/
def exIdx : Index :=
  setValue (setValue (setValue (setValue (setValue newDefault 1 5) 2 70000) 3 (-3)) 1 2) 9 0

theorem wf_exIdx : WF exIdx := by
  unfold exIdx
  repeat apply wf_setValue
  exact wf_new 0 0

/-- the index plane by plane (`[3, 4]` = column 3, `[2, 4]` = columns 2, 3: the planes 17 … 63 hold the sign extension of
−3), evaluated once -/
theorem exIdx_eq : exIdx =
    { planes := [[3, 4], [1, 2], [3, 4], [3, 4], [2, 4], [2, 4], [2, 4], [3, 4], [2, 4], [3, 4], [3, 4], [3, 4], [2, 4],
        [3, 4], [3, 4], [3, 4], [2, 4]] ++ List.replicate 47 [3, 4],
      ebm := [1, 4, 9, 10], maxValue := 0, minValue := 0 } := by
  decide +kernel

-- the widening really happened
example : (setValue newDefault 1 5).planes.length = 3 ∧ (setValue (setValue newDefault 1 5) 2 70000).planes.length = 17 ∧
    exIdx.planes.length = 64 := by decide +kernel
-- values read back (computed by the model …
example : [1, 2, 3, 9, 4].map (getValue exIdx) = [some 2, some 70000, some (-3), some 0, none] := by
  rw [exIdx_eq]; decide +kernel
-- … and the same facts from the theorems)
example : getValue exIdx 1 = some 2 :=
  get_foldl_setValue [(1, 5), (2, 70000), (3, -3), (1, 2), (9, 0)] (by decide) 1
example (c : Nat) : mem (compareValue exIdx .LT 0 0 none) c = true ↔ mem exIdx.ebm c = true ∧ colValue exIdx c < 0 := by
  have := compare_spec exIdx wf_exIdx .LT 0 0 none (by simp) (by decide) (by decide) c
  simpa [pred] using this
-- comparisons: columns with value < 0, ≤ 0, = −3, ≥ 2, > 2, in [−3, 2]; a found set restricts the universe
example : compareValue exIdx .LT 0 0 none = [3, 4] ∧ compareValue exIdx .LE 0 0 none = [3, 4, 9, 10] ∧
    compareValue exIdx .EQ (-3) 0 none = [3, 4] ∧ compareValue exIdx .GE 2 0 none = [1, 3] ∧
    compareValue exIdx .GT 2 0 none = [2, 3] ∧ compareValue exIdx .RANGE (-3) 2 none = [1, 2, 3, 4, 9, 10] ∧
    compareValue exIdx .RANGE (-3) 2 (some [2, 4, 9, 10]) = [3, 4, 9, 10] := by rw [exIdx_eq]; decide +kernel
example : sum exIdx none = (69999, 4) ∧ sum exIdx (some [1, 2, 3, 4]) = (-1, 2) := by rw [exIdx_eq]; decide +kernel
example : minMax exIdx false none = -3 ∧ minMax exIdx true none = 70000 ∧ minMax exIdx true (some [1, 2, 3, 4]) = 2 := by
  rw [exIdx_eq]; decide +kernel
example : batchEqual exIdx [2, -3, 7] = some [1, 2, 3, 4] := by rw [exIdx_eq]; decide +kernel
example : [1, 2, 3].map (getValue (clearValues exIdx [2, 4])) = [some 2, none, none] ∧
    [1, 2, 3].map (getValue (retainSet exIdx [2, 4])) = [none, some 70000, some (-3)] := by rw [exIdx_eq]; decide +kernel
-- increment: −3 → −2, absent column 7 → 1; add: column-wise
example : [3, 7, 1].map (getValue (increment exIdx (some [3, 4, 7, 8]))) = [some (-2), some 1, some 2] := by
  rw [exIdx_eq]; decide +kernel
example : [1, 3, 5].map (getValue (addIndex exIdx (setValue (setValue newDefault 3 10) 5 4))) = [some 2, some 7, some 4] := by
  rw [exIdx_eq]; decide +kernel
-- fixed width: `NewBSI(1000, 0)` has 10 planes; 1025 is silently truncated to 1; `NewBSI(5, -5)` has 64 planes
example : getValue (setValue (new 1000 0) 0 1025) 0 = some 1 ∧ bitCount (new 1000 0) = 10 ∧ bitCount (new 5 (-5)) = 64 := by
  decide +kernel

end RModel.BSI32
