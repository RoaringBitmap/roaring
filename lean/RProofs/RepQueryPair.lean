import RProofs.RepQueryBase
import RProofs.RepQueryKern
/-!
The two-operand bitmap-level read-only drivers of `RModel/Impl/RepQuery.lean` (`OrCardinality`, `AndCardinality`, `Intersects`,
`Equals`) compute the set-level answers on the abstractions `x.toBSet`, `y.toBSet` of well-formed operands.
-/
namespace RModel.Impl
open RModel RModel.BSet RModel.Driver ContOps ContQuery RepOps RepQuery It

namespace RepQuery

/-! ### `OrCardinality`: the walk counts the containers of `Or` -/

theorem orCardSlots_eq (a b : List Slot) : orCardSlots a b = cardSum (orSlots a b) := by
  fun_induction orCardSlots a b with
  | case1 b => rw [orSlots, map_copySlot]
  | case2 a h =>
    cases a with
    | nil => rw [orSlots, map_copySlot]
    | cons s t => rw [orSlots, map_copySlot]; exact List.cons_ne_nil _ _
  | case3 sa ta sb tb hlt ih => rw [orSlots, if_pos hlt, copySlot_eq, cardSum, ih]
  | case4 sa ta sb tb hlt hlt2 ih => rw [orSlots, if_neg hlt, if_pos hlt2, copySlot_eq, cardSum, ih]
  | case5 sa ta sb tb hlt hlt2 ih => rw [orSlots, if_neg hlt, if_neg hlt2, cardSum, ih]

/-! ### `AndCardinality` / `Intersects`: the walks run over the slot list of `And` -/

theorem cardSum_keep {k : Nat} {c : Cont} (rest : List Slot) (h : c.EmptyOrWf) :
    cardSum (keep k c rest) = (cnt c.has 65536 : Int) + cardSum rest := by
  unfold keep
  rcases h with ⟨he, hh⟩ | ⟨he, hw⟩
  · rw [if_pos he, cnt_zero_of_none _ _ (fun u _ => hh u)]; simp
  · rw [if_neg (by rw [he]; exact Bool.false_ne_true), cardSum, has_card c (wfQ_of_wf hw)]

/-! Both walks are `Keyed.posWalk_eq` on `andSlots = mergeWalk … (keepIf Cont.and2)`: `cardSum` and "not empty" read a kept
slot the way the walks combine the two containers of a common key. -/

theorem andCardWalk_eq (a b : List Slot) (ha : SlotsWf a) (hb : SlotsWf b) :
    andCardWalk a b 0 0 = cardSum (andSlots a b) := by
  rw [andSlots_eq]
  exact Keyed.posWalk_eq (Pa := Slot.Wf) (Pb := Slot.Wf) (fun s s' r => s.c.andCardinalityQ s'.c + r) 0 undef cardSum rfl
    (fun sa sb rest hc hd => by
      rw [keepIf, ← keep_eq, cardSum_keep rest (emptyOrWf_and2 _ _ hc.2 hd.2), Cont.andCardinalityQ_has _ _ hc.2 hd.2,
        cnt_congr _ (fun x _ => has_and2 _ _ hc.2 hd.2 x)])
    _ _ ha.sorted hb.sorted ha.ok hb.ok (andCardWalk a b) (fun _ _ => by rw [andCardWalk]; rfl) 0 0

theorem intersectsWalk_eq (a b : List Slot) (ha : SlotsWf a) (hb : SlotsWf b) :
    intersectsWalk a b 0 0 = !(andSlots a b).isEmpty := by
  rw [andSlots_eq]
  exact Keyed.posWalk_eq (Pa := Slot.Wf) (Pb := Slot.Wf) (fun s s' r => if s.c.intersectsQ s'.c then true else r) false false
    (fun l => !l.isEmpty) rfl
    (fun sa sb rest hc hd => by
      rw [Cont.intersectsQ_eq_and2 _ _ hc.2 hd.2, keepIf, keep]
      cases (sa.c.and2 sb.c).isEmptyGo <;> rfl)
    _ _ ha.sorted hb.sorted ha.ok hb.ok (intersectsWalk a b) (fun _ _ => by rw [intersectsWalk]; rfl) 0 0

/-! ### `Equals` -/

/-- the three tests of `equals` (lengths, keys, containers) compare the two slot lists pair by pair -/
theorem allPairs_slots (a b : List Slot) :
    (a.length = b.length ∧ keysEq b a = true ∧ contsEq b a = true) ↔
      Keyed.AllPairs (fun sa sb => slotV.key sa = slotV.key sb ∧ sb.c.equalsQ sa.c = true) a b := by
  induction a generalizing b with
  | nil => cases b <;> simp [Keyed.AllPairs, keysEq, contsEq]
  | cons sa ta ih =>
    cases b with
    | nil => simp [Keyed.AllPairs]
    | cons sb tb =>
      rw [Keyed.AllPairs, ← ih, keysEq, contsEq]
      by_cases hk : sb.key = sa.key
      · cases hq : sb.c.equalsQ sa.c <;> simp [hk]
      · simp [hk]
        exact fun h => absurd h.symm hk

end RepQuery

/-- `x.OrCardinality(y)` is the cardinality of the union -/
theorem Rep.orCardinality_spec (x y : Rep) (hx : x.wf = true) (hy : y.wf = true) :
    x.orCardinality y = (BSet.card (BSet.union x.toBSet y.toBSet) : Int) := by
  rw [← Rep.toBSet_or2 x y hx hy, ← Rep.card_spec _ (Rep.wf_or2 x y hx hy)]
  exact orCardSlots_eq _ _

/-- `x.AndCardinality(y)` is the cardinality of the intersection (in particular the walk never reaches an `undef` branch) -/
theorem Rep.andCardinality_spec (x y : Rep) (hx : x.wf = true) (hy : y.wf = true) :
    x.andCardinality y = (BSet.card (BSet.inter x.toBSet y.toBSet) : Int) := by
  have hwx := (slotsWf_iff x).mp hx
  have hwy := (slotsWf_iff y).mp hy
  rw [← Rep.toBSet_and2 x y hx hy, ← Rep.card_spec _ (Rep.wf_and2 x y hx hy), Rep.andCardinality, andCardWalk_eq _ _ hwx hwy]
  rfl

/-- `x.Intersects(y)`: the intersection is not empty -/
theorem Rep.intersects_spec (x y : Rep) (hx : x.wf = true) (hy : y.wf = true) :
    x.intersects y = !BSet.isEmpty (BSet.inter x.toBSet y.toBSet) := by
  have hwx := (slotsWf_iff x).mp hx
  have hwy := (slotsWf_iff y).mp hy
  rw [← Rep.toBSet_and2 x y hx hy, ← Rep.isEmpty_spec _ (Rep.wf_and2 x y hx hy), Rep.intersects, intersectsWalk_eq _ _ hwx hwy]
  simp only [Rep.isEmptyQ, Rep.and2]
  cases andSlots x.slots y.slots <;> rfl

/-- `x.Equals(y)`: the two bitmaps denote the same set -/
theorem Rep.equals_spec (x y : Rep) (hx : x.wf = true) (hy : y.wf = true) :
    x.equals y = (x.toBSet == y.toBSet) := by
  have hwx := (slotsWf_iff x).mp hx
  have hwy := (slotsWf_iff y).mp hy
  have key := Keyed.equals_blocks (Va := slotV) (Vb := slotV) (B := 65536) (Pa := Slot.Wf) (Pb := Slot.Wf)
    (eqb := fun sb sa => sb.c.equalsQ sa.c)
    (fun _ => Slot.Wf.nonempty) (fun _ => Slot.Wf.nonempty)
    (fun s hs y => has_lt hs.2) (fun s hs y => has_lt hs.2) (fun sa sb ha hb => Cont.equalsQ_has _ _ hb.2 ha.2)
    hwx.sorted hwy.sorted hwx.ok hwy.ok
  rw [← Rep.mem_eq hx, ← Rep.mem_eq hy, ← allPairs_slots] at key
  rw [Bool.eq_iff_iff, beq_iff_eq, Rep.equals]
  refine Iff.trans ?_ (key.symm.trans ⟨fun h => canon_ext 4294967296 _ _ (canon_rep x hx) (canon_rep y hy) h,
    fun h v => by rw [h]⟩)
  by_cases hl : x.slots.length = y.slots.length <;> simp [hl]

/-- two well-formed bitmaps that denote the same set are `Equals`, however each is stored -/
theorem Rep.equals_of_toBSet_eq {x y : Rep} (hx : x.wf = true) (hy : y.wf = true) (h : x.toBSet = y.toBSet) :
    x.equals y = true := by
  rw [Rep.equals_spec x y hx hy, h]; exact beq_self_eq_true _

end RModel.Impl
