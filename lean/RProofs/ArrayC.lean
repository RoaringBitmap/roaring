import RModel.Impl.ArrayC
import RModel.Impl.Repr
/-!
The sorted-array kernels compute the set operations: for strictly increasing inputs the output is strictly
increasing (hence a valid array container payload) and has exactly the members of the mathematical result.
-/
namespace RModel.ArrayC

abbrev Sorted (l : List Nat) : Prop := l.Pairwise (· < ·)

theorem mem_union2by2 (a b : List Nat) (x : Nat) : x ∈ union2by2 a b ↔ x ∈ a ∨ x ∈ b := by
  fun_induction union2by2 a b <;> grind

theorem sorted_union2by2 (a b : List Nat) (ha : Sorted a) (hb : Sorted b) : Sorted (union2by2 a b) := by
  fun_induction union2by2 a b <;> grind [List.pairwise_cons, mem_union2by2]

theorem sublist_intersection2by2 (a b : List Nat) : (intersection2by2 a b).Sublist a := by
  fun_induction intersection2by2 a b with
  | case1 => simp
  | case2 => simp
  | case3 x xs y ys h ih => exact ih.cons _
  | case4 x xs ys h ih => exact ih.cons_cons _
  | case5 x xs y ys h1 h2 ih => exact ih

theorem sublist_difference (a b : List Nat) : (difference a b).Sublist a := by
  fun_induction difference a b with
  | case1 => simp
  | case2 => simp
  | case3 x xs y ys h ih => exact ih.cons_cons _
  | case4 x xs ys h ih => exact ih.cons _
  | case5 x xs y ys h1 h2 ih => exact ih

theorem mem_intersection2by2 (a b : List Nat) (ha : Sorted a) (hb : Sorted b) (x : Nat) :
    x ∈ intersection2by2 a b ↔ x ∈ a ∧ x ∈ b := by
  fun_induction intersection2by2 a b <;> grind [List.pairwise_cons]

theorem sorted_intersection2by2 (a b : List Nat) (ha : Sorted a) : Sorted (intersection2by2 a b) :=
  ha.sublist (sublist_intersection2by2 a b)

theorem mem_difference (a b : List Nat) (ha : Sorted a) (hb : Sorted b) (x : Nat) :
    x ∈ difference a b ↔ x ∈ a ∧ x ∉ b := by
  fun_induction difference a b <;> grind [List.pairwise_cons]

theorem sorted_difference (a b : List Nat) (ha : Sorted a) (hb : Sorted b) : Sorted (difference a b) :=
  ha.sublist (sublist_difference a b)

theorem mem_exclusiveUnion2by2 (a b : List Nat) (ha : Sorted a) (hb : Sorted b) (x : Nat) :
    x ∈ exclusiveUnion2by2 a b ↔ (x ∈ a ∧ x ∉ b) ∨ (x ∈ b ∧ x ∉ a) := by
  fun_induction exclusiveUnion2by2 a b <;> grind [List.pairwise_cons]

theorem subset_exclusiveUnion2by2 (a b : List Nat) (x : Nat) (h : x ∈ exclusiveUnion2by2 a b) : x ∈ a ∨ x ∈ b := by
  fun_induction exclusiveUnion2by2 a b <;> grind

theorem sorted_exclusiveUnion2by2 (a b : List Nat) (ha : Sorted a) (hb : Sorted b) :
    Sorted (exclusiveUnion2by2 a b) := by
  fun_induction exclusiveUnion2by2 a b
  · simpa using hb
  · simpa using ha
  · simp_all
    -- the head put out is below both tails, and the rest of the output comes from those
    intro z hz
    have := subset_exclusiveUnion2by2 _ _ _ hz
    grind
  · simp_all
  · simp_all
    intro z hz
    have := subset_exclusiveUnion2by2 _ _ _ hz
    grind

theorem length_union2by2_le (a b : List Nat) : (union2by2 a b).length ≤ a.length + b.length := by
  fun_induction union2by2 a b <;> simp_all <;> omega

theorem length_exclusiveUnion2by2_le (a b : List Nat) : (exclusiveUnion2by2 a b).length ≤ a.length + b.length := by
  fun_induction exclusiveUnion2by2 a b <;> simp_all <;> omega

theorem intersects2by2_eq (a b : List Nat) : intersects2by2 a b = !(intersection2by2 a b).isEmpty := by
  fun_induction intersects2by2 a b <;> grind [intersection2by2]

theorem intersects2by2_iff (a b : List Nat) (ha : Sorted a) (hb : Sorted b) :
    intersects2by2 a b = true ↔ ∃ x, x ∈ a ∧ x ∈ b := by
  simp [intersects2by2_eq, List.eq_nil_iff_forall_not_mem, mem_intersection2by2 a b ha hb]

/-- cardinality shortcuts agree with the materialised results by definition; with the membership theorems
they are the sizes of the mathematical results -/
theorem union_card (a b : List Nat) : union2by2Cardinality a b = (union2by2 a b).length := rfl
theorem inter_card (a b : List Nat) : intersection2by2Cardinality a b = (intersection2by2 a b).length := rfl

/-- non-vacuity -/
example : union2by2 [1, 5, 9] [2, 5, 10] = [1, 2, 5, 9, 10] ∧ intersection2by2 [1, 5, 9] [2, 5, 10] = [5] ∧
    difference [1, 5, 9] [2, 5, 10] = [1, 9] ∧ exclusiveUnion2by2 [1, 5, 9] [2, 5, 10] = [1, 2, 9, 10] := by
  simp [union2by2, intersection2by2, difference, exclusiveUnion2by2]

end RModel.ArrayC

/-! ### `strictInc`, the test the well-formedness predicates run, decides `Sorted` -/

namespace RModel.Impl

theorem pairwise_of_strictInc : ∀ (l : List Nat), strictInc l = true → l.Pairwise (· < ·)
  | [], _ => by simp
  | [a], _ => by simp
  | a :: b :: t, h => by
    simp only [strictInc, Bool.and_eq_true, decide_eq_true_eq] at h
    have ih := pairwise_of_strictInc (b :: t) h.2
    refine List.pairwise_cons.mpr ⟨?_, ih⟩
    intro z hz
    rcases List.mem_cons.mp hz with rfl | hz'
    · exact h.1
    · have := (List.pairwise_cons.mp ih).1 z hz'; omega

theorem strictInc_of_pairwise : ∀ (l : List Nat), l.Pairwise (· < ·) → strictInc l = true := by
  intro l h
  fun_induction strictInc l <;> grind [List.pairwise_cons]

end RModel.Impl
