import RProofs.RepQuery
import RProofs.RepBulk
import RProofs.Checksum
/-!
# Property C03 — scalar queries agree with the contents (cardinality, rank/select, extrema)

> For every bitmap the read-only queries are mutually consistent with its sorted element list L: GetCardinality=len(L),
> IsEmpty iff len(L)=0, Contains(x) iff x in L, Minimum/Maximum=L[0]/L[last], Rank(x)=#{v in L: v<=x}, Select(i)=L[i] and an
> error for i>=len(L), CardinalityInRange(a,b)=#{v: a<=v<b}, IntersectsWithInterval(a,b) iff that count is non-zero,
> Equals(o) iff the element lists are equal, and ToArray/ToExistingArray list exactly L in increasing order. Queries never
> modify the bitmap, and Checksum is unchanged by Clone and by a serialize/deserialize round trip.

## Reading guide

* `Rep` = a 32-bit `roaring.Bitmap` as stored (switch, sorted slots `(key, container, flag)`, containers array / bitmap + cached
  cardinality / runs); `Rep.wf r = true` = the representation invariant (C09) — "every bitmap"; `Rep.toBSet r` = the set it
  denotes, `BSet.mem` = membership.
* `L r` (defined below) is the property's **sorted element list**: `reading_L` says it lists exactly the members, strictly
  increasing, all below 2^32.
* `Rep.getCardinality / isEmptyQ / contains / minimum / maximum / rank / select / cardInRange / intersectsWithInterval / equals`
  (`RModel/Impl/RepQuery.lean`) are the Go drivers **as algorithms** — key binary search, cumulative cardinalities, the
  per-kind kernels with their word scans and binary searches — not functions of the set; `Rep.toArray / toExistingArray`
  (`RepBulk.lean`) go through `fillLeastSignificant16bits` of the three kinds; `Rep.checksum` (`Checksum.lean`) is FNV-1a over keys
  and payloads with 64-bit wrap-around.  Numbers are `Int` where Go computes in `uint64`/`int`; `none` is Go's error (`Select`)
  or panic (`Minimum`/`Maximum` of the empty bitmap, `ToExistingArray` into a slice that is too short).
* Level: every clause is a representation-level (L2) theorem composed with the abstraction and the lemmas of `BSetQuery.lean`
  that read the L1 oracle's queries as list operations on `toList` (`toList_reading`, `toList_length`, `select_eq_getElem?`,
  `minimum_eq_head?`, `maximum_eq_getLast?`, `count_eq`, `cardInRange_toList`).
* NOT theorems: (1) that the Go methods compute what the model functions compute — observed by the scripts `query` (with the
  command `l2cksum` for the checksum), `kernq`, `kernq2`, `eqpairs`, `l2q`, `l2bulk`; (2) **"queries never modify the bitmap"**: the model's queries are pure
  functions that return a value and no representation, so inside the model there is nothing to state; the clause is observed
  only — every query line of the scripts is followed by a digest (`dig`) and, in the L2 suites, by the printed representation
  of the receiver, which must be unchanged.  The one query with an output parameter, `ToExistingArray`, is modelled with the
  caller's slice as a value (`clause_toArray`: the tail of the slice is untouched).
-/
namespace RModel.Statements.C03
open RModel RModel.BSet RModel.Impl

/-- the sorted element list of the bitmap -/
def L (r : Rep) : List Nat := BSet.toList r.toBSet

/-- Without the binder type, `o.map (fun v => (v : Int))` at the expected type `Option Int` elaborates to `Option.map id ↑o`: Lean
lifts `o` itself to `Option Int`.  `Rep.minimum_spec`, `maximum_spec` and `select_spec` are stated in that spelling; the clauses
below write `(v : Nat)`, which maps the cast over `o`. -/
theorem coe_opt (o : Option Nat) : o.map (fun v => (v : Int)) = o.map (fun (v : Nat) => (v : Int)) := by cases o <;> rfl

/-! ### how to read `L` -/

/-- `L r` lists exactly the members of the bitmap, strictly increasing (so: no duplicates), all of them `< 2^32` -/
theorem reading_L (r : Rep) (hr : r.wf = true) :
    (∀ x, x ∈ L r ↔ mem r.toBSet x = true) ∧ (L r).Pairwise (· < ·) ∧ ∀ x ∈ L r, x < 4294967296 :=
  toList_reading (canon_rep r hr)

/-- `#{v ∈ L : a ≤ v < b}` is the L1 oracle's `cardInRange`, for every `a`, `b` -/
theorem cardInRange_L (r : Rep) (hr : r.wf = true) (a b : Nat) :
    BSet.cardInRange r.toBSet a b = ((L r).filter (fun v => decide (a ≤ v) && decide (v < b))).length :=
  cardInRange_toList (canon_rep r hr) a b

def exR : Rep :=
  { cow := true, slots := [{ key := 1, c := .arr [0, 63, 64, 65535], flag := true },
                           { key := 65535, c := .run [(7, 3), (65530, 5)], flag := false }] }
theorem exR_wf : exR.wf = true := by decide
example : L exR = [65536, 65599, 65600, 131071, 4294901767, 4294901768, 4294901769, 4294901770,
    4294967290, 4294967291, 4294967292, 4294967293, 4294967294, 4294967295] := by
  rw [L, ← Rep.toArray_spec exR exR_wf]; decide +kernel

/-! ### the clauses, in the order of the text -/

theorem clause_getCardinality (r : Rep) (hr : r.wf = true) : r.getCardinality = ((L r).length : Int) := by
  rw [Rep.card_spec r hr, L, toList_length]

theorem clause_isEmpty (r : Rep) (hr : r.wf = true) : r.isEmptyQ = true ↔ (L r).length = 0 := by
  have hc := canon_rep r hr
  rw [Rep.isEmpty_spec r hr, isEmpty_iff _ hc.1 hc.2.2, List.length_eq_zero_iff, List.eq_nil_iff_forall_not_mem]
  exact forall_congr' fun x => by rw [(reading_L r hr).1 x]; simp

/-- for every `x` (also `x ≥ 2^32`, which Go's `uint32` cannot express) -/
theorem clause_contains (r : Rep) (hr : r.wf = true) (x : Nat) : r.contains x = true ↔ x ∈ L r := by
  rw [Rep.contains_spec r hr, (reading_L r hr).1 x]

/-- `Minimum()` / `Maximum()` are the first / last entry of `L`; `none` (Go panics "Empty bitmap") exactly when `L` is empty -/
theorem clause_minimum_maximum (r : Rep) (hr : r.wf = true) :
    r.minimum = (L r).head?.map (fun (v : Nat) => (v : Int)) ∧ r.maximum = (L r).getLast?.map (fun (v : Nat) => (v : Int)) := by
  have hc := canon_rep r hr
  exact ⟨by rw [Rep.minimum_spec r hr, minimum_eq_head? _ hc.1 hc.2.2, coe_opt, L],
         by rw [Rep.maximum_spec r hr, maximum_eq_getLast? _ hc.1 hc.2.2, coe_opt, L]⟩

theorem clause_rank (r : Rep) (hr : r.wf = true) (x : Nat) : r.rank x = (((L r).filter (fun v => decide (v ≤ x))).length : Int) := by
  obtain ⟨hm, hs, -⟩ := reading_L r hr
  -- `Rank(x)` counts the members below `x + 1`, and these are the entries of `L` that are `≤ x`
  rw [Rep.rank_is r hr x, cnt_eq_length (hs.filter _) (x + 1) fun v => ?_]
  rw [List.mem_filter, hm, decide_eq_true_eq, Nat.lt_succ_iff, and_comm]

/-- `Select(i)` is the `i`-th entry of `L` (0-based) and an error (`none`) exactly for `i ≥ len(L)` -/
theorem clause_select (r : Rep) (hr : r.wf = true) (i : Nat) :
    r.select i = (L r)[i]?.map (fun (v : Nat) => (v : Int)) ∧ (r.select i = none ↔ (L r).length ≤ i) := by
  have h := Rep.select_spec r hr i
  rw [select_eq_getElem?, coe_opt] at h
  exact ⟨h, by rw [h, Option.map_eq_none_iff, List.getElem?_eq_none_iff]; rfl⟩

/-- for all `a, b ≤ 2^32` (`a ≥ b` is the empty window) -/
theorem clause_cardinalityInRange (r : Rep) (hr : r.wf = true) (a b : Nat) (ha : a ≤ 4294967296) (hb : b ≤ 4294967296) :
    r.cardInRange a b = (((L r).filter (fun v => decide (a ≤ v) && decide (v < b))).length : Int) := by
  rw [Rep.cardInRange_spec r hr a b ha hb, cardInRange_L r hr]

/-- for every `a` and every `b ≤ 2^32` -/
theorem clause_intersectsWithInterval (r : Rep) (hr : r.wf = true) (a b : Nat) (hb : b ≤ 4294967296) :
    r.intersectsWithInterval a b = true ↔ ((L r).filter (fun v => decide (a ≤ v) && decide (v < b))).length ≠ 0 := by
  rw [Rep.intersectsWithInterval_spec r hr a b hb, cardInRange_L r hr, bne_iff_ne]

/-- `x.Equals(y)` — computed chunk by chunk with the cross-kind equality kernels — holds iff the element lists are equal -/
theorem clause_equals (x y : Rep) (hx : x.wf = true) (hy : y.wf = true) : x.equals y = true ↔ L x = L y := by
  rw [Rep.equals_spec x y hx hy, beq_iff_eq]
  constructor
  · intro h; rw [L, L, h]
  · intro h
    refine canon_ext _ _ _ (canon_rep x hx) (canon_rep y hy) fun v => ?_
    rw [Bool.eq_iff_iff, ← (reading_L x hx).1 v, ← (reading_L y hy).1 v, h]

/-- `ToArray()` is `L`; `ToExistingArray(&old)` writes `L` over the front of a slice that is long enough and leaves its tail
alone (and indexes out of range, `none`, when the slice is shorter than `len(L)`) -/
theorem clause_toArray (r : Rep) (hr : r.wf = true) (old : List Nat) :
    r.toArray = L r ∧
    r.toExistingArray old = if (L r).length ≤ old.length then some (L r ++ old.drop (L r).length) else none := by
  refine ⟨Rep.toArray_spec r hr, ?_⟩
  rw [Rep.toExistingArray_spec r hr, L, toList_length]

example := clause_toArray exR exR_wf [1, 2, 3]
example := clause_cardinalityInRange exR exR_wf 65599 4294967296 (by decide) (Nat.le_refl _)
example := clause_equals exR exR.clone exR_wf ((Rep.wf_clone exR).trans exR_wf)
example : exR.rank 4294901768 = 6 ∧ exR.select 13 = some 4294967295 ∧ exR.select 14 = none ∧ exR.minimum = some 65536 := by
  decide +kernel

/-! ### Checksum -/

/-- `Checksum()` is the same for a bitmap, its `Clone()`, and the source after the `Clone()` (whose flags were raised) -/
theorem clause_checksum_clone (r : Rep) : r.clone.checksum = r.checksum ∧ r.cloneSrc.checksum = r.checksum :=
  ⟨Rep.checksum_clone r, Rep.checksum_cloneSrc r⟩

/-- whatever the reader model returns for the bytes the writer model produced for a well-formed bitmap — zero-copy entry
points (`flag = true`) or copying ones, any bytes following the stream — has the checksum of the original; and the reader does
return something (`decode_encode`) -/
theorem clause_checksum_roundtrip (r : Rep) (hr : r.wf = true) (flag : Bool) (tail : Bytes) :
    (∀ r' n, decode specParams flag (r.encode specParams ++ tail) = .ok (r', n) → r'.checksum = r.checksum) ∧
    ∃ r' n, decode specParams flag (r.encode specParams ++ tail) = .ok (r', n) :=
  ⟨fun r' n h => Rep.checksum_roundtrip r hr flag tail r' n h, ⟨_, _, decode_encode r hr flag tail⟩⟩

/-- more generally the checksum depends on keys and container payloads only — not on flags, switch or cached cardinality -/
theorem clause_checksum_depends_on_contents_only (r r' : Rep)
    (hk : r'.slots.map (·.key) = r.slots.map (·.key)) (hc : r'.slots.map (·.c) = r.slots.map (·.c)) : r'.checksum = r.checksum :=
  Rep.checksum_congr r r' hk hc

example := clause_checksum_roundtrip exR exR_wf true [7, 7]

end RModel.Statements.C03
