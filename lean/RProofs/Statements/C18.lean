import RProofs.Serial64
import RProofs.ByteInputDecode64
import RProofs.Rep64QueryPair
/-!
# C18 — `roaring64` serialization

> For every roaring64 bitmap, WriteTo/ToBytes/MarshalBinary/ToBase64 followed by ReadFrom, FromUnsafeBytes,
> UnmarshalBinary or FromBase64 gives an Equal bitmap, the byte count equals GetSerializedSizeInBytes and the returned n,
> the stream is consumed exactly, and library-made bitmaps and their round trips pass Validate. Every proper prefix of a
> valid stream, and every corruption of its bucket count, keys or inner headers, makes the decoders return an error or a
> bitmap - never panic or hang.

## Reading guide

* `Rep64` = a `roaring64.Bitmap` as stored (switch, sorted buckets `(high, 32-bit bitmap, flag)`), `Rep64.wf` its invariant,
  `Rep64.toBSet` the set it denotes (see C17). "Library-made" bitmaps are the well-formed ones: every modelled operation
  preserves `Rep64.wf` (the `wf` parts of the C17 clauses).
* `Bytes = List UInt8`. `Rep64.encode specParams r` = the bytes `WriteTo` writes (`ToBytes`, `MarshalBinary` are `WriteTo`
  into a buffer); `Rep64.serializedSize specParams r` = `GetSerializedSizeInBytes()`; `specParams` are the literal format
  constants (cookies 12347 / 12346, …), tied to the Go constants by `RModel.Facts.r64_cookies_spec` and the C05 facts.
* `decode64 P zeroCopy bytes : Outcome (Rep64 × Nat)` = `ReadFrom` (`zeroCopy = false`; `UnmarshalBinary` is `ReadFrom` on a
  `bytes.Reader`) resp. `FromUnsafeBytes` (`zeroCopy = true`) into a fresh bitmap, with outcome `ok (bitmap, n)` / `err` /
  `panic` — `panic` wherever the Go code would index or allocate unchecked. `Rep64.readInto` is the same on a used
  receiver. `ByteIn.readFrom64` / `ByteIn.fromUnsafe64` are the two entry points written against the byte-input layer of
  `internal/byte_input.go` (an `io.Reader` delivering the stream in arbitrary chunk sizes `sched`, resp. one shared
  `ByteBuffer`); they are proved equal to `decode64`. `Rep64.asDecoded r zeroCopy` is `r` as a reader rebuilds it (same keys
  and containers; switch and bucket flags off, container flags = `zeroCopy`). `Rep64.validate` = `Validate() == nil`,
  `Rep64.equals` = `Equals` (the Go walk, C17).
* NOT theorems: that Go writes / reads like these models (`l2ser64`: bytes = model encoding byte for byte; `l2dec64`: same
  classification, bucket structure and `Validate` verdict for every generated stream; `ser64`: every entry point, trailing
  bytes, reused receivers, truncations, corrupted headers). `ToBase64` / `FromBase64` are `WriteTo` / `ReadFrom` through
  `encoding/base64`, which is trusted, not modelled. "Never hang" is a statement about the model's loop bound (below);
  wall-clock behaviour of the Go process is observed (watchdog), not proved.
-/
namespace RModel.Statements.C18
open RModel RModel.BSet RModel.Impl
open RModel.Impl.ByteIn (readFrom64 fromUnsafe64 report64 Reader readFrom64_eq_decode64 fromUnsafe64_eq_decode64)

/-! ## Round trip, byte count, exact consumption -/

/-- **write then read gives an Equal bitmap; the byte count equals `GetSerializedSizeInBytes` and the returned `n`; the
stream is consumed exactly.** For every well-formed `r`, both reader families (`zeroCopy`) and ARBITRARY bytes `tail` after
the stream: the reader succeeds, returns `r` as rebuilt (`asDecoded`), which denotes the same set and is `Equals` to `r`
(in both directions, by the Go walk), and the count it returns is the number of bytes written = `serializedSize` — nothing
of `tail` is consumed or influences the result. -/
theorem clause_roundtrip (r : Rep64) (hr : r.wf = true) (zeroCopy : Bool) (tail : Bytes) :
    decode64 specParams zeroCopy (r.encode specParams ++ tail) = .ok (r.asDecoded zeroCopy, r.serializedSize specParams) ∧
    (r.encode specParams).length = r.serializedSize specParams ∧
    (r.asDecoded zeroCopy).toBSet = r.toBSet ∧
    (r.asDecoded zeroCopy).equals r = true ∧ r.equals (r.asDecoded zeroCopy) = true := by
  have hlen := Rep64.encode_length r hr
  have hset := asDecoded_toBSet r zeroCopy
  have hwf := roundtrip_wf64 r hr zeroCopy
  exact ⟨by rw [← hlen]; exact decode64_encode r hr zeroCopy tail, hlen, hset,
    Rep64.equals_of_toBSet_eq hwf hr hset, Rep64.equals_of_toBSet_eq hr hwf hset.symm⟩

/-- **the same through the actual entry points**: `ReadFrom` on an `io.Reader` that delivers the bytes in any chunk sizes
(`sched`, eager or late EOF), `FromUnsafeBytes` on the caller's slice, and either reader on a USED receiver (which keeps its
own `copyOnWrite` switch and nothing else). -/
theorem clause_roundtrip_entry_points (r : Rep64) (hr : r.wf = true) (tail : Bytes) (sched : List Nat) (eager : Bool)
    (recv : Rep64) (zeroCopy : Bool) :
    report64 (readFrom64 specParams (Reader.ofData (r.encode specParams ++ tail) sched none eager)) =
      .ok (r.asDecoded false, r.serializedSize specParams) ∧
    report64 (fromUnsafe64 specParams (r.encode specParams ++ tail)) = .ok (r.asDecoded true, r.serializedSize specParams) ∧
    recv.readInto specParams zeroCopy (r.encode specParams ++ tail) =
      .ok ({ cow := recv.cow, buckets := (r.asDecoded zeroCopy).buckets }, r.serializedSize specParams) := by
  have hlen := Rep64.encode_length r hr
  refine ⟨?_, ?_, ?_⟩
  · rw [readFrom64_eq_decode64, ← hlen]; exact decode64_encode r hr false tail
  · rw [fromUnsafe64_eq_decode64, ← hlen]; exact decode64_encode r hr true tail
  · rw [← hlen]; exact readInto_encode recv r hr zeroCopy tail

/-- two buckets, the second under the top key `2^32 - 1`; array and run containers; flags set -/
def exR : Rep64 := ⟨true, [⟨0, ⟨false, [⟨0, .arr [1, 5, 9], false⟩, ⟨3, .run [(10, 99)], false⟩]⟩, false⟩,
                           ⟨4294967295, ⟨false, [⟨65535, .arr [65535], true⟩]⟩, true⟩]⟩

example : exR.wf = true ∧ (exR.encode specParams).length = 59 ∧ exR.serializedSize specParams = 59 ∧
    (decode64 specParams true (exR.encode specParams ++ [7, 7]) == .ok (exR.asDecoded true, 59)) = true := by decide +kernel

/-! ## `Validate` -/

/-- **library-made bitmaps and their round trips pass `Validate`**: every well-formed bitmap validates, and what either
reader rebuilds from its stream is well-formed again, hence validates. -/
theorem clause_validate (r : Rep64) (hr : r.wf = true) (zeroCopy : Bool) :
    r.validate = true ∧ (r.asDecoded zeroCopy).wf = true ∧ (r.asDecoded zeroCopy).validate = true :=
  ⟨wf64_implies_validate r hr, roundtrip_wf64 r hr zeroCopy, wf64_implies_validate _ (roundtrip_wf64 r hr zeroCopy)⟩

example : exR.validate = true ∧ (exR.asDecoded true).validate = true := by decide +kernel

/-! ## Truncated and corrupted streams -/

/-- **every proper prefix of a valid stream** is rejected with an error by both reader families — stronger than the clause
(never accepted as a bitmap, never a panic). -/
theorem clause_prefix_rejected (r : Rep64) (hr : r.wf = true) (zeroCopy : Bool) (k : Nat)
    (hk : k < (r.encode specParams).length) :
    decode64 specParams zeroCopy ((r.encode specParams).take k) = .err :=
  decode64_prefix_rejected r hr zeroCopy k hk

example : (58 : Nat) < (exR.encode specParams).length ∧
    (decode64 specParams false ((exR.encode specParams).take 58) == .err) = true := by decide +kernel

/-- **every corruption of the bucket count, keys or inner headers — indeed EVERY byte string — gives an error or a bitmap,
never a panic**, with any format parameters, through the byte-list readers and through both entry points over any chunk
schedule. (`Outcome` has exactly the three cases `ok`, `err`, `panic`.) -/
theorem clause_corruption_no_panic (P : SerParams) (zeroCopy : Bool) (bs : Bytes) (sched : List Nat) (eager : Bool) :
    decode64 P zeroCopy bs ≠ .panic ∧
    report64 (readFrom64 P (Reader.ofData bs sched none eager)) ≠ .panic ∧
    report64 (fromUnsafe64 P bs) ≠ .panic :=
  ⟨decode64_no_panic P zeroCopy bs,
   by rw [readFrom64_eq_decode64]; exact decode64_no_panic P false bs,
   by rw [fromUnsafe64_eq_decode64]; exact decode64_no_panic P true bs⟩

/-- **… or hang** — the untrusted 8-byte bucket count cannot make the reader loop or allocate beyond the data: whenever a
read of `c` bytes succeeds, `c` is within the input and every bucket built cost at least 12 consumed bytes, so at most
`(len - 8) / 12` buckets are ever appended whatever the count field says; the loop stops at the first failing read (the
model reader is structurally recursive on the count and total). And an accepted stream whose result passes `Validate` is a
well-formed bitmap, so everything proved about well-formed bitmaps (C17) applies to it. -/
theorem clause_corruption_bounded (P : SerParams) (hP : P.arrayMax = 4096) (zeroCopy : Bool) (bs : Bytes) (r : Rep64) (c : Nat)
    (h : decode64 P zeroCopy bs = .ok (r, c)) :
    (8 + 12 * r.buckets.length ≤ c ∧ c ≤ bs.length) ∧ (r.validate = true → r.wf = true) :=
  ⟨decode64_bucket_bound h, decoded_valid_is_wf64 P hP zeroCopy bs r c h⟩

/-- a stream whose count field claims `2^64 - 1` buckets but which carries one: rejected, no panic; and the hypotheses of
`clause_corruption_bounded` hold for the intact stream with trailing bytes -/
example : (decode64 specParams false (List.replicate 8 255 ++ (exR.encode specParams).drop 8) == .err) = true ∧
    specParams.arrayMax = 4096 ∧
    (decode64 specParams true (exR.encode specParams ++ [7, 7]) == .ok (exR.asDecoded true, 59)) = true := by decide +kernel

end RModel.Statements.C18
