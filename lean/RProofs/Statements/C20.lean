import RProofs.BSI
import RProofs.BSI32
import RProofs.BSI64Ops
import RProofs.BSI64Big
import RProofs.BSI32Ops
import RProofs.BSI32OpsPlanes
/-!
# C20 — bit-sliced indexes: queries against the stored map

> For both BSI implementations and every stored map, CompareValue/CompareBigValue with LT, LE, EQ, GE, GT and RANGE
> (optionally restricted to a found-set of existing columns), CompareBSI, BatchEqual/BatchEqualBig/BatchEqualValues,
> MinMax/MinMaxBig over a non-empty set, Sum/SumBigValues, Transpose/IntersectAndTranspose and TransposeWithCounts return
> exactly the columns, extremum, sum and value histogram obtained by evaluating the predicate on each stored value - never a
> column outside the found-set - for every worker count. The returned bitmaps are independent of the index's internal
> bitmaps; comparison constants are assumed to lie within the index's range.

## Reading guide

* Model objects as in C19: `BSI` = `roaring64.BSI` (planes + sign plane + `ebm`), `BSI32.Index` = `BitSliceIndexing.BSI`;
  `WF` the invariant (kept by every update, C19), `Good f` a canonical finite set of columns. "The stored map" is read by
  `getValue`: `b.value c` (64-bit), `BSI32.colValue b c` / `BSI32.getValueD b c` (32-bit) is the integer column `c` holds.
* `BSI.pred op v k k2` is the predicate of the six operations (`v < k`, `v ≤ k`, `v = k`, `k ≤ v`, `k < v`, `k ≤ v ∧ v ≤ k2`);
  `BSI.inFound found c` is `found = nil ∨ c ∈ found`; `BSI.Fits k bc` is "`k` lies within the index's range"
  `-2^bc ≤ k < 2^bc` (every stored value does: `BSI.value_fits`). The query models are the Go algorithms: the plane
  algebra (`compareInt64Value`, `batchEqual`, `minMaxCandidates`, `sum`), the per-column automaton taken by wide indexes /
  `big.Int` constants (`compareBig`), the dispatchers between them (`compareValueAny` = `CompareValue`, `compareBigValue` =
  `CompareBigValue`, `batchEqualAny` = `BatchEqual`, `batchEqualBig`), and `parallelExecutor`'s batching (`…Par n`).
* Worker counts: a function with a parameter `n` is the Go function run with `n` workers (`parallelExecutor` cuts the columns
  into `n` batches and combines the batch results); the theorems hold for every `n`. Plane-algebra paths do not use the
  worker count. The ORDER in which goroutines deliver batch results is covered for the 32-bit index (`…_order_independent`).
* NOT theorems: that Go returns what the models return (suites `bsiq`, `bsix`, `bsibig`, `bsi32ops`: every query against a
  map oracle and against these models); the scheduler (C12). **"The returned bitmaps are independent of the index's internal
  bitmaps" has no theorem**: results are values (`BSet`s) in the model, object identity / aliasing of Go bitmaps is not
  represented; it is observed (results are mutated and the index re-read, `bplanes`) and pinned by the sharing skeletons
  `cowSkeleton64/BSI32_pinned`. `BatchEqualValues` is the dispatcher `batchEqualAny` on `int64` values.
-/
namespace RModel.Statements.C20
open RModel RModel.BSet
open RModel.BSI (Good WF Op pred inFound Fits cell)

/-! ## 64-bit index (`roaring64.BSI`) -/

/-- **CompareValue / CompareBigValue**, all six operations, constants within the index's range, optional found-set of
existing columns (`hsub`): the result is exactly the existing columns, inside the found-set, whose stored value satisfies the
predicate. `compareValueAny` = `CompareValue` (fast path when the index has ≤ 64 planes, else per column), `compareBigValue`
= `CompareBigValue`; every width of index. The per-column path gives the same set for every worker count `n`. -/
theorem clause_compare64 (b : BSI) (h : WF b) (op : Op) (lo hi : Int) (found : Option BSet)
    (hf : ∀ f, found = some f → Good f) (hsub : ∀ f, found = some f → ∀ x, mem f x = true → mem b.ebm x = true)
    (hlo : Fits lo b.bitCount) (hhi : op = .RANGE → Fits hi b.bitCount) (c n : Nat) :
    (mem (b.compareValueAny op lo hi found) c = true ↔ mem b.ebm c = true ∧ inFound found c ∧ pred op (b.value c) lo hi) ∧
    (mem (b.compareBigValue op lo hi found) c = true ↔ mem b.ebm c = true ∧ inFound found c ∧ pred op (b.value c) lo hi) ∧
    b.compareBigPar op lo hi found n = b.compareBig op lo hi found :=
  ⟨BSI.compareValueAny_spec b h op lo hi found hf hsub hlo hhi c, BSI.compareBigValue_spec b h op lo hi found hf hsub hlo hhi c,
   BSI.compareBigPar_eq b op lo hi found n⟩

/-- the two paths separately, without assuming the found-set inside the existing columns: the plane-algebra fast path
(`compare`, taken iff `BitCount ≤ 63` and the constants fit — `compareInt64Value_isSome`) intersects with the existing
columns; the per-column path (`compareBig`) evaluates the predicate on every column of the found-set. -/
theorem clause_compare64_paths (b : BSI) (h : WF b) (op : Op) (lo hi : Int) (found : Option BSet)
    (hf : ∀ f, found = some f → Good f) (hlo : Fits lo b.bitCount) (hhi : op = .RANGE → Fits hi b.bitCount) (c : Nat) :
    (b.bitCount ≤ 63 → (mem (b.compare op lo hi found) c = true ↔
      mem b.ebm c = true ∧ inFound found c ∧ pred op (b.value c) lo hi)) ∧
    (mem (b.compareBig op lo hi found) c = true ↔ mem (found.getD b.ebm) c = true ∧ pred op (b.value c) lo hi) ∧
    ((b.compareInt64Value op lo hi found).isSome = true ↔
      b.bitCount ≤ 63 ∧ Fits lo b.bitCount ∧ (op = .RANGE → Fits hi b.bitCount)) :=
  ⟨fun hbc => BSI.compare_spec b h op lo hi found (fun f e => (hf f e).1) hbc hlo hhi c,
   BSI.compareBig_spec b h op lo hi found hf hlo hhi c, BSI.compareInt64Value_isSome b op lo hi found⟩

/-- **CompareBSI**: column-wise comparison of two indexes of any (different) widths on the columns both hold (inside the
found-set); `RANGE` is not defined for it: Go panics exactly when there is a column to compare (`none`). -/
theorem clause_compareBSI64 (a o : BSI) (ha : WF a) (ho : WF o) (op : Op) (found : Option BSet)
    (hf : ∀ f, found = some f → Good f) :
    (op ≠ .RANGE → ∃ r, a.compareBSI op o found = some r ∧ ∀ c, mem r c = true ↔
      (mem a.ebm c = true ∧ mem o.ebm c = true ∧ inFound found c) ∧ pred op (a.value c) (o.value c) 0) ∧
    (op = .RANGE → (a.compareBSI op o found = none ↔ ∃ c, mem a.ebm c = true ∧ mem o.ebm c = true ∧ inFound found c)) :=
  BSI.compareBSI_spec a o ha ho op found hf

/-- **BatchEqual / BatchEqualBig / BatchEqualValues**: any list of integers (duplicates, values outside the index's range,
the empty list), every width of index: exactly the columns whose stored value is in the list; same set for every worker
count of the per-column path. -/
theorem clause_batchEqual64 (b : BSI) (h : WF b) (values : List Int) (c n : Nat) :
    (mem (b.batchEqualAny values) c = true ↔ ∃ v ∈ values, b.getValue c = some v) ∧
    (mem (b.batchEqualBig values) c = true ↔ ∃ v ∈ values, b.getValue c = some v) ∧
    b.batchEqualPar values n = BSI.batchEqualBatch b values (toList b.ebm) :=
  ⟨BSI.batchEqualAny_spec b h values c, BSI.batchEqualBig_spec b h values c, BSI.batchEqualPar_eq b values n⟩

/-- **MinMax / MinMaxBig**: over a non-empty set of existing columns (inside the found-set) the result is the stored value of
one of them and bounds all of them; over an empty set it is the documented sentinel. -/
theorem clause_minMax64 (b : BSI) (h : WF b) (isMax : Bool) (found : Option BSet) (hf : ∀ f, found = some f → Good f) :
    ((∀ c, ¬ (mem b.ebm c = true ∧ inFound found c)) →
      b.minMaxBig isMax found = if isMax then -(2 : Int) ^ b.bitCount else (2 : Int) ^ b.bitCount - 1) ∧
    ((∃ c, mem b.ebm c = true ∧ inFound found c) →
      ∃ c0, (mem b.ebm c0 = true ∧ inFound found c0) ∧ b.minMaxBig isMax found = b.value c0 ∧
        ∀ c, mem b.ebm c = true → inFound found c →
          (if isMax then b.value c ≤ b.value c0 else b.value c0 ≤ b.value c)) :=
  BSI.minMaxBig_spec b h isMax found hf

/-- the same for the `int64` entry point `MinMax` (`BSI.minMax`, the plane walk `minMaxCandidates`) -/
theorem clause_minMax64_int64 (b : BSI) (h : WF b) (isMax : Bool) (found : Option BSet) (hf : ∀ f, found = some f → Good f) :
    (∃ c, mem (inter (found.getD b.ebm) b.ebm) c = true) →
      ∃ c0, mem (inter (found.getD b.ebm) b.ebm) c0 = true ∧ b.minMax isMax found = b.value c0 ∧
        ∀ c, mem (inter (found.getD b.ebm) b.ebm) c = true →
          (if isMax then b.value c ≤ b.value c0 else b.value c0 ≤ b.value c) :=
  (BSI.minMax_spec b h isMax found hf).2

/-- **Sum / SumBigValues**: the sum of the stored values over the existing columns of the found-set (all existing columns
when nil) — an exact integer, no wrap-around —, and the count Go returns beside it, the cardinality of the found-set. -/
theorem clause_sum64 (b : BSI) (h : WF b) (found : Option BSet) (hf : ∀ f, found = some f → Good f) :
    b.sumBigValues found =
      (((toList (inter (found.getD b.ebm) b.ebm)).map (fun c => b.value c)).sum, card (found.getD b.ebm)) ∧
    b.sumAll = ((toList b.ebm).map (fun c => b.value c)).sum := by
  refine ⟨?_, BSI.sumAll_spec b h⟩
  show (b.sum (found.getD b.ebm), card (found.getD b.ebm)) = _
  rw [BSI.sum_spec b h _ (BSI.good_found b h found hf)]

/-- **Transpose / IntersectAndTranspose**: the set of stored values (as `uint64`) of the visited columns; `none` = Go panics
because a visited value is not an `int64`. -/
theorem clause_transpose64 (b : BSI) (h : WF b) (found : Option BSet) (hf : ∀ f, found = some f → Good f) (r : BSet)
    (hr : b.transpose found = some r) (k : Nat) :
    mem r k = true ↔ ∃ c v, inFound found c ∧ b.getValue c = some v ∧ BSI.u64OfInt v = k :=
  BSI.transpose_spec b h found hf r hr k

/-- **TransposeWithCounts — partial.** Proved for ONE worker: the result is a well-formed index holding, per value `k`, the
number of visited columns that store `k` and pass the filter set (`cell 0 = none`: absent). Missing: more than one worker
(the batch results are then `Add`ed in arrival order) is not modelled for the 64-bit index — proved for the 32-bit one
(`clause_transposeWithCounts32`); sampled by the suites for worker counts > 1. -/
theorem clause_transposeWithCounts64_partial (b : BSI) (found filt : Option BSet) (r : BSI)
    (hr : b.transposeWithCounts1 found filt = some r) (k : Nat) :
    r.getValue k = cell (BSI.countOf b (filt.getD b.ebm) (b.visited found) k) ∧ WF r :=
  ⟨BSI.get_transposeWithCounts1 b found filt r hr k, BSI.wf_transposeWithCounts1 b found filt r hr⟩

/-- `BSI.exIdx` (18 planes: −1, −3, 70000, 0) and `BSI.exBig` (72 planes: `2^70 + 3`, −7, 0); the constants fit -/
example : WF BSI.exIdx ∧ WF BSI.exBig ∧ Fits 0 BSI.exIdx.bitCount ∧ Fits (2 ^ 70 + 3) BSI.exBig.bitCount :=
  ⟨BSI.wf_exIdx, BSI.wf_exBig, by rw [BSI.exIdx_eq]; unfold Fits; decide +kernel, BSI.fits_exBig.2.2.1⟩
example : BSI.exIdx.compare .LT 0 0 none = [1, 3] ∧ BSI.exBig.compareBig .RANGE (-7) 3 none = [5, 6, 9, 10] ∧
    BSI.exIdx.sumAll = 69996 ∧ BSI.exBig.minMaxBig true none = 2 ^ 70 + 3 := by
  rw [BSI.exIdx_eq, BSI.exBig_eq]; decide +kernel

/-! ## 32-bit index (`BitSliceIndexing.BSI`) -/

/-- **CompareValue** with `n` workers, all six operations (`BSI32.pred`), any `int64` constants (this index has 64-bit
two's complement columns, so every `int64` is within range): exactly the columns of the found-set (the existing columns
when nil) whose stored value satisfies the predicate — for every worker count, and equal to the one-batch form. -/
theorem clause_compare32 (b : BSI32.Index) (h : BSI32.WF b) (n : Nat) (op : BSI32.Op) (k k2 : Int) (found : Option BSet)
    (hf : ∀ f, found = some f → Good f) (hk : BSI32.min64 ≤ k ∧ k ≤ BSI32.max64) (hk2 : BSI32.min64 ≤ k2 ∧ k2 ≤ BSI32.max64)
    (c : Nat) :
    (mem (BSI32.compareValuePar b n op k k2 found) c = true ↔
      mem (found.getD b.ebm) c = true ∧ BSI32.pred op (BSI32.colValue b c) k k2) ∧
    BSI32.compareValuePar b n op k k2 found = BSI32.compareValue b op k k2 found :=
  ⟨BSI32.compareValuePar_spec b h n op k k2 found hf hk hk2 c, BSI32.compareValue_worker_independent b h n op k k2 found hf⟩

/-- **BatchEqual** through its whole dispatch (early exit, trie, parallel scan) with `n` workers, `int64` values, an index
of at most 64 planes (always, unless `Add` carried out of plane 63): exactly the columns whose value is in the list. -/
theorem clause_batchEqual32 (b : BSI32.Index) (h : BSI32.WF b) (h64 : BSI32.bitCount b ≤ 64) (n m : Nat) (values : List Int)
    (hv : ∀ v ∈ values, BSI32.min64 ≤ v ∧ v ≤ BSI32.max64) (c : Nat) :
    (mem (BSI32.batchEqualAny b n values) c = true ↔ ∃ v ∈ values, BSI32.getValue b c = some v) ∧
    BSI32.batchEqualAny b n values = BSI32.batchEqualAny b m values :=
  ⟨BSI32.batchEqualAny_spec b h h64 n values hv c, BSI32.batchEqual_worker_independent b n m values⟩

/-- **MinMax** over a non-empty found-set (`c0` a witness), `n` workers, any arrival order `rs` of the batch results. -/
theorem clause_minMax32 (b : BSI32.Index) (h : BSI32.WF b) (n : Nat) (isMax : Bool) (found : Option BSet)
    (hf : ∀ f, found = some f → Good f) (c0 : Nat) (hc0 : mem (found.getD b.ebm) c0 = true) :
    ((∃ c, mem (found.getD b.ebm) c = true ∧ BSI32.getValueD b c = BSI32.minMax b isMax found) ∧
      ∀ c, mem (found.getD b.ebm) c = true →
        if isMax then BSI32.getValueD b c ≤ BSI32.minMax b isMax found else BSI32.minMax b isMax found ≤ BSI32.getValueD b c) ∧
    BSI32.minMaxPar b n isMax found = BSI32.minMax b isMax found ∧
    (∀ rs : List Int, rs.Perm ((BSI.batches n (toList (found.getD b.ebm))).map (BSI32.minOrMax b isMax)) →
      rs.foldl (BSI32.minMaxStep isMax) (if isMax then BSI32.min64 else BSI32.max64) = BSI32.minMax b isMax found) :=
  ⟨BSI32.minMax_spec b h isMax found hf c0 hc0, BSI32.minMax_worker_independent b n isMax found,
   fun rs hp => BSI32.minMax_order_independent b n isMax found rs hp⟩

/-- **Sum**: the `int64` sum of the stored values over the found-set with Go's wrap-around (`wrap`; exact when the
mathematical sum is an `int64`), and the count; independent of the order in which the per-plane goroutines add. -/
theorem clause_sum32 (b : BSI32.Index) (h : BSI32.WF b) (found : Option BSet) (hf : ∀ f, found = some f → Good f) :
    ((BSI32.sum b found).1 = BSI32.wrap (((toList (found.getD b.ebm)).map (BSI32.getValueD b)).sum) ∧
      (BSI32.sum b found).2 = card (found.getD b.ebm)) ∧
    (BSI32.min64 ≤ ((toList (found.getD b.ebm)).map (BSI32.getValueD b)).sum →
      ((toList (found.getD b.ebm)).map (BSI32.getValueD b)).sum ≤ BSI32.max64 →
      (BSI32.sum b found).1 = ((toList (found.getD b.ebm)).map (BSI32.getValueD b)).sum) ∧
    (∀ terms : List Nat, terms.Perm (BSI32.sumTerms (found.getD b.ebm) b.planes 0) →
      BSI32.sumOfTerms terms = (BSI32.sum b found).1) :=
  ⟨BSI32.sum_spec b h found hf, BSI32.sum_exact b h found hf, fun terms hp => BSI32.sum_order_independent b found terms hp⟩

/-- **Transpose / IntersectAndTranspose** with `n` workers: the set of `uint32(value)` of the visited columns (values outside
`[0, 2^32)` alias to their low 32 bits — stated; in domain, exactly the stored values); same set for every worker count. -/
theorem clause_transpose32 (b : BSI32.Index) (h : BSI32.WF b) (n m : Nat) (found : Option BSet)
    (hf : ∀ f, found = some f → Good f) (k : Nat) :
    (mem (BSI32.transposePar b n found) k = true ↔
      ∃ c v, mem (found.getD b.ebm) c = true ∧ BSI32.getValue b c = some v ∧ BSI32.u32 v = k) ∧
    ((∀ c v, mem (found.getD b.ebm) c = true → BSI32.getValue b c = some v → 0 ≤ v ∧ v < 4294967296) →
      (mem (BSI32.transposePar b n found) k = true ↔
        ∃ c, mem (found.getD b.ebm) c = true ∧ BSI32.getValue b c = some (k : Int))) ∧
    BSI32.transposePar b n found = BSI32.transposePar b m found :=
  ⟨BSI32.transpose_spec b h n found hf k, fun hdom => BSI32.transpose_spec_dom b h n found hf hdom k,
   BSI32.transpose_worker_independent b n m found⟩

/-- **TransposeWithCounts** with `n` workers (fewer than `2^63` visited columns): the value histogram — per key `k` the
number of visited columns holding `k`, absent when `0` —; the whole result INDEX (planes included) is the same for every
worker count and every arrival order `bts` of the batches, and well-formed. -/
theorem clause_transposeWithCounts32 (input : BSI32.Index) (n m : Nat) (found : Option BSet)
    (hlen : card (found.getD input.ebm) < 9223372036854775808) (k : Nat) :
    BSI32.getValue (BSI32.transposeWithCounts input n found) k =
      cell (BSI32.countOf input (toList (found.getD input.ebm)) k) ∧
    BSI32.transposeWithCounts input n found = BSI32.transposeWithCounts input m found ∧
    (∀ bts : List (List Nat), bts.Perm (BSI.batches n (toList (found.getD input.ebm))) →
      BSI32.sumResults (bts.map (BSI32.twcBatch input)) = BSI32.transposeWithCounts input 1 found) ∧
    BSI32.WF (BSI32.transposeWithCounts input n found) :=
  ⟨BSI32.transposeWithCounts_spec input n found hlen k, BSI32.transposeWithCounts_planes_independent input n m found hlen,
   fun bts hp => BSI32.transposeWithCounts_planes_order_independent input n found hlen bts hp,
   BSI32.wf_transposeWithCounts input n found hlen⟩

/-- `BSI32.exIdx` (2, 70000, −3, 0; 64 planes) and `BSI32.exT` (`{1:5, 2:7, 3:5, 9:0, 12:7, 13:7}`) -/
example : BSI32.WF BSI32.exIdx ∧ BSI32.WF BSI32.exT ∧ BSI32.bitCount BSI32.exIdx ≤ 64 ∧
    card (BSI32.exT.ebm) < 9223372036854775808 := ⟨BSI32.wf_exIdx, BSI32.wf_exT, by rw [BSI32.exIdx_eq]; decide +kernel, by rw [BSI32.exT_eq]; decide +kernel⟩
example : BSI32.compareValue BSI32.exIdx .LT 0 0 none = [3, 4] ∧ BSI32.minMax BSI32.exIdx true none = 70000 ∧
    BSI32.sum BSI32.exIdx none = (69999, 4) ∧
    [0, 5, 7].map (BSI32.getValue (BSI32.transposeWithCounts BSI32.exT 3 none)) = [some 1, some 2, some 3] := by
  rw [BSI32.exIdx_eq, BSI32.exT_eq]; decide +kernel

end RModel.Statements.C20
