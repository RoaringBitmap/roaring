import RProofs.Iter
import RProofs.IterAdv
import RProofs.IterRev
import RProofs.IterMany
import RProofs.Iter2
/-!
# Property C04 — every iteration protocol yields exactly the elements, once, in order

> Iterator, ReverseIterator, ManyIterator (for any buffer sizes, including 0/1 and sizes straddling chunk edges), Iterate,
> Values, Backward and Ranges enumerate exactly the bitmap's elements - ascending or descending as documented, without
> duplicates or omissions - and stop early when the consumer asks; Ranges yields maximal, disjoint, non-adjacent half-open
> intervals whose union is the bitmap, merged across chunk boundaries. PeekNext returns what Next would return,
> AdvanceIfNeeded(m) skips exactly the values <m and never moves backwards, and UnsetIterator/Unset over [a,b) enumerate
> exactly the integers of [a,b) not in the bitmap.

## Reading guide

* `Rep` = a 32-bit `roaring.Bitmap` as stored; `Rep.wf r = true` = the representation invariant (C09); `Rep.toBSet r` = the set
  it denotes; `BSet.mem` = membership.  `L r` = the sorted element list (`reading_L`: exactly the members, strictly increasing
  — hence without duplicates —, all `< 2^32`); `U r a b` = the integers of `[a, b)` that are not members, increasing.
* `It.IntIt`, `It.IntRevIt`, `It.ManyIt`, `It.UnsetIt` (`RModel/Impl/Iter.lean`, `Iter2.lean`) are the Go iterator objects as
  state machines, field by field (chunk index, high bits, the embedded per-kind short iterator, for `UnsetIt` the window and
  the gap-key handling); `create` = `rb.Iterator()` etc., `hasNext / next / peekNext / advanceIfNeeded / nextMany` = the Go
  methods (a method that mutates returns the new state).  `drain fuel` is the loop `for it.HasNext() { it.Next() }` with a step
  bound, `nextManySeq caps` is a sequence of `NextMany(buf)` calls with `len(buf)` running through `caps`.
* For each iterator the proofs provide `Inv` (the state is coherent) and `rem` (the values still to be delivered, in delivery
  order).  Every method is described by its effect on `rem` and preserves `Inv`; so the clauses hold after ANY interleaving of
  calls, by chaining — that is how "all interleavings" is covered.
* `iterateRep`, `valuesRep`, `backwardRep`, `unsetRep`, `rangesRep` model `Iterate(cb)`, `Values()`, `Backward()`,
  `Unset(min,max)`, `Ranges()` with an arbitrary state-transforming consumer `cb : σ → value → (continue?, σ)`; `foldUntil cb l s` /
  `foldUntil2` is "hand the entries of `l` to `cb` in order until it answers false" — the early-stop semantics.
* Level: all clauses are representation-level (L2) theorems about the state machines, composed with the abstraction.
* NOT a theorem: that the Go iterators step like these state machines — observed by the scripts `iter`, `iterun`, `l2iter`,
  `l2iter2` (an L2 shadow steps next to every `hasnext/next/peek/adv/many` command).  Go's `iter.Seq` plumbing and panics of
  `Next`/`PeekNext` on an exhausted iterator are not modelled (for `UnsetIt.peekNext` the panic is the outcome `none`).
-/
namespace RModel.Statements.C04
open RModel RModel.BSet RModel.Impl RModel.Impl.It

/-- the sorted element list of the bitmap -/
def L (r : Rep) : List Nat := BSet.toList r.toBSet
/-- the integers of `[a, b)` that are NOT in the bitmap, in increasing order -/
def U (r : Rep) (a b : Nat) : List Nat := (List.range' a (b - a)).filter (fun x => !mem r.toBSet x)

theorem reading_L (r : Rep) (hr : r.wf = true) :
    (∀ x, x ∈ L r ↔ mem r.toBSet x = true) ∧ (L r).Pairwise (· < ·) ∧ ∀ x ∈ L r, x < 4294967296 :=
  toList_reading (canon_rep r hr)

theorem reading_U (r : Rep) (hr : r.wf = true) (a b : Nat) : absVals r a b = U r a b :=
  List.filter_congr fun x _ => by rw [mem_rep r hr]

def exR : Rep :=
  { cow := true, slots := [{ key := 1, c := .arr [0, 63, 64, 65535], flag := true },
                           { key := 2, c := .run [(0, 9)], flag := false }, { key := 65535, c := .run [(7, 3), (65530, 5)], flag := false }] }
theorem exR_wf : exR.wf = true := by decide

/-! ### clause: `Iterator` -/

/-- a fresh `Iterator()` has all of `L` ahead; in every coherent state `HasNext` says whether something remains, `Next` hands out
the head of what remains and keeps the rest, `PeekNext` shows that head without consuming it -/
theorem clause_iterator (r : Rep) (hr : r.wf = true) :
    ((IntIt.create r).Inv ∧ (IntIt.create r).rem = L r) ∧
    ∀ ii : IntIt, ii.Inv → (ii.hasNext = true ↔ ii.rem ≠ []) ∧
      ∀ v t, ii.rem = v :: t → ii.peekNext = v ∧ ii.next.1 = v ∧ ii.next.2.Inv ∧ ii.next.2.rem = t :=
  ⟨⟨(IntIt.create_spec r hr).1, by rw [(IntIt.create_spec r hr).2, valsOfRep_eq_toList r hr, L]⟩,
   fun _ hi => ⟨IntIt.hasNext_iff hi, fun _ _ h =>
     ⟨IntIt.peekNext_spec hi h, (IntIt.next_spec hi h).1, (IntIt.next_spec hi h).2.1, (IntIt.next_spec hi h).2.2.1⟩⟩⟩

/-- hence the loop `for it.HasNext() { it.Next() }` delivers exactly `L`: every element once, ascending -/
theorem clause_iterator_drain (r : Rep) (hr : r.wf = true) (fuel : Nat) (hf : (L r).length ≤ fuel) :
    ((IntIt.create r).drain fuel).1 = L r :=
  IntIt.drain_create r hr fuel (by rw [← toList_length]; exact hf)

example : ((IntIt.create exR).drain 30).1 = L exR := clause_iterator_drain exR exR_wf 30 (by
  rw [L, ← valsOfRep_eq_toList exR exR_wf]; decide +kernel)

/-! ### clause: `ReverseIterator` -/

/-- a fresh `ReverseIterator()` has all of `L` ahead and hands it out from the back: descending, each element once -/
theorem clause_reverseIterator (r : Rep) (hr : r.wf = true) :
    ((IntRevIt.create r).Inv ∧ (IntRevIt.create r).rem = L r) ∧
    (∀ ii : IntRevIt, ii.Inv → (ii.hasNext = true ↔ ii.rem ≠ []) ∧
      ∀ v t, ii.rem = t ++ [v] → ii.next.1 = v ∧ ii.next.2.Inv ∧ ii.next.2.rem = t) ∧
    ∀ fuel, (L r).length ≤ fuel → ((IntRevIt.create r).drain fuel).1 = (L r).reverse :=
  ⟨⟨(IntRevIt.create_spec r hr).1, by rw [(IntRevIt.create_spec r hr).2, valsOfRep_eq_toList r hr, L]⟩,
   fun _ hi => ⟨IntRevIt.hasNext_iff hi, fun _ _ h =>
     ⟨(IntRevIt.next_spec hi h).1, (IntRevIt.next_spec hi h).2.1, (IntRevIt.next_spec hi h).2.2.1⟩⟩,
   fun fuel hf => IntRevIt.drain_create r hr fuel (by rw [← toList_length]; exact hf)⟩

example := (clause_reverseIterator exR exR_wf).2.2 30

/-! ### clause: `ManyIterator`, any buffer sizes -/

/-- each `NextMany(buf)` returns the next `min len(buf) (remaining)` values in order (so `len(buf) = 0` returns nothing and
changes nothing observable, `1` behaves like `Next`); for EVERY sequence of buffer lengths the calls on a fresh iterator
concatenate to the first `Σ len` entries of `L` — all of `L`, nothing twice, as soon as the total capacity suffices -/
theorem clause_manyIterator (r : Rep) (hr : r.wf = true) (caps : List Nat) :
    ((ManyIt.create r).Inv ∧ (ManyIt.create r).rem = L r) ∧
    (∀ (ii : ManyIt) (cap : Nat), ii.Inv →
      (ii.nextMany cap).1 = ii.rem.take cap ∧ (ii.nextMany cap).2.Inv ∧ (ii.nextMany cap).2.rem = ii.rem.drop cap) ∧
    ((ManyIt.create r).nextManySeq caps).1 = (L r).take caps.sum ∧
    ((L r).length ≤ caps.sum → ((ManyIt.create r).nextManySeq caps).1 = L r) := by
  obtain ⟨h1, h2⟩ := ManyIt.create_spec r hr
  rw [valsOfRep_eq_toList r hr] at h2
  refine ⟨⟨h1, h2⟩, fun ii cap hi => ManyIt.nextMany_spec hi cap, ?_, fun hc => ?_⟩
  · rw [(ManyIt.nextManySeq_spec caps _ h1).1, h2, L]
  · exact ManyIt.nextManySeq_create r hr caps (by rw [← toList_length]; exact hc)

example := (clause_manyIterator exR exR_wf [0, 1, 3, 0, 7, 100]).2.2.1

/-! ### clause: `Iterate`, `Values`, `Backward` — and they stop when the consumer asks -/

/-- for ANY consumer (any state type, any stopping rule): `Iterate(cb)` and `Values()` hand it the entries of `L` in ascending
order, `Backward()` in descending order, until it answers `false`; nothing after that is handed over -/
theorem clause_iterate_values_backward {σ : Type} (r : Rep) (hr : r.wf = true) (cb : σ → Nat → Bool × σ) (s : σ) :
    iterateRep r cb s = (foldUntil cb (L r) s).2 ∧ valuesRep r cb s = (foldUntil cb (L r) s).2 ∧
    backwardRep r cb s = (foldUntil cb (L r).reverse s).2 :=
  ⟨iterateRep_spec r hr cb s, valuesRep_spec r hr cb s, backwardRep_spec r hr cb s⟩

/-- early stop, concretely: a consumer that records what it is handed and answers `false` on its `k`-th call (`k ≥ 1`) has seen
exactly the first `k` entries of `L` (all of `L` if it never stops) -/
theorem clause_early_stop (r : Rep) (hr : r.wf = true) (k : Nat) :
    iterateSeen r (some k) = (L r).take (max k 1) ∧ iterateSeen r none = L r :=
  ⟨iterateSeen_spec r hr (some k), iterateSeen_spec r hr none⟩

/-- a consumer that stops on its third call -/
example := clause_iterate_values_backward exR exR_wf (seenCb (some 3)) (0, [])
example := clause_early_stop exR exR_wf 3

/-! ### clause: `Ranges` -/

/-- `Ranges()` hands the consumer the pairs `pairsOf r.toBSet` in order until it answers `false`.  These pairs `(lo, hi)` are
half-open, non-empty, ascending and NON-TOUCHING (`Sep`: `hi_i < lo_{i+1}` — disjoint and non-adjacent, hence maximal: ranges
of one chunk and of the next one that touch have been merged), their union is exactly the bitmap, and they are the ONLY list
of pairs with these two properties -/
theorem clause_ranges {σ : Type} (r : Rep) (hr : r.wf = true) (cb : σ → Nat → Nat → Bool × σ) (s : σ) :
    rangesRep r cb s = (foldUntil2 cb (pairsOf r.toBSet) s).2 ∧
    Sep (pairsOf r.toBSet) ∧ (∀ x, memPairs (pairsOf r.toBSet) x = mem r.toBSet x) ∧
    ∀ l, Sep l → (∀ x, memPairs l x = mem r.toBSet x) → l = pairsOf r.toBSet := by
  have hc := canon_rep r hr
  have hm := memPairs_pairsOf _ hc.1 hc.2.2
  exact ⟨rangesRep_spec r hr cb s, sep_pairsOf _ hc.1, hm,
    fun l hl h => sep_ext _ _ hl (sep_pairsOf _ hc.1) (fun x => by rw [h x, hm x])⟩

/-- `Sep` and `memPairs` spelled out -/
theorem reading_Sep (l : List (Nat × Nat)) (x : Nat) :
    (Sep l ↔ (∀ p ∈ l, p.1 < p.2) ∧ l.Pairwise (fun p q => p.2 < q.1)) ∧
    (memPairs l x = true ↔ ∃ p ∈ l, p.1 ≤ x ∧ x < p.2) :=
  ⟨Iff.rfl, memPairs_iff l x⟩

/-- chunk 1 ends at 65535 and chunk 2 starts at 0: one merged range `[131071, 131082)` -/
example : rangesSeen exR none = [(65536, 65537), (65599, 65601), (131071, 131082), (4294901767, 4294901771), (4294967290, 4294967296)] := by
  decide +kernel

/-! ### clause: `PeekNext` returns what `Next` would return -/

theorem clause_peekNext (ii : IntIt) (hi : ii.Inv) (h : ii.hasNext = true) : ii.peekNext = ii.next.1 := by
  have hne := (IntIt.hasNext_iff hi).mp h
  cases hrem : ii.rem with
  | nil => exact absurd hrem hne
  | cons v t => rw [IntIt.peekNext_spec hi hrem, (IntIt.next_spec hi hrem).1]

/-- the unset iterator's `PeekNext` shows the head that `Next` then delivers, and leaves the remaining values as they were -/
theorem clause_peekNext_unset (iui : UnsetIt) (hi : iui.Inv) (v : Nat) (t : List Nat) (h : iui.rem = v :: t) :
    (UnsetIt.peekNext iui).1 = some v ∧ (UnsetIt.peekNext iui).2.rem = iui.rem ∧ (UnsetIt.next iui).1 = v :=
  ⟨(UnsetIt.peekNext_spec hi h).1, (UnsetIt.peekNext_spec hi h).2.2, (UnsetIt.next_spec hi h).1⟩

/-! ### clause: `AdvanceIfNeeded(m)` -/

/-- in any coherent state and for any `m < 2^32`: what remains afterwards is what remained before minus its leading values
`< m` — a suffix of it (never backwards); and for an iterator over `r` positioned at cursor `c` ("the elements `≥ c` remain")
the new position is the cursor `max c m`: exactly the values `< m` were skipped, none when `m ≤ c` -/
theorem clause_advanceIfNeeded (ii : IntIt) (hi : ii.Inv) (m : Nat) (hm : m < 4294967296) :
    (ii.advanceIfNeeded m).Inv ∧ (ii.advanceIfNeeded m).rem = ii.rem.dropWhile (fun x => decide (x < m)) ∧
    (ii.advanceIfNeeded m).rem <:+ ii.rem ∧
    ∀ (r : Rep) (c : Nat), r.wf = true → ii.rem = (L r).filter (fun x => decide (c ≤ x)) →
      (ii.advanceIfNeeded m).rem = (L r).filter (fun x => decide (max c m ≤ x)) := by
  obtain ⟨h1, h2⟩ := IntIt.advanceIfNeeded_spec hi m hm
  exact ⟨h1, h2, by rw [h2]; exact List.dropWhile_suffix _,
    fun r c hr h => (IntIt.advance_from_cursor hi r hr c m hm h).2⟩

example := clause_advanceIfNeeded (IntIt.create exR) (IntIt.create_spec exR exR_wf).1 131075 (by decide)

/-! ### clause: `UnsetIterator` / `Unset` over `[a, b)` -/

/-- for every window `a`, `b ≤ 2^32` (`a ≥ b`: empty): a fresh `UnsetIterator(a, b)` has exactly `U r a b` ahead — the integers of
`[a, b)` not in the bitmap, ascending; `HasNext` (which in Go mutates the iterator) changes nothing that remains and says
whether something remains, `Next` hands out the head, `AdvanceIfNeeded(m)` drops the leading values `< m`; the drain loop
delivers `U r a b`; and `Unset(min, max)` hands an arbitrary consumer `U r min (max+1)` until it answers `false` -/
theorem clause_unset (r : Rep) (hr : r.wf = true) (a b : Nat) (hb : b ≤ 4294967296) :
    ((UnsetIt.create r a b).Inv ∧ (UnsetIt.create r a b).rem = U r a b) ∧
    (∀ iui : UnsetIt, iui.Inv →
      ((UnsetIt.hasNext iui).2.Inv ∧ (UnsetIt.hasNext iui).2.rem = iui.rem ∧ ((UnsetIt.hasNext iui).1 = true ↔ iui.rem ≠ [])) ∧
      (∀ v t, iui.rem = v :: t → (UnsetIt.next iui).1 = v ∧ (UnsetIt.next iui).2.Inv ∧ (UnsetIt.next iui).2.rem = t) ∧
      (∀ m, m < 4294967296 → (iui.advanceIfNeeded m).Inv ∧
        (iui.advanceIfNeeded m).rem = iui.rem.dropWhile (fun x => decide (x < m)))) ∧
    (∀ fuel, b - a ≤ fuel → ((UnsetIt.create r a b).drain fuel).1 = U r a b) :=
  ⟨⟨(UnsetIt.create_spec r hr a b hb).1, by rw [(UnsetIt.create_spec r hr a b hb).2, reading_U r hr]⟩,
   fun _ hi => UnsetIt.protocol hi,
   fun fuel hf => by rw [UnsetIt.drain_create r hr a b hb fuel hf, reading_U r hr]⟩

theorem clause_unset_rangefunc {σ : Type} (r : Rep) (hr : r.wf = true) (min max : Nat) (hmax : max < 4294967296)
    (cb : σ → Nat → Bool × σ) (s : σ) : unsetRep r min max cb s = (foldUntil cb (U r min (max + 1)) s).2 := by
  rw [unsetRep_spec r hr min max hmax cb s, reading_U r hr]

/-- a window starting mid-chunk in a gap key and ending at 2^32 -/
example := (clause_unset exR exR_wf 4294901760 4294967296 (Nat.le_refl _)).2.2

end RModel.Statements.C04
