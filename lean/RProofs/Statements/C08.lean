import RProofs.Heap
import RProofs.RepMut
import RProofs.Properties.C05
import RProofs.Properties.C13
/-!
# C08 — Caller-owned buffers are never written; detaching severs the dependency

> A bitmap obtained from FromBuffer, FromUnsafeBytes or FrozenView - and every bitmap later derived from it by any operation -
> never writes to the caller's byte slice, no matter which mutations are applied afterwards, and keeps behaving as a correct set
> while the buffer stays intact. After CloneCopyOnWriteContainers has been called on a bitmap, overwriting or discarding the buffer
> no longer changes that bitmap's contents.

## Reading guide

| Lean object | stands for |
|---|---|
| `decode specParams true bs` | `FromBuffer` / `FromUnsafeBytes` on the caller's bytes `bs` (`flag = true` = `!NextReturnsSafeSlice()`: the chunks alias the buffer); `ok (rep, consumed)` / `err` / `panic` |
| `frozenView Driver.frozenParams bs` | `FrozenView(bs)` (`Impl/Frozen.lean`) |
| `Rep`, `Slot.flag`, `Rep.cow`, `Rep.toBSet`, `Rep.wf` | the bitmap as stored, `needCopyOnWrite[i]`, the `copyOnWrite` switch, the set denoted, the representation invariant |
| `Rep.asDecoded r true`, `Driver.frozenOf r` | what a zero-copy portable read / a frozen view of the bytes written for `r` must be: the keys and containers of `r`, every chunk flagged (frozen: switch on) |
| `Rep.detach` | `CloneCopyOnWriteContainers()` on the representation |
| `Heap`, `ArrId.foreign`, `Safe`, `gate`, `Op.zeroCopy`, `Op.detach`, `run`, `RunOk` | the pointer graph of all live bitmaps (see `Statements/C07.lean`): a backing array with `foreign = true` lies inside a caller's buffer; `Safe` demands that every place reaching a foreign array is flagged; `gate` = `getWritableContainerAtIndex`, the only way an in-place kernel obtains a chunk; `zeroCopy` installs a bitmap over caller memory under the side condition `ZeroCopyOk` (every chunk flagged, …) |
| `HBitmap.foreignRefs` | number of references (chunks + header slices) a bitmap holds into caller memory |

Levels and gaps.  The property is PARTIAL at theorem level (as recorded in `tools/props.py`):
* proved (L2 reader models): a zero-copy read flags EVERY chunk, for every byte string (`clause_zero_copy_chunks_all_flagged`) — this
  is the side condition `ZeroCopyOk` under which the pointer-graph theorems apply;
* proved (pointer graph): in every state reachable by the copy-on-write primitives — the zero-copy bitmap, and every bitmap derived
  from it by clones and shared / copied appends, under any mutations — an unflagged chunk is never caller memory and the chunk handed
  to an in-place kernel by the gate is never caller memory (`clause_never_writes_caller_buffer_partial`); after a detach the bitmap
  holds no reference into caller memory (`clause_detach_severs_dependency_partial`);
* proved (L2): the zero-copy view of library-written bytes denotes the same set, is well-formed, and therefore obeys every operation
  theorem (`clause_zero_copy_view_is_correct_set`);
* NOT theorems: that the process performs no store into the caller's bytes (the models have no memory; that every in-place kernel is
  entered through the gate is pinned by `cowSkeleton_pinned` and observed), and what happens to the bitmap when the buffer is
  overwritten or unmapped.  Both are observed by the `zerocopy` suite: the buffer lives in an `mmap` region made `PROT_READ` (a stray
  store is a recovered fault), and after detach the region is scrambled and made `PROT_NONE` while the bitmap is re-digested.  The
  garbage collector is not modelled.
-/
namespace RModel.Statements.C08
open RModel RModel.Impl

/-! ## Clause 1a — a bitmap obtained from FromBuffer / FromUnsafeBytes / FrozenView has every chunk flagged copy-on-write -/

/-- **Every chunk of a zero-copy bitmap is flagged copy-on-write, for EVERY byte string the reader accepts**: `FromBuffer` /
`FromUnsafeBytes` (portable reader with `flag = true`) and `FrozenView` (which also switches copy-on-write on).  This is the side
condition (`ZeroCopyOk`: "every slot flagged") under which the pointer-graph theorems below accept the new bitmap. -/
theorem clause_zero_copy_chunks_all_flagged :
    (∀ (bs : Bytes) (r : Rep) (n : Nat), decode specParams true bs = .ok (r, n) → ∀ s ∈ r.slots, s.flag = true) ∧
    (∀ (P : FrozenParams) (bs : Bytes) (r : Rep), frozenView P bs = .ok r → r.cow = true ∧ ∀ s ∈ r.slots, s.flag = true) := by
  refine ⟨fun bs r n h => (decode_flags _ _ bs r n h).2, fun P bs r h => ?_⟩
  obtain ⟨hc, _, _, _, _, _, slots, ks, hl, hs⟩ := frozenView_ok h
  refine ⟨hc, fun s hm => ?_⟩
  rw [hs] at hm
  obtain ⟨⟨s0, k⟩, hz, rfl⟩ := List.mem_map.mp hm
  exact (carveLoop_mem hl s0 (List.of_mem_zip hz).1).2

/-- the zero-copy load keeps the sharing invariant: a new bitmap whose chunks are all flagged, over arrays nobody may write, can be
added to any safe heap (its arrays may be `foreign`) -/
theorem clause_zero_copy_load_keeps_invariant (h : Heap) (hs : Safe h = true) (name : String) (cow : Bool) (slots : List HSlot)
    (hdr : List Nat) (hok : ZeroCopyOk h slots hdr) : Safe (addZeroCopy h name cow slots hdr) = true :=
  safe_addZeroCopy hs hok

/-! ## Clause 1b — it, and every bitmap derived from it, never writes the caller's bytes, whatever mutations follow -/

/-- **Caller memory is never handed to a writer** (PARTIAL: identities, not stores — see the reading guide).  Take ANY history of the
copy-on-write primitives from the empty heap: zero-copy loads over foreign arrays, clones of them with either switch setting,
appends that share or copy their chunks into other bitmaps (the derived bitmaps), switch flips, gated writes, detaches, drops.  In the
resulting state
1. the sharing invariant holds;
2. a chunk that is not flagged — the only kind an in-place kernel may write without copying — never lies in caller memory, and no
   header slice (keys / containers / flags, which are written unconditionally) does;
3. when any bitmap `b` obtains chunk `i` for writing (`getWritableContainerAtIndex`), the chunk it is handed is unflagged and does
   not lie in caller memory: a flagged chunk over the buffer was replaced by a private copy first. -/
theorem clause_never_writes_caller_buffer_partial (ops : List Op) (hok : RunOk [] ops) :
    Safe (run [] ops) = true ∧
    (∀ p ∈ (run [] ops).places, p.s.flag = false → p.s.backing.foreign = false) ∧
    (∀ b r x, (run [] ops).hdrAt b r = some x → x.foreign = false) ∧
    (∀ b i c a s, Fresh (run [] ops) c a → (gate (run [] ops) b i c a).slotAt b i = some s →
      s.flag = false ∧ s.backing.foreign = false) :=
  have hs := safe_reachable ops hok
  ⟨hs.1, fun p hp hf => safe_unflagged_not_foreign _ hs.1 p hp hf, hs.2,
    fun _ _ _ _ s hf hsl => gate_not_foreign hs.1 hf s hsl⟩

/-- the same two facts from any safe heap (not only reachable ones) -/
theorem clause_gate_never_returns_caller_memory (h : Heap) (hs : Safe h = true) (b i c a : Nat) (hf : Fresh h c a) (s : HSlot)
    (hsl : (gate h b i c a).slotAt b i = some s) : s.flag = false ∧ s.backing.foreign = false :=
  gate_not_foreign hs hf s hsl

/-- the hypotheses are satisfiable: in `exOps` bitmap `z` is loaded over the foreign array 100 (step 6), `b` adopts that chunk by a
shared append (step 7) and is mutated; the history is admissible, and after step 7 bitmap `b` does reach caller memory -/
example : RunOk [] exOps ∧ (run [] (exOps.take 7))[1]?.map (·.foreignRefs) = some 1 := ⟨runOk_exOps, by decide +kernel⟩
/-- a writer on that adopted chunk (`b`, slot 2) gets a private copy, not the buffer -/
example : ((run [] (exOps.take 7)).slotAt 1 2).map (fun s => (s.backing.foreign, s.flag)) = some (true, true) ∧
    Fresh (run [] (exOps.take 7)) 60 70 ∧
    ((gate (run [] (exOps.take 7)) 1 2 60 70).slotAt 1 2).map (fun s => (s.backing.foreign, s.flag)) = some (false, false) := by
  decide +kernel
/-- an unflagged chunk over caller memory is exactly what the invariant rejects -/
example : Safe [{ name := "z", cow := false, hdr := [], slots := [⟨0, 1, ⟨9, true⟩, false⟩] }] = false := by decide +kernel

/-! ## Clause 2 — … and keeps behaving as a correct set while the buffer stays intact -/

/-- **The zero-copy view is a correct set.**  For every well-formed bitmap `r`: the zero-copy portable read of its serialization
(followed by any other bytes in the buffer) and the frozen view of its frozen bytes succeed, are well-formed and denote exactly the
set of `r` — with every chunk flagged.  Since every operation theorem of C01–C04/C09/C11 is stated for ALL well-formed
representations, flags included, the view then behaves as that set under every operation; four instances are spelled out
(`Add`, `Remove`, in-place `Or` as receiver, static `And` as argument). -/
theorem clause_zero_copy_view_is_correct_set (r : Rep) (hwf : r.wf = true) (tail : Bytes) :
    decode specParams true (r.encode specParams ++ tail) = .ok (r.asDecoded true, (r.encode specParams).length) ∧
    frozenView Driver.frozenParams (r.freeze Driver.frozenParams) = .ok (Driver.frozenOf r) ∧
    ∀ v, v = r.asDecoded true ∨ v = Driver.frozenOf r →
      v.wf = true ∧ v.toBSet = r.toBSet ∧
      (∀ x, x < 4294967296 → (v.add x).toBSet = BSet.add r.toBSet x ∧ (v.add x).wf = true) ∧
      (∀ x, x < 4294967296 → (v.remove x).toBSet = BSet.remove r.toBSet x ∧ (v.remove x).wf = true) ∧
      (∀ o : Rep, o.wf = true → (v.ior o).toBSet = BSet.union r.toBSet o.toBSet ∧ (v.ior o).wf = true) ∧
      (∀ o : Rep, o.wf = true → (Rep.and2 o v).toBSet = BSet.inter o.toBSet r.toBSet) := by
  refine ⟨decode_encode r hwf true tail, frozenView_freeze r hwf, fun v hv => ?_⟩
  -- both views are well formed and denote the set of `r`; nothing else about them is used
  obtain ⟨hvw, hvs⟩ : v.wf = true ∧ v.toBSet = r.toBSet := by
    rcases hv with rfl | rfl
    · exact ⟨roundtrip_wf r hwf true, Rep.toBSet_asDecoded r true⟩
    · exact ⟨(wf_frozenOf r).trans hwf, toBSet_frozenOf r⟩
  refine ⟨hvw, hvs, fun x hx => ⟨?_, Rep.wf_add v hvw x hx⟩, fun x hx => ⟨?_, Rep.wf_remove v hvw x hx⟩,
    fun o ho => ⟨?_, Rep.wf_ior v o hvw ho⟩, fun o ho => ?_⟩
  · rw [Rep.toBSet_add v hvw x hx, hvs]
  · rw [Rep.toBSet_remove v hvw x hx, hvs]
  · rw [Rep.toBSet_ior v o hvw ho, hvs]
  · rw [Rep.toBSet_and2 o v ho hvw, hvs]

example :
    let r : Rep := ⟨false, [⟨0, .arr [1, 5, 9], false⟩, ⟨3, .run [(10, 99)], false⟩, ⟨7, .arr [65535], true⟩]⟩
    r.wf = true ∧ (r.asDecoded true).slots.map (·.flag) = [true, true, true] := by decide +kernel

/-! ## Clause 3 — after CloneCopyOnWriteContainers the bitmap no longer depends on the buffer -/

/-- **Detaching severs every reference** (PARTIAL: "no reference into caller memory remains" is proved; that overwriting or unmapping
the buffer then leaves the contents alone is its consequence in Go, observed by scrambling and unmapping the region).
Pointer graph: after `CloneCopyOnWriteContainers` on bitmap `b` of any reachable state, `b` holds NO reference into caller memory —
neither a chunk nor a header slice — and the state is still safe.  Representation (L2): the detached bitmap has every flag off, the
same switch, denotes the same set and is exactly as well-formed. -/
theorem clause_detach_severs_dependency_partial :
    (∀ (ops : List Op) (b : Nat) (bm : HBitmap) (cs as : List Nat), RunOk [] ops → (run [] ops)[b]? = some bm →
      FreshCells (run [] ops) cs → FreshArrs (run [] ops) as →
      (run [] ops).nslots b ≤ cs.length → (run [] ops).nslots b ≤ as.length →
      Safe (detach (run [] ops) b cs as) = true ∧
      ∃ bm', (detach (run [] ops) b cs as)[b]? = some bm' ∧ bm'.foreignRefs = 0) ∧
    (∀ r : Rep, r.detach.toBSet = r.toBSet ∧ r.detach.wf = r.wf ∧ r.detach.cow = r.cow ∧ ∀ s ∈ r.detach.slots, s.flag = false) := by
  refine ⟨fun ops b bm cs as hok hb hc ha _ _ => ?_, fun r => ⟨Rep.toBSet_detach r, Rep.wf_detach r, rfl, fun _ => Rep.flag_detach⟩⟩
  have hs := safe_reachable ops hok
  exact ⟨safe_detach hs.1 hc ha, detach_no_foreign' hs.1 hs.2 cs as hb⟩

/-- observed on the running example: before `b.CloneCopyOnWriteContainers()` (step 11 of `exOps`) bitmap `b` holds one reference into
caller memory, afterwards none; the premises of the clause hold for that step -/
example : (run [] (exOps.take 10))[1]?.map (·.foreignRefs) = some 1 ∧
    (run [] (exOps.take 11))[1]?.map (·.foreignRefs) = some 0 := by decide +kernel
example : RunOk [] (exOps.take 10) ∧ FreshCells (run [] (exOps.take 10)) [40, 41, 42, 43] ∧
    FreshArrs (run [] (exOps.take 10)) [50, 51, 52, 53] ∧ (run [] (exOps.take 10)).nslots 1 ≤ 4 := by decide +kernel

end RModel.Statements.C08
