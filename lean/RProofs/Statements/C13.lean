import RProofs.Properties.C13
import RProofs.Properties.C13Spec
import RProofs.Properties.C09
import RProofs.Facts.Constants
import RProofs.RepQuery
import RProofs.RepMut
/-!
# C13 — Frozen (CRoaring) format round-trips and its three writers agree

> For every bitmap, Freeze, FreezeTo (into any sufficiently large buffer) and WriteFrozenTo produce identical bytes whose
> length equals GetFrozenSizeInBytes and the returned count; FreezeTo reports an error rather than writing when the buffer is
> too small. FrozenView/MustFrozenView of those bytes yields a bitmap Equal to the original that validates and supports all
> read and (copying) write operations, and the bytes follow the CRoaring frozen layout (bitmap arena, run arena, array arena,
> keys, counts, type codes, 15-bit cookie + chunk count).

## Reading guide

* `Rep` (`RModel/Impl/Repr.lean`) is a 32-bit bitmap **as stored**: slots `(key, container, needCopyOnWrite flag)` plus the
  `copyOnWrite` switch `cow`; `Rep.wf r = true` is the representation invariant (C09); `r.toBSet` is the set `r` denotes,
  `BSet.mem` membership.
* `Rep.freeze P r : List UInt8` (`RModel/Impl/Frozen.lean`) is **the** frozen byte string of `r`: the model has ONE writer.  It
  mirrors the arena writer `FreezeTo` (`Freeze` is `FreezeTo` into a fresh buffer of `GetFrozenSizeInBytes()` bytes); the
  streaming `WriteFrozenTo` is a second hand-written Go loop that is *not* modelled separately.  `Rep.frozenSize P r` mirrors
  `GetFrozenSizeInBytes`.
* `frozenView P bytes : Outcome Rep` mirrors `roaringArray.frozenView` check by check over a bounds-checked buffer, with
  outcomes `ok r` / `err` / `panic` (`panic` = an index, slice bound or cast the Go runtime would reject).
  `Driver.frozenParams` are the format constants (cookie from the regenerated Go constants, see `clause_layout_cookie`).
  `Driver.frozenOf r` = `r` with every container flagged copy-on-write and the switch on.
* `FrozenSpec.frozenSpecDecode` (`RModel/Spec/FrozenSpec.lean`) is an independent reading of the CRoaring layout description,
  sharing no definition with the writer/reader model.
* Proved here (L2, for every well-formed representation): length = size, exact round trip through the reader model, the view
  is the original with all flags set (hence equal as a set, `Equals`, well-formed, `Validate`), layout conformance.
* NOT theorems, observed by the correspondence check: (a) that each of the three Go writers emits exactly `Rep.freeze`
  (`frz` line: `Freeze = FreezeTo(exact,+1,+4096)[:n] = WriteFrozenTo`, `n = size`, tail of the buffer untouched, and
  `model-freeze(repr) = bytes` byte for byte); (b) the error of `FreezeTo` on a short buffer, leaving it untouched
  (`frzsmall`), and the returned count / error of `WriteFrozenTo` on a failing writer (`frzwfail`); (c) that the Go reader
  behaves like `frozenView` (`fview`, `fdec`); (d) that writes on a view never store into the frozen buffer (memory is not
  modelled here; the `frozen` suite mutates views whose buffer lies in read-only pages — see C08).
-/

namespace RModel.Statements.C13
open RModel RModel.BSet RModel.Impl RModel.Driver

/-! ## The clauses -/

/-- **"Freeze, FreezeTo and WriteFrozenTo produce identical bytes"** (PARTIAL).  The model has a single writer, so the
agreement of `WriteFrozenTo` with `FreezeTo` is not a theorem; it is observed (`frz`).  What is proved: the bytes are a
function of the keys and containers alone — they do not depend on the copy-on-write switch or flags (so a view re-freezes to
the very bytes it was made from, whichever writer is used on whichever copy). -/
theorem clause_writers_agree_partial (r : Rep) :
    (frozenOf r).freeze frozenParams = r.freeze frozenParams ∧
    ({ r with cow := !r.cow } : Rep).freeze frozenParams = r.freeze frozenParams := by
  constructor
  · simp only [Rep.freeze, frozenOf, List.map_map, Function.comp_def, List.flatMap_map, List.length_map]
  · rfl

/-- **"… bytes whose length equals GetFrozenSizeInBytes and the returned count"**: the writer emits exactly
`GetFrozenSizeInBytes()` bytes (the count Go returns is that same number `serialSize`).  Holds for every representation. -/
theorem clause_length_is_frozenSize (r : Rep) :
    (r.freeze frozenParams).length = r.frozenSize frozenParams :=
  freeze_length frozenParams (by decide) r

/-- **"FreezeTo reports an error rather than writing when the buffer is too small"** (PARTIAL).  The buffer and the error
return are not modelled; observed by `frzsmall` (error, buffer untouched).  What is proved: the threshold `FreezeTo` compares
`len(buf)` with is exact — a buffer of `n` bytes can hold the frozen bytes iff `n ≥ GetFrozenSizeInBytes()`, and the size is
never below the 4 header bytes. -/
theorem clause_small_buffer_partial (r : Rep) (n : Nat) :
    ((r.freeze frozenParams).length ≤ n ↔ r.frozenSize frozenParams ≤ n) ∧ 4 ≤ r.frozenSize frozenParams := by
  rw [clause_length_is_frozenSize]
  exact ⟨Iff.rfl, by simp only [Rep.frozenSize]; omega⟩

/-- **"FrozenView/MustFrozenView of those bytes yields a bitmap Equal to the original that validates"**: the reader model
accepts the frozen bytes of every well-formed bitmap and returns exactly the original keys and containers with every container
flagged copy-on-write and the switch on; that view denotes the same set, `Equals` the original (both directions), is
well-formed and passes `Validate` (so `MustFrozenView` succeeds too). -/
theorem clause_view_equal_and_valid (r : Rep) (h : r.wf = true) :
    ∃ v : Rep, frozenView frozenParams (r.freeze frozenParams) = .ok v ∧
      v = frozenOf r ∧ v.toBSet = r.toBSet ∧ v.equals r = true ∧ r.equals v = true ∧
      v.wf = true ∧ v.validate = true ∧ v.cow = true ∧ ∀ s ∈ v.slots, s.flag = true := by
  have hw := (wf_frozenOf r).trans h
  have hs := toBSet_frozenOf r
  refine ⟨frozenOf r, frozenView_freeze r h, rfl, hs, Rep.equals_of_toBSet_eq hw h hs, Rep.equals_of_toBSet_eq h hw hs.symm,
    hw, wf_implies_validate _ hw, rfl, ?_⟩
  · intro s hs'
    simp only [frozenOf, List.mem_map] at hs'
    obtain ⟨s0, _, rfl⟩ := hs'; rfl

/-- **"… and supports all read and (copying) write operations"** (PARTIAL).  The view is a well-formed representation, so
every theorem of the project about well-formed bitmaps applies to it; shown here for one read (`Contains`) and two writes
(`Add`, `RemoveRange`), whose results are the set-level results on the ORIGINAL's set and stay well-formed.  Since every
container of the view is flagged, each write goes through the copy-on-write gate (the container is cloned before it is
written — `Impl/RepMut.lean`).  Missing: "all" is a schema over the whole API (instantiate any `Rep.*_spec` / `Rep.toBSet_*`
result with `clause_view_equal_and_valid`), and "copying" in the sense that the frozen buffer itself is never stored into is
a statement about memory, observed (`frozen` suite on read-only pages), not proved. -/
theorem clause_view_supports_operations_partial (r : Rep) (h : r.wf = true) (x : Nat) (hx : x < 4294967296) (lo hi : Nat) :
    ∃ v : Rep, frozenView frozenParams (r.freeze frozenParams) = .ok v ∧
      v.contains x = mem r.toBSet x ∧
      (v.add x).toBSet = BSet.add r.toBSet x ∧ (v.add x).wf = true ∧
      (v.removeRange lo hi).toBSet = BSet.removeRange r.toBSet lo (min hi 4294967296) ∧ (v.removeRange lo hi).wf = true := by
  have hw := (wf_frozenOf r).trans h
  have hs := toBSet_frozenOf r
  refine ⟨frozenOf r, frozenView_freeze r h, ?_, ?_, Rep.wf_add _ hw x hx, ?_, Rep.wf_removeRange _ hw lo hi⟩
  · rw [Rep.contains_spec _ hw, hs]
  · rw [Rep.toBSet_add _ hw x hx, hs]
  · rw [Rep.toBSet_removeRange _ hw, hs]

/-- **"the bytes follow the CRoaring frozen layout"**, part 1: the independent reading of the layout description accepts the
bytes written for every well-formed bitmap and reads exactly the bitmap's set from them. -/
theorem clause_layout_conforms (r : Rep) (h : r.wf = true) :
    FrozenSpec.frozenSpecDecode (r.freeze frozenParams).toArray = some r.toBSet :=
  FrozenSpec.frozenSpec_freeze r h

/-- **"(bitmap arena, run arena, array arena, keys, counts, type codes, 15-bit cookie + chunk count)"**, part 2: the written
bytes are literally the concatenation of these seven members in this order; the trailer is the little-endian 32-bit word
`13766 + 32768 · (number of chunks)` (15-bit cookie in the low bits, chunk count above), for every bitmap with at most 65536
chunks. -/
theorem clause_layout_members (r : Rep) (hn : r.slots.length ≤ 65536) :
    r.freeze frozenParams =
      r.slots.flatMap (slotBits frozenParams) ++ (r.slots.flatMap slotRuns ++ (r.slots.flatMap slotArrs ++
      (r.slots.flatMap (fun s => le16 s.key) ++ (r.slots.flatMap (fun s => le16 s.c.frozenCount) ++
      (r.slots.map (fun s => UInt8.ofNat (s.c.frozenType frozenParams)) ++
        le32 (13766 + r.slots.length * 32768)))))) := by
  rw [freeze_eq, fp_cookie, cookie_or, Nat.mod_eq_of_lt (by omega)]

/-- the cookie of the model is the Go constant `frozenCookie` (regenerated from the source on every run), and it fits 15 bits;
the type codes are CRoaring's 1 = bitset, 2 = array, 3 = run -/
theorem clause_layout_cookie :
    frozenParams.cookie = Facts.frozenCookie.toNat ∧ Facts.frozenCookie = 13766 ∧ 13766 < 2 ^ 15 ∧
    frozenParams.typeBitmap = 1 ∧ frozenParams.typeArray = 2 ∧ frozenParams.typeRun = 3 ∧ frozenParams.bitmapBytes = 8192 :=
  ⟨rfl, Facts.frozenCookie_spec, by decide, rfl, rfl, rfl, rfl⟩

/-- supplement (registered under C13, shared with C10): the reader model never panics, on any byte string whatsoever -/
theorem view_never_panics (bs : List UInt8) : frozenView frozenParams bs ≠ .panic :=
  frozenView_no_panic frozenParams (by decide) bs

/-! ## The hypotheses are satisfiable -/

/-- array chunk, run chunk, array chunk at the top key (already flagged) -/
def exRep : Rep := ⟨false, [⟨0, .arr [1, 5, 9], false⟩, ⟨3, .run [(10, 99)], false⟩, ⟨65535, .arr [65535], true⟩]⟩

example : exRep.wf = true := by decide
example : exRep.slots.length ≤ 65536 := by decide
-- run arena (10,99); array arena 1 5 9 65535; keys 0 3 65535; counts 2 (= 3 values − 1), 1 (= ONE run), 0 (= 1 value − 1);
-- type codes 2 3 2; trailer 13766 + 3·32768 = 0x0001B5C6
example : exRep.freeze frozenParams =
    [10, 0, 99, 0,  1, 0, 5, 0, 9, 0, 255, 255,  0, 0, 3, 0, 255, 255,  2, 0, 1, 0, 0, 0,  2, 3, 2,  0xC6, 0xB5, 0x01, 0x00] := by
  decide +kernel
example : (frozenView frozenParams (exRep.freeze frozenParams) == .ok (frozenOf exRep)) = true := by decide +kernel
-- the error path exists: a stream with a wrong cookie is rejected (not a panic)
example : (frozenView frozenParams [0, 0, 0, 0] == .err) = true := by decide +kernel

end RModel.Statements.C13
