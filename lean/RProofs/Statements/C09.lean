import RProofs.Properties.C09
import RProofs.Properties.C05
import RProofs.Properties.C13
import RProofs.RepOps
import RProofs.RepMut
import RProofs.RepXform
import RProofs.LazyOps
import RProofs.RepBulk
import RProofs.ParData
import RProofs.Rep64InPlace
import RProofs.Rep64Mut
/-!
# C09 — Well-formedness is closed under the API: library-made bitmaps always validate

> Every bitmap produced by any sequence of public operations - and the bitmap obtained by serializing it and reading it back in
> either the portable or the frozen format - passes Validate() with a nil error, so that a program that follows the documented
> 'validate what you load' rule never rejects data the library itself wrote. In particular chunk keys strictly increase, no chunk
> is empty, cached cardinalities are exact, array chunks hold at most 4096 strictly increasing values, bitmap chunks more than
> 4096, and run chunks are sorted, non-overlapping, non-adjacent and within 0..65535.

## Reading guide

| Lean object | stands for |
|---|---|
| `Rep` = switch + slots `(key, c, flag)`; `Cont` = `.arr vals` / `.bmp card words` / `.run [(start, length−1)]` | a 32-bit bitmap exactly as stored: array chunk, bitmap chunk with its CACHED cardinality and 1024 words, run chunk |
| `Rep.validate r = true` | `Validate() == nil` — a conjunct-by-conjunct mirror of the Go validators, with their `uint16` wrap-around (`Impl/Repr.lean`) |
| `Rep.wf r = true` | the representation invariant spelled out in the last sentence of the property (`clause_wellformed_means`); `strictInc l` = strictly increasing, `popcount w` = number of set bits of a word |
| `Rep.add`, `Rep.ior`, `Rep.and2`, `Rep.fastOr`, `Rep.parOr w`, `Rep.addOffset64`, … | the public operations, modelled down to the exact representation they return (L2 models `RepMut`, `RepOps`, `RepXform`, `LazyOps`, `RepBulk`, `ParData`; `and2` = static `And`, `iand` = in-place `And`) |
| `Rep.shareTail a b`, `Rep.cloneSrc r` | the ARGUMENT of `a.Or(b)` / `a.Xor(b)` and the source of `Clone()` afterwards (their flags may be raised) |
| `Made r` (defined below) | "`r` is the state of some bitmap after a finite sequence of public operations starting from empty bitmaps" — the quantifier of the property as an inductive predicate |
| `decode specParams flag`, `Rep.encode`, `Rep.asDecoded` / `frozenView`, `Rep.freeze`, `Driver.frozenOf` | portable / frozen reader and writer models, and the representation a read-back must have |

Levels.  Everything here is at representation level L2 and is a theorem about the models: every operation of the list preserves
`Rep.wf` (the per-operation theorems `Rep.wf_*`, resting on the container-kernel theorems `wf_and2`, `wf_iaddRM`, … for all nine kind
pairings), `Rep.wf` implies `Rep.validate`, and both read-backs are again `Made`.  NOT theorems: that the Go operations return the
modelled representations — checked by the exact-representation ties (`l2op`, `l2mut`, `l2iop`, `l2off`, `l2sflip`, `l2fromdense`,
`l2agg`, `l2par`, `kernwf`) and by `wf` lines (Go `Validate()` + an independent walk over the raw representation through the hook)
after the steps of every history suite.  Operations not in `Made` (`AndCardinality`-style queries do not change state; BSI and the
64-bit bitmap: see `clause_64bit_operations_preserve_wellformedness` for the part that is proved) are covered by those `wf` lines only.
-/
namespace RModel.Statements.C09
open RModel RModel.Impl

/-- **"produced by any sequence of public operations"**: the least set of representations that contains the empty bitmap and is
closed under the modelled public operations — mutators (values `< 2^32`, range ends `≤ 2^32` as the API requires), in-place and
static set algebra (including what happens to the argument / clone source), `RunOptimize`, the copy-on-write controls, transforms,
every aggregate (any operand list, any worker count `≥ 1`), and the two write/read round trips. -/
inductive Made : Rep → Prop
  | empty : Made {}
  | add {r} (x : Nat) : Made r → x < 4294967296 → Made (r.add x)
  | checkedAdd {r} (x : Nat) : Made r → x < 4294967296 → Made (r.checkedAdd x).1
  | remove {r} (x : Nat) : Made r → x < 4294967296 → Made (r.remove x)
  | checkedRemove {r} (x : Nat) : Made r → x < 4294967296 → Made (r.checkedRemove x).1
  | addMany {r} (vals : List Nat) : Made r → (∀ v ∈ vals, v < 4294967296) → Made (r.addMany vals)
  | bitmapOf (vals : List Nat) : (∀ v ∈ vals, v < 4294967296) → Made (Rep.bitmapOf vals)
  | addRange {r} (lo hi : Nat) : Made r → hi ≤ 4294967296 → Made (r.addRange lo hi)
  | removeRange {r} (lo hi : Nat) : Made r → Made (r.removeRange lo hi)
  | flip {r} (lo hi : Nat) : Made r → hi ≤ 4294967296 → Made (r.flip lo hi)
  | iand {a b} : Made a → Made b → Made (a.iand b)
  | ior {a b} : Made a → Made b → Made (a.ior b)
  | ixor {a b} : Made a → Made b → Made (a.ixor b)
  | iandNot {a b} : Made a → Made b → Made (a.iandNot b)
  | cleared : Made Rep.cleared                                            -- `x.Xor(x)`, `x.AndNot(x)`, `Clear()`
  | argAfter {a b} : Made a → Made b → Made (a.shareTail b)               -- the argument of `a.Or(b)` / `a.Xor(b)` afterwards
  | runOptimize {r} : Made r → Made r.runOptimize
  | setCopyOnWrite {r} (v : Bool) : Made r → Made (r.setCow v)
  | cloneCopyOnWriteContainers {r} : Made r → Made r.detach
  | clone {r} : Made r → Made r.clone
  | cloneSource {r} : Made r → Made r.cloneSrc                            -- the receiver of `Clone()` afterwards
  | and2 {a b} : Made a → Made b → Made (Rep.and2 a b)
  | or2 {a b} : Made a → Made b → Made (Rep.or2 a b)
  | xor2 {a b} : Made a → Made b → Made (Rep.xor2 a b)
  | andNot2 {a b} : Made a → Made b → Made (Rep.andNot2 a b)
  | addOffset64 {r} (d : Int) : Made r → Made (r.addOffset64 d)
  | flipStatic {r} (lo hi : Nat) : Made r → hi ≤ 4294967296 → Made (r.flipStatic lo hi)
  | fromDense (ws : List (BitVec 64)) (doCopy : Bool) : ws.length ≤ 65536 * 1024 → Made (Rep.fromDense ws doCopy)
  | fastOr (l : List Rep) : (∀ r ∈ l, Made r) → Made (Rep.fastOr l)
  | fastAnd (l : List Rep) : (∀ r ∈ l, Made r) → Made (Rep.fastAnd l)
  | andAny {x} (l : List Rep) : Made x → (∀ r ∈ l, Made r) → Made (x.andAny l)
  | heapOr (l : List Rep) : (∀ r ∈ l, Made r) → Made (Rep.heapOr l)
  | heapXor (l : List Rep) : (∀ r ∈ l, Made r) → Made (Rep.heapXor l)
  | parOr (w : Nat) (l : List Rep) : 1 ≤ w → (∀ r ∈ l, Made r) → Made (Rep.parOr w l)
  | parHeapOr (w : Nat) (l : List Rep) : (∀ r ∈ l, Made r) → Made (Rep.parHeapOr w l)
  | parAnd (w : Nat) (l : List Rep) : (∀ r ∈ l, Made r) → Made (Rep.parAnd w l)
  | readBack {r} (zeroCopy : Bool) : Made r → Made (r.asDecoded zeroCopy)  -- what every portable entry point returns for `ToBytes(r)`
  | frozenView {r} : Made r → Made (Driver.frozenOf r)                    -- what `FrozenView(Freeze(r))` returns

/-! ## Clause 1 — every bitmap produced by any sequence of public operations passes `Validate()` -/

/-- the invariant is closed under the API: every library-made bitmap is well-formed -/
theorem clause_library_made_bitmap_wellformed {r : Rep} (h : Made r) : r.wf = true := by
  induction h with
  | empty => rfl
  | add x _ hx ih => exact Rep.wf_add _ ih x hx
  | checkedAdd x _ hx ih => exact Rep.wf_add _ ih x hx
  | remove x _ hx ih => exact Rep.wf_remove _ ih x hx
  | checkedRemove x _ hx ih => exact Rep.wf_remove _ ih x hx
  | addMany vals _ hv ih => exact Rep.wf_addMany _ ih vals hv
  | bitmapOf vals hv => exact Rep.wf_bitmapOf vals hv
  | addRange lo hi _ hhi ih => exact Rep.wf_addRange _ ih lo hi hhi
  | removeRange lo hi _ ih => exact Rep.wf_removeRange _ ih lo hi
  | flip lo hi _ hhi ih => exact Rep.wf_flip _ ih lo hi hhi
  | iand _ _ iha ihb => exact Rep.wf_iand _ _ iha ihb
  | ior _ _ iha ihb => exact Rep.wf_ior _ _ iha ihb
  | ixor _ _ iha ihb => exact Rep.wf_ixor _ _ iha ihb
  | iandNot _ _ iha ihb => exact Rep.wf_iandNot _ _ iha ihb
  | cleared => exact Rep.wf_cleared
  | argAfter _ _ _ ihb => exact (Rep.wf_shareTail _ _).trans ihb
  | runOptimize _ ih => exact Rep.wf_runOptimize _ ih
  | setCopyOnWrite v _ ih => exact ih
  | cloneCopyOnWriteContainers _ ih => exact (Rep.wf_detach _).trans ih
  | clone _ ih => exact (Rep.wf_clone _).trans ih
  | cloneSource _ ih => exact (Rep.wf_cloneSrc _).trans ih
  | and2 _ _ iha ihb => exact Rep.wf_and2 _ _ iha ihb
  | or2 _ _ iha ihb => exact Rep.wf_or2 _ _ iha ihb
  | xor2 _ _ iha ihb => exact Rep.wf_xor2 _ _ iha ihb
  | andNot2 _ _ iha ihb => exact Rep.wf_andNot2 _ _ iha ihb
  | addOffset64 d _ ih => exact Rep.wf_addOffset64 _ ih d
  | flipStatic lo hi _ hhi ih => exact Rep.wf_flipStatic _ ih lo hi hhi
  | fromDense ws doCopy hl => exact Rep.wf_fromDense ws doCopy hl
  | fastOr l _ ih => exact Rep.wf_fastOr l ih
  | fastAnd l _ ih => exact Rep.wf_fastAnd l ih
  | andAny l _ _ ihx ih => exact Rep.wf_andAny _ l ihx ih
  | heapOr l _ ih => exact Rep.wf_heapOr l ih
  | heapXor l _ ih => exact Rep.wf_heapXor l ih
  | parOr w l hw _ ih => exact Rep.wf_parOr w hw l ih
  | parHeapOr w l _ ih => exact Rep.wf_parHeapOr w l ih
  | parAnd w l _ ih => exact Rep.wf_parAnd w l ih
  | readBack zc _ ih => exact roundtrip_wf _ ih zc
  | frozenView _ ih => exact (wf_frozenOf _).trans ih

/-- **Every bitmap produced by any sequence of public operations passes `Validate()` with a nil error.** -/
theorem clause_library_made_bitmap_validates {r : Rep} (h : Made r) : r.validate = true :=
  wf_implies_validate r (clause_library_made_bitmap_wellformed h)

/-- the step from the invariant to `Validate()`, for any representation (this is where Go's `uint16` arithmetic in the run validator
and its storage-minimality test are met) -/
theorem clause_wellformed_implies_validate (r : Rep) (h : r.wf = true) : r.validate = true := wf_implies_validate r h

/-- a non-trivial history: 5000 consecutive values (an array chunk grows into a bitmap chunk, `RunOptimize` turns it into a run), a
clone under copy-on-write, a static `Or`, a shifted bitmap read back zero-copy, a parallel aggregate of the two with 3 workers -/
def exHist : Rep :=
  Rep.parOr 3 [Rep.or2 (((({} : Rep).addRange 10 5010).runOptimize.setCow true).clone) (({} : Rep).add 7),
               ((({} : Rep).add 7).addOffset64 (-3)).asDecoded true]

example : Made exHist :=
  .parOr 3 _ (by decide) (by
    intro r hr
    simp only [List.mem_cons, List.not_mem_nil, or_false] at hr
    rcases hr with rfl | rfl
    · exact .or2 (((Made.empty.addRange 10 5010 (by decide)).runOptimize.setCopyOnWrite true).clone) (Made.empty.add 7 (by decide))
    · exact ((Made.empty.add 7 (by decide)).addOffset64 (-3)).readBack true)

example : (((({} : Rep).addRange 10 5010).runOptimize).slots.map (·.c) == [.run [(10, 4999)]]) = true := by decide +kernel

/-! ## Clause 2 — … and so does the bitmap obtained by serializing it and reading it back, portable or frozen -/

/-- **Validate what you load never rejects library-written data.**  For every library-made bitmap: each portable entry point
(`zeroCopy = false`: `ReadFrom` / `UnmarshalBinary` / `FromBase64`; `true`: `FromBuffer` / `FromUnsafeBytes`), applied to the bytes
`WriteTo` produced — followed by anything —, accepts them, and the bitmap it returns passes `Validate()`; `FrozenView` of the bytes
`FreezeTo` produced accepts them and the view passes `Validate()`.  Both read-backs are again `Made` (constructors `readBack`,
`frozenView`), so the closure continues through any number of round trips. -/
theorem clause_roundtrip_validates {r : Rep} (h : Made r) (zeroCopy : Bool) (tail : Bytes) :
    (∃ back n, decode specParams zeroCopy (r.encode specParams ++ tail) = .ok (back, n) ∧ n = (r.encode specParams).length ∧
      back = r.asDecoded zeroCopy ∧ back.validate = true ∧ Made back) ∧
    (∃ view, frozenView Driver.frozenParams (r.freeze Driver.frozenParams) = .ok view ∧
      view = Driver.frozenOf r ∧ view.validate = true ∧ Made view) :=
  have hwf := clause_library_made_bitmap_wellformed h
  ⟨⟨_, _, decode_encode r hwf zeroCopy tail, rfl, rfl, clause_library_made_bitmap_validates (h.readBack zeroCopy), h.readBack zeroCopy⟩,
   ⟨_, frozenView_freeze r hwf, rfl, clause_library_made_bitmap_validates h.frozenView, h.frozenView⟩⟩

/-! ## Clause 3 — "in particular": what the invariant says -/

/-- **Chunk keys strictly increase, no chunk is empty, cached cardinalities are exact, array chunks hold at most 4096 strictly
increasing values, bitmap chunks more than 4096, run chunks are sorted, non-overlapping, non-adjacent and within 0..65535** — for
every well-formed (hence every library-made) bitmap.  A run is `(start, length − 1)`: it covers `start … start + (length − 1)`;
`a.1 + a.2 + 1 < b.1` says the next run starts at least two past the previous run's last value (sorted, disjoint AND non-adjacent). -/
theorem clause_wellformed_means (r : Rep) (h : r.wf = true) :
    strictInc (r.slots.map (·.key)) = true ∧
    ∀ s ∈ r.slots, s.key < 65536 ∧ 0 < s.c.card ∧
      match s.c with
      | .arr vals => vals.length ≤ 4096 ∧ strictInc vals = true ∧ ∀ v ∈ vals, v < 65536
      | .bmp card words => words.length = 1024 ∧ card = ((words.map popcount).sum : Nat) ∧ card > 4096
      | .run runs => runs.Pairwise (fun a b => a.1 + a.2 + 1 < b.1) ∧ ∀ p ∈ runs, p.1 + p.2 ≤ 65535 := by
  simp only [Rep.wf, Bool.and_eq_true, List.all_eq_true, decide_eq_true_eq] at h
  refine ⟨h.1, fun s hs => ?_⟩
  obtain ⟨hk, hc⟩ := h.2 s hs
  refine ⟨hk, ?_⟩
  cases hsc : s.c with
  | arr vals =>
    simp only [hsc, Cont.wf, Bool.and_eq_true, decide_eq_true_eq, List.all_eq_true] at hc
    exact ⟨by simpa [Cont.card] using hc.1.1.1, hc.1.1.2, hc.1.2, hc.2⟩
  | bmp card words =>
    simp only [hsc, Cont.wf, Bool.and_eq_true, decide_eq_true_eq, beq_iff_eq] at hc
    exact ⟨by simp only [Cont.card]; omega, hc.1.1, hc.1.2, hc.2⟩
  | run runs =>
    simp only [hsc, Cont.wf, Bool.and_eq_true, Bool.not_eq_true', List.isEmpty_eq_false_iff] at hc
    exact ⟨runs_card_pos runs hc.1.1, runsOk_spec runs hc.1.2⟩

example :
    let r : Rep := ⟨false, [⟨0, .arr [1, 5, 9], false⟩, ⟨3, .run [(10, 99), (200, 0)], false⟩, ⟨7, .arr [65535], true⟩]⟩
    r.wf = true ∧ r.validate = true := by decide +kernel
/-- adjacent runs, an empty chunk, a wrong cached cardinality are each rejected by `Validate` (the mirror is not vacuous) -/
example : (⟨false, [⟨3, .run [(10, 9), (20, 5)], false⟩]⟩ : Rep).validate = false ∧
    (⟨false, [⟨3, .arr [], false⟩]⟩ : Rep).validate = false ∧
    (⟨false, [⟨3, .bmp 5000 (List.replicate 1024 0), false⟩]⟩ : Rep).validate = false := by decide +kernel

/-! ## 64-bit counterpart (the part that is proved) -/

/-- the bucket structure of `roaring64.Bitmap` (`Rep64.wf`: high keys strictly increasing, every bucket a non-empty well-formed
32-bit bitmap) is preserved by the static and in-place (`Xor`) set algebra, the point mutators, `AddMany` and `Clone` -/
theorem clause_64bit_operations_preserve_wellformedness (a b : Rep64) (ha : a.wf = true) (hb : b.wf = true) :
    (Rep64.and2 a b).wf = true ∧ (Rep64.or2 a b).wf = true ∧ (Rep64.xor2 a b).wf = true ∧ (Rep64.andNot2 a b).wf = true ∧
    (Rep64.ixor a b).wf = true ∧ (Rep64.argAfter a b).wf = true ∧ a.clone.wf = true ∧
    (∀ x, x < 18446744073709551616 → (a.add x).wf = true) ∧ (∀ x, (a.remove x).wf = true) ∧
    (∀ dat : List Nat, (∀ v ∈ dat, v < 18446744073709551616) → (a.addMany dat).wf = true) :=
  ⟨Rep64.wf_and2 a b ha hb, Rep64.wf_or2 a b ha hb, Rep64.wf_xor2 a b ha hb, Rep64.wf_andNot2 a b ha hb, Rep64.wf_ixor a b ha hb,
    Rep64.wf_argAfter a b hb, Rep64.wf_clone a ha, fun x hx => Rep64.wf_add a ha x hx, fun x => Rep64.wf_remove a ha x,
    fun dat hd => Rep64.wf_addMany a ha dat hd⟩

example : exA.wf = true ∧ exB.wf = true := ⟨wf_exA, wf_exB⟩

end RModel.Statements.C09
