import RProofs.Agg
import RProofs.LazyOps
import RProofs.ParData
import RProofs.RepBulk
/-!
# C11 — Many-way aggregates equal the fold of the corresponding binary operation

> For any list of bitmaps - empty, singleton, with duplicates, with empty members, in any order - FastOr, HeapOr, ParOr and
> ParHeapOr return the union, FastAnd and ParAnd the intersection, HeapXor the symmetric difference of all members, and
> x.AndAny(list), for a non-empty list, leaves x equal to x intersected with the union of the list. The result does not
> depend on the worker count given to the Par* functions (including 0 = default).

## Reading guide

* `Rep` (`RModel/Impl/Repr.lean`) is a 32-bit bitmap **as stored** (keys, array / bitmap / run containers, copy-on-write flags);
  `Rep.wf r = true` is the representation invariant (C09); `r.toBSet` is the set `r` denotes; `BSet.mem s x` is membership.
  A list of bitmaps is a `List Rep` — any length (also `[]`, `[a]`), any repetitions, any empty members (`{}`), any order.
* The aggregates are modelled down to the returned representation:
  `Rep.fastOr` / `Rep.fastAnd` / `Rep.andAny` (`Impl/LazyOps.lean`: lazy union kernels with the deferred cardinality −1 and
  `repairAfterLazy`, the multi-cursor filter of `AndAny`), `Rep.heapOr` / `Rep.heapXor` (`Impl/RepBulk.lean`: Go's
  `container/heap` over the size-ordered queue, move by move), `Rep.parOr w` / `Rep.parHeapOr w` / `Rep.parAnd w`
  (`Impl/ParData.lean`: the data side of the parallel functions — chunk grid computed from the effective worker count `w`,
  per-chunk lazy merges, container heap grouping equal keys).
* `BSet.unionL`, `BSet.interL`, `BSet.xorL`, `BSet.andAny` (`Spec/Agg.lean`) are the folds of the binary set operations
  (`interL [] = ∅`, which is what every Go aggregate returns for no operand).  Each clause is given as "= the fold" (the title of
  the property) and as the pointwise membership statement.
* Worker count: Go's `parallelism = 0` means `runtime.NumCPU()`; `effWorkers p ncpu` below is that rule, the effective count
  is `≥ 1` whenever the machine has at least one CPU.
* All clauses are L2 theorems (result of the modelled Go algorithm on arbitrary well-formed operands, abstracted to sets).
* NOT theorems: that the Go functions behave like the models — observed by the correspondence check (`l2agg`, `l2par`, `l2heap`:
  exact representation of the results for worker counts 0…65536; `agg`: digests over operand lists with duplicates, empties,
  the top of the key space); the goroutines, channels and schedules of the `Par*` functions are the subject of C12.
-/

namespace RModel.Statements.C11
open RModel RModel.BSet RModel.Impl RModel.Impl.RepBulk

/-- the effective worker count of `ParOr(parallelism, …)` etc.: `0` stands for `runtime.NumCPU()` -/
def effWorkers (parallelism ncpu : Nat) : Nat := if parallelism = 0 then ncpu else parallelism

theorem effWorkers_pos (p ncpu : Nat) (h : 1 ≤ ncpu) : 1 ≤ effWorkers p ncpu := by
  unfold effWorkers
  split
  · exact h
  · exact Nat.pos_of_ne_zero ‹_›

/-! ## The clauses -/

/-- **FastOr, HeapOr, ParOr and ParHeapOr return the union** — as the fold `unionL` of the binary union over the denoted
sets; for every list of well-formed bitmaps and every effective worker count `w ≥ 1`. -/
theorem clause_union (l : List Rep) (hl : ∀ r ∈ l, r.wf = true) (w : Nat) (hw : 1 ≤ w) :
    (Rep.fastOr l).toBSet = unionL (l.map Rep.toBSet) ∧ (Rep.heapOr l).toBSet = unionL (l.map Rep.toBSet) ∧
    (Rep.parOr w l).toBSet = unionL (l.map Rep.toBSet) ∧ (Rep.parHeapOr w l).toBSet = unionL (l.map Rep.toBSet) :=
  ⟨Rep.toBSet_fastOr l hl, Rep.toBSet_heapOr l hl, Rep.toBSet_parOr w hw l hl, Rep.toBSet_parHeapOr w l hl⟩

/-- … pointwise: `v` is in the result iff some member of the list contains `v`. -/
theorem clause_union_membership (l : List Rep) (hl : ∀ r ∈ l, r.wf = true) (w : Nat) (hw : 1 ≤ w) (v : Nat) :
    mem (Rep.fastOr l).toBSet v = l.any (fun r => mem r.toBSet v) ∧
    mem (Rep.heapOr l).toBSet v = l.any (fun r => mem r.toBSet v) ∧
    mem (Rep.parOr w l).toBSet v = l.any (fun r => mem r.toBSet v) ∧
    mem (Rep.parHeapOr w l).toBSet v = l.any (fun r => mem r.toBSet v) :=
  ⟨(Rep.fastOr_spec l hl).2 v, Rep.mem_heapOr l hl v, (Rep.parOr_spec w hw l hl).2 v, (Rep.parHeapOr_spec w l hl).2 v⟩

/-- **FastAnd and ParAnd return the intersection** — the fold `interL` (∅ for the empty list). -/
theorem clause_intersection (l : List Rep) (hl : ∀ r ∈ l, r.wf = true) (w : Nat) :
    (Rep.fastAnd l).toBSet = interL (l.map Rep.toBSet) ∧ (Rep.parAnd w l).toBSet = interL (l.map Rep.toBSet) :=
  ⟨Rep.toBSet_fastAnd l hl, Rep.toBSet_parAnd w l hl⟩

/-- … pointwise: for a non-empty list `v` is in the result iff every member contains `v`; the empty list gives the empty
bitmap. -/
theorem clause_intersection_membership (l : List Rep) (hl : ∀ r ∈ l, r.wf = true) (w : Nat) (v : Nat) :
    mem (Rep.fastAnd l).toBSet v = (!l.isEmpty && l.all (fun r => mem r.toBSet v)) ∧
    mem (Rep.parAnd w l).toBSet v = (!l.isEmpty && l.all (fun r => mem r.toBSet v)) :=
  ⟨(Rep.fastAnd_spec l hl).2 v, (Rep.parAnd_spec w l hl).2 v⟩

/-- **HeapXor returns the symmetric difference of all members** — the fold `xorL`; pointwise: `v` is in the result iff an odd
number of members (counted with repetitions) contain `v`. -/
theorem clause_symmetric_difference (l : List Rep) (hl : ∀ r ∈ l, r.wf = true) (v : Nat) :
    (Rep.heapXor l).toBSet = xorL (l.map Rep.toBSet) ∧
    mem (Rep.heapXor l).toBSet v = ((l.filter (fun r => mem r.toBSet v)).length % 2 == 1) := by
  refine ⟨Rep.toBSet_heapXor l hl, ?_⟩
  rw [Rep.mem_heapXor l hl, parity_eq_odd, List.filter_map, List.length_map]
  simp [Function.comp_def]

/-- **x.AndAny(list), for a non-empty list, leaves x equal to x intersected with the union of the list.** -/
theorem clause_andAny (x : Rep) (l : List Rep) (hne : l ≠ []) (hx : x.wf = true) (hl : ∀ r ∈ l, r.wf = true) (v : Nat) :
    (x.andAny l).toBSet = inter x.toBSet (unionL (l.map Rep.toBSet)) ∧
    mem (x.andAny l).toBSet v = (mem x.toBSet v && l.any (fun r => mem r.toBSet v)) :=
  ⟨Rep.toBSet_andAny x l hne hx hl, Rep.mem_andAny x l hne hx hl v⟩

/-- **in any order, with duplicates**: permuting the list changes none of the eight results (as sets); for the unions and
intersections (not for the symmetric difference) only the SET of operands matters, so repetitions are irrelevant too. -/
theorem clause_any_order (l l' : List Rep) (p : l.Perm l') (hl : ∀ r ∈ l, r.wf = true) (w : Nat) (hw : 1 ≤ w)
    (x : Rep) (hx : x.wf = true) (hne : l ≠ []) :
    (Rep.fastOr l).toBSet = (Rep.fastOr l').toBSet ∧ (Rep.heapOr l).toBSet = (Rep.heapOr l').toBSet ∧
    (Rep.parOr w l).toBSet = (Rep.parOr w l').toBSet ∧ (Rep.parHeapOr w l).toBSet = (Rep.parHeapOr w l').toBSet ∧
    (Rep.fastAnd l).toBSet = (Rep.fastAnd l').toBSet ∧ (Rep.parAnd w l).toBSet = (Rep.parAnd w l').toBSet ∧
    (Rep.heapXor l).toBSet = (Rep.heapXor l').toBSet ∧ (x.andAny l).toBSet = (x.andAny l').toBSet := by
  have hl' : ∀ r ∈ l', r.wf = true := fun r hr => hl r (p.mem_iff.mpr hr)
  have hne' : l' ≠ [] := fun h => hne (by simpa [h] using p)
  have hu := unionL_rep_perm hl p
  have hand := Rep.toBSet_parAnd_perm w l l' p hl
  refine ⟨?_, Rep.toBSet_heapOr_perm l l' p hl, ?_, ?_, ?_, hand, Rep.toBSet_heapXor_perm l l' p hl, ?_⟩
  · rw [Rep.toBSet_fastOr l hl, Rep.toBSet_fastOr l' hl', hu]
  · rw [Rep.toBSet_parOr w hw l hl, Rep.toBSet_parOr w hw l' hl', hu]
  · rw [Rep.toBSet_parHeapOr w l hl, Rep.toBSet_parHeapOr w l' hl', hu]
  · rw [Rep.toBSet_fastAnd l hl, Rep.toBSet_fastAnd l' hl', ← Rep.toBSet_parAnd w l hl, ← Rep.toBSet_parAnd w l' hl', hand]
  · rw [Rep.toBSet_andAny x l hne hx hl, Rep.toBSet_andAny x l' hne' hx hl']; unfold BSet.andAny; rw [hu]

/-- **The result does not depend on the worker count given to the Par* functions (including 0 = default)**: for any two
`parallelism` arguments `p p'` (0 = number of CPUs, any `ncpu ≥ 1`), `ParOr` returns the same set, and `ParHeapOr` / `ParAnd`
even the same representation. -/
theorem clause_worker_count_independent (l : List Rep) (hl : ∀ r ∈ l, r.wf = true) (p p' ncpu : Nat) (hc : 1 ≤ ncpu) :
    (Rep.parOr (effWorkers p ncpu) l).toBSet = (Rep.parOr (effWorkers p' ncpu) l).toBSet ∧
    Rep.parHeapOr (effWorkers p ncpu) l = Rep.parHeapOr (effWorkers p' ncpu) l ∧
    Rep.parAnd (effWorkers p ncpu) l = Rep.parAnd (effWorkers p' ncpu) l :=
  ⟨Rep.parOr_worker_independent _ _ (effWorkers_pos p ncpu hc) (effWorkers_pos p' ncpu hc) l hl,
   Rep.parHeapOr_worker_independent _ _ l, Rep.parAnd_worker_independent _ _ l⟩

/-- supplement (what `Validate()` of the result observes): every aggregate returns a well-formed bitmap — in particular no
deferred cardinality of the lazy kernels survives. -/
theorem results_wellformed (l : List Rep) (hl : ∀ r ∈ l, r.wf = true) (w : Nat) (hw : 1 ≤ w) (x : Rep) (hx : x.wf = true) :
    (Rep.fastOr l).wf = true ∧ (Rep.heapOr l).wf = true ∧ (Rep.parOr w l).wf = true ∧ (Rep.parHeapOr w l).wf = true ∧
    (Rep.fastAnd l).wf = true ∧ (Rep.parAnd w l).wf = true ∧ (Rep.heapXor l).wf = true ∧ (x.andAny l).wf = true :=
  ⟨Rep.wf_fastOr l hl, Rep.wf_heapOr l hl, Rep.wf_parOr w hw l hl, Rep.wf_parHeapOr w l hl, Rep.wf_fastAnd l hl,
   Rep.wf_parAnd w l hl, Rep.wf_heapXor l hl, Rep.wf_andAny x l hx hl⟩

/-! ## The hypotheses are satisfiable: a list with a duplicate, an empty member, all three container kinds and the top key -/

def exA : Rep := { slots := [⟨0, .arr [1, 5], false⟩, ⟨65535, .run [(65530, 5)], false⟩] }
def exB : Rep := { slots := [⟨0, .arr [5, 7], false⟩, ⟨2, .run [(0, 65535)], false⟩] }
def exL : List Rep := [exA, {}, exB, exA]

example : exL ≠ [] ∧ exL.Perm exL.reverse := ⟨by decide, (List.reverse_perm exL).symm⟩
example : 1 ≤ effWorkers 0 8 ∧ effWorkers 3 8 = 3 := by decide
theorem exL_wf : ∀ r ∈ exL, r.wf = true := by decide
-- the clauses instantiated: 2^32 − 1 is in ParOr(0, …) (default worker count on 8 CPUs); the intersection of exA, exB, exA
-- keeps 5 and drops 1; in the xor the duplicate exA cancels (1 is out, 7 is in)
example : mem (Rep.parOr (effWorkers 0 8) exL).toBSet 4294967295 = true := by
  rw [(clause_union_membership exL exL_wf _ (by decide) _).2.2.1]; decide +kernel
example : mem (Rep.fastAnd [exA, exB, exA]).toBSet 5 = true ∧ mem (Rep.fastAnd [exA, exB, exA]).toBSet 1 = false := by
  rw [(clause_intersection_membership _ (by decide) 1 5).1, (clause_intersection_membership _ (by decide) 1 1).1]; decide +kernel
example : mem (Rep.heapXor exL).toBSet 1 = false ∧ mem (Rep.heapXor exL).toBSet 7 = true := by
  rw [(clause_symmetric_difference exL exL_wf 1).2, (clause_symmetric_difference exL exL_wf 7).2]; decide +kernel

end RModel.Statements.C11
