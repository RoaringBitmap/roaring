import RProofs.Properties.C05
import RProofs.ByteInputDecode
import RProofs.RepQuery
/-!
# Property C05 — portable serialization round-trips exactly, with exact byte accounting

> For every bitmap, the bytes produced by WriteTo/ToBytes/MarshalBinary/ToBase64, read back through any entry point (ReadFrom
> on a stream delivered in arbitrary chunk sizes, FromBuffer, FromUnsafeBytes, UnmarshalBinary, FromBase64, into a fresh or a
> previously used bitmap), give a bitmap Equal to the original that supports all further operations. The number of bytes
> written equals GetSerializedSizeInBytes and the value WriteTo returns, a reader consumes exactly that many bytes and nothing
> after them, and a writer that fails at any byte offset makes WriteTo return an error.

## Reading guide

* `Rep` = a 32-bit `roaring.Bitmap` as stored; `Rep.wf r = true` = the representation invariant (C09) — "every bitmap";
  `Rep.toBSet r` = the set it denotes.  `Bytes = List UInt8`.
* WRITER: `Rep.encode specParams r` models `roaringArray.writeTo` (cookie, run-flag bitmap, `(key, card-1)` descriptors, offset
  header, payloads) — the byte string that `WriteTo`, `ToBytes`, `MarshalBinary` produce and that `ToBase64` wraps;
  `Rep.serializedSize specParams r` models `GetSerializedSizeInBytes()`.  `specParams` are the format constants as literals;
  that the constants regenerated from the Go source on every run have these values is `Facts/Constants.lean` (`F_SERIAL` in
  `tools/props.py`).
* READER: `decode specParams flag bs` models `roaringArray.readFrom` on a byte string with outcome `ok (bitmap, bytes consumed) /
  err / panic`; `flag` = "the input hands out slices of the caller's memory" (the zero-copy entry points flag every container
  as shared).  `ByteIn.decodeProg` is the same `readFrom` written against the four operations of Go's `internal.ByteInput`
  (`Next / ReadUInt32 / ReadUInt16 / SkipBytes`); `Prog.runBuf` runs it on a `ByteBuffer` — that is `FromBuffer`, `FromUnsafeBytes`,
  `ReadFrom(ByteBuffer)` —, `Prog.runAdapter` on a `ByteInputAdapter` over an `io.Reader` that delivers its bytes in the chunk sizes
  `sched` (cyclic, any list; `eager` = the reader reports EOF together with the last bytes) — that is `ReadFrom(io.Reader)`,
  and `UnmarshalBinary` / `FromBase64`, which call it on a `bytes.Reader` / `bytes.Buffer`.  Both return the decoded bitmap and
  `GetReadBytes()`, the number of bytes pulled from the input.
* `Rep.asDecoded r flag` = `r` with the copy-on-write switch off and every container flag `= flag`: what a reader builds.
* Level: representation level (L2) throughout.
* NOT theorems — observed by the generated scripts `ser`, `serall`, `thresh`, `bytein` only: (1) that Go's writer/reader compute
  what these models compute (byte for byte: `encode repr = ToBytes()`); (2) Base64 itself (Go's `encoding/base64`, assumed to
  invert itself); (3) **a previously used receiver**: the model's reader returns a new value, the reuse of the receiver's slices
  is not modelled (the scripts read into used bitmaps); (4) the value `WriteTo` returns and (5) **a writer failing at a byte
  offset**: `io.Writer`s are not modelled at all (the scripts `wrfail` / `wrfailall` inject a failure at every offset of the
  stream and demand an error).
-/
namespace RModel.Statements.C05
open RModel RModel.BSet RModel.Impl RModel.Impl.ByteIn

/-- array + run + flagged array chunk (cookie with run flags, fewer than 4 chunks: no offset header), 31 bytes -/
def exR : Rep := ⟨false, [⟨0, .arr [1, 5, 9], false⟩, ⟨3, .run [(10, 99)], false⟩, ⟨7, .arr [65535], true⟩]⟩
theorem exR_wf : exR.wf = true := by decide

/-! ### clause: the round trip, every entry point, arbitrary chunking -/

/-- the bitmap a reader builds is `Equal` to the original (same set; `Equals` as Go computes it answers true) and is again well
formed — so every theorem of C01–C04 applies to it: it "supports all further operations" -/
theorem clause_decoded_equal_and_usable (r : Rep) (hr : r.wf = true) (flag : Bool) :
    (r.asDecoded flag).toBSet = r.toBSet ∧ (r.asDecoded flag).equals r = true ∧ r.equals (r.asDecoded flag) = true ∧
    (r.asDecoded flag).wf = true := by
  have hs := Rep.toBSet_asDecoded r flag
  have hw := roundtrip_wf r hr flag
  exact ⟨hs, Rep.equals_of_toBSet_eq hw hr hs, Rep.equals_of_toBSet_eq hr hw hs.symm, hw⟩

/-- `readFrom` on the written bytes — followed by ANY bytes `tail` — returns exactly `r.asDecoded flag` and reports exactly the
length of the written stream as consumed; it never reaches an unchecked index (`panic`) on any input whatsoever -/
theorem clause_roundtrip_bytes (r : Rep) (hr : r.wf = true) (flag : Bool) (tail : List UInt8) :
    decode specParams flag (r.encode specParams ++ tail) = .ok (r.asDecoded flag, (r.encode specParams).length) ∧
    ∀ bs, decode specParams flag bs ≠ .panic :=
  ⟨decode_encode r hr flag tail, decode_no_panic specParams flag⟩

/-- the buffer entry points (`FromBuffer`, `FromUnsafeBytes`, `ReadFrom` on a `ByteBuffer`): same result, and `GetReadBytes()` at
the end is the length of the written stream -/
theorem clause_roundtrip_buffer (r : Rep) (hr : r.wf = true) (flag : Bool) (tail : List UInt8) :
    reportRun ((decodeProg specParams flag).runBuf (Buf.mk (r.encode specParams ++ tail) 0)) =
      .ok (r.asDecoded flag, (r.encode specParams).length) := by
  rw [decode_via_buf, decode_encode r hr flag tail]

/-- the stream entry points (`ReadFrom(io.Reader)`, hence `UnmarshalBinary`, `FromBase64`): for EVERY chunk schedule `sched` (short
reads of any shape, e.g. one byte at a time) and either end-of-data convention the result is the same, and the number of
bytes pulled from the reader is the length of the written stream — also when more bytes (`tail`) follow in the stream -/
theorem clause_roundtrip_stream (r : Rep) (hr : r.wf = true) (flag : Bool) (tail : List UInt8) (sched : List Nat) (eager : Bool) :
    reportRun ((decodeProg specParams flag).runAdapter (Adapter.mk (Reader.ofData (r.encode specParams ++ tail) sched none eager) 0)) =
      .ok (r.asDecoded flag, (r.encode specParams).length) := by
  rw [decode_via_adapter, decode_encode r hr flag tail]

/-- more generally the two input implementations agree on EVERY byte string (valid or not), chunk schedule and EOF convention:
same bitmap, same byte count, failure in the same cases; both are the byte-list reader `decode` -/
theorem clause_entry_points_agree (flag : Bool) (bs : List UInt8) (sched : List Nat) (eager : Bool) :
    reportRun ((decodeProg specParams flag).runAdapter (Adapter.mk (Reader.ofData bs sched none eager) 0)) = decode specParams flag bs ∧
    reportRun ((decodeProg specParams flag).runBuf (Buf.mk bs 0)) = decode specParams flag bs :=
  ⟨decode_via_adapter specParams flag bs sched eager, decode_via_buf specParams flag bs⟩

/-- the clause as a whole.  PARTIAL: covers reading into a NEW bitmap value through either input implementation (all five Go
entry points are one of the two, see the reading guide); what is missing is (a) a previously used receiver — the reuse of its
slices by `readFrom` is not modelled —, (b) the Base64 wrapping (`encoding/base64`), (c) the tie entry point ↔ model (scripts). -/
theorem clause_roundtrip_any_entry_point_partial (r : Rep) (hr : r.wf = true) (flag : Bool) (tail : List UInt8) (sched : List Nat)
    (eager : Bool) :
    ∃ r', reportRun ((decodeProg specParams flag).runBuf (Buf.mk (r.encode specParams ++ tail) 0)) =
        .ok (r', (r.encode specParams).length) ∧
      reportRun ((decodeProg specParams flag).runAdapter (Adapter.mk (Reader.ofData (r.encode specParams ++ tail) sched none eager) 0)) =
        .ok (r', (r.encode specParams).length) ∧
      r'.toBSet = r.toBSet ∧ r'.equals r = true ∧ r'.wf = true :=
  ⟨r.asDecoded flag, clause_roundtrip_buffer r hr flag tail, clause_roundtrip_stream r hr flag tail sched eager,
   (clause_decoded_equal_and_usable r hr flag).1, (clause_decoded_equal_and_usable r hr flag).2.1,
   (clause_decoded_equal_and_usable r hr flag).2.2.2⟩

example := clause_roundtrip_any_entry_point_partial exR exR_wf false [7, 7] [1, 3, 0, 2] true
example : decode specParams true (exR.encode specParams ++ [7, 7]) = .ok (exR.asDecoded true, 31) :=
  (clause_roundtrip_bytes exR exR_wf true [7, 7]).1

/-! ### clause: bytes written = `GetSerializedSizeInBytes` (= the value `WriteTo` returns: observed only) -/

/-- the writer model produces exactly `serializedSize` bytes.  PARTIAL: the third quantity of the clause, the `n` returned by
`WriteTo`, is not a separate object of the model (no `io.Writer` is modelled); that `n = len(bytes)` is checked on every `ser`
line of the scripts. -/
theorem clause_byte_count_partial (r : Rep) (hr : r.wf = true) :
    (r.encode specParams).length = r.serializedSize specParams :=
  encode_length r hr

example : (exR.encode specParams).length = 31 ∧ exR.serializedSize specParams = 31 := by decide +kernel

/-! ### clause: a reader consumes exactly that many bytes and nothing after them -/

/-- whatever follows the stream: the reader reports `GetSerializedSizeInBytes()` bytes consumed — through the byte-list reader,
a `ByteBuffer`, or an adapter over a reader with any chunk schedule, where the count is the number of bytes PULLED from the
underlying `io.Reader` (so not one byte of `tail` was taken) — and its result does not depend on `tail` -/
theorem clause_reader_consumes_exactly (r : Rep) (hr : r.wf = true) (flag : Bool) (tail : List UInt8) (sched : List Nat) (eager : Bool) :
    decode specParams flag (r.encode specParams ++ tail) = .ok (r.asDecoded flag, r.serializedSize specParams) ∧
    reportRun ((decodeProg specParams flag).runBuf (Buf.mk (r.encode specParams ++ tail) 0)) =
      .ok (r.asDecoded flag, r.serializedSize specParams) ∧
    reportRun ((decodeProg specParams flag).runAdapter (Adapter.mk (Reader.ofData (r.encode specParams ++ tail) sched none eager) 0)) =
      .ok (r.asDecoded flag, r.serializedSize specParams) := by
  rw [← encode_length r hr]
  exact ⟨decode_encode r hr flag tail, clause_roundtrip_buffer r hr flag tail, clause_roundtrip_stream r hr flag tail sched eager⟩

/-- every accepted read consumed between 4 bytes and the whole input -/
theorem clause_consumed_within_input (flag : Bool) (bs : List UInt8) (r : Rep) (m : Nat) (h : decode specParams flag bs = .ok (r, m)) :
    4 ≤ m ∧ m ≤ bs.length :=
  decode_consumed specParams flag bs r m h

/-- and fewer bytes are never enough: every proper prefix of the written stream is rejected with an error -/
theorem clause_truncated_stream_rejected (r : Rep) (hr : r.wf = true) (flag : Bool) (k : Nat) (hk : k < (r.encode specParams).length) :
    decode specParams flag ((r.encode specParams).take k) = .err :=
  prefix_rejected r hr flag k hk

example := clause_reader_consumes_exactly exR exR_wf true [1, 2, 3] [5] false
example := clause_truncated_stream_rejected exR exR_wf false 30 (by decide +kernel)

/-! ### clause: a writer that fails at any byte offset makes `WriteTo` return an error — NOT a theorem

No `io.Writer` is modelled, so there is no statement to prove; the clause is observed by the script commands `wrfail x off`
(a writer failing at offset `off`: `WriteTo` must return an error iff `off <` the stream length) and `wrfailall x` (every
offset of the stream). -/

end RModel.Statements.C05
