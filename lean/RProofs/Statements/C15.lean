import RProofs.RepQuery
/-!
# C15 — Neighbour queries return the true nearest present / absent value

> For every bitmap and every target t, NextValue(t) is the smallest element >= t and PreviousValue(t) the largest element
> <= t (or -1 if none); NextAbsentValue(t) is the smallest integer >= t that is not an element and PreviousAbsentValue(t) the
> largest integer <= t that is not an element (or -1 if every integer on that side up to the end of the 32-bit range is
> present). The answer never lies on the wrong side of t and never has the wrong membership.

## Reading guide

* `Rep` (`RModel/Impl/Repr.lean`) is a 32-bit bitmap **as stored**: a list of slots `(key, container, copy-on-write flag)`, a
  container being an array / 1024 words + cached cardinality / run list.  `Rep.wf r = true` is the representation invariant
  (what Go's `Validate` checks; property C09 proves every operation preserves it).
* `r.toBSet` is the set `r` denotes and `BSet.mem s x : Bool` is membership (`RModel/Spec/BSet.lean`) — the only definition
  one has to believe to read the statements below.  Members of a well-formed `r` are `< 2^32` (`canon_rep` with `mem_lt_of_canon`).
* `Rep.nextValue`, `Rep.previousValue`, `Rep.nextAbsentValue`, `Rep.previousAbsentValue` (`RModel/Impl/RepQuery.lean`) are the Go
  drivers of `roaring.go` **as algorithms**: `advanceUntil` / `getIndex` over the key array, the walk over later / earlier
  chunks, the recombination `key·65536 + low`, on top of the per-kind container kernels (`nextValueQ` … in
  `Impl/ContQuery.lean`: bounded binary searches, word scans, run searches with their different "nothing here" sentinels).
  They return the Go `int64` as an `Int`; `-1` is Go's "none".
* Every clause is proved at the representation level (L2) and stated directly with membership: the theorems below are the
  L2 theorems `Rep.nextValue_is`, … (`RProofs/RepQueryBase.lean`) with their judgements `IsNext`, `IsPrev`, `NA`,
  `IsPrevAbsent` written out; that the L1 oracle `BSet.nextValue`, … gives the same answers is `Rep.nextValue_spec`, ….
  All targets `t : Nat` are covered; a Go target is a `uint32`, i.e. `t < 4294967296`, which only `NextAbsentValue` needs as
  a hypothesis.
* NOT a theorem: that the Go functions behave like these models.  That is observed by the correspondence check (commands
  `nv pv nav pav` against the set oracle, `l2q` against the driver models on the exact representation, `kern` lines for the
  container kernels), on generated bitmaps with elements in chunks other than the first, full chunks, gaps, absent chunks.
-/

namespace RModel.Statements.C15
open RModel RModel.BSet RModel.Impl RModel.Impl.RepQuery

/-- **NextValue(t) is the smallest element ≥ t, or −1 if none.** -/
theorem clause_nextValue (r : Rep) (h : r.wf = true) (t : Nat) :
    (∃ v : Nat, r.nextValue t = (v : Int) ∧ t ≤ v ∧ mem r.toBSet v = true ∧ ∀ u, t ≤ u → u < v → mem r.toBSet u = false) ∨
    (r.nextValue t = -1 ∧ ∀ u, t ≤ u → mem r.toBSet u = false) :=
  Rep.nextValue_is r h t

/-- **PreviousValue(t) is the largest element ≤ t, or −1 if none.** -/
theorem clause_previousValue (r : Rep) (h : r.wf = true) (t : Nat) :
    (∃ v : Nat, r.previousValue t = (v : Int) ∧ v ≤ t ∧ mem r.toBSet v = true ∧ ∀ u, v < u → u ≤ t → mem r.toBSet u = false) ∨
    (r.previousValue t = -1 ∧ ∀ u, u ≤ t → mem r.toBSet u = false) :=
  Rep.previousValue_is r h t

/-- **NextAbsentValue(t) is the smallest integer ≥ t that is not an element, or −1 if every integer from t up to the end of the
32-bit range is present.**  (`t` a `uint32`.) -/
theorem clause_nextAbsentValue (r : Rep) (h : r.wf = true) (t : Nat) (ht : t < 4294967296) :
    (∃ v : Nat, r.nextAbsentValue t = (v : Int) ∧ v < 4294967296 ∧ t ≤ v ∧ mem r.toBSet v = false ∧
        ∀ u, t ≤ u → u < v → mem r.toBSet u = true) ∨
    (r.nextAbsentValue t = -1 ∧ ∀ u, t ≤ u → u < 4294967296 → mem r.toBSet u = true) :=
  Rep.nextAbsentValue_is r h t ht

/-- **PreviousAbsentValue(t) is the largest integer ≤ t that is not an element, or −1 if every integer from 0 to t is present.** -/
theorem clause_previousAbsentValue (r : Rep) (h : r.wf = true) (t : Nat) :
    (∃ v : Nat, r.previousAbsentValue t = (v : Int) ∧ v ≤ t ∧ mem r.toBSet v = false ∧
        ∀ u, v < u → u ≤ t → mem r.toBSet u = true) ∨
    (r.previousAbsentValue t = -1 ∧ ∀ u, u ≤ t → mem r.toBSet u = true) :=
  Rep.previousAbsentValue_is r h t

/-- **The answer never lies on the wrong side of t and never has the wrong membership**: whenever one of the four functions
returns something other than −1, the returned value `a` is a natural number on the correct side of `t` with the correct
membership (the two "next" answers are moreover 32-bit values). -/
theorem clause_side_and_membership (r : Rep) (h : r.wf = true) (t : Nat) (ht : t < 4294967296) :
    (r.nextValue t ≠ -1 → ∃ v : Nat, r.nextValue t = (v : Int) ∧ t ≤ v ∧ v < 4294967296 ∧ mem r.toBSet v = true) ∧
    (r.previousValue t ≠ -1 → ∃ v : Nat, r.previousValue t = (v : Int) ∧ v ≤ t ∧ mem r.toBSet v = true) ∧
    (r.nextAbsentValue t ≠ -1 → ∃ v : Nat, r.nextAbsentValue t = (v : Int) ∧ t ≤ v ∧ v < 4294967296 ∧ mem r.toBSet v = false) ∧
    (r.previousAbsentValue t ≠ -1 → ∃ v : Nat, r.previousAbsentValue t = (v : Int) ∧ v ≤ t ∧ mem r.toBSet v = false) := by
  refine ⟨fun hne => ?_, fun hne => ?_, fun hne => ?_, fun hne => ?_⟩
  · rcases clause_nextValue r h t with ⟨v, e, h1, h2, _⟩ | ⟨e, _⟩
    · exact ⟨v, e, h1, mem_lt_of_canon _ _ (canon_rep r h) v h2, h2⟩
    · exact absurd e hne
  · rcases clause_previousValue r h t with ⟨v, e, h1, h2, _⟩ | ⟨e, _⟩
    · exact ⟨v, e, h1, h2⟩
    · exact absurd e hne
  · rcases clause_nextAbsentValue r h t ht with ⟨v, e, h0, h1, h2, _⟩ | ⟨e, _⟩
    · exact ⟨v, e, h1, h0, h2⟩
    · exact absurd e hne
  · rcases clause_previousAbsentValue r h t with ⟨v, e, h1, h2, _⟩ | ⟨e, _⟩
    · exact ⟨v, e, h1, h2⟩
    · exact absurd e hne

/-! ## The hypotheses are satisfiable: a bitmap with an array chunk at key 0, a full run chunk at key 2, a bitmap chunk
(4097 values) at key 3 and a run chunk reaching the top of the 32-bit range at key 65535 -/

/-- `{1, 5} ∪ [131072, 196608) ∪ {196608 + i | i ≤ 4096} ∪ [4294967290, 4294967296)` -/
def exRep : Rep :=
  { slots := [⟨0, .arr [1, 5], false⟩, ⟨2, .run [(0, 65535)], false⟩,
              ⟨3, .bmp 4097 (List.replicate 64 (BitVec.allOnes 64) ++ [1#64] ++ List.replicate 959 0#64), false⟩,
              ⟨65535, .run [(65530, 5)], false⟩] }

example : exRep.wf = true := by decide +kernel
-- answer in a later chunk (across an absent chunk); answer in an earlier chunk; none
example : exRep.nextValue 6 = 131072 ∧ exRep.previousValue 131071 = 5 ∧ exRep.previousValue 0 = -1 := by decide +kernel
-- walk across a full chunk into the next one; everything up to the end of the range present; downwards across the full chunk
example : exRep.nextAbsentValue 131072 = 200705 ∧ exRep.nextAbsentValue 4294967290 = -1 ∧
    exRep.previousAbsentValue 196608 = 131071 := by decide +kernel

end RModel.Statements.C15
