import RProofs.Heap
import RProofs.RepMut
import RProofs.RepXform
import RProofs.RepBulk
import RProofs.Rep64InPlace
import RProofs.Rep64Range
import RProofs.Rep64Mut
/-!
# C07 — Value semantics: distinct bitmaps never interfere and arguments are not modified

> A bitmap returned by any operation (Clone, And/Or/Xor/AndNot, Flip, AddOffset, FastOr/FastAnd/HeapOr/HeapXor,
> ParOr/ParAnd/ParHeapOr, and their 64-bit counterparts) is independent of its inputs: no later mutation of the result, of an
> input, or of the receiver of an in-place operation changes the contents of any other bitmap, whether or not copy-on-write mode
> is enabled on any of them (the few constructors documented as no-copy, e.g. Roaring32AsRoaring64, are excepted). Operations
> documented as read-only leave the contents of their arguments - and the caller's argument slice - unchanged.

## Reading guide

Two models are used, because "independent" is a statement about *identity* of memory, which a value-level model cannot even express.

**The pointer graph** (`Impl/Heap.lean`, `Impl/HeapOps.lean`; proofs `RProofs/Heap.lean`):

| Lean object | stands for |
|---|---|
| `Heap = List HBitmap` | all live 32-bit bitmaps of the process |
| `HBitmap.cow`, `.hdr`, `.slots` | the `copyOnWrite` switch; the three parallel header slices (keys / containers / needCopyOnWrite); the chunks |
| `HSlot.cell`, `.backing : ArrId`, `.flag` | identity of the container object, identity of its backing array (`foreign` = lies in a caller's buffer, `id = 0` = nil), `needCopyOnWrite[i]` |
| `Place` | one (bitmap index, slot index) with its slot; `p.sharesWith q` = same container object or same non-nil array |
| `Safe h` | **the sharing invariant**: whatever is reachable from two places, or is foreign, is flagged in EVERY place that reaches it; header slices are private and not foreign |
| `gate h b i c a` | `getWritableContainerAtIndex(i)` of bitmap `b` — the only door through which an in-place kernel obtains a chunk (a flagged chunk is replaced by a private clone with the new identities `c`, `a`) |
| `Op`, `step`, `run` | the copy-on-write primitives of `roaringarray.go` as data (gate, clone, appendCopy, appendFresh, insertFresh, removeSlot, detach, zeroCopy, drop, setCow) and their execution |
| `Op.Ok`, `RunOk`, `Fresh…` | the side conditions under which a primitive models the Go code: what it allocates is new |

**The exact representations** (`Rep`, `Rep64`: switch + `(key, container, flag)` slots; `Rep.toBSet` = the set denoted): the L2 models of
`RepMut` / `LazyOps` / `RepBulk` / `RepXform` / `Rep64*` carry the flags, and wherever the Go code touches an *operand* there is a
function for "the operand afterwards" (`Rep.cloneSrc`, `Rep.shareTail`, `Rep.flipStaticSrc`, `Rep64.afterStatic`, `Rep64.argAfter`,
`Rep64.sflipSrc`).

Levels and gaps.  Clause 1 is PARTIAL: it is proved that the invariant holds in every heap the primitives can build, for every setting
of every switch (`clause_sharing_invariant_reachable`), and that a write through the gate lands on a container object and array that
no other place of any bitmap reaches while every other place stays literally what it was (`clause_result_independent_partial`).  NOT
theorems: (a) chunk *contents* are not part of the pointer graph — "the contents of the other bitmap do not change" is the conjunction
of the frame theorem with the Go fact that an in-place kernel writes only the object it was handed; (b) that every public operation of
the clause's list is a sequence of these primitives under their freshness side conditions and enters every in-place kernel through the
gate.  (b) is tied by the pinned sharing skeletons (`cowSkeleton*_pinned`: every call of a primitive with its arguments, every
`clone()`, every flag assignment, regenerated from `/repo` on each run) and observed by the `alias` / `agg` / `r64` suites: `Safe` is
evaluated on the REAL pointer graph (through the read-only hook) and every live bitmap is digested after every step.  The no-copy
constructors (`Roaring32AsRoaring64`, `FromDense(…, false)`, `FromUnsafeBytes`) are the `foreign` arrays of C08/C16.  Clause 2 is
PARTIAL: see `clause_readonly_operands_keep_contents_partial`.
-/
namespace RModel.Statements.C07
open RModel RModel.Impl

/-! ## Clause 1 — a bitmap returned by any operation is independent of its inputs, whatever the copy-on-write switches -/

/-- **The sharing invariant holds in every reachable state.**  Start from no bitmaps and apply ANY sequence of the copy-on-write
primitives, each under its side condition (the identities it allocates are new): clones with the switch on or off, shared or copied
appends, zero-copy loads, switch flips (`setCow b v` for any `v` at any time), detaches, drops, gated writes.  The resulting pointer
graph is `Safe` (and no header slice lies in caller memory). -/
theorem clause_sharing_invariant_reachable (ops : List Op) (hok : RunOk [] ops) :
    Safe (run [] ops) = true ∧ HdrLocal (run [] ops) :=
  safe_reachable ops hok

/-- one step, from ANY safe heap (so: "whether or not copy-on-write mode is enabled on any of them" — the switches of `h` are arbitrary) -/
theorem clause_sharing_invariant_step (h : Heap) (hs : Safe h = true) (op : Op) (hok : op.Ok h) : Safe (step h op) = true :=
  safe_step hs op hok

/-- what the invariant gives for a chunk that is NOT flagged: it is private — no other place of any bitmap reaches its container
object or its array — and it is not caller memory -/
theorem clause_unflagged_chunk_is_private (h : Heap) (hs : Safe h = true) (p q : Place) (hp : p ∈ h.places) (hq : q ∈ h.places)
    (hf : p.s.flag = false) (hne : p.same q = false) :
    p.sharesWith q = false ∧ p.s.backing.foreign = false :=
  ⟨safe_unflagged_private h hs p q hp hq hf hne, safe_unflagged_not_foreign h hs p hp hf⟩

/-- **No later mutation changes any other bitmap** (pointer-graph form; PARTIAL, see the reading guide).  In a safe heap — e.g. any
reachable one, with a result that shares chunks with its inputs and any mix of switches — let bitmap `b` (the result, an input, or
the receiver of an in-place operation) obtain chunk `i` for writing.  Then
1. the heap is still safe (the argument repeats for the next mutation, in any order, on any bitmap);
2. every OTHER place, of this and of every other bitmap, is literally what it was: same key, container object, array, flag;
3. the place that will be written is unflagged, its array is not caller memory, and no other place of the heap reaches its
   container object or its array, in either direction. -/
theorem clause_result_independent_partial (h : Heap) (hs : Safe h = true) (b i c a : Nat) (hf : Fresh h c a) :
    Safe (gate h b i c a) = true ∧
    (∀ q : Place, ¬(q.b = b ∧ q.i = i) → (q ∈ (gate h b i c a).places ↔ q ∈ h.places)) ∧
    (∀ p ∈ (gate h b i c a).places, p.b = b → p.i = i →
      p.s.flag = false ∧ p.s.backing.foreign = false ∧
      ∀ q ∈ (gate h b i c a).places, p.same q = false → p.sharesWith q = false ∧ q.sharesWith p = false) :=
  ⟨safe_gate hs hf, fun q hq => gate_frame h b i c a q hq, fun p hp hb hi =>
    have g := gate_private hs hf p hp hb hi
    ⟨g.1, g.2.1, fun q hq hne => ⟨(g.2.2 q hq hne).1, (g.2.2 q hq hne).2.1⟩⟩⟩

/-- the two composed: after any history of primitives from the empty heap, a gated write is private and frames everything else -/
theorem clause_result_independent_reachable_partial (ops : List Op) (hok : RunOk [] ops) (b i c a : Nat)
    (hf : Fresh (run [] ops) c a) :
    Safe (run [] (ops ++ [.gate b i c a])) = true ∧
    (∀ q : Place, ¬(q.b = b ∧ q.i = i) → (q ∈ (run [] (ops ++ [.gate b i c a])).places ↔ q ∈ (run [] ops).places)) := by
  have e : run [] (ops ++ [.gate b i c a]) = gate (run [] ops) b i c a := by simp [run, step]
  rw [e]
  have := clause_result_independent_partial (run [] ops) (safe_reachable ops hok).1 b i c a hf
  exact ⟨this.1, this.2.1⟩

/-- the hypotheses are satisfiable and the conclusion has content: `exShared` = two bitmaps with the switch on that share the chunk
(cell 10, array 20), flagged on both sides; bitmap `b` (index 1) writes it: `b` gets the private clone (12, 22), `a` is untouched.
`exOps` is a 13-step history exercising every primitive (clone with the switch on and off, zero-copy load, shared append, detach, …). -/
example : Safe exShared = true ∧ Fresh exShared 12 22 := by decide +kernel
example : ((gate exShared 1 0 12 22).slotAt 1 0).map (fun s => (s.cell, s.backing.id, s.flag)) = some (12, 22, false) ∧
    ((gate exShared 1 0 12 22).slotAt 0 0).map (fun s => (s.cell, s.backing.id, s.flag)) = some (10, 20, true) := by decide +kernel
example : RunOk [] exOps ∧ Safe (run [] exOps) = true :=
  ⟨runOk_exOps, (clause_sharing_invariant_reachable exOps runOk_exOps).1⟩
/-- dropping the flag on one side of a shared chunk is what the invariant forbids -/
example : Safe (exShared.modify 1 (·.modSlot 0 fun s => { s with flag := false })) = false := by decide +kernel

/-! ### the same discipline in the exact L2 models (flags are part of the representation the Go side must reproduce literally) -/

/-- `Clone`: the copy and the source denote the same set afterwards, with either switch setting; with the switch on every chunk of
BOTH is flagged (so the first write on either side copies), with it off the copy has no flag (its chunks are fresh copies) -/
theorem clause_clone_same_set_flags_both_sides (r : Rep) :
    r.clone.toBSet = r.toBSet ∧ r.cloneSrc.toBSet = r.toBSet ∧
    (r.cow = true → (∀ s ∈ r.clone.slots, s.flag = true) ∧ (∀ s ∈ r.cloneSrc.slots, s.flag = true)) ∧
    (r.cow = false → (∀ s ∈ r.clone.slots, s.flag = false) ∧ r.cloneSrc = r) :=
  ⟨Rep.toBSet_clone r, Rep.toBSet_cloneSrc r,
   fun hc => ⟨fun _ hs => (Rep.flag_clone hs).trans hc, fun _ hs => Rep.flag_cloneSrc hc hs⟩,
   fun hc => ⟨fun _ hs => (Rep.flag_clone hs).trans hc, Rep.cloneSrc_of_not_cow hc⟩⟩

/-- `HeapOr` / `HeapXor` of two or more operands: the result is a fresh bitmap (switch off) and every chunk it shares with an
operand is flagged — a flagged slot of the result is literally a flagged slot of some operand; all others are new or private clones -/
theorem clause_heap_aggregate_shares_only_flagged (a b : Rep) (t : List Rep) :
    ((Rep.heapOr (a :: b :: t)).cow = false ∧
      ∀ s ∈ (Rep.heapOr (a :: b :: t)).slots, s.flag = true → ∃ r ∈ a :: b :: t, s ∈ r.slots) ∧
    ((Rep.heapXor (a :: b :: t)).cow = false ∧
      ∀ s ∈ (Rep.heapXor (a :: b :: t)).slots, s.flag = true → ∃ r ∈ a :: b :: t, s ∈ r.slots) :=
  ⟨Rep.heapOr_share a b t, Rep.heapXor_share a b t⟩

/-- `AddMany` (which keeps a cached chunk pointer and bypasses the gate after the first value of a chunk): no cached in-place write
ever runs on a flagged (possibly shared) chunk, and a chunk under a key no value falls into is left exactly as it was, flag included -/
theorem clause_addMany_never_writes_shared (r : Rep) (vals : List Nat) :
    (∀ f ∈ r.addManyWriteFlags vals, f = false) ∧
    (∀ s ∈ r.slots, (∀ v ∈ vals, v / 65536 ≠ s.key) → s ∈ (r.addMany vals).slots) :=
  ⟨Rep.addManyWriteFlags_false r vals, fun s hs hk => Rep.addMany_untouched r vals s hs hk⟩

/-- 64-bit counterpart (`roaring64.Bitmap.Add`): every other bucket is literally unchanged, and a FLAGGED (shared) bucket is never
written — the 32-bit `Add` runs on its `Clone()` and the flag is cleared -/
theorem clause_add64_never_writes_shared_bucket (r : Rep64) (hr : r.wf = true) (x : Nat) :
    (r.add x).cow = r.cow ∧
    (r.add x).buckets.filter (·.high != x / 4294967296) = r.buckets.filter (·.high != x / 4294967296) ∧
    (∀ b, r.bucketAt (x / 4294967296) = some b → b.flag = true →
      (r.add x).bucketAt (x / 4294967296) = some { high := b.high, bm := b.bm.cloneB.add (x % 4294967296), flag := false }) :=
  ⟨(Rep64.add_frame r hr x).1, (Rep64.add_frame r hr x).2, fun b hb hf => Rep64.add_flagged r hr x b hb hf⟩

example : exA.wf = true ∧ (exA.add 7).bucketAt 0 = some { high := 0, bm := exA0.bm.cloneB.add 7, flag := false } :=
  ⟨wf_exA, (clause_add64_never_writes_shared_bucket exA wf_exA 7).2.2 exA0 rfl rfl⟩
example : ∀ r ∈ exHeap, r.wf = true := exHeap_wf

/-! ## Clause 2 — read-only operations leave the contents of their arguments (and the caller's slice) unchanged -/

/-- **Wherever the Go code touches an operand, only flags change** (PARTIAL).  The L2 models return "the operand afterwards" exactly in
the cases where the library writes into an operand's `roaringArray`; in each of them the operand denotes the same set afterwards:
* the source of `Clone` (also `FastOr` / `FastAnd` / `HeapOr` / `ParOr` of ONE bitmap, which are `Clone`): `Rep.cloneSrc`;
* the ARGUMENT of in-place `Or` / `Xor` (its chunks above the receiver's last key are adopted: shared and flagged on both sides when
  both switches are on): `Rep.shareTail` — same switch, same keys, same containers;
* the operand of the static `Flip` with an empty range (= `Clone`): `Rep.flipStaticSrc`;
* 64-bit: each operand of static `And/Or/Xor/AndNot` (`Rep64.afterStatic`), the argument of in-place `Or` / `Xor` (`Rep64.argAfter`),
  the operand of static `Flip` (`Rep64.sflipSrc`).
What is missing: for every other read-only operation (`And`, `Or`, `Xor`, `AndNot`, `AddOffset`, the aggregates on two or more
bitmaps, all queries) the models are pure functions of the operands — that Go leaves the operand's representation literally unchanged
there is not a theorem but is checked on every `l2op` / `l2agg` / `l2par` / `l2off` line (operands printed before and after, flags
included) and by operand digests in `alg` / `agg`; the caller's `[]*Bitmap` slice is not modelled (the models take a `List Rep` by
value) and is compared element by element in the `agg` suite. -/
theorem clause_readonly_operands_keep_contents_partial :
    (∀ r : Rep, r.cloneSrc.toBSet = r.toBSet) ∧
    (∀ a b : Rep, (a.shareTail b).cow = b.cow ∧
      (a.shareTail b).slots.map (fun s => (s.key, s.c)) = b.slots.map (fun s => (s.key, s.c)) ∧
      (a.shareTail b).toBSet = b.toBSet) ∧
    (∀ (a : Rep) (lo hi : Nat), (a.flipStaticSrc lo hi).toBSet = a.toBSet) ∧
    (∀ (clonesLone : Bool) (a other : Rep64), a.wf = true → (Rep64.afterStatic clonesLone a other).toBSet = a.toBSet) ∧
    (∀ x y : Rep64, y.wf = true → (Rep64.argAfter x y).toBSet = y.toBSet) ∧
    (∀ (r : Rep64) (lo hi : Nat), r.wf = true → (r.sflipSrc lo hi).toBSet = r.toBSet) :=
  ⟨Rep.toBSet_cloneSrc, fun a b => ⟨(Rep.shareTail_same a b).1, (Rep.shareTail_same a b).2, Rep.toBSet_shareTail a b⟩,
    Rep.toBSet_flipStaticSrc, fun cl a o ha => Rep64.toBSet_afterStatic cl a o ha, fun x y hy => Rep64.toBSet_argAfter x y hy,
    fun r lo hi hr => Rep64.toBSet_sflipSrc r hr lo hi⟩

/-- … and the operands stay well-formed (so every later operation on them is covered by the theorems of C01–C04, C09) -/
theorem clause_readonly_operands_stay_wellformed :
    (∀ r : Rep, r.cloneSrc.wf = r.wf) ∧ (∀ a b : Rep, (a.shareTail b).wf = b.wf) ∧
    (∀ (clonesLone : Bool) (a other : Rep64), a.wf = true → (Rep64.afterStatic clonesLone a other).wf = true) ∧
    (∀ x y : Rep64, y.wf = true → (Rep64.argAfter x y).wf = true) ∧
    (∀ (r : Rep64) (lo hi : Nat), r.wf = true → (r.sflipSrc lo hi).wf = true) :=
  ⟨Rep.wf_cloneSrc, Rep.wf_shareTail, fun cl a o ha => Rep64.wf_afterStatic cl a o ha, fun x y hy => Rep64.wf_argAfter x y hy,
    fun r lo hi hr => Rep64.wf_sflipSrc r hr lo hi⟩

/-- non-trivial instance: both switches on, the argument's chunk at key 7 lies above the receiver's last key 3 — after `a.Or(b)` it is
flagged in `b` (shared with `a`), the chunk at key 0 is not, and `b` has the same keys and containers -/
example :
    let a : Rep := ⟨true, [⟨0, .arr [1], false⟩, ⟨3, .arr [2], false⟩]⟩
    let b : Rep := ⟨true, [⟨0, .arr [5], false⟩, ⟨7, .run [(0, 9)], false⟩]⟩
    (a.shareTail b).slots.map (fun s => (s.key, s.flag)) = [(0, false), (7, true)] ∧
    (a.shareTail b).slots.map (fun s => s.key) = b.slots.map (fun s => s.key) := by decide +kernel

end RModel.Statements.C07
