import RProofs.RepOps
import RProofs.RepMut
import RProofs.RepQuery
import RProofs.LazyOps
import RProofs.Properties.C05
/-!
# Property C01 — binary set algebra is exact for every pairing of container representations

> For any two bitmaps, intersection, union, symmetric difference and difference - in both the new-result form and the
> in-place form, including a bitmap combined with itself - yield exactly the mathematical result over uint32, and the
> cardinality/predicate shortcuts (AndCardinality, OrCardinality, Intersects) report exactly the size/non-emptiness of that
> result. The answer depends only on the two sets of integers, never on how either operand happens to be stored (array,
> bitmap or run chunks, copy-on-write or not, freshly built or deserialized).

## Reading guide

* `Rep` (`RModel/Impl/Repr.lean`) is a 32-bit `roaring.Bitmap` **as stored**: the `copyOnWrite` switch and the sorted list of
  slots `(key, container, needCopyOnWrite flag)`; a container `Cont` is an array (`.arr`), a bitmap with its cached
  cardinality (`.bmp`) or a run list (`.run`).  Quantifying over `Rep` therefore quantifies over every chunk-kind pairing,
  every key alignment, every flag pattern and both switch positions.
* `Rep.wf r = true` is the representation invariant (the one of property C09: sorted keys `< 65536`, sorted arrays of
  `1..4096` values, bitmap containers of 1024 words with more than 4096 bits and an exact cached cardinality, sorted
  non-adjacent runs that are smaller than the alternatives).  It is the only hypothesis; everything the library builds,
  clones or decodes satisfies it (`Rep.wf_*`, `roundtrip_wf`).
* `Rep.toBSet r` is the set `r` denotes, `BSet.mem s x : Bool` is membership (`x ∈ s`).  `BSet.card` is the number of
  elements (`reading_card` below).
* `Rep.and2 / or2 / xor2 / andNot2` model `roaring.And / Or / Xor / AndNot` (new result), `Rep.iand / ior / ixor / iandNot`
  model `x.And(y) / x.Or(y) / x.Xor(y) / x.AndNot(y)` (in place: the value is the receiver afterwards; the argument
  afterwards is `Rep.shareTail`), `Rep.cleared` is what `x.Xor(x)` / `x.AndNot(x)` leave (they are `Clear()`),
  `Rep.andCardinality / orCardinality / intersects` model the shortcuts **as the Go walks** (not through the result).
  All of them return the exact Go representation (kinds, payloads, cached cardinalities, flags).
* Every clause below is a theorem at representation level (L2) composed with the abstraction; the set-level (L1)
  operations `BSet.inter/union/xor/diff` appear only through their membership law (`mem_inter` …).
* NOT a theorem: that the Go functions compute what these model functions compute.  That is observed by the generated
  correspondence scripts (`alg`, `kern*`, `l2rep`, `l2mut`, `l2q`, `popcnt`: the printed Go representation must be literally
  the model's).  Memory effects (which backing arrays are shared or written) are the subject of C07/C08, not of this file.
-/
namespace RModel.Statements.C01
open RModel RModel.BSet RModel.Impl

/-- `res` is a well-formed stored bitmap whose elements are exactly the `x` with `f (x ∈ a) (x ∈ b)`.
Being well formed, all its elements are below `2^32` (`clause_within_uint32`). -/
def Exactly (res a b : Rep) (f : Bool → Bool → Bool) : Prop :=
  res.wf = true ∧ ∀ x, mem res.toBSet x = f (mem a.toBSet x) (mem b.toBSet x)

/-! ### how to read `wf`, `mem`, `card` -/

/-- "over uint32": a well-formed bitmap has no element `≥ 2^32` -/
theorem clause_within_uint32 (r : Rep) (hr : r.wf = true) (x : Nat) (hx : mem r.toBSet x = true) : x < 4294967296 :=
  mem_lt_of_canon _ _ (canon_rep r hr) x hx

/-- `BSet.card` of a well-formed bitmap's set is the number of `x < 2^32` that are members -/
theorem reading_card (r : Rep) (hr : r.wf = true) :
    BSet.card r.toBSet = ((List.range 4294967296).filter (fun x => mem r.toBSet x)).length := by
  rw [card_eq_count (canon_rep r hr), Impl.cnt]

/-- two bitmaps with the same elements denote the same set value (the boundary list of a representation is strictly increasing,
well-formed or not, and such a list is determined by its members) -/
theorem reading_ext (a b : Rep) (h : ∀ x, mem a.toBSet x = mem b.toBSet x) : a.toBSet = b.toBSet :=
  canon_ext_sinc _ _ (sinc_rep a) (sinc_rep b) h

/-! ### example operands: array / run / bitmap chunks, flags and switch on and off, keys 0, 3, 65535 -/

def exA : Rep :=
  { cow := true, slots := [{ key := 0, c := .arr [1, 5, 9, 65535], flag := true }, { key := 3, c := .run [(10, 89)], flag := false },
                           { key := 65535, c := .run [(0, 65535)], flag := true }] }
def exB : Rep :=
  { cow := false, slots := [{ key := 0, c := .run [(0, 9)], flag := false },
                            { key := 3, c := .bmp 4160 (List.replicate 65 (BitVec.allOnes 64) ++ List.replicate 959 0#64), flag := false }] }

theorem exA_wf : exA.wf = true := by decide
theorem exB_wf : exB.wf = true := by decide +kernel

/-! ### clause: the four operations, new-result form -/

/-- `roaring.And / Or / Xor / AndNot (a, b)` return a well-formed bitmap holding exactly `A ∩ B`, `A ∪ B`, `A △ B`, `A \ B` -/
theorem clause_new_result_form (a b : Rep) (ha : a.wf = true) (hb : b.wf = true) :
    Exactly (Rep.and2 a b) a b (fun p q => p && q) ∧ Exactly (Rep.or2 a b) a b (fun p q => p || q) ∧
    Exactly (Rep.xor2 a b) a b (fun p q => p != q) ∧ Exactly (Rep.andNot2 a b) a b (fun p q => p && !q) :=
  ⟨⟨Rep.wf_and2 a b ha hb, Rep.mem_and2 a b ha hb⟩, ⟨Rep.wf_or2 a b ha hb, Rep.mem_or2 a b ha hb⟩,
   ⟨Rep.wf_xor2 a b ha hb, Rep.mem_xor2 a b ha hb⟩, ⟨Rep.wf_andNot2 a b ha hb, Rep.mem_andNot2 a b ha hb⟩⟩

example : Exactly (Rep.andNot2 exA exB) exA exB (fun p q => p && !q) := (clause_new_result_form exA exB exA_wf exB_wf).2.2.2

/-! ### clause: the four operations, in-place form -/

/-- `x.And(y) / x.Or(y) / x.Xor(y) / x.AndNot(y)` (two objects) leave in the receiver a well-formed bitmap holding exactly
`X ∩ Y`, `X ∪ Y`, `X △ Y`, `X \ Y` -/
theorem clause_in_place_form (x y : Rep) (hx : x.wf = true) (hy : y.wf = true) :
    Exactly (x.iand y) x y (fun p q => p && q) ∧ Exactly (x.ior y) x y (fun p q => p || q) ∧
    Exactly (x.ixor y) x y (fun p q => p != q) ∧ Exactly (x.iandNot y) x y (fun p q => p && !q) :=
  ⟨⟨Rep.wf_iand x y hx hy, Rep.mem_iand x y hx hy⟩, ⟨Rep.wf_ior x y hx hy, Rep.mem_ior x y hx hy⟩,
   ⟨Rep.wf_ixor x y hx hy, Rep.mem_ixor x y hx hy⟩, ⟨Rep.wf_iandNot x y hx hy, Rep.mem_iandNot x y hx hy⟩⟩

/-- the ARGUMENT of an in-place operation afterwards (`Or`/`Xor` may raise sharing flags on it; `And`/`AndNot` do not touch
it): same switch, same keys and containers, hence the same set, still well formed -/
theorem clause_in_place_argument_unchanged (x y : Rep) :
    (x.shareTail y).cow = y.cow ∧ (x.shareTail y).slots.map (fun s => (s.key, s.c)) = y.slots.map (fun s => (s.key, s.c)) ∧
    (x.shareTail y).toBSet = y.toBSet ∧ (x.shareTail y).wf = y.wf :=
  ⟨(Rep.shareTail_same x y).1, (Rep.shareTail_same x y).2, Rep.toBSet_shareTail x y, Rep.wf_shareTail x y⟩

example : Exactly (exA.ixor exB) exA exB (fun p q => p != q) := (clause_in_place_form exA exB exA_wf exB_wf).2.2.1

/-! ### clause: a bitmap combined with itself -/

/-- new-result form with the same bitmap on both sides: `And(a,a)`, `Or(a,a)` hold exactly `A`; `Xor(a,a)`, `AndNot(a,a)`
(which Go answers by the shortcut `NewBitmap()`) are the empty bitmap — and the walk would give the same representation -/
theorem clause_self_new_result (a : Rep) (ha : a.wf = true) :
    (∀ x, mem (Rep.and2 a a).toBSet x = mem a.toBSet x) ∧ (∀ x, mem (Rep.or2 a a).toBSet x = mem a.toBSet x) ∧
    Rep.xor2 a a = {} ∧ Rep.andNot2 a a = {} ∧ (∀ x, mem ({} : Rep).toBSet x = false) :=
  ⟨fun x => by rw [Rep.mem_and2 a a ha ha, Bool.and_self], fun x => by rw [Rep.mem_or2 a a ha ha, Bool.or_self],
   Rep.xor2_self a ha, Rep.andNot2_self a ha, fun _ => rfl⟩

/-- in-place form with the same object on both sides: `x.And(x)`, `x.Or(x)` run the walk against the receiver's own
containers and keep exactly `X`; `x.Xor(x)`, `x.AndNot(x)` are `Clear()` (`Rep.cleared`), the empty set `X △ X = X \ X` -/
theorem clause_self_in_place (x : Rep) (hx : x.wf = true) :
    Exactly (x.iand x) x x (fun p _ => p) ∧ Exactly (x.ior x) x x (fun p _ => p) ∧
    Exactly Rep.cleared x x (fun p q => p != q) ∧ Exactly Rep.cleared x x (fun p q => p && !q) :=
  ⟨⟨Rep.wf_iand x x hx hx, fun v => by rw [Rep.mem_iand x x hx hx, Bool.and_self]⟩,
   ⟨Rep.wf_ior x x hx hx, fun v => by rw [Rep.mem_ior x x hx hx, Bool.or_self]⟩,
   ⟨Rep.wf_cleared, fun v => by simp [Rep.toBSet_cleared]⟩,
   ⟨Rep.wf_cleared, fun v => by simp [Rep.toBSet_cleared]⟩⟩

example : Exactly (exA.ior exA) exA exA (fun p _ => p) := (clause_self_in_place exA exA_wf).2.1

/-! ### clause: the shortcuts -/

/-- `x.AndCardinality(y)` (computed by its own walk and per-pairing kernels) is the number of elements of the bitmap
`And(x, y)` returns, i.e. of `X ∩ Y` -/
theorem clause_andCardinality (x y : Rep) (hx : x.wf = true) (hy : y.wf = true) :
    x.andCardinality y = (BSet.card (Rep.and2 x y).toBSet : Int) ∧
    x.andCardinality y = (BSet.card (BSet.inter x.toBSet y.toBSet) : Int) :=
  ⟨by rw [Rep.toBSet_and2 x y hx hy]; exact Rep.andCardinality_spec x y hx hy, Rep.andCardinality_spec x y hx hy⟩

/-- `x.OrCardinality(y)` is the number of elements of the bitmap `Or(x, y)` returns, i.e. of `X ∪ Y` -/
theorem clause_orCardinality (x y : Rep) (hx : x.wf = true) (hy : y.wf = true) :
    x.orCardinality y = (BSet.card (Rep.or2 x y).toBSet : Int) ∧
    x.orCardinality y = (BSet.card (BSet.union x.toBSet y.toBSet) : Int) :=
  ⟨by rw [Rep.toBSet_or2 x y hx hy]; exact Rep.orCardinality_spec x y hx hy, Rep.orCardinality_spec x y hx hy⟩

/-- `x.Intersects(y)` is true exactly when some integer is in both -/
theorem clause_intersects (x y : Rep) (hx : x.wf = true) (hy : y.wf = true) :
    (x.intersects y = true ↔ ∃ v, mem x.toBSet v = true ∧ mem y.toBSet v = true) ∧
    x.intersects y = !BSet.isEmpty (Rep.and2 x y).toBSet := by
  have hcx := canon_rep x hx
  have hcy := canon_rep y hy
  have hci := canon_inter _ _ _ hcx hcy
  have hsp := Rep.intersects_spec x y hx hy
  refine ⟨?_, by rw [Rep.toBSet_and2 x y hx hy]; exact hsp⟩
  -- not empty = not (no member) = some member of the intersection
  rw [hsp, Bool.not_eq_true', ← Bool.not_eq_true, isEmpty_iff _ hci.1 hci.2.2, Classical.not_forall]
  exact exists_congr fun v => by rw [mem_inter _ _ hcx.1 hcy.1, Bool.not_eq_false, Bool.and_eq_true]

example : exA.andCardinality exB = (BSet.card (Rep.and2 exA exB).toBSet : Int) := (clause_andCardinality exA exB exA_wf exB_wf).1
example : exA.intersects exB = true :=
  (clause_intersects exA exB exA_wf exB_wf).1.mpr ⟨5, by rw [mem_rep _ exA_wf]; decide, by rw [mem_rep _ exB_wf]; decide⟩

/-! ### clause: the answer depends only on the two sets, never on the storage -/

/-- Two pairs of well-formed operands with the same elements (whatever their chunk kinds, flags, switches) give the same
set under each of the eight operations, and the same three shortcut answers. -/
theorem clause_storage_independent (a a' b b' : Rep) (ha : a.wf = true) (ha' : a'.wf = true) (hb : b.wf = true) (hb' : b'.wf = true)
    (hA : ∀ x, mem a.toBSet x = mem a'.toBSet x) (hB : ∀ x, mem b.toBSet x = mem b'.toBSet x) :
    (Rep.and2 a b).toBSet = (Rep.and2 a' b').toBSet ∧ (Rep.or2 a b).toBSet = (Rep.or2 a' b').toBSet ∧
    (Rep.xor2 a b).toBSet = (Rep.xor2 a' b').toBSet ∧ (Rep.andNot2 a b).toBSet = (Rep.andNot2 a' b').toBSet ∧
    (a.iand b).toBSet = (a'.iand b').toBSet ∧ (a.ior b).toBSet = (a'.ior b').toBSet ∧
    (a.ixor b).toBSet = (a'.ixor b').toBSet ∧ (a.iandNot b).toBSet = (a'.iandNot b').toBSet ∧
    a.andCardinality b = a'.andCardinality b' ∧ a.orCardinality b = a'.orCardinality b' ∧ a.intersects b = a'.intersects b' := by
  have eA := reading_ext a a' hA
  have eB := reading_ext b b' hB
  -- each result is a function of the two denoted sets
  simp only [Rep.toBSet_and2, Rep.toBSet_or2, Rep.toBSet_xor2, Rep.toBSet_andNot2, Rep.toBSet_iand, Rep.toBSet_ior,
    Rep.toBSet_ixor, Rep.toBSet_iandNot, Rep.andCardinality_spec, Rep.orCardinality_spec, Rep.intersects_spec,
    ha, ha', hb, hb', eA, eB, and_self]

/-- the storage forms the clause names are instances: a `Clone` (shared, flagged containers under copy-on-write), the
copy-on-write switch in either position, `CloneCopyOnWriteContainers`, `RunOptimize` (array/bitmap chunks re-typed as runs),
and the bitmap a reader builds from the serialized bytes (`Rep.asDecoded`: every flag set iff the reader is zero-copy) are
all well formed and have the same elements — so `clause_storage_independent` applies to each of them -/
theorem clause_storage_forms (r : Rep) (hr : r.wf = true) (v flag : Bool) :
    (r.clone.wf = true ∧ r.clone.toBSet = r.toBSet) ∧ ((r.setCow v).wf = true ∧ (r.setCow v).toBSet = r.toBSet) ∧
    (r.detach.wf = true ∧ r.detach.toBSet = r.toBSet) ∧ (r.runOptimize.wf = true ∧ r.runOptimize.toBSet = r.toBSet) ∧
    ((r.asDecoded flag).wf = true ∧ (r.asDecoded flag).toBSet = r.toBSet) ∧
    decode specParams flag (r.encode specParams) = .ok (r.asDecoded flag, (r.encode specParams).length) :=
  ⟨⟨(Rep.wf_clone r).trans hr, Rep.toBSet_clone r⟩, ⟨(Rep.wf_setCow r v).trans hr, Rep.toBSet_setCow r v⟩,
   ⟨(Rep.wf_detach r).trans hr, Rep.toBSet_detach r⟩,
   ⟨Rep.wf_runOptimize r hr, Rep.toBSet_runOptimize r hr⟩,
   ⟨roundtrip_wf r hr flag, Rep.toBSet_asDecoded r flag⟩,
   by simpa using decode_encode r hr flag []⟩

example : (exA.runOptimize.ixor (exB.asDecoded true)).toBSet = (exA.ixor exB).toBSet :=
  (clause_storage_independent _ exA _ exB (Rep.wf_runOptimize _ exA_wf) exA_wf (roundtrip_wf _ exB_wf true) exB_wf
    (fun x => by rw [(clause_storage_forms exA exA_wf false false).2.2.2.1.2])
    (fun x => by rw [(clause_storage_forms exB exB_wf false true).2.2.2.2.1.2])).2.2.2.2.2.2.1

end RModel.Statements.C01
