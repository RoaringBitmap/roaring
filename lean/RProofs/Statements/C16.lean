import RProofs.RepXform
import RProofs.RepMut
import RProofs.FastEq
/-!
# C16 — whole-bitmap transforms: `AddOffset`, static `Flip`, dense conversion

> AddOffset/AddOffset64(b, d) return exactly {v+d : v in b, 0 <= v+d < 2^32} for every d in (-2^32, 2^32) and leave b
> unchanged; Flip(b, s, e) returns the bitmap that in-place Flip would produce and leaves b unchanged. ToDense/WriteDenseTo
> produce the plain bit-vector of b (bit i set iff i in b, DenseSize words), FromDense and FromBitSet/ToBitSet invert it for
> any word slice with either copy mode, and a FromDense bitmap built without copying never writes to the caller's words.

## Reading guide

* `Rep` (`RModel/Impl/Repr.lean`) is a 32-bit `roaring.Bitmap` **as stored**: the `copyOnWrite` switch `cow` and the sorted
  slots `(key, container, needCopyOnWrite flag)`; `Rep.wf r = true` is the representation invariant (property C09);
  `Rep.toBSet r` is the set the bitmap denotes and `BSet.mem s x : Bool` is membership (`RModel/Spec/BSet.lean`, the only
  definition one has to believe in order to read a set-level statement).
* `Rep.addOffset64 b d` = `roaring.AddOffset64(b, d)` (`AddOffset(b, u)` is literally `AddOffset64(b, int64(u))`);
  `Rep.flipStatic b s e` = the bitmap returned by the static `roaring.Flip(b, s, e)`, `Rep.flipStaticSrc b s e` = the operand
  `b` as stored after that call (all in `RModel/Impl/RepXform.lean`, as are the dense conversions), `Rep.flip b s e` = the
  in-place `b.Flip(s, e)` (`RModel/Impl/RepMut.lean`);
  `Rep.toDense b` / `Rep.denseSize b` = `b.ToDense()` / `b.DenseSize()` (`ToDense` is `WriteDenseTo` into `DenseSize()` zero
  words); `Rep.fromDense words doCopy` = `roaring.FromDense(words, doCopy)`; a word slice is a `List (BitVec 64)` and
  `testBit words i` is bit `i % 64` of word `i / 64` (`false` beyond the slice).
* All clauses below are **representation-level (L2) theorems composed with the abstraction**: "for every well-formed
  representation, the set denoted by the result of the modelled Go function is the mathematical result"; the set-level (L1)
  meaning of `BSet.shift` / `BSet.flipRange` (`mem_shift`, `mem_flipRange`) is folded into the membership statements.
* NOT theorems, but observed by the correspondence check: that the Go functions return what the models return (suites
  `l2xform`: exact representation / exact word list; `xform`, `dense`: digests); that the Go functions do not store into the
  operand `b` (operand re-digested after every call) or into the caller's words (`zc_dense`: the words live in a read-only
  `mmap` region). Memory, aliasing of Go slices and actual stores are not modelled: at this level "shared with the caller" is
  the `needCopyOnWrite` flag of a slot. `FromBitSet(s)` is literally `FromDense(s.Bytes(), false)` and `ToBitSet` is
  `bitset.From(ToDense())`; the `bitset` package itself is not modelled.
-/
namespace RModel.Statements.C16
open RModel RModel.BSet RModel.Impl RModel.Impl.ContOps RModel.Impl.RepXform

/-! ## Clause 1 — `AddOffset` / `AddOffset64` -/

/-- **AddOffset/AddOffset64(b, d) return exactly `{v + d : v ∈ b, 0 ≤ v + d < 2^32}`** — for EVERY integer `d` (so in
particular for every `d` in `(-2^32, 2^32)`; beyond that the result is empty, which is also what the formula says). -/
theorem clause_addOffset (b : Rep) (hb : b.wf = true) (d : Int) (x : Nat) :
    mem (b.addOffset64 d).toBSet x = true ↔
      ∃ v : Nat, mem b.toBSet v = true ∧ (v : Int) + d = (x : Int) ∧ x < 4294967296 := by
  rw [Rep.mem_addOffset64 b hb d x]
  simp only [Driver.U32, Bool.and_eq_true, decide_eq_true_eq]
  constructor
  · rintro ⟨⟨h1, h2⟩, h3⟩
    exact ⟨((x : Int) - d).toNat, h3, by rw [Int.toNat_of_nonneg h2, Int.sub_add_cancel], of_decide_eq_true h1⟩
  · rintro ⟨v, h1, h2, h3⟩
    have e : (x : Int) - d = v := by rw [← h2, Int.add_sub_cancel]
    exact ⟨⟨decide_eq_true h3, e ▸ Int.natCast_nonneg v⟩, by rw [e, Int.toNat_natCast]; exact h1⟩

/-- the same clause in canonical form: the result denotes the oracle's `BSet.shift` (offset by `d`, clipped to `[0, 2^32)`),
and the returned representation is well-formed -/
theorem clause_addOffset_canonical (b : Rep) (hb : b.wf = true) (d : Int) :
    (b.addOffset64 d).toBSet = BSet.shift 4294967296 b.toBSet d ∧ (b.addOffset64 d).wf = true :=
  ⟨Rep.toBSet_addOffset64 b hb d, Rep.wf_addOffset64 b hb d⟩

/-- **… and leave `b` unchanged** (partial). `Rep.addOffset64` is a function of the operand's representation and has no
"operand afterwards" component, because the Go function only reads `b`. What IS proved: the answer shares nothing with the
operand as far as the representation can express it — `copyOnWrite` off and no slot flagged `needCopyOnWrite` (every
container of the answer is a fresh clone / a freshly built half). Missing: that Go performs no store into `b`'s containers
is observed (`xform`, `l2off`: operand representation re-printed after the call), not a theorem. -/
theorem clause_addOffset_fresh_partial (b : Rep) (d : Int) :
    (b.addOffset64 d).cow = false ∧ ∀ s ∈ (b.addOffset64 d).slots, s.flag = false := by
  unfold Rep.addOffset64
  simp only
  split
  · exact ⟨rfl, fun s hs => by cases hs⟩
  · exact ⟨rfl, XformP.offWalk_unflagged _ _ _⟩

/-- a well-formed bitmap with an array chunk that straddles a chunk border and a run chunk -/
def exB : Rep := { cow := true, slots := [{ key := 0, c := .arr [1, 5, 65535], flag := true }, { key := 2, c := .run [(0, 9)] }] }

example : exB.wf = true := by decide
theorem exB_toBSet : exB.toBSet = [1, 2, 5, 6, 65535, 65536, 131072, 131082] := by
  rw [← Rep.toBSetFast_eq]; decide +kernel
/-- the denoted sets are interval lists `[lo₀, hi₀, lo₁, hi₁, …)`: `{1, 5, 65535} ∪ [131072, 131082)` shifted by `3`, by `-131073`
(everything below the run is clipped at 0) and by `2^32 - 131072` (the run is clipped at `2^32`) -/
example : (exB.addOffset64 3).toBSet = [4, 5, 8, 9, 65538, 65539, 131075, 131085] ∧
    (exB.addOffset64 (-131073)).toBSet = [0, 9] ∧
    (exB.addOffset64 4294836224).toBSet = [4294836225, 4294836226, 4294836229, 4294836230, 4294901759, 4294901760] := by
  simp only [Rep.toBSet_addOffset64 exB (by decide), exB_toBSet]; decide +kernel

/-! ## Clause 2 — static `Flip` -/

/-- **Flip(b, s, e) returns the bitmap that in-place Flip would produce**: for every well-formed `b` and every range with
`e ≤ 2^32` (beyond which both Go functions panic by contract) the static result and the in-place result denote the same
set, namely `b` with membership negated on `[s, e)`; the returned representation is well-formed. -/
theorem clause_flip_static (b : Rep) (hb : b.wf = true) (s e : Nat) (he : e ≤ 4294967296) :
    (b.flipStatic s e).toBSet = (b.flip s e).toBSet ∧
    (∀ x, mem (b.flipStatic s e).toBSet x = (mem b.toBSet x != (decide (s ≤ x) && decide (x < e)))) ∧
    (b.flipStatic s e).wf = true :=
  ⟨(Rep.toBSet_flipStatic b hb s e he).trans (Rep.toBSet_flip b hb s e he).symm,
   Rep.mem_flipStatic b hb s e he, Rep.wf_flipStatic b hb s e he⟩

/-- **… and leaves `b` unchanged**: the operand as stored after the call has the same switch, keys and containers as before
(only `needCopyOnWrite` flags may be raised — for an empty range under copy-on-write, where the answer shares the
containers), hence denotes the same set. No hypothesis on `b`, `s`, `e`. -/
theorem clause_flip_operand (b : Rep) (s e : Nat) :
    (b.flipStaticSrc s e).cow = b.cow ∧
    (b.flipStaticSrc s e).slots.map (fun t => (t.key, t.c)) = b.slots.map (fun t => (t.key, t.c)) ∧
    (b.flipStaticSrc s e).toBSet = b.toBSet := by
  refine and_assoc.mp ⟨?_, Rep.toBSet_flipStaticSrc b s e⟩
  unfold Rep.flipStaticSrc
  split
  · rename_i h; exact ⟨h.2.symm, by simp only [List.map_map]; rfl⟩
  · exact ⟨rfl, rfl⟩

example : exB.wf = true ∧ (70000 : Nat) ≤ 4294967296 := by decide
example : (exB.flipStatic 4 70000).toBSet = [1, 2, 4, 5, 6, 65535, 65536, 70000, 131072, 131082] ∧
    (exB.flip 4 70000).toBSet = [1, 2, 4, 5, 6, 65535, 65536, 70000, 131072, 131082] ∧
    (exB.flipStaticSrc 4 70000 == exB) = true := by
  -- both results denote `flipRange` of the operand's set, so only the interval-list oracle is evaluated
  rw [Rep.toBSet_flipStatic exB (by decide) 4 70000 (by decide), Rep.toBSet_flip exB (by decide) 4 70000 (by decide), exB_toBSet]
  decide +kernel

/-! ## Clause 3 — `ToDense` / `WriteDenseTo` -/

/-- **ToDense/WriteDenseTo produce the plain bit-vector of `b`: bit `i` set iff `i ∈ b`, `DenseSize` words**, where
`DenseSize` is `⌈(max b + 1) / 64⌉` (`0` for the empty bitmap). For every well-formed `b` and every `i`. -/
theorem clause_toDense (b : Rep) (hb : b.wf = true) :
    (∀ i, testBit b.toDense i = mem b.toBSet i) ∧
    b.toDense.length = b.denseSize ∧
    b.denseSize = (match BSet.maximum b.toBSet with | some m => (m + 1 + 63) / 64 | none => 0) :=
  ⟨Rep.testBit_toDense b hb, Rep.length_toDense b hb, Rep.denseSize_spec b hb⟩

example : exB.toDense.length = 2049 ∧ exB.denseSize = 2049 ∧ testBit exB.toDense 65535 = true ∧ testBit exB.toDense 65534 = false := by
  simp only [Rep.length_toDense exB (by decide), Rep.testBit_toDense exB (by decide), exB_toBSet]
  decide

/-! ## Clause 4 — `FromDense` (and `FromBitSet` / `ToBitSet`) invert it -/

/-- **FromDense reads ANY word slice, with either copy mode, as the set of its one-bits** (no hypothesis at all); for a
slice of at most `65536 · 1024` words — the whole 32-bit universe — the result is a well-formed bitmap. -/
theorem clause_fromDense (words : List (BitVec 64)) (doCopy : Bool) :
    (∀ x, mem (Rep.fromDense words doCopy).toBSet x = testBit words x) ∧
    (words.length ≤ 65536 * 1024 → (Rep.fromDense words doCopy).wf = true) :=
  ⟨Rep.mem_fromDense words doCopy, Rep.wf_fromDense words doCopy⟩

/-- **FromDense inverts ToDense** (`FromBitSet(ToBitSet(b))` is the `doCopy = false` instance): the round trip of a
well-formed bitmap denotes the same set and is well-formed, with either copy mode. -/
theorem clause_fromDense_toDense (b : Rep) (hb : b.wf = true) (doCopy : Bool) :
    (Rep.fromDense b.toDense doCopy).toBSet = b.toBSet ∧ (Rep.fromDense b.toDense doCopy).wf = true :=
  ⟨Rep.toBSet_fromDense_toDense b hb doCopy, Rep.wf_fromDense_toDense b hb doCopy⟩

/-- **ToDense inverts FromDense** (`ToBitSet(FromBitSet(s))`): for any word slice within the universe and either copy mode,
the words written back have the same bits as the slice (they are the slice with trailing zero words trimmed, `DenseSize`
being determined by the largest one-bit). -/
theorem clause_toDense_fromDense (words : List (BitVec 64)) (doCopy : Bool) (hl : words.length ≤ 65536 * 1024) (i : Nat) :
    testBit (Rep.fromDense words doCopy).toDense i = testBit words i := by
  rw [Rep.testBit_toDense _ (Rep.wf_fromDense words doCopy hl), Rep.mem_fromDense]

/-- a word slice with a dense first chunk (all ones: more than 4096 bits, kept as a bitmap container) and a sparse second -/
def exWords : List (BitVec 64) := List.replicate 1024 (BitVec.allOnes 64) ++ [5#64]

example : exWords.length ≤ 65536 * 1024 := by
  rw [exWords, List.length_append, List.length_replicate]; decide
example : (Rep.fromDense exWords false).toBSet = [0, 65537, 65538, 65539] ∧
    (Rep.fromDense exWords true).toBSet = [0, 65537, 65538, 65539] := by
  have h : (Rep.fromDense exWords false).toBSet = [0, 65537, 65538, 65539] := by
    rw [← Rep.toBSetFast_eq]; decide +kernel
  -- the denoted set does not depend on the copy mode
  exact ⟨h, ((Rep.toBSet_fromDense _ true).trans (Rep.toBSet_fromDense _ false).symm).trans h⟩

/-! ## Clause 5 — a `FromDense` bitmap built without copying never writes to the caller's words -/

/-- **partial.** In the model the only containers that can be backed by the caller's words are the bitmap containers of
`FromDense(words, false)`. What IS proved: every one of them is flagged `needCopyOnWrite` — an unflagged bitmap container of
the result comes from a short last chunk (fewer than 1024 words left under its key), which Go copies into 1024 fresh words;
array containers are always fresh. A flagged slot is cloned before any in-place kernel runs (the copy-on-write gate of every
mutator model in `RModel/Impl/RepMut.lean`; at pointer level `RModel.Impl.gate_not_foreign`, property C08). Missing: that
the running process performs no store into the words is observed (`zc_dense`: the words are mapped read-only, every mutator
is then run on the bitmap), not proved — stores and memory are not modelled. -/
theorem clause_fromDense_nocopy_flagged_partial (words : List (BitVec 64)) :
    ∀ s ∈ (Rep.fromDense words false).slots, s.flag = false →
      (∃ xs, s.c = .arr xs) ∨ words.length < 1024 * (s.key + 1) := by
  -- chunk `k` of the walk starts `1024 * k` words into the slice, so a short chunk is the last one
  have key : ∀ (fuel k : Nat) (ws : List (BitVec 64)), ∀ s ∈ denseChunks false fuel k ws, s.flag = false →
      (∃ xs, s.c = .arr xs) ∨ ws.length + 1024 * k < 1024 * (s.key + 1) := by
    intro fuel
    induction fuel with
    | zero => intro k ws s hs; cases hs
    | succ n ih =>
      intro k ws s hs hf
      cases ws with
      | nil => cases hs
      | cons w t =>
        simp only [denseChunks] at hs
        rcases List.mem_append.mp hs with h | h
        · obtain ⟨hk, h'⟩ := XformP.denseChunk_unflagged k _ s h
          refine (h' hf).imp_right fun hl => ?_
          rw [List.length_take] at hl
          omega
        · refine (ih (k + 1) _ s h hf).imp_right fun h' => ?_
          rw [List.length_drop] at h'
          omega
  intro s hs hf
  simpa using key words.length 0 words s hs hf

example : (Rep.fromDense exWords false).slots.map (fun s => (s.key, s.flag)) = [(0, true), (1, false)] ∧
    (Rep.fromDense exWords true).slots.map (fun s => (s.key, s.flag)) = [(0, false), (1, false)] := by decide +kernel

end RModel.Statements.C16
