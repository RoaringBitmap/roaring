import RProofs.Properties.C09
import RProofs.Properties.C05
import RProofs.Properties.C13
import RProofs.ByteInput
import RProofs.ByteInputDecode
import RProofs.RepOps
import RProofs.RepMut
import RProofs.RepQuery
import RProofs.Iter
import RProofs.IterRev
import RProofs.RepBulk
/-!
# C10 — Untrusted bytes: decoders fail cleanly, and Validate()==nil means safe to use

> For every byte string, each 32-bit decoding entry point (ReadFrom, FromBuffer, FromUnsafeBytes, UnmarshalBinary, FromBase64,
> FrozenView) either returns an error or returns normally - it never panics, hangs or reads outside the given bytes - and every
> proper prefix of a valid portable serialization is rejected with an error. If decoding succeeds and Validate() then returns nil,
> the bitmap is a genuine set: all queries and iterators are mutually consistent, all values lie inside their chunk's 65536-wide
> range, operations with other valid bitmaps give exact results without panicking, and re-serializing round-trips. MustReadFrom
> returns ReadFrom's byte count and error and panics only to report a validation failure.

## Reading guide

| Lean object | stands for |
|---|---|
| `decode specParams flag bs : Outcome (Rep × Nat)` | `roaringArray.readFrom` on the byte string `bs`, the common core of the five portable entry points (`flag = false`: `ReadFrom`, `UnmarshalBinary`, `FromBase64` after base64 decoding; `true`: `FromBuffer`, `FromUnsafeBytes`); `.ok (bitmap, bytes consumed)`, `.err` = an error return, `.panic` = any unchecked index / slice bound / allocation the Go code could reach |
| `ByteIn.decodeProg … |>.runBuf (Buf.mk bs 0)` / `.runAdapter (Adapter.mk (Reader.ofData bs sched none eager) 0)` | the same reader driven through `internal.ByteBuffer` over the caller's slice / through `internal.ByteInputAdapter` over an `io.Reader` that delivers `bs` in the chunk sizes `sched` (short reads), with either end-of-data convention; `reportRun` maps the result to `.ok` / `.err` |
| `frozenView Driver.frozenParams bs` | `FrozenView(bs)`; every out-of-range index, slice bound, misaligned cast and the "we missed something" panic is the `.panic` outcome |
| `Rep.validate r = true` | `Validate() == nil` (same conjuncts, same `uint16` wrap-around) |
| `Rep.wf`, `Rep.toBSet`, `BSet.mem`, `BSet.Canon 4294967296` | the representation invariant, the set denoted, membership, "a canonical set of values `< 2^32`" |
| `Rep.contains`, `Rep.rank`, `Rep.select`, …, `It.IntIt`, `It.IntRevIt`, `Rep.toArray` | the Go query algorithms and iterator state machines (L2 models), `BSet.*` their L1 specifications |

Levels.  Clauses 1, 2 and 3 are theorems about the L2 reader models, for EVERY byte string.  NOT theorems / gaps:
* that the Go decoders behave like the models: `fuzzdec` / `fuzzfrozen` / `bytein` demand the same classification (ok / err), the same
  representation and the same `Validate` verdict on every generated byte string (truncations, field corruptions, illegal encodings);
* "hangs": the models are total functions (structural recursion on the input; a Go loop that could spin has no model at all), the
  reader under the adapter is assumed to obey the `io.Reader` contract (never `(0, nil)` forever); watchdog in the harness;
* "reads outside the given bytes" at machine level (the pointer casts of `FromUnsafeBytes` / `FrozenView`) is the Go runtime's bounds
  checking; in the models every access is checked and an out-of-range access would be the excluded `.panic` outcome;
* clause 3 for `FrozenView` is NOT provable — it is the recorded finding KF-C10-frozen-bitmap4096 (see the `example` after
  `clause_accepted_and_valid_is_wellformed_partial`);
* `MustReadFrom` (five lines of Go: `ReadFrom`, then `Validate`, panic on its error) has no model; see
  `clause_mustReadFrom_partial`.
-/
namespace RModel.Statements.C10
open RModel RModel.Impl

/-! ## Clause 1 — every entry point, on every byte string, returns an error or returns normally -/

/-- **No decoder panics, on any input.**  The portable reader (both entry-point families) and the frozen reader never reach an
unchecked index, slice bound, cast or the consistency panic. -/
theorem clause_decoders_never_panic (bs : Bytes) :
    (∀ flag, decode specParams flag bs ≠ .panic) ∧ frozenView Driver.frozenParams bs ≠ .panic :=
  ⟨fun flag => decode_no_panic specParams flag bs, frozenView_no_panic Driver.frozenParams (by decide) bs⟩

/-- **Error or normal return, through the real byte-input layer, for every chunking of the stream.**  Driven through `ByteBuffer`
or through `ByteInputAdapter` over a reader that delivers the bytes in any chunk sizes, the reader returns exactly what the
byte-list model returns; and that is either an error, or a bitmap together with a byte count between 4 and the length of the input. -/
theorem clause_every_entry_point_errors_or_returns (flag : Bool) (bs : Bytes) (sched : List Nat) (eager : Bool) :
    ByteIn.reportRun ((ByteIn.decodeProg specParams flag).runBuf (ByteIn.Buf.mk bs 0)) = decode specParams flag bs ∧
    ByteIn.reportRun ((ByteIn.decodeProg specParams flag).runAdapter
      (ByteIn.Adapter.mk (ByteIn.Reader.ofData bs sched none eager) 0)) = decode specParams flag bs ∧
    (decode specParams flag bs = .err ∨ ∃ r n, decode specParams flag bs = .ok (r, n) ∧ 4 ≤ n ∧ n ≤ bs.length) := by
  refine ⟨ByteIn.decode_via_buf _ _ _, ByteIn.decode_via_adapter _ _ _ _ _, ?_⟩
  cases h : decode specParams flag bs with
  | err => exact Or.inl rfl
  | panic => exact absurd h (decode_no_panic _ _ _)
  | ok v => exact Or.inr ⟨v.1, v.2, rfl, ByteIn.decode_consumed _ _ _ v.1 v.2 h⟩

/-- **Never reads outside the given bytes** (PARTIAL: model-level bounds; machine-level accesses of the pointer casts are the Go
runtime's).  An accepted read consumed no more than the input holds; every `ByteBuffer` operation keeps the cursor inside the
caller's slice (`0 ≤ off ≤ len(buf)`); a failed `ByteBuffer` operation leaves the buffer untouched and reports `ErrUnexpectedEOF`. -/
theorem clause_decoders_stay_inside_input_partial :
    (∀ flag bs r n, decode specParams flag bs = .ok (r, n) → n ≤ bs.length) ∧
    (∀ (b : ByteIn.Buf) (op : ByteIn.Op), b.wf → (b.step op).2.wf) ∧
    (∀ (b b' : ByteIn.Buf) (op : ByteIn.Op) (e : ByteIn.Err), b.step op = (.error e, b') →
      e = .unexpectedEOF ∧ b' = b ∧ b.data.length - b.off < op.size) :=
  ⟨fun flag bs r n h => (ByteIn.decode_consumed _ flag bs r n h).2, fun b op h => ByteIn.buf_step_wf b op h,
    fun b b' op e h => ByteIn.buf_fail_spec b op e b' h⟩

/-- instances: garbage, the empty string, a huge declared chunk count and a truncated header are all rejected with an error -/
example : decode specParams false [1, 2, 3, 4, 5] = .err ∧ decode specParams true [] = .err ∧
    decode specParams false [0x3a, 0x30, 0, 0, 0xff, 0xff, 0xff, 0xff] = .err ∧
    decode specParams false [0x3b, 0x30, 0xff, 0xff, 0] = .err := ⟨rfl, rfl, rfl, rfl⟩

/-! ## Clause 2 — every proper prefix of a valid portable serialization is rejected with an error -/

/-- **Truncation is always detected.**  For every well-formed bitmap and every `k` smaller than the length of its serialization, the
first `k` bytes are rejected with an error (not accepted, no panic) — by both entry-point families, and also when the truncated
stream arrives through a reader in arbitrary chunk sizes. -/
theorem clause_proper_prefix_rejected (r : Rep) (hwf : r.wf = true) (flag : Bool) (k : Nat) (hk : k < (r.encode specParams).length)
    (sched : List Nat) (eager : Bool) :
    decode specParams flag ((r.encode specParams).take k) = .err ∧
    ByteIn.reportRun ((ByteIn.decodeProg specParams flag).runAdapter
      (ByteIn.Adapter.mk (ByteIn.Reader.ofData ((r.encode specParams).take k) sched none eager) 0)) = .err :=
  have h := prefix_rejected r hwf flag k hk
  ⟨h, by rw [ByteIn.decode_via_adapter, h]⟩

example :
    let r : Rep := ⟨false, [⟨0, .arr [1, 5, 9], false⟩, ⟨3, .run [(10, 99)], false⟩, ⟨7, .arr [65535], true⟩]⟩
    r.wf = true ∧ (r.encode specParams).length = 31 ∧
      ((List.range 31).all fun k => decode specParams false ((r.encode specParams).take k) == .err) = true := by decide +kernel

/-! ## Clause 3 — decoding succeeded and `Validate()` returned nil ⇒ the bitmap is a genuine set -/

/-- **Accepted + validated ⇒ well-formed** (PARTIAL: the five portable entry points; `FrozenView` is the recorded finding below).
Whatever the bytes were: if the portable reader accepts them and the bitmap passes `Validate()`, the bitmap satisfies the full
representation invariant — so every theorem stated for well-formed bitmaps applies to it.  Moreover **all values lie inside their
chunk's 65536-wide range**: already for every ACCEPTED input all keys, array values, run starts and lengths are `< 65536` and bitmap
chunks have exactly 1024 words (`decodedShape`); with validation the denoted set is a canonical set of values `< 2^32`, and `x` is a
member iff the chunk with key `x / 65536` holds `x % 65536` (`Rep.has`). -/
theorem clause_accepted_and_valid_is_wellformed_partial (flag : Bool) (bs : Bytes) (r : Rep) (n : Nat)
    (h : decode specParams flag bs = .ok (r, n)) (hv : r.validate = true) :
    r.wf = true ∧ r.decodedShape = true ∧ BSet.Canon 4294967296 r.toBSet ∧ ∀ x, BSet.mem r.toBSet x = r.has x :=
  have hwf := decoded_valid_is_wf specParams rfl flag bs r n h hv
  ⟨hwf, decode_shape specParams rfl flag bs r n h, canon_rep r hwf, fun x => mem_rep r hwf x⟩

/-- why `FrozenView` is excepted (finding KF-C10-frozen-bitmap4096): `Validate` accepts a bitmap chunk holding exactly 4096 values
(`cardinality < 4096` is its test), which the invariant — and `ToBytes` — refuse; the portable reader can never build such a chunk
(it reads an array when the header says 4096), the frozen reader can. -/
example :
    let r : Rep := ⟨true, [⟨0, .bmp 4096 (List.replicate 64 (BitVec.allOnes 64) ++ List.replicate 960 0), true⟩]⟩
    r.validate = true ∧ r.wf = false := by decide +kernel

/-- **All queries and iterators are mutually consistent**: each Go query algorithm and each iterator, run on an accepted and validated
bitmap, returns the L1 answer for ONE and the same set `r.toBSet` (cardinality, emptiness, membership, rank, select, minimum, maximum,
`ToArray`, the forward iterator drained = the ascending member list, the reverse iterator = its reverse).  `none` for
minimum / maximum / select is the documented panic / error on an empty bitmap / an index beyond the cardinality. -/
theorem clause_validated_queries_and_iterators_consistent (flag : Bool) (bs : Bytes) (r : Rep) (n : Nat)
    (h : decode specParams flag bs = .ok (r, n)) (hv : r.validate = true) :
    r.getCardinality = (BSet.card r.toBSet : Int) ∧ r.isEmptyQ = BSet.isEmpty r.toBSet ∧
    (∀ x, r.contains x = BSet.mem r.toBSet x) ∧ (∀ x, r.rank x = (BSet.rankLt r.toBSet (x + 1) : Int)) ∧
    (∀ i, r.select i = (BSet.select r.toBSet i).map (fun v => (v : Int))) ∧
    r.minimum = (BSet.minimum r.toBSet).map (fun v => (v : Int)) ∧ r.maximum = (BSet.maximum r.toBSet).map (fun v => (v : Int)) ∧
    r.toArray = BSet.toList r.toBSet ∧
    (∀ fuel, BSet.card r.toBSet ≤ fuel → ((It.IntIt.create r).drain fuel).1 = BSet.toList r.toBSet) ∧
    (∀ fuel, BSet.card r.toBSet ≤ fuel → ((It.IntRevIt.create r).drain fuel).1 = (BSet.toList r.toBSet).reverse) :=
  have hwf := decoded_valid_is_wf specParams rfl flag bs r n h hv
  ⟨Rep.card_spec r hwf, Rep.isEmpty_spec r hwf, Rep.contains_spec r hwf, Rep.rank_spec r hwf, Rep.select_spec r hwf,
    Rep.minimum_spec r hwf, Rep.maximum_spec r hwf, Rep.toArray_spec r hwf, fun fuel hf => It.IntIt.drain_create r hwf fuel hf,
    fun fuel hf => It.IntRevIt.drain_create r hwf fuel hf⟩

/-- **Operations with other valid bitmaps give exact results**: for two accepted and validated bitmaps (from any streams, any entry
points) the static `And / Or / Xor / AndNot`, the in-place `Or`, and `Equals` compute exactly the set operation on the denoted sets,
and the results are again well-formed (hence pass `Validate()`).  "Without panicking": the operation models are total, and their
walks never reach an undefined branch on well-formed input. -/
theorem clause_validated_operations_exact (f1 f2 : Bool) (bs1 bs2 : Bytes) (r1 r2 : Rep) (n1 n2 : Nat)
    (h1 : decode specParams f1 bs1 = .ok (r1, n1)) (hv1 : r1.validate = true)
    (h2 : decode specParams f2 bs2 = .ok (r2, n2)) (hv2 : r2.validate = true) :
    (Rep.and2 r1 r2).toBSet = BSet.inter r1.toBSet r2.toBSet ∧ (Rep.or2 r1 r2).toBSet = BSet.union r1.toBSet r2.toBSet ∧
    (Rep.xor2 r1 r2).toBSet = BSet.xor r1.toBSet r2.toBSet ∧ (Rep.andNot2 r1 r2).toBSet = BSet.diff r1.toBSet r2.toBSet ∧
    (r1.ior r2).toBSet = BSet.union r1.toBSet r2.toBSet ∧ r1.equals r2 = (r1.toBSet == r2.toBSet) ∧
    (Rep.and2 r1 r2).validate = true ∧ (Rep.or2 r1 r2).validate = true ∧ (Rep.xor2 r1 r2).validate = true ∧
    (Rep.andNot2 r1 r2).validate = true ∧ (r1.ior r2).validate = true :=
  have w1 := decoded_valid_is_wf specParams rfl f1 bs1 r1 n1 h1 hv1
  have w2 := decoded_valid_is_wf specParams rfl f2 bs2 r2 n2 h2 hv2
  ⟨Rep.toBSet_and2 r1 r2 w1 w2, Rep.toBSet_or2 r1 r2 w1 w2, Rep.toBSet_xor2 r1 r2 w1 w2, Rep.toBSet_andNot2 r1 r2 w1 w2,
    Rep.toBSet_ior r1 r2 w1 w2, Rep.equals_spec r1 r2 w1 w2,
    wf_implies_validate _ (Rep.wf_and2 r1 r2 w1 w2), wf_implies_validate _ (Rep.wf_or2 r1 r2 w1 w2),
    wf_implies_validate _ (Rep.wf_xor2 r1 r2 w1 w2), wf_implies_validate _ (Rep.wf_andNot2 r1 r2 w1 w2),
    wf_implies_validate _ (Rep.wf_ior r1 r2 w1 w2)⟩

/-- **Re-serializing round-trips**: the bytes written for an accepted and validated bitmap are read back — by either entry-point
family, whatever follows them — as the same keys and containers, consuming exactly what was written. -/
theorem clause_validated_reserialize_roundtrips (flag : Bool) (bs : Bytes) (r : Rep) (n : Nat)
    (h : decode specParams flag bs = .ok (r, n)) (hv : r.validate = true) (flag' : Bool) (tail : Bytes) :
    decode specParams flag' (r.encode specParams ++ tail) = .ok (r.asDecoded flag', (r.encode specParams).length) ∧
    (r.asDecoded flag').slots.map (fun s => (s.key, s.c)) = r.slots.map (fun s => (s.key, s.c)) ∧
    (r.asDecoded flag').validate = true :=
  have hwf := decoded_valid_is_wf specParams rfl flag bs r n h hv
  ⟨decode_encode r hwf flag' tail, by simp [Rep.asDecoded, List.map_map, Function.comp_def],
    wf_implies_validate _ (roundtrip_wf r hwf flag')⟩

/-- the hypotheses of clause 3 are satisfiable: the zero-copy read of a library-written stream followed by two other bytes … -/
example : ∃ bs r n, decode specParams true bs = .ok (r, n) ∧ r.validate = true :=
  let r0 : Rep := ⟨false, [⟨0, .arr [1, 5, 9], false⟩, ⟨3, .run [(10, 99)], false⟩, ⟨7, .arr [65535], true⟩]⟩
  ⟨r0.encode specParams ++ [7, 7], _, _, decode_encode r0 (by decide) true [7, 7],
    wf_implies_validate _ (roundtrip_wf r0 (by decide) true)⟩

/-- … and a stream the library did NOT write (cookie 12347 without any run chunk, trailing garbage): accepted, 13 of 15 bytes
consumed, validates (`==` is the derived structural comparison of outcomes) -/
def exForeign : Bytes := [0x3b, 0x30, 0, 0,  0,  0, 0, 1, 0,  3, 0, 4, 0,  0xAA, 0xBB]

example : (decode specParams true exForeign == .ok (⟨false, [⟨0, .arr [3, 4], true⟩]⟩, 13)) = true ∧
    (⟨false, [⟨0, .arr [3, 4], true⟩]⟩ : Rep).validate = true := by decide +kernel

/-! ## Clause 4 — MustReadFrom -/

/-- **`MustReadFrom` panics only to report a validation failure** (PARTIAL: the wrapper itself — `n, err := ReadFrom(r); if err == nil
{ err = Validate(); if err != nil { panic } }; return n, err` — is not modelled; that it returns `ReadFrom`'s count and error is
compared on every `must` / `mustck` line of the `ser` and `fuzzdec` suites, after the repair `8ce03b0` of a defect this check found).
What is proved is the part that makes the sentence true: the `ReadFrom` it calls cannot panic on any byte string, over any
chunking of the stream, so a panic can only come from the validation branch; and that branch is decided by the total Boolean
`Rep.validate`.  The `example` shows the branch is reachable: a stream that is accepted and does NOT validate. -/
theorem clause_mustReadFrom_partial (bs : Bytes) (sched : List Nat) (eager : Bool) :
    decode specParams false bs ≠ .panic ∧
    (ByteIn.reportRun ((ByteIn.decodeProg specParams false).runAdapter
      (ByteIn.Adapter.mk (ByteIn.Reader.ofData bs sched none eager) 0)) = .err ∨
     ∃ r n, ByteIn.reportRun ((ByteIn.decodeProg specParams false).runAdapter
       (ByteIn.Adapter.mk (ByteIn.Reader.ofData bs sched none eager) 0)) = .ok (r, n) ∧
       (r.validate = true ∨ r.validate = false)) := by
  refine ⟨decode_no_panic _ _ _, ?_⟩
  rw [ByteIn.decode_via_adapter]
  rcases (clause_every_entry_point_errors_or_returns false bs sched eager).2.2 with h | ⟨r, n, h, -⟩
  · exact Or.inl h
  · exact Or.inr ⟨r, n, h, by cases r.validate <;> simp⟩

/-- accepted but invalid (an array chunk whose two values are out of order): `ReadFrom` returns normally, `Validate` fails -/
example : (decode specParams false [0x3a, 0x30, 0, 0,  1, 0, 0, 0,  0, 0, 1, 0,  16, 0, 0, 0,  5, 0, 3, 0]
    == .ok (⟨false, [⟨0, .arr [5, 3], false⟩]⟩, 20)) = true ∧
    (⟨false, [⟨0, .arr [5, 3], false⟩]⟩ : Rep).validate = false := by decide +kernel

end RModel.Statements.C10
