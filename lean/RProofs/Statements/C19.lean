import RProofs.BSI
import RProofs.BSI32
import RProofs.BSI64Ops
import RProofs.BSI64Big
import RProofs.BSI32Ops
/-!
# C19 — bit-sliced indexes: updates and reads against a map `column → integer`

> For both BSI implementations, after any sequence of SetValue/SetBigValue, SetMany, ClearValues, Retain, ParOr on disjoint
> columns, and Increment/Add on non-negative values, GetValue/GetBigValue/GetValues/ValueExists/GetCardinality report
> exactly what a map from column id to integer would hold - including negative values, zero, values that force the index to
> widen, and overwrites with narrower values. Clone, NewBSIRetainSet, MarshalBinary/UnmarshalBinary and WriteTo/ReadFrom
> produce an index that is Equal and holds the same map; values are assumed to lie within the range the index was created or
> auto-sized for.

## Reading guide

* `BSI` (`RModel/Impl/BSI.lean`, `BSI64Ops`, `BSI64Big`) is the `roaring64.BSI` **as stored**: existence set `ebm` and bit
  planes `planes` (the last one is the sign plane), every set of columns a `BSet`; `BSI32.Index` (`Impl/BSI32.lean`,
  `BSI32Ops`) is `BitSliceIndexing.BSI` (64 planes when a negative `int64` is stored, plus `MaxValue/MinValue`). The model
  functions follow the Go loops plane by plane; they are NOT defined through the map.
* The map an index holds is read by the model of `GetValue`: `b.getValue c : Option Int` (`none` = no value, Go's
  `(0, false)`); `b.value c` / `getValueD b c` is its first component. `WF b` is the invariant of an index (every plane a
  canonical finite set contained in `ebm`; the 64-bit one has ≥ 1 plane); it holds for `NewBSI` and is preserved by every
  update below. `Good f` = a canonical finite set of columns (what a `roaring` bitmap denotes, C01/C17).
* Each clause says: the map after the modelled update is the map before, updated the way a `map[column]integer` would be.
  "Any sequence" is covered twice: by the preservation of `WF` (so the one-step clauses chain) and, for `SetValue`
  histories from a fresh index, in closed form (`lastWrite`). Negative values, zero, widening and narrower overwrites are
  inside the quantifiers (`v : Int` arbitrary for the auto-sized 64-bit index, any `int64` for the 32-bit one).
* NOT theorems: that Go's planes are the model's planes is checked after every update through the hook `VerifBSIPlanes`
  (`bplanes` lines of the suites `bsi`, `bsi32ops`) and every read against a map oracle; goroutines (`ParOr`, `ClearValues`,
  `NewBSIRetainSet`) are modelled by the sequential loop (C12 for the schedules). Bitmap (de)serialization inside
  `WriteTo/ReadFrom/MarshalBinary` is C05/C18's. One recorded finding: the 64-bit `MarshalBinary` does not carry the sign
  plane (`clause_marshal64_partial`).
-/
namespace RModel.Statements.C19
open RModel RModel.BSet
open RModel.BSI (Good WF)

/-! ## 64-bit index (`roaring64.BSI`) -/

/-- **SetValue/SetBigValue then GetValue** on an auto-sized index, ANY integer `v` (negative, zero, wider than the index —
the index widens with sign extension —, narrower than what the column held): the written column reads `v`, every other
column is unchanged, the column exists afterwards, the invariant is kept. On an index with a declared range
(`setValueFixed`: no widening) the same for `v` within the range `[-2^BitCount, 2^BitCount)`. -/
theorem clause_set_get64 (b : BSI) (h : WF b) (c : Nat) (v : Int) :
    (b.setValue c v).getValue c = some v ∧ (∀ c', c' ≠ c → (b.setValue c v).getValue c' = b.getValue c') ∧
    (∀ c', mem (b.setValue c v).ebm c' = true ↔ c' = c ∨ mem b.ebm c' = true) ∧ WF (b.setValue c v) ∧
    (-(2 : Int) ^ b.bitCount ≤ v ∧ v < (2 : Int) ^ b.bitCount → (b.setValueFixed c v).getValue c = some v) ∧
    (∀ c', c' ≠ c → (b.setValueFixed c v).getValue c' = b.getValue c') ∧ WF (b.setValueFixed c v) :=
  ⟨BSI.get_set_same b h c v, fun c' hc => BSI.get_set_other b h c c' hc v, fun c' => BSI.exists_set b h c c' v,
   BSI.wf_setValue b h c v, BSI.get_setFixed_same b h c v, fun c' hc => BSI.get_setFixed_other b h c c' hc v,
   BSI.wf_setValueFixed b h c v⟩

/-- **any sequence of SetValue** on a fresh auto-sized index: every column reads the LAST value written to it (`none` if
never written) — exactly a map. -/
theorem clause_history64 (us : List (Nat × Int)) (c : Nat) :
    (us.foldl (fun b (c, v) => b.setValue c v) (BSI.new 0 0)).getValue c = BSI.lastWrite us c none ∧
    WF (us.foldl (fun b (c, v) => b.setValue c v) (BSI.new 0 0)) :=
  ⟨BSI.get_foldl_setValue us c, BSI.wf_foldl_setValue us⟩

/-- **SetMany, ClearValues, Retain** with any set of columns `f`: `SetMany(f, v)` writes `v` to every column of `f`,
`ClearValues(f)` deletes the columns of `f`, `Retain(f)` deletes the others; nothing else changes. -/
theorem clause_setMany_clear_retain64 (b : BSI) (h : WF b) (f : BSet) (hf : Good f) (v : Int) (c : Nat) :
    ((b.setMany f v).getValue c = if mem f c then some v else b.getValue c) ∧ WF (b.setMany f v) ∧
    ((b.clearValues f).getValue c = if mem f c then none else b.getValue c) ∧ WF (b.clearValues f) ∧
    ((b.retain f).getValue c = if mem f c then b.getValue c else none) ∧ WF (b.retain f) :=
  ⟨BSI.get_setMany b h f hf v c, BSI.wf_setMany b h f hf v, BSI.get_clearValues b h f hf.1 c, BSI.wf_clearValues b h f hf,
   BSI.get_retain b h f hf c, BSI.wf_retain b h f hf⟩

/-- **ParOr on disjoint columns**: for a column on which all participants that hold it agree (in particular: held by at
most one), the result holds that value; a column held by none stays absent. Participants may be narrower (sign extended). -/
theorem clause_parOr64 (b : BSI) (h : WF b) (bs : List BSI) (hb : ∀ x ∈ bs, WF x) (c : Nat) (v : Int)
    (hv : ∀ x ∈ b :: bs, mem x.ebm c = true → x.getValue c = some v) :
    ((b.parOr bs).getValue c = if mem b.ebm c || bs.any (fun x => mem x.ebm c) then some v else none) ∧ WF (b.parOr bs) :=
  ⟨BSI.get_parOr b h bs hb c v hv, BSI.wf_parOr b h bs hb⟩

/-- **Add / Increment on non-negative values**: `b.Add(o)` with `o` holding no negative value adds column-wise (a column
missing on one side counts 0), `Increment(found)` adds 1 on `found` (nil = all existing columns); exact, with widening when
a carry needs it. (`hb`: the receiver has a value plane or no negative value — a one-plane index holding −1 is outside.) -/
theorem clause_add_increment64 (b o : BSI) (h : WF b) (ho : WF o) (hneg : ∀ c, o.isNegative c = false)
    (hb : 2 ≤ b.planes.length ∨ ∀ c, b.isNegative c = false) (found : Option BSet) (hf : ∀ f, found = some f → Good f) (c : Nat) :
    ((b.addIndex o).getValue c = if mem b.ebm c || mem o.ebm c then some (b.value c + o.value c) else none) ∧
    WF (b.addIndex o) ∧
    ((b.increment found).getValue c = if mem (found.getD b.ebm) c then some (b.value c + 1) else b.getValue c) ∧
    WF (b.increment found) :=
  ⟨BSI.get_addIndex b o h ho hneg (hb.elim Or.inl (fun x => Or.inr (Or.inr x))) c, BSI.wf_addIndex b o h ho,
   BSI.get_increment b h found hf hb c, BSI.wf_increment b h found hf⟩

/-- **GetValues / GetBigValues / ValueExists / GetCardinality** read the same map as `GetValue`: the batch readers return
`GetValue` pointwise (duplicates and absent columns included; `GetValues` is `none` = Go panics exactly when some value
is beyond `int64`), a column exists iff it has a value, and the cardinality counts exactly those columns. -/
theorem clause_readers64 (b : BSI) (h : WF b) (cols : List Nat) (c : Nat) :
    b.getBigValues cols = cols.map b.getValue ∧
    b.getValues cols = (if (cols.map b.getValue).all BSI.cellOk then some (cols.map b.getValue) else none) ∧
    b.valueExists c = (b.getValue c).isSome ∧
    (c ∈ toList b.ebm ↔ (b.getValue c).isSome = true) ∧ (toList b.ebm).length = card b.ebm := by
  have hex : b.valueExists c = (b.getValue c).isSome := by
    rw [BSI.getValue_eq]; unfold BSI.valueExists; cases mem b.ebm c <;> rfl
  exact ⟨BSI.getBigValues_spec b h cols, BSI.getValues_spec b h cols, hex,
    by rw [mem_toList _ h.ebm.1 h.ebm.2, ← hex]; rfl, toList_length _⟩

/-- **Clone / NewBSIRetainSet**: `NewBSIRetainSet(f)` holds the map restricted to `f`; `Clone()` = `NewBSIRetainSet(eBM)` is
the same index plane for plane (so `Equals`), holding the same map. -/
theorem clause_clone_retainSet64 (b : BSI) (h : WF b) (f : BSet) (hf : Good f) (c : Nat) :
    ((b.retainSet f).getValue c = if mem f c then b.getValue c else none) ∧ WF (b.retainSet f) ∧
    b.retainSet b.ebm = b := by
  refine ⟨BSI.get_retainSet b h f hf.1 c, BSI.wf_retainSet b h f hf, ?_⟩
  show ({ planes := b.planes.map (fun p => inter p b.ebm), ebm := inter b.ebm b.ebm } : BSI) = b
  rw [List.map_congr_left fun p hp => BSI.inter_eq_left p _ (h.planes p hp) h.ebm (h.sub p hp),
    BSI.inter_eq_left _ _ h.ebm h.ebm fun _ hx => hx]
  simp

/-- **WriteTo then ReadFrom** into any receiver gives back the source index itself (existence set and every plane, sign
plane included): `Equals` and the same map. No hypothesis. -/
theorem clause_stream64 (recv b : BSI) : BSI.streamFrom recv b = b ∧ ∀ c, (BSI.streamFrom recv b).getValue c = b.getValue c :=
  ⟨rfl, fun _ => rfl⟩

/-- **MarshalBinary then UnmarshalBinary — partial (recorded finding).** Proved: an index holding no negative value is read
back with the same map, into any receiver. Also proved, and the reason the clause fails in general: `MarshalBinary` does not
write the sign plane, so a stored `v` reads back as `v mod 2^BitCount` (`{1: -5}` reads back as `3` on a 3-bit index);
reported in `known_findings.json` (corpus `bsi/F02_marshal_sign.txt`). `Equals` is not modelled for this path. -/
theorem clause_marshal64_partial (recv b : BSI) (h : WF b) (hr : 1 ≤ recv.planes.length) (c : Nat) :
    ((∀ c, b.isNegative c = false) → (BSI.unmarshalFrom recv b).getValue c = b.getValue c) ∧
    (BSI.unmarshalFrom recv b).getValue c = (if mem b.ebm c then some (b.value c % (2 : Int) ^ b.bitCount) else none) ∧
    WF (BSI.unmarshalFrom recv b) :=
  ⟨fun hneg => BSI.get_marshal recv b h hr hneg c, BSI.get_marshal_gen recv b h hr c, BSI.wf_unmarshalFrom recv b h hr⟩

/-- `BSI.exIdx` holds 5, −3, 70000 (forces widening 4 → 18 planes), then column 1 is overwritten by the narrower −1, column 9
holds 0; `BSI.exB` holds no negative value -/
example : WF BSI.exIdx ∧ WF BSI.exA ∧ WF BSI.exB := ⟨BSI.wf_exIdx, BSI.wf_exA, BSI.wf_exB⟩
example : [1, 2, 3, 9, 4].map BSI.exIdx.getValue = [some (-1), some (-3), some 70000, some 0, none] ∧
    BSI.exIdx.planes.length = 18 ∧ (2 : Nat) ≤ BSI.exA.planes.length := by
  rw [BSI.exIdx_eq, BSI.exA_eq]; decide +kernel

/-! ## 32-bit index (`BitSliceIndexing.BSI`, values are `int64`) -/

/-- a value that fits the index (auto-sized: always; declared range: its `uint64` pattern fits the planes) is stored exactly -/
theorem fits32 (b : BSI32.Index) (v : Int) (h1 : BSI32.min64 ≤ v) (h2 : v ≤ BSI32.max64)
    (hfit : BSI32.auto b = true ∨ BSI32.len64 v ≤ b.planes.length) :
    BSI32.i64 (BSI32.u64 v % 2 ^ (BSI32.widen b v).length) = v := by
  have hl : BSI32.len64 v ≤ (BSI32.widen b v).length := by
    rw [BSI32.widen_length]
    rcases hfit with ha | hl
    · rw [ha, if_pos rfl]; exact Nat.le_max_right _ _
    · split
      · exact Nat.le_trans hl (Nat.le_max_left _ _)
      · exact hl
  have : BSI32.u64 v < 2 ^ (BSI32.widen b v).length :=
    Nat.lt_of_lt_of_le (BSI32.lt_two_pow_len64 v) (Nat.pow_le_pow_right (by decide) hl)
  rw [Nat.mod_eq_of_lt this, BSI32.i64_u64 v h1 h2]

/-- **SetValue then GetValue**, any `int64` `v` that the index was created or auto-sized for (`hfit`; EVERY `int64` on an
auto-sized index or one with 64 planes): the written column reads `v` (negative values through bit 63), others unchanged. -/
theorem clause_set_get32 (b : BSI32.Index) (h : BSI32.WF b) (c : Nat) (v : Int) (h1 : BSI32.min64 ≤ v) (h2 : v ≤ BSI32.max64)
    (hfit : BSI32.auto b = true ∨ BSI32.len64 v ≤ b.planes.length) :
    BSI32.getValue (BSI32.setValue b c v) c = some v ∧
    (∀ c', c' ≠ c → BSI32.getValue (BSI32.setValue b c v) c' = BSI32.getValue b c') ∧
    (∀ c', mem (BSI32.setValue b c v).ebm c' = true ↔ c' = c ∨ mem b.ebm c' = true) ∧ BSI32.WF (BSI32.setValue b c v) :=
  ⟨BSI32.get_set_same b h c v h1 h2 hfit, fun c' hc => BSI32.get_set_other b h c c' hc v,
   fun c' => BSI32.exists_set b h c c' v, BSI32.wf_setValue b h c v⟩

/-- **any sequence of SetValue** of `int64` values on `NewDefaultBSI()`: last write wins, column by column. -/
theorem clause_history32 (us : List (Nat × Int)) (hus : ∀ u ∈ us, BSI32.min64 ≤ u.2 ∧ u.2 ≤ BSI32.max64) (c : Nat) :
    BSI32.getValue (us.foldl (fun b (c, v) => BSI32.setValue b c v) BSI32.newDefault) c = BSI32.lastWrite us c none ∧
    BSI32.WF (us.foldl (fun b (c, v) => BSI32.setValue b c v) BSI32.newDefault) :=
  ⟨BSI32.get_foldl_setValue us hus c, BSI32.wf_foldl_setValue us⟩

/-- **SetMany, ClearValues** (there is no `Retain` on this index; `NewBSIRetainSet` below). `SetMany` in general stores `v`
truncated to the width of the index (first conjunct, no hypothesis on `v`), hence `v` itself when it fits. -/
theorem clause_setMany_clear32 (b : BSI32.Index) (h : BSI32.WF b) (f : BSet) (hf : Good f) (v : Int) (c : Nat) :
    (BSI32.getValue (BSI32.setMany b f v) c =
      if mem f c then some (BSI32.i64 (BSI32.u64 v % 2 ^ (BSI32.widen b v).length)) else BSI32.getValue b c) ∧
    (BSI32.min64 ≤ v → v ≤ BSI32.max64 → (BSI32.auto b = true ∨ BSI32.len64 v ≤ b.planes.length) →
      BSI32.getValue (BSI32.setMany b f v) c = if mem f c then some v else BSI32.getValue b c) ∧
    BSI32.WF (BSI32.setMany b f v) ∧
    (BSI32.getValue (BSI32.clearValues b f) c = if mem f c then none else BSI32.getValue b c) ∧
    BSI32.WF (BSI32.clearValues b f) :=
  ⟨BSI32.get_setMany b h f hf v c, fun h1 h2 hfit => by rw [BSI32.get_setMany b h f hf v c, fits32 b v h1 h2 hfit],
   BSI32.wf_setMany b h f hf v, BSI32.get_clearValues b h f hf.1 c, BSI32.wf_clearValues b h f hf⟩

/-- **ParOr on disjoint columns** (as for the 64-bit index). -/
theorem clause_parOr32 (b : BSI32.Index) (h : BSI32.WF b) (bs : List BSI32.Index) (hb : ∀ x ∈ bs, BSI32.WF x) (c : Nat) (v : Int)
    (hv : ∀ x ∈ b :: bs, mem x.ebm c = true → BSI32.getValue x c = some v) :
    (BSI32.getValue (BSI32.parOr b bs) c = if mem b.ebm c || bs.any (fun x => mem x.ebm c) then some v else none) ∧
    BSI32.WF (BSI32.parOr b bs) :=
  ⟨BSI32.get_parOr b h bs hb c v hv, BSI32.wf_parOr b h bs hb⟩

/-- **Add / Increment**: column-wise `int64` addition — for ALL stored values, with Go's wrap-around `wrap`, which is the
identity whenever the mathematical sum is an `int64` (`BSI32.wrap_id`), in particular on non-negative values in range. -/
theorem clause_add_increment32 (b o : BSI32.Index) (h : BSI32.WF b) (ho : BSI32.WF o) (found : Option BSet)
    (hf : ∀ f, found = some f → Good f) (c : Nat) :
    (BSI32.getValue (BSI32.addIndex b o) c =
      if mem b.ebm c || mem o.ebm c then some (BSI32.wrap (BSI32.getValueD b c + BSI32.getValueD o c)) else none) ∧
    BSI32.WF (BSI32.addIndex b o) ∧
    (BSI32.getValue (BSI32.increment b found) c =
      if mem (found.getD b.ebm) c then some (BSI32.wrap (BSI32.getValueD b c + 1)) else BSI32.getValue b c) ∧
    BSI32.WF (BSI32.increment b found) ∧
    (∀ z : Int, BSI32.min64 ≤ z → z ≤ BSI32.max64 → BSI32.wrap z = z) :=
  ⟨BSI32.get_addIndex b o h ho c, BSI32.wf_addIndex b o h ho, BSI32.get_increment b h found hf c,
   BSI32.wf_increment b h found hf, BSI32.wrap_id⟩

/-- **ValueExists / GetCardinality** read the same map as `GetValue` (this index has no batch reader). -/
theorem clause_readers32 (b : BSI32.Index) (h : BSI32.WF b) (c : Nat) :
    BSI32.valueExists b c = (BSI32.getValue b c).isSome ∧
    (c ∈ toList b.ebm ↔ (BSI32.getValue b c).isSome = true) ∧ (toList b.ebm).length = BSI32.cardinality b := by
  have hex : BSI32.valueExists b c = (BSI32.getValue b c).isSome := by
    rw [BSI32.getValue_eq]; unfold BSI32.value BSI32.valueExists; cases mem b.ebm c <;> rfl
  exact ⟨hex, by rw [mem_toList _ h.ebm.1 h.ebm.2, ← hex]; rfl, toList_length _⟩

/-- **Clone / NewBSIRetainSet**: restriction of the map to `f`; the clone has literally the same planes and existence set. -/
theorem clause_clone_retainSet32 (b : BSI32.Index) (h : BSI32.WF b) (f : BSet) (hf : Good f) (c : Nat) :
    (BSI32.getValue (BSI32.retainSet b f) c = if mem f c then BSI32.getValue b c else none) ∧ BSI32.WF (BSI32.retainSet b f) ∧
    BSI32.getValue (BSI32.clone b) c = BSI32.getValue b c ∧
    ((BSI32.clone b).planes = b.planes ∧ (BSI32.clone b).ebm = b.ebm) :=
  ⟨BSI32.get_retainSet b h f hf.1 c, BSI32.wf_retainSet b h f hf, BSI32.get_clone b h c, BSI32.clone_planes b h⟩

/-- **MarshalBinary then UnmarshalBinary** (the Go loops over `[][]byte`; this index has no `WriteTo/ReadFrom`): EVERY index
— negative values, every width — survives exactly, into a fresh, used, narrower or wider receiver `recv`: same map, same
existence set, the source's planes followed by the receiver's surplus planes emptied; `MaxValue/MinValue` stay the
receiver's. No hypothesis. -/
theorem clause_marshal32 (recv src : BSI32.Index) :
    ∃ r, BSI32.roundTrip recv src = some r ∧ (∀ c, BSI32.getValue r c = BSI32.getValue src c) ∧ r.ebm = src.ebm ∧
      r.planes = src.planes ++ List.replicate (recv.planes.length - src.planes.length) [] ∧
      r.maxValue = recv.maxValue ∧ r.minValue = recv.minValue ∧ (BSI32.WF src → BSI32.WF r) :=
  BSI32.get_marshal32 recv src

/-- `BSI32.exIdx`: 5, 70000 (widening 3 → 17 planes), −3 (widening to 64 planes), column 1 overwritten by 2, column 9 holds 0 -/
example : BSI32.WF BSI32.exIdx ∧ BSI32.auto BSI32.exIdx = true ∧ BSI32.min64 ≤ (-3 : Int) ∧ (-3 : Int) ≤ BSI32.max64 :=
  ⟨BSI32.wf_exIdx, by decide, by decide, by decide⟩
example : [1, 2, 3, 9, 4].map (BSI32.getValue BSI32.exIdx) = [some 2, some 70000, some (-3), some 0, none] := by
  rw [BSI32.exIdx_eq]; decide +kernel

end RModel.Statements.C19
