import RProofs.Properties.C06
import RProofs.ByteInputDecode
import RProofs.Facts.Constants
/-!
# C06 — Serialized bytes conform to the RoaringFormatSpec in both directions

> Bytes written by the library decode, under an independent reading of the published format specification, to exactly the
> bitmap's elements (correct cookie, chunk count, run-flag bits, ascending keys, cardinality-minus-one fields, offsets pointing
> at each payload, little-endian payloads of the kind the spec prescribes for that cardinality). Conversely every
> spec-conformant stream - whichever legal choices another implementation made (run-capable cookie with or without actual run
> chunks, runs or array/bitmap per chunk, any run granularity) - is read as exactly the set it encodes; this is the documented
> Java/C/C++ interoperability.

## Reading guide

| Lean object | stands for |
|---|---|
| `Rep` (`Impl/Repr.lean`) | a 32-bit `*roaring.Bitmap` as stored: copy-on-write switch, sorted `(key, container, needCopyOnWrite)` slots |
| `Rep.wf r = true` | the representation invariant (the one of C09: what `Validate()` checks, plus value bounds) |
| `Rep.toBSet r`, `BSet.mem s x` | the set of integers `r` denotes (L1 interval list), membership in it |
| `Rep.encode specParams r : List UInt8` | the bytes `WriteTo` / `ToBytes` produce (`Impl/Serial.lean`, mirrors `roaringArray.writeTo`) |
| `decode specParams flag bs` | `roaringArray.readFrom` on the bytes `bs` (`flag = true`: the zero-copy entry points `FromBuffer` / `FromUnsafeBytes`, `false`: `ReadFrom` / `UnmarshalBinary` / `FromBase64`); outcome `ok (rep, bytes consumed)` / `err` / `panic` |
| `decodeProg … |>.runBuf` / `.runAdapter` | the same reader driven through `internal.ByteBuffer` / through `internal.ByteInputAdapter` over an `io.Reader` that delivers the data in arbitrary chunk sizes |
| `FormatSpec.specDecode b = some ⟨S, m⟩` | **the independent reading of the published specification** (`Spec/FormatSpec.lean`, written from the text with literal constants, sharing no definition with the reader/writer model): the first `m` bytes of `b` are a spec-conformant stream that encodes the set `S` |
| `specParams` | the literals 12347 / 12346 / 4 / 4096 |

Levels.  Both clauses are theorems at the representation level L2 (writer/reader model against the independent reading), and
their conclusions are stated on the L1 set `Rep.toBSet`.  `specDecode` *accepts* a stream only if every field the clause lists is
right (`clause_conformant_means` unfolds this): the cookie, the chunk count, the run-flag bits it uses to pick the payload kind,
strictly ascending keys, cardinality-minus-one fields that match the payloads, offset words that equal the payload positions,
and payloads of the prescribed kind (array for cardinality ≤ 4096, 8192-byte bitset above, run list when flagged).

NOT theorems, but observed by the correspondence check (`spec`, `ser` suites): that the Go writer produces byte for byte
`Rep.encode` of its representation and that the Go readers behave like `decode` (every `ser` line demands `encode repr = bytes`
and feeds Go's bytes to `specDecode`; every `spec` line feeds Go a stream from an independent Python encoder making the other
legal choices).  That the constants of `/repo` are the literals of the specification IS a theorem about the regenerated facts
(`clause_constants_are_spec_literals`).  The 64-bit format is property C18.
-/
namespace RModel.Statements.C06
open RModel RModel.Impl RModel.FormatSpec

/-! ## Clause 1 — write direction: the written bytes decode, under the independent reading, to exactly the bitmap's elements -/

/-- **Write direction.**  For every well-formed bitmap, the bytes the writer produces are accepted by the independent reading of
the specification as a stream that encodes exactly the set the bitmap denotes, and the stream is exactly the bytes written
(nothing missing, nothing left over). -/
theorem clause_written_bytes_decode_to_elements (r : Rep) (hwf : r.wf = true) :
    specDecode (r.encode specParams).toArray = some ⟨r.toBSet, (r.encode specParams).length⟩ :=
  encode_conforms r hwf

/-- the same, element by element: the independent reading finds `x` in the stream iff `x` is an element of the bitmap -/
theorem clause_written_bytes_same_members (r : Rep) (hwf : r.wf = true) :
    ∃ d, specDecode (r.encode specParams).toArray = some d ∧ d.consumed = (r.encode specParams).length ∧
      ∀ x, d.set.mem x = r.toBSet.mem x :=
  ⟨_, encode_conforms r hwf, rfl, fun _ => rfl⟩

/-- **(correct cookie, chunk count, run-flag bits …)** — what acceptance by the independent reading *means*, field by field:
a cookie header (cookie 12346 + explicit count, or low half 12347 + count-minus-one in the high half + run-flag bitset), at most
65536 chunks, a descriptive header of `n` (key, cardinality − 1) pairs with strictly increasing keys, and the chunk payloads —
each read as run list / array / bitset according to its run flag and cardinality, with the cardinality matching the payload and,
when the offset header is present (cookie 12346, or `n ≥ 4`), each offset word equal to the payload's position (all inside
`FormatSpec.containers`) — ending at `d.consumed`; the set is the union of the chunks' sets. -/
theorem clause_conformant_means (b : Array UInt8) (d : Decoded) (h : specDecode b = some d) :
    ∃ n runBits pos hdr sets,
      cookieHeader b = some (n, runBits, pos) ∧ n ≤ 65536 ∧
      words16 b pos (2 * n) = some hdr ∧
      strictlyIncreasing ((pairUp hdr).map (·.1)) = true ∧
      containers b runBits (if runBits.isNone || n ≥ 4 then some (pos + 4 * n) else none) 0
        ((pairUp hdr).map fun (k, c) => (k, c + 1))
        (if runBits.isNone || n ≥ 4 then pos + 4 * n + 4 * n else pos + 4 * n) = some (sets, d.consumed) ∧
      d.set = Driver.unionAll sets :=
  let ⟨n, runBits, pos, hck, ht⟩ := specDecode_some h
  let ⟨hn, hdr, sets, hw, hinc, hc, hs⟩ := specTail_some_iff.mp ht
  ⟨n, runBits, pos, hdr, sets, hck, hn, hw, hinc, hc, hs⟩

/-- so the bytes written for a well-formed bitmap have every one of these fields right (clause 1 composed with the unfolding) -/
theorem clause_written_fields_correct (r : Rep) (hwf : r.wf = true) :
    let b := (r.encode specParams).toArray
    ∃ n runBits pos hdr sets,
      cookieHeader b = some (n, runBits, pos) ∧ n ≤ 65536 ∧
      words16 b pos (2 * n) = some hdr ∧
      strictlyIncreasing ((pairUp hdr).map (·.1)) = true ∧
      containers b runBits (if runBits.isNone || n ≥ 4 then some (pos + 4 * n) else none) 0
        ((pairUp hdr).map fun (k, c) => (k, c + 1))
        (if runBits.isNone || n ≥ 4 then pos + 4 * n + 4 * n else pos + 4 * n) =
          some (sets, (r.encode specParams).length) ∧
      r.toBSet = Driver.unionAll sets :=
  clause_conformant_means _ _ (encode_conforms r hwf)

/-- **(correct cookie, chunk count, run-flag bits)** made explicit on the written bytes: without a run container the stream starts
with the 32-bit words 12346 and `n`; with one it starts with the 16-bit words 12347 and `n − 1` followed by the run-flag bitset
(bit `i` set iff chunk `i` is a run container).  No hypothesis. -/
theorem clause_written_cookie_and_count (r : Rep) :
    ∃ rest, r.encode specParams =
      (if r.hasRun then le16 12347 ++ le16 ((r.slots.length - 1) % 65536) ++ runFlagBytes (r.slots.map (·.c.isRun))
       else le32 12346 ++ le32 r.slots.length) ++ rest := by
  cases hr : r.hasRun
  · rw [encode_norun r hr]
    simp only [Bool.false_eq_true, if_false, List.append_assoc]
    exact ⟨_, rfl⟩
  · rw [encode_run r hr]
    simp only [if_true, List.append_assoc]
    exact ⟨_, rfl⟩

/-- the hypotheses are satisfiable: an array / run / (flagged) array bitmap; its 31 bytes are accepted by the independent reading -/
example :
    let r : Rep := ⟨false, [⟨0, .arr [1, 5, 9], false⟩, ⟨3, .run [(10, 99)], false⟩, ⟨7, .arr [65535], true⟩]⟩
    r.wf = true ∧ (r.encode specParams).length = 31 ∧ r.toBSet.mem (3 * 65536 + 50) = true := by decide +kernel

/-! ## Clause 2 — read direction: every spec-conformant stream is read as exactly the set it encodes -/

/-- **Read direction.**  Every byte string whose first `d.consumed` bytes the independent reading accepts as a stream encoding
`d.set` — whatever legal choices its encoder made — is accepted by the library's reader, through either family of entry points
(`flag`), as a bitmap that denotes exactly `d.set`, consuming exactly the bytes of the stream. -/
theorem clause_conformant_stream_read_exactly (flag : Bool) (bs : Array UInt8) (d : Decoded) (h : specDecode bs = some d) :
    ∃ r n, decode specParams flag bs.toList = .ok (r, n) ∧ r.toBSet = d.set ∧ n = d.consumed :=
  conformant_decodes flag bs d h

/-- the same through the byte-input layer the Go entry points really use: the reader run over a `ByteBuffer` on the caller's
slice (`FromBuffer`, `FromUnsafeBytes`) and over a `ByteInputAdapter` on an `io.Reader` that delivers the data in ANY chunk
sizes, with either end-of-data convention (`ReadFrom`, `UnmarshalBinary`, `FromBase64`), returns that same bitmap and byte count -/
theorem clause_conformant_stream_read_by_every_entry_point (flag : Bool) (bs : Array UInt8) (d : Decoded)
    (h : specDecode bs = some d) (sched : List Nat) (eager : Bool) :
    ∃ r, r.toBSet = d.set ∧
      ByteIn.reportRun ((ByteIn.decodeProg specParams flag).runBuf (ByteIn.Buf.mk bs.toList 0)) = .ok (r, d.consumed) ∧
      ByteIn.reportRun ((ByteIn.decodeProg specParams flag).runAdapter
        (ByteIn.Adapter.mk (ByteIn.Reader.ofData bs.toList sched none eager) 0)) = .ok (r, d.consumed) := by
  obtain ⟨r, n, hd, hs, rfl⟩ := conformant_decodes flag bs d h
  exact ⟨r, hs, by rw [ByteIn.decode_via_buf, hd], by rw [ByteIn.decode_via_adapter, hd]⟩

/-- element by element: `x` is in the bitmap that was read iff the stream encodes `x` -/
theorem clause_conformant_stream_same_members (flag : Bool) (bs : Array UInt8) (d : Decoded) (h : specDecode bs = some d) :
    ∃ r n, decode specParams flag bs.toList = .ok (r, n) ∧ n = d.consumed ∧ ∀ x, r.toBSet.mem x = d.set.mem x := by
  obtain ⟨r, n, hd, hs, hn⟩ := conformant_decodes flag bs d h
  exact ⟨r, n, hd, hn, fun x => by rw [hs]⟩

/-! ### the other legal encoder choices are inside the hypothesis (non-vacuity of clause 2 beyond the library's own output) -/

/-- **run-capable cookie without any run chunk** (the library itself never writes this): cookie 12347, one chunk, run-flag byte 0,
key 0, cardinality − 1 = 1, array payload `3, 4`; fewer than 4 chunks, so no offset header.  Followed by two trailing bytes. -/
def exRunCookieNoRuns : Array UInt8 := #[0x3b, 0x30, 0, 0,  0,  0, 0, 1, 0,  3, 0, 4, 0,  0xAA, 0xBB]

theorem exRunCookieNoRuns_accepted :
    (specDecode exRunCookieNoRuns).map (fun d => (d.set, d.consumed)) = some ([3, 5], 13) := by decide +kernel
example : (specDecode exRunCookieNoRuns).map (fun d => (d.set, d.consumed)) = some ([3, 5], 13) := exRunCookieNoRuns_accepted

/-- **any run granularity** (the library always writes maximal runs): chunk key 5 stored as the two ADJACENT runs 10–11 and 12–13 -/
def exSplitRuns : Array UInt8 := #[0x3b, 0x30, 0, 0,  1,  5, 0, 3, 0,  2, 0,  10, 0, 1, 0,  12, 0, 1, 0]

theorem exSplitRuns_accepted :
    (specDecode exSplitRuns).map (fun d => (d.set, d.consumed)) = some ([327690, 327694], 19) := by decide +kernel
example : (specDecode exSplitRuns).map (fun d => (d.set, d.consumed)) = some ([327690, 327694], 19) := exSplitRuns_accepted

/-- **runs or array per chunk**: the same four values stored as an array chunk under the no-run cookie 12346 (offset header
present: its single word, 16, is the position of the payload) -/
def exSameAsArray : Array UInt8 :=
  #[0x3a, 0x30, 0, 0,  1, 0, 0, 0,  5, 0, 3, 0,  16, 0, 0, 0,  10, 0, 11, 0, 12, 0, 13, 0]

example : (specDecode exSameAsArray).map (fun d => (d.set, d.consumed)) = some ([327690, 327694], 24) := by decide +kernel

/-- clause 2 applied to them: each is read, by both entry-point families, as the encoded set -/
theorem read_of_accepted (flag : Bool) (b : Array UInt8) (S : BSet) (m : Nat)
    (h : (specDecode b).map (fun d => (d.set, d.consumed)) = some (S, m)) :
    ∃ r n, decode specParams flag b.toList = .ok (r, n) ∧ r.toBSet = S ∧ n = m := by
  cases hd : specDecode b with
  | none => simp [hd] at h
  | some d =>
    simp only [hd, Option.map_some, Option.some.injEq, Prod.mk.injEq] at h
    obtain ⟨h1, h2⟩ := h
    rw [← h1, ← h2]
    exact clause_conformant_stream_read_exactly flag b d hd

example (flag : Bool) : ∃ r n, decode specParams flag exSplitRuns.toList = .ok (r, n) ∧ r.toBSet = [327690, 327694] ∧ n = 19 :=
  read_of_accepted flag _ _ _ exSplitRuns_accepted

example (flag : Bool) : ∃ r n, decode specParams flag exRunCookieNoRuns.toList = .ok (r, n) ∧ r.toBSet = [3, 5] ∧ n = 13 :=
  read_of_accepted flag _ _ _ exRunCookieNoRuns_accepted

/-- a wrong offset word makes a stream non-conformant (the hypothesis is not vacuous in the other direction either) -/
example : (specDecode (exSameAsArray.set! 12 17)).isNone = true := by decide +kernel

/-! ## The literals of the specification are the library's constants -/

/-- the constants regenerated from the Go source on every run (`Gen/Facts.lean`) are the literals of the published specification
that `specDecode` and `specParams` use: cookies 12347 / 12346, offset-header threshold 4, array/bitset boundary 4096, 65536
values and 8192 payload bytes per bitset chunk, run payload = 2 + 4 · (number of runs) bytes -/
theorem clause_constants_are_spec_literals :
    Facts.serialCookie = 12347 ∧ Facts.serialCookieNoRunContainer = 12346 ∧ Facts.noOffsetThreshold = 4 ∧
    Facts.arrayDefaultMaxSize = 4096 ∧ Facts.maxCapacity = 65536 ∧ Facts.maxCapacity / 8 = 8192 ∧
    (∀ nruns : Int, Facts.runContainer16SerializedSizeInBytes nruns = 4 * nruns + 2) ∧
    specParams = { serialCookie := 12347, serialCookieNoRun := 12346, noOffsetThreshold := 4, arrayMax := 4096 } :=
  ⟨Facts.serialCookie_spec, Facts.serialCookieNoRun_spec, Facts.noOffsetThreshold_spec, Facts.arrayDefaultMaxSize_spec,
    Facts.maxCapacity_spec, Facts.bitmap_sizes.1, Facts.runContainer16SerializedSizeInBytes_spec, rfl⟩

end RModel.Statements.C06
