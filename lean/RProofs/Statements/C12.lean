import RProofs.Par
import RProofs.ParData
import RProofs.Rep64ParOr
import RProofs.BSI32Ops
import RProofs.BSI32OpsPlanes
import RProofs.ByteInputDecode
/-!
# C12 — Parallel aggregation is schedule-independent, race-free and always terminates   (PARTIAL)

> ParOr, ParAnd, ParHeapOr, roaring64.ParOr and the goroutine-parallel paths of the bit-sliced indexes return the same result
> under every goroutine schedule and every worker count, perform no unsynchronized conflicting memory accesses among their own
> goroutines or to their input bitmaps, and always return - no deadlock on their internal channels - leaving no goroutine
> behind. Independent bitmaps may be decoded concurrently from independent sources although the library recycles reader
> adapters through process-wide pools.

## Reading guide

Two kinds of model stand for the Go code here, and neither contains the Go scheduler or the Go memory model.

* **Data models** (what is computed): `Rep.parOr w` / `Rep.parHeapOr w` / `Rep.parAnd w` (`Impl/ParData.lean`) and
  `Rep64.parOr o w` (`Impl/Rep64ParOr.lean`) return the exact representation the Go function returns for the effective worker
  count `w` (`parallelism = 0` means `runtime.NumCPU()`, so `w ≥ 1`); `Rep` / `Rep64` are 32- / 64-bit bitmaps as stored,
  `.wf` the representation invariant, `.toBSet` the denoted set.  `BSI.parExec n worker` (`Impl/BSI64Big.lean`, used by both
  indexes) is `parallelExecutor`: the column set cut into the batches of `n` workers, one result per batch, results OR-ed;
  `BSI32.compareValuePar`, `minMaxPar`, `transposePar`, `batchEqualAny`, `sumOfTerms`, `sumResults` are the parallel paths of the
  32-bit index (`Impl/BSI32Ops.lean`).
* **Protocol models** (who talks to whom): `Par.HStep c n` is the channel protocol of `ParHeapOr` / `ParAnd` (caller feeding
  `inputChan` / `resultChan`, `c.workers` workers, the appender goroutine, the `expectedKeysChan` / `bitmapChan` hand-shakes, the
  closes) and `Par.OStep c n` the one of `ParOr` and `roaring64.ParOr` (feeder goroutine, workers, collecting caller), as
  transition systems over counters: one step = one channel operation of one goroutine, a **schedule** = any sequence of
  enabled steps (`Run` below), for any worker count `≥ 1`, any channel capacities `≥ 1` and any number `n` of work items.
  The systems are tied to the source by `RModel.Facts.skeletonParHeapOr_pinned`, `skeletonParAnd_pinned`,
  `skeletonParOr_pinned`, `skeletonAppender_pinned`, `skeletonParOr64_pinned` (`RProofs/Facts/Skeleton.lean`): the sequence of
  `make` / `go` / send / receive / `close` statements regenerated from `/repo` must be the one the systems were written from.
* Proved: worker-count independence of every result (full); every schedule of the two protocols is finite, never stuck
  before the function returns, delivers only the complete result and leaves nothing in flight (full *for the protocol models*);
  the chunk grid gives the workers disjoint key ranges; arrival-order independence of the BSI reductions.
* NOT theorems — observed by executions: data-race freedom (race-detector jobs over the `sched`, `agg`, `r64`, `bsi*` suites in
  both tiers), equality of repeated runs under GOMAXPROCS 1…16 with the sequential fold, the watchdog (termination), goroutine
  counts before/after (`sched`), concurrent decoding through the pools (`concdec`).  The `parallelExecutor` / `WaitGroup`
  fan-out of the bit-sliced indexes has no protocol model.
-/

namespace RModel.Statements.C12
open RModel RModel.BSet RModel.Impl RModel.Par

/-- a schedule of `k` steps from `s` to `t` -/
inductive Run {σ : Type} (step : σ → σ → Prop) : Nat → σ → σ → Prop
  | nil (s) : Run step 0 s s
  | snoc {k s t u} : Run step k s t → step t u → Run step (k + 1) s u

/-- along a schedule an invariant that every step keeps still holds, and a measure that every step lowers has dropped by at
least the number of steps -/
theorem Run.inv_variant {σ : Type} {step : σ → σ → Prop} {Inv : σ → Prop} {variant : σ → Nat}
    (hinv : ∀ s t, Inv s → step s t → Inv t) (hdec : ∀ s t, step s t → variant t < variant s)
    {k : Nat} {s0 s : σ} (r : Run step k s0 s) (h0 : Inv s0) : Inv s ∧ variant s + k ≤ variant s0 := by
  induction r with
  | nil s => exact ⟨h0, Nat.le_refl _⟩
  | snoc _ st ih =>
    obtain ⟨h1, h2⟩ := ih h0
    have := hdec _ _ st
    exact ⟨hinv _ _ h1 st, by omega⟩

theorem hrun_facts (c : HCfg) (items : List Bool) {k : Nat} {s : HState}
    (r : Run (HStep c items.length) k (HState.init items) s) :
    HInv items.length s ∧ s.variant + k ≤ (HState.init items).variant :=
  r.inv_variant (hinv_step c _) (hvariant_decreases c _) (hinv_init items)

theorem orun_facts (c : OCfg) (n : Nat) {k : Nat} {s : OState} (r : Run (OStep c n) k (OState.init n) s) :
    OInv n s ∧ s.variant + k ≤ (OState.init n).variant :=
  r.inv_variant (oinv_step c n) (ovariant_decreases c n) (oinv_init n)

/-! ## The clauses -/

/-- **"… return the same result under … every worker count"** (bitmaps): for any two `parallelism` arguments — effective
counts `w w' ≥ 1` — `ParOr` and `roaring64.ParOr` return the same set, namely the sequential fold of the union, and
`ParHeapOr` / `ParAnd` return literally the same representation. -/
theorem clause_worker_count_independent (l : List Rep) (hl : ∀ r ∈ l, r.wf = true)
    (l64 : List Rep64) (hl64 : ∀ r ∈ l64, r.wf = true) (w w' : Nat) (hw : 1 ≤ w) (hw' : 1 ≤ w') :
    (Rep.parOr w l).toBSet = (Rep.parOr w' l).toBSet ∧ (Rep.parOr w l).toBSet = unionL (l.map Rep.toBSet) ∧
    Rep.parHeapOr w l = Rep.parHeapOr w' l ∧ Rep.parAnd w l = Rep.parAnd w' l ∧
    (Rep64.parOr Ops32.exact w l64).toBSet = (Rep64.parOr Ops32.exact w' l64).toBSet ∧
    (Rep64.parOr Ops32.exact w l64).toBSet = unionL (l64.map Rep64.toBSet) :=
  ⟨Rep.parOr_worker_independent w w' hw hw' l hl, Rep.toBSet_parOr w hw l hl,
   Rep.parHeapOr_worker_independent w w' l, Rep.parAnd_worker_independent w w' l,
   Rep64.parOr_worker_independent Ops32.exact_soundBin Ops32.exact_soundBin w w' hw hw' l64 hl64,
   Rep64.toBSet_parOr Ops32.exact_soundBin w hw l64 hl64⟩

/-- **… every worker count** (goroutine-parallel paths of the 32-bit bit-sliced index): `CompareValue` and `MinMax` return
the value of their one-worker closed forms for every worker count `n`; `Transpose` and `BatchEqual` return the same bitmap for
any two worker counts. -/
theorem clause_worker_count_independent_bsi (b : BSI32.Index) (h : BSI32.WF b) (n m : Nat) (op : BSI32.Op) (k k2 : Int)
    (found : Option BSet) (hf : ∀ f, found = some f → BSI.Good f) (isMax : Bool) (values : List Int) :
    BSI32.compareValuePar b n op k k2 found = BSI32.compareValue b op k k2 found ∧
    BSI32.minMaxPar b n isMax found = BSI32.minMax b isMax found ∧
    BSI32.transposePar b n found = BSI32.transposePar b m found ∧
    BSI32.batchEqualAny b n values = BSI32.batchEqualAny b m values :=
  ⟨BSI32.compareValue_worker_independent b h n op k k2 found hf, BSI32.minMax_worker_independent b n isMax found,
   BSI32.transpose_worker_independent b n m found, BSI32.batchEqual_worker_independent b n m values⟩

/-- **"… the same result under every goroutine schedule"** (PARTIAL).  Proved, protocol side: under every schedule the
appender hands the result to the caller only after ALL `n` work items have been appended, and the collector of `ParOr` stops
only after all `n` chunks have been received (no schedule delivers early or loses an item).  Proved, data side: the reductions
of the bit-sliced index whose goroutines report in arrival order — `MinMax` (channel of batch results), `Sum` (atomic additions,
one per plane), `TransposeWithCounts` (batch results added up) — give the same value for EVERY arrival order `rs` / `terms` /
`bts` of the per-goroutine results.
Missing: the transition systems count work items, they do not carry their payload, so "the assembled bitmap is the same for
every schedule" is not a theorem for `ParOr` / `ParHeapOr` / `ParAnd` (in the code every chunk is stored at its own index and
the appender orders by key — the data models assemble in that order); the Go scheduler is not modelled.  Observed by `sched`. -/
theorem clause_schedule_independent_partial
    (c : HCfg) (items : List Bool) (k : Nat) (s : HState) (r : Run (HStep c items.length) k (HState.init items) s)
    (co : OCfg) (n ko : Nat) (so : OState) (ro : Run (OStep co n) ko (OState.init n) so)
    (b : BSI32.Index) (nw : Nat) (isMax : Bool) (found : Option BSet)
    (rs : List Int) (hrs : rs.Perm ((BSI.batches nw (toList (found.getD b.ebm))).map (BSI32.minOrMax b isMax)))
    (terms : List Nat) (hterms : terms.Perm (BSI32.sumTerms (found.getD b.ebm) b.planes 0))
    (bts : List (List Nat)) (hbts : bts.Perm (BSI.batches nw (toList (found.getD b.ebm))))
    (hlen : card (found.getD b.ebm) < 9223372036854775808) :
    (s.delivered = true → s.appended = items.length) ∧ (so.closed = true → so.received = n) ∧
    rs.foldl (BSI32.minMaxStep isMax) (if isMax then BSI32.min64 else BSI32.max64) = BSI32.minMax b isMax found ∧
    BSI32.sumOfTerms terms = (BSI32.sum b found).1 ∧
    BSI32.sumResults (bts.map (BSI32.twcBatch b)) = BSI32.transposeWithCounts b 1 found :=
  ⟨hdelivered_complete _ s (hrun_facts c items r).1, (orun_facts co n ro).1.2,
   BSI32.minMax_order_independent b nw isMax found rs hrs, BSI32.sum_order_independent b found terms hterms,
   BSI32.transposeWithCounts_planes_order_independent b nw found hlen bts hbts⟩

/-- **"… perform no unsynchronized conflicting memory accesses among their own goroutines or to their input bitmaps"**
(PARTIAL).  Memory accesses are not modelled; race freedom is observed by the race detector.  Proved: the work of `ParOr`
(16-bit keys, up to `hKey = 65535`) and `roaring64.ParOr` (32-bit bucket keys, up to `0xFFFFFFFF`) is split so that every key
of `[lKey, hKey]` belongs to exactly ONE chunk (no wrap-around of the `uint16` / `uint32` bounds, for every worker count
`w ≥ 1`): two workers never produce a container for the same key, each fills a private per-range result. -/
theorem clause_no_conflicting_access_partial (lKey hKey w k : Nat) (hlh : lKey ≤ hKey) (hw : 1 ≤ w)
    (hk1 : lKey ≤ k) (hk2 : k ≤ hKey) :
    (hKey ≤ 65535 →
      ParData.chunkOf lKey hKey w k < ParData.parOrChunkCount lKey hKey w ∧
      ∀ i, i < ParData.parOrChunkCount lKey hKey w →
        (((ParData.chunkRange lKey hKey w i).1 ≤ k ∧ k ≤ (ParData.chunkRange lKey hKey w i).2) ↔
          i = ParData.chunkOf lKey hKey w k)) ∧
    (hKey ≤ 4294967295 →
      ParData.chunkOf lKey hKey w k < ParData.parOrChunkCount lKey hKey w ∧
      ∀ i, i < ParData.parOrChunkCount lKey hKey w →
        (((R64Par.chunkRange64 lKey hKey w i).1 ≤ k ∧ k ≤ (R64Par.chunkRange64 lKey hKey w i).2) ↔
          i = ParData.chunkOf lKey hKey w k)) :=
  ⟨fun hh => ParData.chunk_partition lKey hKey w k hlh hh hw hk1 hk2,
   fun hh => R64Par.chunk_partition64 lKey hKey w k hlh hh hw hk1 hk2⟩

/-- **"… and always return - no deadlock on their internal channels"**, `ParHeapOr` / `ParAnd` (protocol model): for every
worker count and channel capacities `≥ 1`, every list of work items (also none, also more than the capacities) and EVERY
schedule `r` of `k` steps: `k ≤ 4·n + 3` (all schedules are finite), and as long as the caller has not performed its last
action (closing the channels, after which it returns) some goroutine can move — no reachable deadlock. -/
theorem clause_always_returns_parHeapOr_parAnd (c : HCfg) (hw : 0 < c.workers) (hi : 0 < c.capIn) (hr : 0 < c.capRes)
    (items : List Bool) (k : Nat) (s : HState) (r : Run (HStep c items.length) k (HState.init items) s) :
    k ≤ 4 * items.length + 3 ∧ (s.closed = false → ∃ s', HStep c items.length s s') := by
  obtain ⟨hinv, hk⟩ := hrun_facts c items r
  -- the measure starts at `4 * items.length + 3`
  exact ⟨Nat.le_trans (Nat.le_add_left k _) (show s.variant + k ≤ 4 * items.length + 3 from hk),
    fun hc => hno_deadlock c hw hi hr _ s hinv hc⟩

/-- **… always return, no deadlock**, `ParOr` and `roaring64.ParOr` (protocol model): every schedule of `k` steps over `n`
chunks has `k ≤ 4·n + 1`, and before the caller closes the channels (and returns) some goroutine can move.
(The `parallelExecutor` / `WaitGroup` fan-out of the bit-sliced indexes has no protocol model: its termination is observed by the
watchdog of the `bsi*` suites only.) -/
theorem clause_always_returns_parOr (c : OCfg) (hw : 0 < c.workers) (hs : 0 < c.capSpec) (hk : 0 < c.capChunk)
    (n k : Nat) (s : OState) (r : Run (OStep c n) k (OState.init n) s) :
    k ≤ 4 * n + 1 ∧ (s.closed = false → ∃ s', OStep c n s s') := by
  obtain ⟨hinv, hb⟩ := orun_facts c n r
  -- the measure starts at `4 * n + 1`
  exact ⟨Nat.le_trans (Nat.le_add_left k _) (show s.variant + k ≤ 4 * n + 1 from hb),
    fun hc => ono_deadlock c hw hs hk n s hinv hc⟩

/-- **"… leaving no goroutine behind"** (PARTIAL).  Proved (protocol models): in every reachable state in which the caller is
about to close / has closed the channels, nothing is in flight — no item unsent, none buffered in a channel, no worker holding
one — so no goroutine can later send on a closed channel and every worker is parked on the input channel, whose close ends its
`range` loop; the appender has delivered.  Missing: goroutine exit itself is not part of the model; observed by counting
goroutines before and after (`sched`). -/
theorem clause_no_goroutine_left_partial
    (c : HCfg) (items : List Bool) (k : Nat) (s : HState) (r : Run (HStep c items.length) k (HState.init items) s)
    (co : OCfg) (n ko : Nat) (so : OState) (ro : Run (OStep co n) ko (OState.init n) so) :
    (s.delivered = true → s.feed = [] ∧ s.inQ = 0 ∧ s.held = 0 ∧ s.resQ = 0) ∧ (s.closed = true → s.delivered = true) ∧
    (so.received = n → so.toSend = 0 ∧ so.specQ = 0 ∧ so.held = 0 ∧ so.chunkQ = 0) ∧ (so.closed = true → so.received = n) :=
  ⟨fun hd => hquiescent_at_close _ s (hrun_facts c items r).1 hd, (hrun_facts c items r).1.2.2.2,
   fun hr => oquiescent_at_close n so (orun_facts co n ro).1 hr, (orun_facts co n ro).1.2⟩

/-- **"Independent bitmaps may be decoded concurrently from independent sources although the library recycles reader
adapters through process-wide pools"** (PARTIAL).  The pools and concurrency are not modelled; observed by `concdec`.
Proved: what a decoder obtains through a (reset: byte counter 0) `ByteInputAdapter` is a function of ITS source's bytes
only — for every byte string, every way the source delivers it (chunk schedule, short reads, either end-of-data convention) the
result is the one of the pure byte-list decoder `decode`; nothing of an adapter's earlier use can enter. -/
theorem clause_concurrent_decoding_partial (P : SerParams) (flag : Bool) (bs : Bytes) (sched : List Nat) (eager : Bool) :
    ByteIn.reportRun ((ByteIn.decodeProg P flag).runAdapter (ByteIn.Adapter.mk (ByteIn.Reader.ofData bs sched none eager) 0)) =
      decode P flag bs :=
  ByteIn.decode_via_adapter P flag bs sched eager

/-! ## The hypotheses are satisfiable -/

-- the configuration of the source (4 workers, capacities 128 / 32); three work items, one of them sent straight to the
-- result channel; a schedule of three steps (feed, feed, worker takes)
example : Run (HStep ⟨4, 128, 32⟩ 3) 3 (HState.init [true, false, true])
    { feed := [true], inQ := 0, held := 1, resQ := 1 } :=
  .snoc (.snoc (.snoc (.nil _) (.feedWorker rfl (by decide))) (.feedDirect rfl (by decide)))
    (.workerTake (by decide) (by decide) rfl)
-- zero chunks: `ParOr`'s collector closes at once
example : Run (OStep ⟨2, 1, 1⟩ 0) 1 (OState.init 0) { toSend := 0, closed := true } := .snoc (.nil _) (.close rfl rfl)
example : ∀ r ∈ R64ParDemo.demo, r.wf = true := R64ParDemo.demo_wf
example : BSI32.WF BSI32.exIdx := BSI32.wf_exIdx
example : (BSI32.sumTerms BSI32.exT.ebm BSI32.exT.planes 0).reverse.Perm (BSI32.sumTerms BSI32.exT.ebm BSI32.exT.planes 0) :=
  List.reverse_perm _
-- key 65535 with 3 workers on the key range [65000, 65535]: the last chunk ends at 65535 (no `uint16` wrap)
example : ParData.chunkOf 65000 65535 3 65535 = 11 ∧ ParData.chunkRange 65000 65535 3 11 = (65495, 65535) := by decide

end RModel.Statements.C12
