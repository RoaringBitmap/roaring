import RProofs.RepMut
import RProofs.RepBulk
import RProofs.LazyOps
/-!
# Property C02 — a bitmap always equals the replay of its mutation history

> After any sequence of Add, CheckedAdd, AddInt, AddMany, Remove, CheckedRemove, AddRange, RemoveRange, Flip, Clear and the
> content-neutral maintenance calls (RunOptimize, Clone, CloneCopyOnWriteContainers, SetCopyOnWrite), the bitmap contains
> exactly the integers a plain set would contain after the same sequence, and CheckedAdd/CheckedRemove return true exactly
> when the element's membership changed. Ranges are half-open [start,end), may span any number of 65536-wide chunks and may
> end at 2^32.

## Reading guide

* `Rep` = a 32-bit `roaring.Bitmap` as stored (switch `cow`, sorted slots `(key, container, flag)`, containers array /
  bitmap+cached cardinality / runs); `Rep.wf r = true` = the representation invariant (C09) — "any reachable bitmap";
  `Rep.toBSet r` = the set it denotes; `BSet.mem s x` = membership.
* the "plain set" of the property is a bare predicate `Nat → Bool`; `Call.onSet` below spells out what each call does to
  it (`s x || x = v`, `s x && x ≠ v`, `s x || lo ≤ x < hi`, …) — nothing of the library is used in it.
* `Call.onRep` is what the modelled Go method leaves in the receiver: `Rep.add / checkedAdd / addMany / remove /
  checkedRemove / addRange / removeRange / flip / cleared / runOptimize / clone / cloneSrc / detach / setCow`
  (`RModel/Impl/RepMut.lean`, `RepBulk.lean`, `LazyOps.lean`).  They return the exact Go representation: array→bitmap at
  4096, back at 4096, full chunk → run, the copy-on-write gate, first/middle/last chunk split of ranges, `AddMany`'s cached
  container pointer.  `Clone` appears twice: the history may continue on the copy (`Rep.clone`) or on the source, whose flags
  were raised (`Rep.cloneSrc`).
* `AddInt(x)` is `Add(uint32(x))` in Go; the conversion is not modelled, so `AddInt` is the constructor `Call.add`.
* In-domain arguments (`Call.inDomain`): values `< 2^32` (Go's `uint32`), range ends `≤ 2^32` for `AddRange` / `Flip`
  (beyond that Go panics, which the scripts check); `RemoveRange` has no bound on its end (Go clamps it to 2^32).  Its start
  is unbounded in `Call.inDomain` too, but there the model speaks for Go only while `lo < 2^32`: for a larger start the model
  removes nothing, whereas Go converts the start to `uint32` after clamping the end (`RemoveRange(2^32+5, 2^32+10)` removes
  `[5, 2^32)`); the scripts generate no such start.
* Level: every clause is a representation-level (L2) theorem composed with the abstraction.
* NOT a theorem: that the Go methods compute what the model functions compute — observed by the generated scripts `hist`
  (60-step histories, digest after every step), `kernmut`, `l2mut`, `l2bulk` (printed Go representation = model's).
  Panics, allocation and the actual stores are not modelled.
-/
namespace RModel.Statements.C02
open RModel RModel.BSet RModel.Impl

inductive Call where
  | add (v : Nat) | checkedAdd (v : Nat) | addMany (vs : List Nat) | remove (v : Nat) | checkedRemove (v : Nat)
  | addRange (lo hi : Nat) | removeRange (lo hi : Nat) | flip (lo hi : Nat) | clear
  | runOptimize | cloneContinueOnCopy | cloneContinueOnSource | cloneCopyOnWriteContainers | setCopyOnWrite (v : Bool)

/-- the documented argument domain -/
def Call.inDomain : Call → Bool
  | .add v | .checkedAdd v | .remove v | .checkedRemove v => decide (v < 4294967296)
  | .addMany vs => vs.all (fun v => decide (v < 4294967296))
  | .addRange _ hi | .flip _ hi => decide (hi ≤ 4294967296)
  | _ => true

def Call.onRep : Call → Rep → Rep
  | .add v, r => r.add v
  | .checkedAdd v, r => (r.checkedAdd v).1
  | .addMany vs, r => r.addMany vs
  | .remove v, r => r.remove v
  | .checkedRemove v, r => (r.checkedRemove v).1
  | .addRange lo hi, r => r.addRange lo hi
  | .removeRange lo hi, r => r.removeRange lo hi
  | .flip lo hi, r => r.flip lo hi
  | .clear, _ => Rep.cleared
  | .runOptimize, r => r.runOptimize
  | .cloneContinueOnCopy, r => r.clone
  | .cloneContinueOnSource, r => r.cloneSrc
  | .cloneCopyOnWriteContainers, r => r.detach
  | .setCopyOnWrite v, r => r.setCow v

/-- the same call on a plain set of integers -/
def Call.onSet : Call → (Nat → Bool) → (Nat → Bool)
  | .add v, s | .checkedAdd v, s => fun x => s x || decide (x = v)
  | .addMany vs, s => fun x => s x || vs.contains x
  | .remove v, s | .checkedRemove v, s => fun x => s x && !decide (x = v)
  | .addRange lo hi, s => fun x => s x || (decide (lo ≤ x) && decide (x < hi))
  | .removeRange lo hi, s => fun x => s x && !(decide (lo ≤ x) && decide (x < hi))
  | .flip lo hi, s => fun x => s x != (decide (lo ≤ x) && decide (x < hi))
  | .clear, _ => fun _ => false
  | _, s => s

def runOnRep (calls : List Call) (r : Rep) : Rep := calls.foldl (fun r c => Call.onRep c r) r
def runOnSet (calls : List Call) (s : Nat → Bool) : Nat → Bool := calls.foldl (fun s c => Call.onSet c s) s

/-- clamping the end of `RemoveRange` at 2^32 is invisible on a bitmap: it has no element `≥ 2^32` -/
theorem removeRange_clamp (r : Rep) (hr : r.wf = true) (lo hi x : Nat) :
    (mem r.toBSet x && !(decide (lo ≤ x) && decide (x < min hi 4294967296))) =
    (mem r.toBSet x && !(decide (lo ≤ x) && decide (x < hi))) := by
  cases hm : mem r.toBSet x
  · rfl
  · have := mem_lt_of_canon _ _ (canon_rep r hr) x hm
    rw [decide_eq_decide.mpr (Nat.lt_min.trans (and_iff_left this))]

/-! ### clause: one call = one step of the plain set (and the invariant is kept, so calls can be chained) -/

theorem clause_one_call (c : Call) (hc : c.inDomain = true) (r : Rep) (hr : r.wf = true) :
    (c.onRep r).wf = true ∧ ∀ x, mem (c.onRep r).toBSet x = c.onSet (fun y => mem r.toBSet y) x := by
  cases c with
  | add v => exact ⟨Rep.wf_add r hr v (of_decide_eq_true hc), Rep.mem_add r hr v (of_decide_eq_true hc)⟩
  | checkedAdd v => exact ⟨Rep.wf_add r hr v (of_decide_eq_true hc), Rep.mem_add r hr v (of_decide_eq_true hc)⟩
  | addMany vs =>
    have hv : ∀ v ∈ vs, v < 4294967296 := fun v h => of_decide_eq_true (List.all_eq_true.mp hc v h)
    exact ⟨Rep.wf_addMany r hr vs hv, Rep.mem_addMany r hr vs hv⟩
  | remove v => exact ⟨Rep.wf_remove r hr v (of_decide_eq_true hc), Rep.mem_remove r hr v (of_decide_eq_true hc)⟩
  | checkedRemove v => exact ⟨Rep.wf_remove r hr v (of_decide_eq_true hc), Rep.mem_remove r hr v (of_decide_eq_true hc)⟩
  | addRange lo hi => exact ⟨Rep.wf_addRange r hr lo hi (of_decide_eq_true hc), Rep.mem_addRange r hr lo hi (of_decide_eq_true hc)⟩
  | removeRange lo hi =>
    exact ⟨Rep.wf_removeRange r hr lo hi, fun x => (Rep.mem_removeRange r hr lo hi x).trans (removeRange_clamp r hr lo hi x)⟩
  | flip lo hi => exact ⟨Rep.wf_flip r hr lo hi (of_decide_eq_true hc), Rep.mem_flip r hr lo hi (of_decide_eq_true hc)⟩
  | clear => exact ⟨Rep.wf_cleared, fun _ => rfl⟩
  | runOptimize => exact ⟨Rep.wf_runOptimize r hr, fun x => congrArg (mem · x) (Rep.toBSet_runOptimize r hr)⟩
  | cloneContinueOnCopy => exact ⟨(Rep.wf_clone r).trans hr, fun x => congrArg (mem · x) (Rep.toBSet_clone r)⟩
  | cloneContinueOnSource => exact ⟨(Rep.wf_cloneSrc r).trans hr, fun x => congrArg (mem · x) (Rep.toBSet_cloneSrc r)⟩
  | cloneCopyOnWriteContainers => exact ⟨(Rep.wf_detach r).trans hr, fun x => congrArg (mem · x) (Rep.toBSet_detach r)⟩
  | setCopyOnWrite v => exact ⟨hr, fun _ => rfl⟩

/-! ### clause: after ANY finite sequence of in-domain calls, from ANY well-formed bitmap -/

/-- the bitmap left by the history is well formed and contains exactly the integers the plain set contains after the same
history (started from the bitmap's initial contents) -/
theorem clause_history (calls : List Call) (hd : ∀ c ∈ calls, c.inDomain = true) (r : Rep) (hr : r.wf = true) :
    (runOnRep calls r).wf = true ∧ ∀ x, mem (runOnRep calls r).toBSet x = runOnSet calls (fun y => mem r.toBSet y) x := by
  induction calls generalizing r with
  | nil => exact ⟨hr, fun _ => rfl⟩
  | cons c t ih =>
    obtain ⟨hw, hm⟩ := clause_one_call c (hd c (by simp)) r hr
    have := ih (fun c' h' => hd c' (by simp [h'])) (c.onRep r) hw
    simp only [runOnRep, runOnSet, List.foldl_cons] at this ⊢
    rw [show c.onSet (fun y => mem r.toBSet y) = fun y => mem (c.onRep r).toBSet y from funext fun y => (hm y).symm]
    exact this

/-- started from the empty bitmap (`NewBitmap()`), the plain set starts empty -/
theorem clause_history_from_new (calls : List Call) (hd : ∀ c ∈ calls, c.inDomain = true) :
    (runOnRep calls {}).wf = true ∧ ∀ x, mem (runOnRep calls {}).toBSet x = runOnSet calls (fun _ => false) x :=
  clause_history calls hd {} rfl

/-- a history crossing the 4096 threshold region, a chunk edge, the top of the universe, with sharing switched on -/
def exCalls : List Call :=
  [.setCopyOnWrite true, .addRange 65530 65546, .checkedAdd 7, .cloneContinueOnSource, .flip 4294901760 4294967296,
   .addMany [9, 7, 131072, 9], .checkedRemove 4294967295, .runOptimize, .removeRange 65536 70000, .cloneCopyOnWriteContainers,
   .remove 65535, .add 4294967295, .cloneContinueOnCopy, .clear, .add 3]
example : ∀ c ∈ exCalls, c.inDomain = true := by decide +kernel
example := clause_history_from_new exCalls (by decide +kernel)

/-! ### clause: the Booleans of `CheckedAdd` / `CheckedRemove` -/

/-- `CheckedAdd(v)` mutates like `Add(v)` and returns true exactly when `v` was absent — i.e. exactly when the membership of
`v` differs before and after the call; `CheckedRemove(v)` mutates like `Remove(v)` and returns true exactly when `v` was
present — again exactly when its membership changed -/
theorem clause_checked_booleans (r : Rep) (hr : r.wf = true) (v : Nat) (hv : v < 4294967296) :
    ((r.checkedAdd v).1 = r.add v ∧ (r.checkedAdd v).2 = !mem r.toBSet v ∧
      (r.checkedAdd v).2 = (mem r.toBSet v != mem (r.checkedAdd v).1.toBSet v)) ∧
    ((r.checkedRemove v).1 = r.remove v ∧ (r.checkedRemove v).2 = mem r.toBSet v ∧
      (r.checkedRemove v).2 = (mem r.toBSet v != mem (r.checkedRemove v).1.toBSet v)) := by
  refine ⟨⟨rfl, Rep.checkedAdd_snd r hr v, ?_⟩, ⟨rfl, Rep.checkedRemove_snd r hr v, ?_⟩⟩
  · rw [Rep.checkedAdd_snd r hr v, Rep.checkedAdd_fst, Rep.mem_add r hr v hv]; simp
  · rw [Rep.checkedRemove_snd r hr v, Rep.checkedRemove_fst, Rep.mem_remove r hr v hv]; simp

/-- the Booleans need no bound on `v` at all -/
theorem clause_checked_booleans_any (r : Rep) (hr : r.wf = true) (v : Nat) :
    (r.checkedAdd v).2 = !mem r.toBSet v ∧ (r.checkedRemove v).2 = mem r.toBSet v :=
  ⟨Rep.checkedAdd_snd r hr v, Rep.checkedRemove_snd r hr v⟩

def exR : Rep :=
  { cow := true, slots := [{ key := 0, c := .arr [1, 5, 9, 65535], flag := true }, { key := 3, c := .run [(10, 89)], flag := false },
                           { key := 65535, c := .run [(0, 65535)], flag := true }] }
theorem exR_wf : exR.wf = true := by decide
example : (exR.checkedAdd 5).2 = false ∧ (exR.checkedAdd 6).2 = true := by decide +kernel
example : (exR.checkedRemove 4294967295).2 = true ∧ (exR.checkedRemove 65536).2 = false := by
  rw [(clause_checked_booleans_any exR exR_wf _).2, (clause_checked_booleans_any exR exR_wf _).2, mem_rep _ exR_wf, mem_rep _ exR_wf]
  decide +kernel

/-! ### clause: ranges are half-open, span any number of chunks, may end at 2^32 -/

/-- `RemoveRange` with an end beyond 2^32 (Go clamps it) removes exactly the elements `≥ lo` -/
theorem clause_removeRange_unbounded (r : Rep) (hr : r.wf = true) (lo hi : Nat) :
    (r.removeRange lo hi).wf = true ∧
    ∀ x, mem (r.removeRange lo hi).toBSet x = (mem r.toBSet x && !(decide (lo ≤ x) && decide (x < hi))) :=
  clause_one_call (.removeRange lo hi) rfl r hr

/-- for EVERY `lo` and every `hi ≤ 2^32` (no relation between them is assumed: `lo ≥ hi` is the empty range; `lo` and `hi`
may lie in the same chunk, in neighbouring chunks or 65535 chunks apart; `hi = 2^32` is allowed) the three range mutators
act exactly on the integers `lo ≤ x < hi`; the result is well formed -/
theorem clause_ranges (r : Rep) (hr : r.wf = true) (lo hi : Nat) (hhi : hi ≤ 4294967296) :
    ((r.addRange lo hi).wf = true ∧ ∀ x, mem (r.addRange lo hi).toBSet x = (mem r.toBSet x || (decide (lo ≤ x) && decide (x < hi)))) ∧
    ((r.removeRange lo hi).wf = true ∧
      ∀ x, mem (r.removeRange lo hi).toBSet x = (mem r.toBSet x && !(decide (lo ≤ x) && decide (x < hi)))) ∧
    ((r.flip lo hi).wf = true ∧ ∀ x, mem (r.flip lo hi).toBSet x = (mem r.toBSet x != (decide (lo ≤ x) && decide (x < hi)))) :=
  ⟨⟨Rep.wf_addRange r hr lo hi hhi, Rep.mem_addRange r hr lo hi hhi⟩,
   clause_removeRange_unbounded r hr lo hi,
   ⟨Rep.wf_flip r hr lo hi hhi, Rep.mem_flip r hr lo hi hhi⟩⟩

/-- a range from the middle of chunk 0 to the very end of the universe: 65536 chunks, first one partial -/
example := (clause_ranges exR exR_wf 40000 4294967296 (Nat.le_refl _)).2.2

/-! ### clause: the maintenance calls are content-neutral -/

/-- `RunOptimize`, `Clone` (the copy and the source afterwards), `CloneCopyOnWriteContainers`, `SetCopyOnWrite(v)` change
neither the set (equality of the canonical set values, hence of every membership) nor well-formedness -/
theorem clause_content_neutral (r : Rep) (hr : r.wf = true) (v : Bool) :
    (r.runOptimize.toBSet = r.toBSet ∧ r.runOptimize.wf = true) ∧ (r.clone.toBSet = r.toBSet ∧ r.clone.wf = true) ∧
    (r.cloneSrc.toBSet = r.toBSet ∧ r.cloneSrc.wf = true) ∧ (r.detach.toBSet = r.toBSet ∧ r.detach.wf = true) ∧
    ((r.setCow v).toBSet = r.toBSet ∧ (r.setCow v).wf = true) :=
  ⟨⟨Rep.toBSet_runOptimize r hr, Rep.wf_runOptimize r hr⟩, ⟨Rep.toBSet_clone r, (Rep.wf_clone r).trans hr⟩,
   ⟨Rep.toBSet_cloneSrc r, (Rep.wf_cloneSrc r).trans hr⟩, ⟨Rep.toBSet_detach r, (Rep.wf_detach r).trans hr⟩,
   ⟨Rep.toBSet_setCow r v, (Rep.wf_setCow r v).trans hr⟩⟩

/-- `AddMany` is literally the fold of `Add` on the stored representation (any order, duplicates, any receiver) -/
theorem clause_addMany_is_repeated_add (r : Rep) (vals : List Nat) : r.addMany vals = vals.foldl Rep.add r :=
  Rep.addMany_eq_foldl r vals

example := clause_content_neutral exR exR_wf false

end RModel.Statements.C02
