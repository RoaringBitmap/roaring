import RProofs.Rep64
import RProofs.Rep64Range
import RProofs.Rep64InPlace
import RProofs.Rep64Mut
import RProofs.Rep64Query
import RProofs.Rep64QueryPair
import RProofs.Rep64Agg
import RProofs.Rep64ParOr
import RProofs.Iter2R64
import RProofs.FastEq
/-!
# C17 — `roaring64.Bitmap` over the `uint64` universe

> roaring64.Bitmap satisfies, over the uint64 universe, the same guarantees as the 32-bit bitmap: set algebra (static and
> in-place), point/bulk/range mutation with exact Checked* results, Rank/Select/Minimum/Maximum/cardinalities/Equals,
> forward, reverse and batch iteration with Peek/Advance, out-of-place Flip, FastOr/FastAnd/ParOr - all equal to the
> mathematical result for every input, including values and ranges that cross a 2^32 boundary, and no call within the
> documented domain panics.

## Reading guide

* `Rep64` (`RModel/Impl/Rep64.lean`) is a `roaring64.Bitmap` **as stored**: the `copyOnWrite` switch and the sorted buckets
  `(high 32 bits, 32-bit bitmap Rep, needCopyOnWrite flag)`; `Rep64.wf r = true` is its invariant (keys increasing and
  `< 2^32`, every bucket a well-formed non-empty 32-bit bitmap); `Rep64.toBSet r` is the set of `uint64` it denotes,
  `BSet.mem s x : Bool` is membership. The right-hand sides are the verified set oracle of `RModel/Spec/BSet.lean` used with
  universe `2^64`: `BSet.inter/union/xor/diff`, `add/remove/addRange/removeRange/flipRange`, `rankLt s n` (number of members
  `< n`), `select`, `minimum/maximum`, `card`, `toList` (members in increasing order), `unionL/interL` (folds), whose
  meaning in terms of `mem` is given by the L1 theorems `mem_inter … mem_flipRange`, `rankLt_eq_count`, `select_spec`,
  `minimum_some`, `mem_toList`, `toList_sorted`, `mem_unionL` (`RProofs/BSet*.lean`, `RProofs/Agg.lean`).
* Every clause is an L2 theorem composed with the abstraction: the model function is the Go function on the representation
  (`Rep64.and2` = `roaring64.And`, `Rep64.iand` = `x.And(y)`, `Rep64.sflip` = `roaring64.Flip`, …). The 32-bit operations
  run inside a touched bucket are the exact 32-bit models, `Ops32.exact` (`Rep.flip`, `Rep.iand`, … of `Impl/RepMut.lean`).
  Values are `Nat`s with the explicit bound `< 2^64` where the Go type is `uint64`; nothing distinguishes values or ranges
  that cross a `2^32` boundary — the quantifiers cover them, the `example`s exercise them.
* NOT theorems: that the Go code behaves like these models is checked by the generated scripts (`l2r64`, `l2r64q`: bucket
  structure, flags and touched buckets exact; `r64`: digests; `l2iter2`: iterator shadows). "No call panics" is a theorem
  only in the sense that the model functions with an explicit panic/error outcome (`Minimum`, `Maximum`, `Select`,
  returning `Option`) are proved to produce it exactly outside the documented domain; all other model functions are total
  and a Go panic in the domain would be a correspondence failure. The scheduler of `ParOr` is not modelled (C12).
-/
namespace RModel.Statements.C17
open RModel RModel.BSet RModel.Impl RModel.Impl.It

/-- `2^64` -/
abbrev U64 : Nat := 18446744073709551616

/-! ## Set algebra, static and in-place -/

/-- **static `And/Or/Xor/AndNot`**: the set of the answer is the mathematical result, the answer is well-formed, and each
operand afterwards (`afterStatic`: only inner `needCopyOnWrite` flags can change) denotes the same set. -/
theorem clause_algebra_static (a b : Rep64) (ha : a.wf = true) (hb : b.wf = true) :
    ((Rep64.and2 a b).toBSet = inter a.toBSet b.toBSet ∧ (Rep64.or2 a b).toBSet = union a.toBSet b.toBSet ∧
     (Rep64.xor2 a b).toBSet = xor a.toBSet b.toBSet ∧ (Rep64.andNot2 a b).toBSet = diff a.toBSet b.toBSet) ∧
    ((Rep64.and2 a b).wf = true ∧ (Rep64.or2 a b).wf = true ∧ (Rep64.xor2 a b).wf = true ∧ (Rep64.andNot2 a b).wf = true) ∧
    (∀ cl, (Rep64.afterStatic cl a b).toBSet = a.toBSet ∧ (Rep64.afterStatic cl b a).toBSet = b.toBSet) :=
  ⟨⟨Rep64.toBSet_and2 a b ha hb, Rep64.toBSet_or2 a b ha hb, Rep64.toBSet_xor2 a b ha hb, Rep64.toBSet_andNot2 a b ha hb⟩,
   ⟨Rep64.wf_and2 a b ha hb, Rep64.wf_or2 a b ha hb, Rep64.wf_xor2 a b ha hb, Rep64.wf_andNot2 a b ha hb⟩,
   fun cl => ⟨Rep64.toBSet_afterStatic cl a b ha, Rep64.toBSet_afterStatic cl b a hb⟩⟩

/-- **in-place `x.And(y)/Or/Xor/AndNot`** (two different objects): the receiver afterwards denotes the mathematical result
and is well-formed; the argument afterwards (`argAfter`: flags only) denotes the same set. -/
theorem clause_algebra_inplace (x y : Rep64) (hx : x.wf = true) (hy : y.wf = true) :
    ((Rep64.iand Ops32.exact x y).toBSet = inter x.toBSet y.toBSet ∧ (Rep64.ior Ops32.exact x y).toBSet = union x.toBSet y.toBSet ∧
     (Rep64.ixor x y).toBSet = xor x.toBSet y.toBSet ∧ (Rep64.iandNot Ops32.exact x y).toBSet = diff x.toBSet y.toBSet) ∧
    ((Rep64.iand Ops32.exact x y).wf = true ∧ (Rep64.ior Ops32.exact x y).wf = true ∧
     (Rep64.ixor x y).wf = true ∧ (Rep64.iandNot Ops32.exact x y).wf = true) ∧
    (Rep64.argAfter x y).toBSet = y.toBSet :=
  have hs := Ops32.exact_soundBin
  ⟨⟨Rep64.toBSet_iand hs x y hx hy, Rep64.toBSet_ior hs x y hx hy, Rep64.toBSet_ixor x y hx hy, Rep64.toBSet_iandNot hs x y hx hy⟩,
   ⟨Rep64.wf_iand hs x y hx hy, Rep64.wf_ior hs x y hx hy, Rep64.wf_ixor x y hx hy, Rep64.wf_iandNot hs x y hx hy⟩,
   Rep64.toBSet_argAfter x y hy⟩

example : exA.wf = true ∧ exB.wf = true := ⟨wf_exA, wf_exB⟩
example : (Rep64.and2 exA exB).toBSet = [5, 6, 17179869183, 17179869184] := by
  rw [(clause_algebra_static exA exB wf_exA wf_exB).1.1]; decide +kernel

/-! ## Point, bulk and range mutation -/

/-- **`Add/CheckedAdd/AddInt/Remove/CheckedRemove`** for every `uint64` value: the set afterwards is the old set with `v`
inserted / deleted, the Boolean of `CheckedAdd` (`CheckedRemove`) is exactly "`v` was absent" ("was present"), and the
bitmap stays well-formed. -/
theorem clause_point_mutation (r : Rep64) (hr : r.wf = true) (v : Nat) (hv : v < U64) (i : Int) :
    ((r.add v).toBSet = BSet.add r.toBSet v ∧ (r.add v).wf = true) ∧
    ((r.checkedAdd v).1 = r.add v ∧ (r.checkedAdd v).2 = !mem r.toBSet v) ∧
    ((r.addInt i).toBSet = BSet.add r.toBSet (i % 18446744073709551616).toNat ∧ (r.addInt i).wf = true) ∧
    ((r.remove v).toBSet = BSet.remove r.toBSet v ∧ (r.remove v).wf = true) ∧
    ((r.checkedRemove v).1 = r.remove v ∧ (r.checkedRemove v).2 = mem r.toBSet v) :=
  ⟨⟨Rep64.toBSet_add r hr v hv, Rep64.wf_add r hr v hv⟩, ⟨Rep64.checkedAdd_fst r v, Rep64.checkedAdd_snd r hr v⟩,
   ⟨Rep64.toBSet_addInt r hr i, Rep64.wf_addInt r hr i⟩, ⟨Rep64.toBSet_remove r hr v, Rep64.wf_remove r hr v⟩,
   ⟨Rep64.checkedRemove_fst r hr v, Rep64.checkedRemove_snd r hr v⟩⟩

/-- **`AddMany`**: any slice of `uint64` values, in any order, with repetitions, however the per-bucket batches fall. -/
theorem clause_bulk_mutation (r : Rep64) (hr : r.wf = true) (dat : List Nat) (hd : ∀ v ∈ dat, v < U64) :
    (∀ x, mem (r.addMany dat).toBSet x = (mem r.toBSet x || dat.contains x)) ∧
    (r.addMany dat).toBSet = dat.foldl BSet.add r.toBSet ∧ (r.addMany dat).wf = true :=
  ⟨Rep64.mem_addMany r hr dat hd, Rep64.toBSet_addMany r hr dat hd, Rep64.wf_addMany r hr dat hd⟩

/-- **`AddRange/RemoveRange` and the in-place `Flip`** on `[lo, hi)`, any `lo`, `hi` within `uint64` (the range may span any
number of `2^32` buckets; `lo ≥ hi` is a no-op in the model as in Go). -/
theorem clause_range_mutation (r : Rep64) (hr : r.wf = true) (lo hi : Nat) (hhi : hi < U64) :
    ((Rep64.addRange Ops32.exact r lo hi).toBSet = BSet.addRange r.toBSet lo hi ∧ (Rep64.addRange Ops32.exact r lo hi).wf = true) ∧
    ((Rep64.removeRange Ops32.exact r lo hi).toBSet = BSet.removeRange r.toBSet lo hi ∧
      (Rep64.removeRange Ops32.exact r lo hi).wf = true) ∧
    ((Rep64.flip Ops32.exact r lo hi).toBSet = BSet.flipRange r.toBSet lo hi ∧ (Rep64.flip Ops32.exact r lo hi).wf = true) :=
  have hs := Ops32.exact_sound
  ⟨⟨Rep64.toBSet_addRange hs r hr lo hi (Nat.le_of_lt hhi), Rep64.wf_addRange hs r hr lo hi (Nat.le_of_lt hhi)⟩,
   ⟨Rep64.toBSet_removeRange hs r hr lo hi, Rep64.wf_removeRange hs r hr lo hi⟩,
   ⟨Rep64.toBSet_flip hs r hr lo hi hhi, Rep64.wf_flip hs r hr lo hi hhi⟩⟩

example : (4294967303 : Nat) < U64 ∧ (exA.checkedAdd 4294967303).2 = true ∧ (exA.checkedRemove 17179869183).2 = true := by decide +kernel
/-- a range that starts in bucket 0 and ends in bucket 1 (which does not exist before) -/
example : (Rep64.addRange Ops32.exact exB 4294967290 4294967300).toBSet =
    [5, 7, 4294967290, 4294967300, 8590000128, 8590000129, 17179869178, 17179869184] := by
  rw [(clause_range_mutation exB wf_exB _ _ (by decide)).1.1]; decide +kernel

/-! ## Queries -/

/-- **`Contains`, `GetCardinality`, `IsEmpty`, `Rank`, `Select`, `Minimum`, `Maximum`** computed by the Go walks over the
buckets equal the oracle's answers on the denoted set (`Rank(x)` counts the members `≤ x`; `none` = the panic of
`Minimum/Maximum` on the empty bitmap resp. the error of `Select`, see `clause_no_panic_partial`). -/
theorem clause_queries (r : Rep64) (hr : r.wf = true) (x i : Nat) :
    r.contains x = mem r.toBSet x ∧ r.getCardinality = (card r.toBSet : Int) ∧ r.isEmptyQ = isEmpty r.toBSet ∧
    r.rank x = (rankLt r.toBSet (x + 1) : Int) ∧ r.select i = (select r.toBSet i).map (fun v => (v : Int)) ∧
    r.minimum = (minimum r.toBSet).map (fun v => (v : Int)) ∧ r.maximum = (maximum r.toBSet).map (fun v => (v : Int)) :=
  ⟨Rep64.contains_spec r hr x, Rep64.card_spec r hr, Rep64.isEmpty_spec r hr, Rep64.rank_spec r hr x, Rep64.select_spec r hr i,
   Rep64.minimum_spec r hr, Rep64.maximum_spec r hr⟩

/-- **`Equals`, `AndCardinality`, `OrCardinality`, `Intersects`**: `Equals` is equality of the denoted sets (canonical forms
are unique, `BSet.canon_ext`), whatever the two representations look like. -/
theorem clause_queries_pair (x y : Rep64) (hx : x.wf = true) (hy : y.wf = true) :
    x.equals y = (x.toBSet == y.toBSet) ∧
    x.andCardinality y = (card (inter x.toBSet y.toBSet) : Int) ∧ x.orCardinality y = (card (union x.toBSet y.toBSet) : Int) ∧
    x.intersects y = !isEmpty (inter x.toBSet y.toBSet) :=
  ⟨Rep64.equals_spec x y hx hy, Rep64.andCardinality_spec x y hx hy, Rep64.orCardinality_spec x y hx hy,
   Rep64.intersects_spec x y hx hy⟩

/-- `exA` and `exC` hold the same set in different representations (run vs array container, other flags, other switch) -/
example : exA.equals exC = true ∧ exA.rank 4294967296 = 7 ∧ exA.select 7 = some 17179869183 ∧ exA.maximum = some 17179869183 := by
  decide +kernel

/-! ## Iteration: forward, reverse, batch, with `PeekNext` / `AdvanceIfNeeded` -/

/-- **forward iterator**. A fresh iterator has the members in increasing order still to deliver (`rem`); in any reachable
state (`Inv`) `HasNext` says whether something remains, `Next`/`PeekNext` return the first remaining value, and
`AdvanceIfNeeded(m)` drops exactly the remaining values `< m`; draining a fresh iterator yields all members in order. -/
theorem clause_iter_forward (r : Rep64) (hr : r.wf = true) :
    ((IntIt64.create r).Inv ∧ (IntIt64.create r).rem = toList r.toBSet) ∧
    (∀ ii : IntIt64, ii.Inv → (ii.hasNext = true ↔ ii.rem ≠ []) ∧
      (∀ v t, ii.rem = v :: t → ii.peekNext = v ∧ ii.next.1 = v ∧ ii.next.2.Inv ∧ ii.next.2.rem = t) ∧
      (∀ m, m < U64 → (ii.advanceIfNeeded m).Inv ∧ (ii.advanceIfNeeded m).rem = ii.rem.dropWhile (fun x => decide (x < m)))) ∧
    (∀ fuel, card r.toBSet ≤ fuel → ((IntIt64.create r).drain fuel).1 = toList r.toBSet) :=
  ⟨⟨(IntIt64.create_spec r hr).1, (IntIt64.create_spec r hr).2.trans (valsOfRep64_eq_toList r hr)⟩,
   fun _ hi => ⟨IntIt64.hasNext_iff hi,
     fun _ _ h => ⟨IntIt64.peekNext_spec hi h, (IntIt64.next_spec hi h).1, (IntIt64.next_spec hi h).2.1, (IntIt64.next_spec hi h).2.2.1⟩,
     fun m hm => IntIt64.advanceIfNeeded_spec hi m hm⟩,
   fun fuel hf => IntIt64.drain_create r hr fuel hf⟩

/-- **reverse iterator**: draining yields all members in decreasing order. -/
theorem clause_iter_reverse (r : Rep64) (hr : r.wf = true) (fuel : Nat) (hf : card r.toBSet ≤ fuel) :
    ((IntRevIt64.create r).drain fuel).1 = (toList r.toBSet).reverse :=
  IntRevIt64.drain_create r hr fuel hf

/-- **batch iterator**: one `NextMany` into a buffer of length `cap` returns the first `cap` remaining values; any sequence
of buffer lengths whose sum reaches the cardinality returns, concatenated, all members in increasing order. -/
theorem clause_iter_many (r : Rep64) (hr : r.wf = true) :
    (∀ ii : ManyIt64, ii.Inv → ∀ cap, (ii.nextMany cap).1 = ii.rem.take cap ∧ (ii.nextMany cap).2.Inv ∧
      (ii.nextMany cap).2.rem = ii.rem.drop cap) ∧
    (∀ caps : List Nat, card r.toBSet ≤ caps.sum → ((ManyIt64.create r).nextManySeq caps).1 = toList r.toBSet) :=
  ⟨fun _ hi cap => ManyIt64.nextMany_spec hi cap, fun caps hc => ManyIt64.nextManySeq_create r hr caps hc⟩

theorem exA_card : card exA.toBSet ≤ 8 := by rw [← Rep64.toBSetFast_eq']; decide +kernel
example : card exA.toBSet ≤ 8 := exA_card
example : ((IntIt64.create exA).drain 8).1 = [1, 5, 131082, 131083, 131084, 131085, 131086, 17179869183] ∧
    ((ManyIt64.create exA).nextManySeq [3, 0, 5]).1 = [1, 5, 131082, 131083, 131084, 131085, 131086, 17179869183] := by
  rw [(clause_iter_forward exA wf_exA).2.2 8 exA_card, (clause_iter_many exA wf_exA).2 [3, 0, 5] exA_card]; decide +kernel

/-! ## Out-of-place `Flip` -/

/-- **`roaring64.Flip(r, lo, hi)`**: the answer denotes `r` with membership negated on `[lo, hi)` — the set the in-place
`Flip` produces (`clause_range_mutation`) —, is well-formed, and the operand afterwards denotes the same set. -/
theorem clause_flip_static (r : Rep64) (hr : r.wf = true) (lo hi : Nat) (hhi : hi < U64) :
    (Rep64.sflip Ops32.exact r lo hi).toBSet = BSet.flipRange r.toBSet lo hi ∧
    (Rep64.sflip Ops32.exact r lo hi).toBSet = (Rep64.flip Ops32.exact r lo hi).toBSet ∧
    (Rep64.sflip Ops32.exact r lo hi).wf = true ∧
    (r.sflipSrc lo hi).toBSet = r.toBSet ∧ (r.sflipSrc lo hi).wf = true :=
  have hs := Ops32.exact_sound
  ⟨Rep64.toBSet_sflip hs r hr lo hi hhi, (Rep64.toBSet_sflip hs r hr lo hi hhi).trans (Rep64.toBSet_flip hs r hr lo hi hhi).symm,
   Rep64.wf_sflip hs r hr lo hi hhi, Rep64.toBSet_sflipSrc r hr lo hi, Rep64.wf_sflipSrc r hr lo hi⟩

example : (Rep64.sflip Ops32.exact exA 4294967290 4294967300).toBSet =
    [1, 2, 5, 6, 131082, 131087, 4294967290, 4294967300, 17179869183, 17179869184] := by
  rw [(clause_flip_static exA wf_exA _ _ (by decide)).1]; decide +kernel

/-! ## `FastOr`, `FastAnd`, `ParOr` -/

/-- **aggregates**: `FastOr` / `ParOr` of any list of bitmaps denote the union of all, `FastAnd` the intersection (the empty
list gives the empty bitmap); `ParOr` for every worker count `w ≥ 1` (`parallelism = 0` is replaced by
`runtime.NumCPU()` in Go), so the set does not depend on it. All results are well-formed. -/
theorem clause_aggregates (l : List Rep64) (hl : ∀ r ∈ l, r.wf = true) (w w' : Nat) (hw : 1 ≤ w) (hw' : 1 ≤ w') :
    ((Rep64.fastOr Ops32.exact l).toBSet = unionL (l.map Rep64.toBSet) ∧ (Rep64.fastOr Ops32.exact l).wf = true) ∧
    ((Rep64.fastAnd Ops32.exact l).toBSet = interL (l.map Rep64.toBSet) ∧ (Rep64.fastAnd Ops32.exact l).wf = true) ∧
    ((Rep64.parOr Ops32.exact w l).toBSet = unionL (l.map Rep64.toBSet) ∧ (Rep64.parOr Ops32.exact w l).wf = true) ∧
    (Rep64.parOr Ops32.exact w l).toBSet = (Rep64.parOr Ops32.exact w' l).toBSet :=
  ⟨Rep64.fastOr_exact l hl, Rep64.fastAnd_exact l hl, Rep64.parOr_exact w hw l hl,
   Rep64.parOr_worker_independent Ops32.exact_soundBin Ops32.exact_soundBin w w' hw hw' l hl⟩

example : (∀ r ∈ R64ParDemo.demo, r.wf = true) ∧ (1 : Nat) ≤ 3 := ⟨R64ParDemo.demo_wf, by decide⟩

/-! ## No panic within the documented domain -/

/-- **partial.** The only model functions of this property with a panic / error outcome are `Minimum`, `Maximum` (Go panics
on the empty bitmap, documented "assumes that it is not empty") and `Select` (returns an error beyond the cardinality):
they produce it exactly outside the documented domain. Every other model function above is total. Missing: that the Go
functions do not panic where the model does not is observed by the correspondence suites (a Go panic is reported as a
disagreement), not proved. -/
theorem clause_no_panic_partial (r : Rep64) (hr : r.wf = true) (i : Nat) :
    (r.minimum = none ↔ ∀ x, mem r.toBSet x = false) ∧ (r.maximum = none ↔ ∀ x, mem r.toBSet x = false) ∧
    (r.select i = none ↔ card r.toBSet ≤ i) := by
  have hs := sinc_rep64 r
  have he := even_rep64 r hr
  refine ⟨?_, ?_, ?_⟩
  · rw [Rep64.minimum_spec r hr, ← minimum_none _ hs he]; cases minimum r.toBSet <;> simp
  · rw [Rep64.maximum_spec r hr, ← maximum_none _ hs he]; cases maximum r.toBSet <;> simp
  · rw [Rep64.select_spec r hr, ← select_none _ hs he i]; cases select r.toBSet i <;> simp

end RModel.Statements.C17
