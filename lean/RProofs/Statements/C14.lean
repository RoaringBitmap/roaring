import RProofs.Properties.C05
import RProofs.Properties.C14
import RProofs.Facts.Bits
import RProofs.RepMut
import RProofs.RepXform
import RProofs.RepBulk
/-!
# C14 — Serialized size never exceeds the documented compression bound

> For every bitmap built through the public API that holds N integers, all smaller than x, the serialized size
> (GetSerializedSizeInBytes, i.e. the bytes WriteTo emits) is at most the README bound 8 + 9*ceil(x/65536) + 2*N bytes and at
> most BoundSerializedSizeInBytes(N, x): never more than two bytes per integer plus a fixed per-chunk overhead. This holds
> before and after RunOptimize, whatever history of operations produced the bitmap.

## Reading guide

* `Rep` (`RModel/Impl/Repr.lean`) is a 32-bit bitmap **as stored** (keys, array / bitmap / run containers, flags);
  `Rep.wf r = true` is the representation invariant (what Go's `Validate` checks; C09 proves it preserved by every modelled
  operation — this is the formal content of "needlessly large representations never arise": no empty chunk, no bitmap chunk
  with ≤ 4096 values, no array chunk with > 4096, no run chunk that is not strictly smaller than its alternatives).
* `r.toBSet` is the set `r` denotes, `BSet.mem` membership, `BSet.card` the number of elements (`card_eq_count`:
  the count of members).  So "holds N integers, all smaller than x" is `BSet.card r.toBSet = N` and
  `∀ v, mem r.toBSet v = true → v < x`.
* `r.encode specParams` (`RModel/Impl/Serial.lean`) is the byte string `WriteTo` emits, `r.serializedSize specParams` is
  `GetSerializedSizeInBytes` (`roaringArray.serializedSizeInBytes`: header size + per-container sizes).  `specParams` holds the
  literal format constants; they are tied to the constants regenerated from the Go source by `RModel.Facts.serialCookie_spec`, ….
* `RModel.Facts.boundSerializedSizeInBytes` is the Go function `BoundSerializedSizeInBytes`, translated mechanically from
  `/repo` on every run (`RModel/Gen/Facts.lean`, `uint64` wrap-around included).
* All clauses are L2 theorems (representation level) with set-level hypotheses.  "Whatever history": the bounds are proved for
  **every** well-formed representation; `clause_any_history_partial` instantiates this for an explicit closure of modelled
  public operations.
* NOT a theorem: that the Go code behaves like the model.  The correspondence check compares `encode` with the Go bytes
  byte for byte (`ser`), and the `size` lines after the steps of generated histories compare `GetSerializedSizeInBytes` with
  both bounds and with the model's size.
-/

namespace RModel.Statements.C14
open RModel RModel.BSet RModel.Impl RModel.Impl.RepQuery

/-! ## The clauses -/

/-- **"the serialized size (GetSerializedSizeInBytes, i.e. the bytes WriteTo emits)"**: the size function is exactly the
length of the written stream. -/
theorem clause_size_is_bytes_written (r : Rep) (h : r.wf = true) :
    (r.encode specParams).length = r.serializedSize specParams :=
  encode_length r h

/-- **README bound**: a bitmap holding `N` integers, all smaller than `x`, is written in at most
`8 + 9·⌈x/65536⌉ + 2·N` bytes. -/
theorem clause_readme_bound (r : Rep) (h : r.wf = true) (N x : Nat)
    (hN : BSet.card r.toBSet = N) (hx : ∀ v, mem r.toBSet v = true → v < x) :
    (r.encode specParams).length ≤ 8 + 9 * ((x + 65535) / 65536) + 2 * N := by
  rw [encode_length r h, ← hN, ← Rep.card_eq r h]
  exact readme_bound r x h (Rep.keys_below r h x hx)

/-- **… and at most BoundSerializedSizeInBytes(N, x)** — the Go function itself (regenerated from the source), for every
universe size `x ≤ 2^32`. -/
theorem clause_bound_function (r : Rep) (h : r.wf = true) (N x : Nat) (hxU : x ≤ 4294967296)
    (hN : BSet.card r.toBSet = N) (hx : ∀ v, mem r.toBSet v = true → v < x) :
    ((r.encode specParams).length : Int) ≤ RModel.Facts.boundSerializedSizeInBytes (N : Int) (x : Int) := by
  have hb := bound_function r x h (Rep.keys_below r h x hx)
  have hle := card_le_of_canon (canon_rep r h)
  rw [Rep.card_eq r h, hN] at hb
  rw [hN] at hle
  rw [encode_length r h, RModel.Facts.boundSerializedSizeInBytes_spec N x (Int.natCast_nonneg N) (Int.ofNat_le.mpr hle)
    (Int.natCast_nonneg x) (Int.ofNat_le.mpr hxU)]
  -- the closed form over `Int` is the cast of `boundClosedForm N x`
  have hmin : ∀ a b : Nat, ((min a b : Nat) : Int) = min (a : Int) b := by omega
  have hmax : ∀ a b : Nat, ((max a b : Nat) : Int) = max (a : Int) b := by omega
  refine Int.le_trans (Int.ofNat_le.mpr hb) (Int.le_of_eq ?_)
  simp only [boundClosedForm, hmin, hmax, Int.natCast_ediv, Int.natCast_add, Int.natCast_mul, Int.cast_ofNat_Int]

/-- **never more than two bytes per integer plus a fixed per-chunk overhead**: with `c` chunks (at most `⌈x/65536⌉`, at most
`N`), the stream is at most `2·N` bytes of payload plus `8 + 9·c` bytes of overhead (`9·c` = key + cardinality + offset +
run-flag bit per chunk). -/
theorem clause_two_bytes_per_integer (r : Rep) (h : r.wf = true) (N x : Nat)
    (hN : BSet.card r.toBSet = N) (hx : ∀ v, mem r.toBSet v = true → v < x) :
    (r.encode specParams).length ≤ 2 * N + (8 + 9 * r.slots.length) ∧
    r.slots.length ≤ (x + 65535) / 65536 ∧ r.slots.length ≤ N := by
  obtain ⟨h1, h2, h3, _⟩ := wf_facts r x h (Rep.keys_below r h x hx)
  have h5 := headerSize_le r
  rw [encode_length r h, ← hN, ← Rep.card_eq r h]
  refine ⟨?_, h1, h2⟩
  simp only [Rep.serializedSize]
  split at h5 <;> omega

/-- **This holds before and after RunOptimize**: `RunOptimize` keeps the set (hence `N` and `x`) and the invariant, so both
bounds hold for the optimised bitmap with the same `N` and `x`. -/
theorem clause_after_runOptimize (r : Rep) (h : r.wf = true) (N x : Nat) (hxU : x ≤ 4294967296)
    (hN : BSet.card r.toBSet = N) (hx : ∀ v, mem r.toBSet v = true → v < x) :
    r.runOptimize.toBSet = r.toBSet ∧
    (r.runOptimize.encode specParams).length ≤ 8 + 9 * ((x + 65535) / 65536) + 2 * N ∧
    ((r.runOptimize.encode specParams).length : Int) ≤ RModel.Facts.boundSerializedSizeInBytes (N : Int) (x : Int) := by
  have hw := Rep.wf_runOptimize r h
  have hs := Rep.toBSet_runOptimize r h
  exact ⟨hs, clause_readme_bound _ hw N x (by rw [hs]; exact hN) (by rw [hs]; exact hx),
    clause_bound_function _ hw N x hxU (by rw [hs]; exact hN) (by rw [hs]; exact hx)⟩

/-- histories of modelled public operations (in-domain arguments: values `< 2^32`, range ends `≤ 2^32`) -/
inductive Built : Rep → Prop
  | new : Built {}
  | add {r} (x : Nat) : Built r → x < 4294967296 → Built (r.add x)
  | remove {r} (x : Nat) : Built r → x < 4294967296 → Built (r.remove x)
  | addMany {r} (vs : List Nat) : Built r → (∀ v ∈ vs, v < 4294967296) → Built (r.addMany vs)
  | addRange {r} (lo hi : Nat) : Built r → hi ≤ 4294967296 → Built (r.addRange lo hi)
  | removeRange {r} (lo hi : Nat) : Built r → Built (r.removeRange lo hi)
  | flip {r} (lo hi : Nat) : Built r → hi ≤ 4294967296 → Built (r.flip lo hi)
  | runOptimize {r} : Built r → Built r.runOptimize
  | and2 {a b} : Built a → Built b → Built (Rep.and2 a b)
  | or2 {a b} : Built a → Built b → Built (Rep.or2 a b)
  | xor2 {a b} : Built a → Built b → Built (Rep.xor2 a b)
  | andNot2 {a b} : Built a → Built b → Built (Rep.andNot2 a b)
  | iand {a b} : Built a → Built b → Built (a.iand b)
  | ior {a b} : Built a → Built b → Built (a.ior b)
  | ixor {a b} : Built a → Built b → Built (a.ixor b)
  | iandNot {a b} : Built a → Built b → Built (a.iandNot b)
  | addOffset64 {a} (d : Int) : Built a → Built (a.addOffset64 d)
  | heapOr {l : List Rep} : (∀ r ∈ l, Built r) → Built (Rep.heapOr l)
  | heapXor {l : List Rep} : (∀ r ∈ l, Built r) → Built (Rep.heapXor l)

theorem Built.wf {r : Rep} (hb : Built r) : r.wf = true := by
  induction hb with
  | new => rfl
  | add x _ hx ih => exact Rep.wf_add _ ih x hx
  | remove x _ hx ih => exact Rep.wf_remove _ ih x hx
  | addMany vs _ hv ih => exact Rep.wf_addMany _ ih vs hv
  | addRange lo hi _ hh ih => exact Rep.wf_addRange _ ih lo hi hh
  | removeRange lo hi _ ih => exact Rep.wf_removeRange _ ih lo hi
  | flip lo hi _ hh ih => exact Rep.wf_flip _ ih lo hi hh
  | runOptimize _ ih => exact Rep.wf_runOptimize _ ih
  | and2 _ _ iha ihb => exact Rep.wf_and2 _ _ iha ihb
  | or2 _ _ iha ihb => exact Rep.wf_or2 _ _ iha ihb
  | xor2 _ _ iha ihb => exact Rep.wf_xor2 _ _ iha ihb
  | andNot2 _ _ iha ihb => exact Rep.wf_andNot2 _ _ iha ihb
  | iand _ _ iha ihb => exact Rep.wf_iand _ _ iha ihb
  | ior _ _ iha ihb => exact Rep.wf_ior _ _ iha ihb
  | ixor _ _ iha ihb => exact Rep.wf_ixor _ _ iha ihb
  | iandNot _ _ iha ihb => exact Rep.wf_iandNot _ _ iha ihb
  | addOffset64 d _ ih => exact Rep.wf_addOffset64 _ ih d
  | heapOr _ ih => exact Rep.wf_heapOr _ ih
  | heapXor _ ih => exact Rep.wf_heapXor _ ih

/-- **whatever history of operations produced the bitmap** (PARTIAL): both bounds hold for every bitmap produced by any
history — of any length, with any intermediate bitmaps as operands — of the operations listed in `Built`.
Missing for the full clause: `Built` lists a representative part of the public API only.  The remaining modelled
operations (`FastOr/FastAnd/AndAny`, `Par*`, static `Flip`, `FromDense`, decoding of a written stream, `Clone`, …) have
their own `Rep.wf_*` theorems (C09, C11, C16, C05) and extend `Built` by one line each; operations without an L2 model
(e.g. the iterators' `Advance`, which do not change the bitmap) and the step from the Go code to the model are covered by the
correspondence check (`size` lines after every step of generated histories), not by a theorem. -/
theorem clause_any_history_partial (r : Rep) (hb : Built r) (N x : Nat) (hxU : x ≤ 4294967296)
    (hN : BSet.card r.toBSet = N) (hx : ∀ v, mem r.toBSet v = true → v < x) :
    (r.encode specParams).length ≤ 8 + 9 * ((x + 65535) / 65536) + 2 * N ∧
    ((r.encode specParams).length : Int) ≤ RModel.Facts.boundSerializedSizeInBytes (N : Int) (x : Int) :=
  ⟨clause_readme_bound r hb.wf N x hN hx, clause_bound_function r hb.wf N x hxU hN hx⟩

/-! ## The hypotheses are satisfiable -/

/-- array chunk, full run chunk, array chunk holding the largest 32-bit value -/
def exRep : Rep := ⟨false, [⟨0, .arr [1, 5, 9], false⟩, ⟨3, .run [(0, 65535)], false⟩, ⟨65535, .arr [65535], true⟩]⟩

example : exRep.wf = true := by decide
example : BSet.card exRep.toBSet = 65540 := by decide +kernel
example : ∀ v, mem exRep.toBSet v = true → v < 4294967296 := mem_lt_of_canon _ _ (canon_rep exRep (by decide))
-- 31 bytes are written; the README bound for N = 65540, x = 2^32 is 8 + 9·65536 + 2·65540
example : (exRep.encode specParams).length = 31 := by decide +kernel
-- a history: start empty, add a range crossing two chunk borders, remove a value, optimise
example : Built (((({} : Rep).addRange 65000 200000).remove 70000 ).runOptimize) :=
  .runOptimize (.remove _ (.addRange _ _ .new (by decide)) (by decide))

end RModel.Statements.C14
