import RProofs.RepOps
import RProofs.ContMut
import RProofs.ContQuery
import RProofs.ContEfficient
import RProofs.LazyOps
import RModel.Impl.RepMut
/-!
Bitmap-level (roaringArray) L2 theorems for the MUTATORS and the in-place binary operations (`RModel/Impl/RepMut.lean`):
for a well-formed receiver (and argument) and in-domain arguments the representation the Go method leaves behind denotes
the L1 result (`Rep.toBSet_*`), is well-formed (`Rep.wf_*`, property C09 at bitmap level), the Checked* booleans are
`!mem` / `mem`, and the in-place binary operations leave the abstraction (indeed the keys and containers) of their
argument alone (`Rep.toBSet_shareTail`).

A point or range mutator is the two-pointer walk of the slot list against the keys it visits (`alterWalk_eq`), so each needs
only what its step stores under a visited key (`AlterSpec`, `alter_rep`); the in-place binary operations are walks over two
slot lists like the static ones of `RProofs/RepOps.lean`.
-/
open RModel.Util
namespace RModel.Impl
open RModel RModel.BSet RModel.Driver ContOps ContMut RepOps LazyOps RepMut

namespace RepMut

/-! ### the walk `alterWalk` is the two-pointer walk against the keys the mutator visits -/

/-- what the mutator step `f` stores under a visited key `k` when the receiver has nothing there / has `s` -/
def absentS (f : Nat → Option Slot → Option Slot) (k : Nat) : List Slot := (f k none).toList
def presentS (f : Nat → Option Slot → Option Slot) (s : Slot) (k : Nat) : List Slot := (f k (some s)).toList

/-- `va` is free: a walk reads only the keys of its operands -/
theorem alterWalk_eq (va : Nat → Nat → Bool) (f : Nat → Option Slot → Option Slot) (hb n : Nat) (l : List Slot) :
    alterWalk f hb n l =
      mergeWalk slotV (keysV va) keepS (absentS f) (absentS f) (presentS f) l (List.range' hb n) := by
  fun_induction alterWalk f hb n l with
  | case1 hb l => cases l <;> simp [mergeWalk, keepS]
  | case2 hb n ih => simp [mergeWalk, absentS, List.range'_succ] at ih ⊢; exact ih
  | case3 hb n s t hlt ih => simp [mergeWalk, keepS, List.range'_succ, hlt] at ih ⊢; exact ih
  | case4 n s t hlt ih => simp [mergeWalk, presentS, List.range'_succ] at ih ⊢; exact ih
  | case5 hb n s t hlt hne ih =>
    have : hb < s.key := by omega
    simp [mergeWalk, absentS, List.range'_succ, hlt, this] at ih ⊢; exact ih

theorem filter_key_lt_nil {l : List Slot} {k : Nat} (h : ∀ p ∈ l, k ≤ p.key) : (l.filter fun p => p.key < k) = [] :=
  List.filter_eq_nil_iff.mpr fun p hp => by simpa using h p hp

theorem sorted_split {l : List Slot} (hl : SlotsWf l) (k : Nat) :
    l = (l.filter fun p => p.key < k + 1) ++ l.filter fun p => k < p.key := by
  induction l with
  | nil => rfl
  | cons s t ih =>
    by_cases h : s.key < k + 1
    · rw [List.filter_cons_of_pos (by simpa using h), List.filter_cons_of_neg (by simpa using Nat.le_of_lt_succ h),
        List.cons_append, ← ih hl.tail]
    · have hge := hl.gt_of_lt_head (Nat.lt_of_succ_le (Nat.le_of_not_lt h))
      rw [filter_key_lt_nil (fun p hp => hge p hp), List.nil_append, List.filter_eq_self.mpr (by simpa using hge)]

/-- the in-place walk over the chunks `hb … e` of a sorted slot list keeps the slots below `hb` and above `e` and stores, for
every chunk in between, what the step makes of the slot `g k` a lookup finds there -/
theorem alterWalk_eq_splice (f : Nat → Option Slot → Option Slot) (g : Nat → Option Slot) (e : Nat) (hb n : Nat)
    (l : List Slot) (hn : hb + n = e + 1) (hl : SlotsWf l) (hg : ∀ k, hb ≤ k → g k = l.find? (·.key == k)) :
    alterWalk f hb n l = (l.filter fun s => s.key < hb) ++
      (List.range' hb n).flatMap (fun k => (f k (g k)).toList) ++ l.filter fun s => e < s.key := by
  fun_induction alterWalk f hb n l with
  | case1 hb l =>
    rw [List.range'_zero, List.flatMap_nil, List.append_nil, show hb = e + 1 by omega]
    exact sorted_split hl e
  | case2 hb n ih =>
    rw [ih (by omega) hl (fun k hk => hg k (by omega)), List.range'_succ, List.flatMap_cons, hg hb (Nat.le_refl _)]
    simp
  | case3 hb n s t hlt ih =>
    rw [ih hn hl.tail (fun k hk => by rw [hg k hk, List.find?_cons_of_neg (by simp; omega)]),
      List.filter_cons_of_pos (by simpa using hlt), List.filter_cons_of_neg (by simp; omega)]
    rfl
  | case4 n s t hlt ih =>
    rw [ih (by omega) hl.tail (fun k hk => by rw [hg k (by omega), List.find?_cons_of_neg (by simp; omega)]),
      filter_key_lt_nil (fun p hp => Nat.succ_le_of_lt (hl.head_lt p hp)),
      filter_key_lt_nil (List.forall_mem_cons.mpr ⟨Nat.le_refl _, fun p hp => Nat.le_of_lt (hl.head_lt p hp)⟩),
      List.range'_succ, List.flatMap_cons, hg s.key (Nat.le_refl _), List.find?_cons_of_pos (by simp),
      List.filter_cons_of_neg (by simp; omega)]
    simp
  | case5 hb n s t hlt hne ih =>
    have hgt := hl.gt_of_lt_head (show hb < s.key by omega)
    rw [ih (by omega) hl (fun k hk => hg k (by omega)), filter_key_lt_nil (fun p hp => hgt p hp),
      filter_key_lt_nil (fun p hp => Nat.le_of_lt (hgt p hp)), List.range'_succ, List.flatMap_cons, hg hb (Nat.le_refl _),
      List.find?_eq_none.mpr (fun p hp => by simpa using Nat.ne_of_gt (hgt p hp))]
    simp

/-- the mutator step `f` acts on the members of a visited chunk `k` as `op` with the positions `va k` -/
abbrev AlterSpec (op : Bool → Bool → Bool) (va : Nat → Nat → Bool) (f : Nat → Option Slot → Option Slot) : Prop :=
  MergeSpec slotV (keysV va) slotV op Slot.Wf (· < 65536) Slot.Wf keepS (absentS f) (absentS f) (presentS f)

theorem alter_rep {op : Bool → Bool → Bool} {va : Nat → Nat → Bool} {f : Nat → Option Slot → Option Slot}
    (W : AlterSpec op va f) (r : Rep) (hr : r.wf = true) (hb n : Nat) (hbn : hb + n ≤ 65536) (c : Bool) :
    ({ cow := c, slots := alterWalk f hb n r.slots } : Rep).wf = true ∧
    ∀ v, mem ({ cow := c, slots := alterWalk f hb n r.slots } : Rep).toBSet v =
      op (mem r.toBSet v) (decide (hb ≤ v / 65536 ∧ v / 65536 < hb + n) && va (v / 65536) (v % 65536)) := by
  have hwr := (slotsWf_iff r).mp hr
  have hk : ∀ k ∈ List.range' hb n, k < 65536 := fun k hk => by have := List.mem_range'_1.mp hk; omega
  have hs : (keysV va).Sorted (List.range' hb n) := List.pairwise_lt_range' 1
  have hw : SlotsWf (alterWalk f hb n r.slots) := by
    rw [alterWalk_eq va]
    exact ⟨W.sorted hwr.ok hk hwr.sorted hs, W.ok hwr.ok hk⟩
  refine ⟨(slotsWf_iff _).mpr hw, fun v => ?_⟩
  rw [mem_rep_slots _ hw.bounded, mem_rep_slots r hwr.bounded, ← contains_range', ← hasAt_keys]
  show slotsHas (alterWalk f hb n r.slots) v = _
  rw [alterWalk_eq va]
  exact W.has hwr.ok hk hwr.sorted hs _ _

/-! ### looking a chunk up -/

def optSlotHas (o : Option Slot) (y : Nat) : Bool :=
  match o with
  | some s => s.c.has y
  | none => false

def findSlot (l : List Slot) (k : Nat) : Option Slot := l.find? (·.key == k)

theorem findSlot_mem {l : List Slot} {k : Nat} {s : Slot} (h : findSlot l k = some s) : s ∈ l ∧ s.key = k := by
  unfold findSlot at h
  have h1 := List.mem_of_find?_eq_some h
  have h2 := List.find?_some h
  exact ⟨h1, by simpa using h2⟩

theorem _root_.RModel.Impl.Rep.find_eq (r : Rep) (k : Nat) : r.find k = (findSlot r.slots k).map (·.c) := rfl

theorem _root_.RModel.Impl.Rep.mem_find (r : Rep) (hr : r.wf = true) (v : Nat) :
    mem r.toBSet v = optSlotHas (findSlot r.slots (v / 65536)) (v % 65536) := by
  rw [mem_rep r hr, Rep.has, Rep.find_eq]
  cases findSlot r.slots (v / 65536) <;> rfl

theorem findSlot_wf {r : Rep} (hr : r.wf = true) {k : Nat} {s : Slot} (h : findSlot r.slots k = some s) :
    s.key = k ∧ s.c.wf = true ∧ k < 65536 := by
  have hwr := (slotsWf_iff r).mp hr
  obtain ⟨hm, hk⟩ := findSlot_mem h
  have := hwr.ok s hm
  exact ⟨hk, this.2, by omega⟩

/-! ### `Add` / `CheckedAdd` -/

theorem mergeSpec_add {lb : Nat} (hlb : lb < 65536) :
    AlterSpec (· || ·) (fun _ y => decide (y = lb)) (addF lb) := by
  have hw : (Cont.arr [lb]).wf = true := by simp [Cont.wf, strictInc]; omega
  refine ⟨rfl, fun _ h => .single rfl h (by simp), fun _ h => .wf h hw (by simp [Cont.has]),
    fun _ h => .wf h hw (by simp [Cont.has]), fun sa k ha _ (hk : sa.key = k) => ?_⟩
  rw [presentS, ← hk]
  exact .wf ha.1 (wf_iaddRM _ ha.2 _ hlb) (has_iaddRM _ ha.2 _ hlb)

/-- **C09**: `Add` keeps the bitmap well-formed -/
theorem _root_.RModel.Impl.Rep.wf_add (r : Rep) (hr : r.wf = true) (x : Nat) (hx : x < 4294967296) : (r.add x).wf = true :=
  (alter_rep (mergeSpec_add (Nat.mod_lt _ (by omega))) r hr _ _ (by omega) _).1

theorem _root_.RModel.Impl.Rep.mem_add (r : Rep) (hr : r.wf = true) (x : Nat) (hx : x < 4294967296) (v : Nat) :
    mem (r.add x).toBSet v = (mem r.toBSet v || decide (v = x)) := by
  rw [Rep.add, (alter_rep (mergeSpec_add (Nat.mod_lt _ (by omega))) r hr _ _ (by omega) _).2]
  congr 1
  rw [← Bool.decide_and]
  apply decide_eq_decide.mpr; omega

theorem _root_.RModel.Impl.Rep.toBSet_add (r : Rep) (hr : r.wf = true) (x : Nat) (hx : x < 4294967296) :
    (r.add x).toBSet = BSet.add r.toBSet x :=
  canon_ext_sinc _ _ (sinc_rep _) (sinc_add _ (sinc_rep r) x)
    (fun v => by rw [Rep.mem_add r hr x hx, BSet.mem_add _ (sinc_rep r)])

theorem _root_.RModel.Impl.Rep.checkedAdd_fst (r : Rep) (x : Nat) : (r.checkedAdd x).1 = r.add x := rfl

/-- `CheckedAdd` answers "was absent" -/
theorem _root_.RModel.Impl.Rep.checkedAdd_snd (r : Rep) (hr : r.wf = true) (x : Nat) :
    (r.checkedAdd x).2 = !mem r.toBSet x := by
  have hlb : x % 65536 < 65536 := Nat.mod_lt _ (by omega)
  rw [Rep.mem_find r hr]
  simp only [Rep.checkedAdd, Rep.find_eq]
  cases hf : findSlot r.slots (x / 65536) with
  | none => simp [optSlotHas]
  | some s =>
    have hw := (findSlot_wf hr hf).2.1
    have hw' := wf_iaddRM s.c hw _ hlb
    simp only [Option.map_some, optSlotHas]
    rw [has_card _ (wfQ_of_wf hw), has_card _ (wfQ_of_wf hw'),
      show (s.c.iaddRM (x % 65536)).has = (fun y => s.c.has y || decide (y = x % 65536)) from
        funext (fun y => has_iaddRM s.c hw _ hlb y)]
    exact cnt_insert_gt _ _ _ hlb

/-! ### `Remove` / `CheckedRemove` -/

theorem keepOpt_toList (k : Nat) (c : Cont) : (keepOpt k c).toList = keep k c [] := by
  unfold keepOpt keep; split <;> rfl

theorem mergeSpec_remove (lb : Nat) :
    AlterSpec (fun p q => p && !q) (fun _ y => decide (y = lb)) (removeF lb) := by
  refine ⟨rfl, fun _ h => .single rfl h (by simp), fun _ _ => .nil (by simp), fun _ _ => .nil (by simp),
    fun sa k ha _ (hk : sa.key = k) => ?_⟩
  rw [presentS, ← hk]
  simp only [removeF, keepOpt_toList]
  exact .keep ha.1 (emptyOrWf_iremoveRM _ ha.2 lb) (has_iremoveRM _ ha.2 lb)

/-- **C09**: `Remove` keeps the bitmap well-formed -/
theorem _root_.RModel.Impl.Rep.wf_remove (r : Rep) (hr : r.wf = true) (x : Nat) (hx : x < 4294967296) : (r.remove x).wf = true :=
  (alter_rep (mergeSpec_remove _) r hr _ _ (by omega) _).1

theorem _root_.RModel.Impl.Rep.mem_remove (r : Rep) (hr : r.wf = true) (x : Nat) (hx : x < 4294967296) (v : Nat) :
    mem (r.remove x).toBSet v = (mem r.toBSet v && !decide (v = x)) := by
  rw [Rep.remove, (alter_rep (mergeSpec_remove _) r hr _ _ (by omega) _).2]
  congr 2
  rw [← Bool.decide_and]
  apply decide_eq_decide.mpr; omega

theorem _root_.RModel.Impl.Rep.toBSet_remove (r : Rep) (hr : r.wf = true) (x : Nat) (hx : x < 4294967296) :
    (r.remove x).toBSet = BSet.remove r.toBSet x :=
  canon_ext_sinc _ _ (sinc_rep _) (sinc_remove _ (sinc_rep r) x)
    (fun v => by rw [Rep.mem_remove r hr x hx, BSet.mem_remove _ (sinc_rep r)])

theorem _root_.RModel.Impl.Rep.checkedRemove_fst (r : Rep) (x : Nat) : (r.checkedRemove x).1 = r.remove x := rfl

/-- `CheckedRemove` answers "was present" -/
theorem _root_.RModel.Impl.Rep.checkedRemove_snd (r : Rep) (hr : r.wf = true) (x : Nat) :
    (r.checkedRemove x).2 = mem r.toBSet x := by
  have hlb : x % 65536 < 65536 := Nat.mod_lt _ (by omega)
  rw [Rep.mem_find r hr]
  simp only [Rep.checkedRemove, Rep.find_eq]
  cases hf : findSlot r.slots (x / 65536) with
  | none => simp [optSlotHas]
  | some s =>
    have hw := (findSlot_wf hr hf).2.1
    simp only [Option.map_some, optSlotHas]
    rcases emptyOrWf_iremoveRM s.c hw (x % 65536) with ⟨he, hh⟩ | ⟨he, hw'⟩
    · rw [he, if_pos rfl]
      -- the container had a member; it is gone, so it was `x`
      obtain ⟨y, hy⟩ := wf_has_member _ hw
      have := hh y
      rw [has_iremoveRM _ hw, hy, Bool.true_and] at this
      have hyx : y = x % 65536 := by simpa using this
      rw [← hyx, hy]
    · rw [he, if_neg Bool.false_ne_true, has_card _ (wfQ_of_wf hw), has_card _ (wfQ_of_wf hw'),
        show (s.c.iremoveRM (x % 65536)).has = (fun y => s.c.has y && !decide (y = x % 65536)) from
          funext (fun y => has_iremoveRM s.c hw _ y)]
      exact cnt_erase_lt _ _ _ hlb

/-! ### ranges: chunk arithmetic -/

theorem chunk_lt (lo hi hb : Nat) (hlh : lo < hi) : chunkLo lo hb < chunkHi hi hb ∧ chunkHi hi hb ≤ 65536 := by
  unfold chunkLo chunkHi
  split <;> split <;> omega

theorem walk_bound (lo hi : Nat) (hlh : lo < hi) (hhi : hi ≤ 4294967296) : lo / 65536 + nChunks lo hi ≤ 65536 := by
  unfold nChunks; omega

/-- the positions of `[lo, hi)` inside chunk `k` -/
abbrev rangePart (lo hi k : Nat) : Nat → Bool := inRange (chunkLo lo k) (chunkHi hi k)

theorem piece_rangeOfOnes (lo hi : Nat) (hlh : lo < hi) {k : Nat} (hk : k < 65536) {fl : Bool} {p : Nat → Bool}
    (hp : ∀ y, rangePart lo hi k y = p y) :
    Piece slotV Slot.Wf k p [{ key := k, c := rangeOfOnes (chunkLo lo k) (chunkHi hi k - 1), flag := fl }] := by
  obtain ⟨h1, h2⟩ := chunk_lt lo hi k hlh
  have h := rangeOfOnes_spec (chunkLo lo k) (chunkHi hi k - 1) (by omega) (by omega)
  exact .wf hk h.1 fun y => by rw [h.2, show chunkHi hi k - 1 + 1 = chunkHi hi k by omega, ← hp]

/-- chunk by chunk, the positions a range mutator visits are the range -/
theorem inRange_rangePart (lo hi : Nat) (hlh : lo < hi) (v : Nat) :
    (decide (lo / 65536 ≤ v / 65536 ∧ v / 65536 < lo / 65536 + nChunks lo hi) &&
      rangePart lo hi (v / 65536) (v % 65536)) = inRange lo hi v := by
  rw [inRange, ← range_chunkwise 65536 lo hi v (by decide) hlh, Bool.decide_and,
    show decide (v / 65536 < lo / 65536 + nChunks lo hi) = decide (v / 65536 ≤ (hi - 1) / 65536) from
      decide_eq_decide.mpr (by unfold nChunks; omega)]
  rfl

/-- `e`: a range mutator does nothing for an empty range and else walks over the chunks of the range -/
theorem range_alter_rep {op : Bool → Bool → Bool} {F : Nat → Nat → Nat → Option Slot → Option Slot}
    (W : ∀ lo hi, lo < hi → AlterSpec op (rangePart lo hi) (F lo hi)) (hop : ∀ p, op p false = p) (r : Rep) (hr : r.wf = true)
    (lo hi : Nat) (hhi : hi ≤ 4294967296) {r' : Rep}
    (e : r' = if hi ≤ lo then r else { cow := r.cow, slots := alterWalk (F lo hi) (lo / 65536) (nChunks lo hi) r.slots }) :
    r'.wf = true ∧ ∀ v, mem r'.toBSet v = op (mem r.toBSet v) (inRange lo hi v) := by
  subst e
  split
  · rename_i hle
    exact ⟨hr, fun v => by rw [inRange_false_of_le hle, hop]⟩
  · have hlh : lo < hi := by omega
    have h := alter_rep (W lo hi hlh) r hr _ _ (walk_bound lo hi hlh hhi) r.cow
    exact ⟨h.1, fun v => by rw [h.2, inRange_rangePart lo hi hlh]⟩

/-! ### `AddRange` -/

theorem mergeSpec_addRange (lo hi : Nat) (hlh : lo < hi) :
    AlterSpec (· || ·) (rangePart lo hi) (addRangeF lo hi) := by
  refine ⟨rfl, fun _ h => .single rfl h (by simp), fun _ h => piece_rangeOfOnes lo hi hlh h (by simp),
    fun _ h => piece_rangeOfOnes lo hi hlh h (by simp), fun sa k ha _ (hk : sa.key = k) => ?_⟩
  rw [presentS, ← hk]
  have hc := (chunk_lt lo hi sa.key hlh).2
  have h := minimizeRun_spec _ (wf_iaddRange' sa.c ha.2 (chunkLo lo sa.key) _ hc)
  exact .wf ha.1 h.1 fun y => by rw [h.2, has_iaddRange _ ha.2 _ _ hc]

/-- **C09**: `AddRange` keeps the bitmap well-formed -/
theorem _root_.RModel.Impl.Rep.wf_addRange (r : Rep) (hr : r.wf = true) (lo hi : Nat) (hhi : hi ≤ 4294967296) : (r.addRange lo hi).wf = true :=
  (range_alter_rep mergeSpec_addRange Bool.or_false r hr lo hi hhi rfl).1

theorem _root_.RModel.Impl.Rep.mem_addRange (r : Rep) (hr : r.wf = true) (lo hi : Nat) (hhi : hi ≤ 4294967296) (v : Nat) :
    mem (r.addRange lo hi).toBSet v = (mem r.toBSet v || inRange lo hi v) :=
  (range_alter_rep mergeSpec_addRange Bool.or_false r hr lo hi hhi rfl).2 v

theorem _root_.RModel.Impl.Rep.toBSet_addRange (r : Rep) (hr : r.wf = true) (lo hi : Nat) (hhi : hi ≤ 4294967296) :
    (r.addRange lo hi).toBSet = BSet.addRange r.toBSet lo hi :=
  canon_ext_sinc _ _ (sinc_rep _) (sinc_addRange _ (sinc_rep r) lo hi)
    (fun v => by rw [Rep.mem_addRange r hr lo hi hhi, BSet.mem_addRange _ (sinc_rep r)])

/-! ### `Flip` -/

theorem mergeSpec_flip (lo hi : Nat) (hlh : lo < hi) :
    AlterSpec (· != ·) (rangePart lo hi) (flipF lo hi) := by
  refine ⟨rfl, fun _ h => .single rfl h (by simp), fun _ h => piece_rangeOfOnes lo hi hlh h (by simp),
    fun _ h => piece_rangeOfOnes lo hi hlh h (by simp), fun sa k ha _ (hk : sa.key = k) => ?_⟩
  rw [presentS, ← hk]
  simp only [flipF, keepOpt_toList]
  have h := inotRange_holds sa.c ha.2 (chunkLo lo sa.key) _ (chunk_lt lo hi sa.key hlh).2
  exact .keep ha.1 h.emptyOrWf h.has

/-- **C09**: `Flip` keeps the bitmap well-formed -/
theorem _root_.RModel.Impl.Rep.wf_flip (r : Rep) (hr : r.wf = true) (lo hi : Nat) (hhi : hi ≤ 4294967296) : (r.flip lo hi).wf = true :=
  (range_alter_rep mergeSpec_flip Bool.bne_false r hr lo hi hhi rfl).1

theorem _root_.RModel.Impl.Rep.mem_flip (r : Rep) (hr : r.wf = true) (lo hi : Nat) (hhi : hi ≤ 4294967296) (v : Nat) :
    mem (r.flip lo hi).toBSet v = (mem r.toBSet v != inRange lo hi v) :=
  (range_alter_rep mergeSpec_flip Bool.bne_false r hr lo hi hhi rfl).2 v

theorem _root_.RModel.Impl.Rep.toBSet_flip (r : Rep) (hr : r.wf = true) (lo hi : Nat) (hhi : hi ≤ 4294967296) :
    (r.flip lo hi).toBSet = BSet.flipRange r.toBSet lo hi :=
  canon_ext_sinc _ _ (sinc_rep _) (sinc_flipRange _ (sinc_rep r) lo hi)
    (fun v => by rw [Rep.mem_flip r hr lo hi hhi, BSet.mem_flipRange _ (sinc_rep r)])

/-! ### `RemoveRange` -/

theorem mergeSpec_removeRange (lo hi : Nat) (_ : lo < hi) :
    AlterSpec (fun p q => p && !q) (rangePart lo hi) (removeRangeF lo hi) := by
  refine ⟨rfl, fun _ h => .single rfl h (by simp), fun _ _ => .nil (by simp), fun _ _ => .nil (by simp),
    fun sa k ha _ (hk : sa.key = k) => ?_⟩
  rw [presentS, ← hk]
  simp only [removeRangeF]
  split
  · -- the whole chunk goes
    rename_i hcond
    refine .nil (fun y => ?_)
    show (sa.c.has y && !inRange (chunkLo lo sa.key) (chunkHi hi sa.key) y) = false
    rw [hcond.2.1, hcond.2.2]
    cases hh : sa.c.has y with
    | false => rfl
    | true =>
      have := bounded_of_wf ha.2 y hh
      simp [inRange]; omega
  · rcases emptyOrLoose_iremoveRange sa.c ha.2 (chunkLo lo sa.key) (chunkHi hi sa.key) with ⟨he, hh⟩ | ⟨he, hl⟩
    · rw [he, if_pos rfl]
      exact .nil (fun y => (has_iremoveRange _ ha.2 _ _ y).symm.trans (hh y))
    · rw [he, if_neg Bool.false_ne_true]
      exact .wf ha.1 (minimizeRun_spec _ hl).1 fun y => by
        rw [(minimizeRun_spec _ hl).2, has_iremoveRange _ ha.2]

/-- **C09**: `RemoveRange` keeps the bitmap well-formed -/
theorem _root_.RModel.Impl.Rep.wf_removeRange (r : Rep) (hr : r.wf = true) (lo hi : Nat) : (r.removeRange lo hi).wf = true :=
  (range_alter_rep mergeSpec_removeRange (fun p => by simp) r hr lo _ (Nat.min_le_right hi _) rfl).1

theorem _root_.RModel.Impl.Rep.mem_removeRange (r : Rep) (hr : r.wf = true) (lo hi : Nat) (v : Nat) :
    mem (r.removeRange lo hi).toBSet v = (mem r.toBSet v && !inRange lo (min hi 4294967296) v) :=
  (range_alter_rep mergeSpec_removeRange (fun p => by simp) r hr lo _ (Nat.min_le_right hi _) rfl).2 v

/-- `RemoveRange(lo, hi)` on a well-formed bitmap denotes `BSet.removeRange` (with `hi` clamped to 2^32, as the L1 command) -/
theorem _root_.RModel.Impl.Rep.toBSet_removeRange (r : Rep) (hr : r.wf = true) (lo hi : Nat) :
    (r.removeRange lo hi).toBSet = BSet.removeRange r.toBSet lo (min hi 4294967296) :=
  canon_ext_sinc _ _ (sinc_rep _) (sinc_removeRange _ (sinc_rep r) lo _)
    (fun v => by rw [Rep.mem_removeRange r hr lo hi, BSet.mem_removeRange _ (sinc_rep r)])

/-- in the documented domain `hi ≤ 2^32` no clamping happens -/
theorem _root_.RModel.Impl.Rep.toBSet_removeRange' (r : Rep) (hr : r.wf = true) (lo hi : Nat) (hhi : hi ≤ 4294967296) :
    (r.removeRange lo hi).toBSet = BSet.removeRange r.toBSet lo hi := by
  rw [Rep.toBSet_removeRange r hr, Nat.min_eq_left hhi]

/-! ### the in-place binary walks -/

theorem unionedWritable_holds (s : Slot) (c2 : Cont) (hs : s.c.wf = true) (h2 : c2.wf = true) :
    (unionedWritable s c2).Holds fun y => s.c.has y || c2.has y := by
  unfold unionedWritable
  split
  · exact or2_holds _ _ hs h2
  · exact ior2_holds _ _ hs h2

/-- a kernel result known to have a member, stored whatever `isEmpty()` would say -/
theorem _root_.RModel.Impl.Piece.ofHolds {k : Nat} {p : Nat → Bool} {c : Cont} {fl : Bool} (hk : k < 65536) (h : c.Holds p)
    {y : Nat} (hy : p y = true) : Piece slotV Slot.Wf k p [{ key := k, c := c, flag := fl }] :=
  .wf hk (h.nw.wf_of_has ((h.has y).trans hy)) h.has

/-- the model has the in-place `And` twice, here and as the step of `FastAnd` (`RModel/Impl/LazyOps.lean`): same kernel
(`iand2_eq_aggIand2`), same walk, so `Rep.iand` has what `RProofs/LazyOps.lean` shows of `Rep.aggIand2` -/
theorem iandSlots2_eq_iandSlots (a b : List Slot) : iandSlots2 a b = iandSlots a b := by
  fun_induction iandSlots2 a b <;> simp [iandSlots, iand2_eq_aggIand2, *]

theorem _root_.RModel.Impl.Rep.iand_eq_aggIand2 (a b : Rep) : a.iand b = a.aggIand2 b :=
  congrArg (Rep.mk a.cow) (iandSlots2_eq_iandSlots _ _)

theorem iandNotSlots2_eq (a b : List Slot) :
    iandNotSlots2 a b = mergeWalk slotV slotV keepS dropS dropS
      (keepIf Cont.iandNot2) a b := by
  fun_induction iandNotSlots2 a b <;> simp [mergeWalk, keepS, dropS, keepIf, *]
  exact keep_eq _ _ _

theorem iorSlots2_eq (c1 c2 : Bool) (a b : List Slot) :
    iorSlots2 c1 c2 a b = mergeWalk slotV slotV keepS cloneS
      (fun s => [appendCopySlot c1 c2 s])
      (always unionedWritable) a b := by
  fun_induction iorSlots2 c1 c2 a b <;> simp [mergeWalk, keepS, cloneS, always, List.map_eq_flatMap, *]

theorem ixorSlots2_eq (c1 c2 : Bool) (a b : List Slot) :
    ixorSlots2 c1 c2 a b = mergeWalk slotV slotV keepS cloneS
      (fun s => [appendCopySlot c1 c2 s]) (keepIf Cont.ixor2) a b := by
  fun_induction ixorSlots2 c1 c2 a b <;> simp [mergeWalk, keepS, cloneS, keepIf, List.map_eq_flatMap, *]
  exact keep_eq _ _ _

theorem mergeSpec_iandNot : MergeSpec slotV slotV slotV (fun p q => p && !q) Slot.Wf Slot.Wf Slot.Wf keepS
    dropS dropS (keepIf Cont.iandNot2) :=
  ⟨rfl, fun _ h => .single rfl h (by simp), fun _ _ => .nil (by simp), fun _ _ => .nil (by simp),
    .kernel (f := fun p q => p && !q) iandNot2_holds⟩

theorem mergeSpec_ior (c1 c2 : Bool) : MergeSpec slotV slotV slotV (· || ·) Slot.Wf Slot.Wf Slot.Wf keepS
    cloneS (fun s => [appendCopySlot c1 c2 s])
    (always unionedWritable) :=
  ⟨rfl, fun _ h => .single rfl h (by simp), fun _ h => .single rfl h (by simp),
    fun _ h => .single rfl h (by simp [appendCopySlot]),
    fun _ _ ha hb _ => have ⟨y, hy⟩ := wf_has_member _ ha.2
      .ofHolds ha.1 (unionedWritable_holds _ _ ha.2 hb.2) (y := y) (Bool.or_eq_true_iff.mpr (Or.inl hy))⟩

theorem mergeSpec_ixor (c1 c2 : Bool) : MergeSpec slotV slotV slotV (· != ·) Slot.Wf Slot.Wf Slot.Wf keepS
    cloneS (fun s => [appendCopySlot c1 c2 s])
    (keepIf Cont.ixor2) :=
  ⟨rfl, fun _ h => .single rfl h (by simp), fun _ h => .single rfl h (by simp),
    fun _ h => .single rfl h (by simp [appendCopySlot]),
    .kernel ixor2_holds⟩

/-! ### in-place `And`, `Or`, `Xor`, `AndNot`: well-formedness (C09) and set semantics -/

theorem _root_.RModel.Impl.Rep.wf_iand (a b : Rep) (ha : a.wf = true) (hb : b.wf = true) : (a.iand b).wf = true :=
  Rep.iand_eq_aggIand2 a b ▸ Rep.wf_aggIand2 a b ha hb
theorem _root_.RModel.Impl.Rep.wf_ior (a b : Rep) (ha : a.wf = true) (hb : b.wf = true) : (a.ior b).wf = true :=
  ((mergeSpec_ior _ _).rep (r := a.ior b) (iorSlots2_eq _ _ _ _) ha hb).1
theorem _root_.RModel.Impl.Rep.wf_ixor (a b : Rep) (ha : a.wf = true) (hb : b.wf = true) : (a.ixor b).wf = true :=
  ((mergeSpec_ixor _ _).rep (r := a.ixor b) (ixorSlots2_eq _ _ _ _) ha hb).1
theorem _root_.RModel.Impl.Rep.wf_iandNot (a b : Rep) (ha : a.wf = true) (hb : b.wf = true) : (a.iandNot b).wf = true :=
  (mergeSpec_iandNot.rep (r := a.iandNot b) (iandNotSlots2_eq _ _) ha hb).1

theorem _root_.RModel.Impl.Rep.toBSet_iand (a b : Rep) (ha : a.wf = true) (hb : b.wf = true) :
    (a.iand b).toBSet = BSet.inter a.toBSet b.toBSet :=
  Rep.iand_eq_aggIand2 a b ▸ Rep.toBSet_aggIand2 a b ha hb

theorem _root_.RModel.Impl.Rep.toBSet_ior (a b : Rep) (ha : a.wf = true) (hb : b.wf = true) :
    (a.ior b).toBSet = BSet.union a.toBSet b.toBSet :=
  ((mergeSpec_ior _ _).rep (r := a.ior b) (iorSlots2_eq _ _ _ _) ha hb).2

/-- in-place `Xor` of two well-formed bitmaps (different objects) denotes the symmetric difference -/
theorem _root_.RModel.Impl.Rep.toBSet_ixor (a b : Rep) (ha : a.wf = true) (hb : b.wf = true) :
    (a.ixor b).toBSet = BSet.xor a.toBSet b.toBSet :=
  ((mergeSpec_ixor _ _).rep (r := a.ixor b) (ixorSlots2_eq _ _ _ _) ha hb).2

/-- in-place `AndNot` of two well-formed bitmaps (different objects) denotes the difference -/
theorem _root_.RModel.Impl.Rep.toBSet_iandNot (a b : Rep) (ha : a.wf = true) (hb : b.wf = true) :
    (a.iandNot b).toBSet = BSet.diff a.toBSet b.toBSet :=
  (mergeSpec_iandNot.rep (r := a.iandNot b) (iandNotSlots2_eq _ _) ha hb).2

theorem _root_.RModel.Impl.Rep.mem_iand (a b : Rep) (ha : a.wf = true) (hb : b.wf = true) (x : Nat) :
    mem (a.iand b).toBSet x = (mem a.toBSet x && mem b.toBSet x) := by
  rw [Rep.toBSet_iand a b ha hb, mem_inter _ _ (sinc_rep a) (sinc_rep b)]

theorem _root_.RModel.Impl.Rep.mem_ior (a b : Rep) (ha : a.wf = true) (hb : b.wf = true) (x : Nat) :
    mem (a.ior b).toBSet x = (mem a.toBSet x || mem b.toBSet x) := by
  rw [Rep.toBSet_ior a b ha hb, mem_union _ _ (sinc_rep a) (sinc_rep b)]

theorem _root_.RModel.Impl.Rep.mem_ixor (a b : Rep) (ha : a.wf = true) (hb : b.wf = true) (x : Nat) :
    mem (a.ixor b).toBSet x = (mem a.toBSet x != mem b.toBSet x) := by
  rw [Rep.toBSet_ixor a b ha hb, mem_xor _ _ (sinc_rep a) (sinc_rep b)]

theorem _root_.RModel.Impl.Rep.mem_iandNot (a b : Rep) (ha : a.wf = true) (hb : b.wf = true) (x : Nat) :
    mem (a.iandNot b).toBSet x = (mem a.toBSet x && !mem b.toBSet x) := by
  rw [Rep.toBSet_iandNot a b ha hb, mem_diff _ _ (sinc_rep a) (sinc_rep b)]

/-! ### the same object on both sides: `Clear()` agrees with the mathematics -/

theorem _root_.RModel.Impl.Rep.wf_cleared : Rep.cleared.wf = true := rfl

/-- `x.Xor(x)` / `x.AndNot(x)` leave the empty set -/
theorem _root_.RModel.Impl.Rep.toBSet_cleared : Rep.cleared.toBSet = [] := rfl

theorem _root_.RModel.Impl.Rep.cleared_xor_self (a : Rep) : BSet.xor a.toBSet a.toBSet = Rep.cleared.toBSet := by
  refine canon_ext_sinc _ _ (sinc_combine _ _ _ _ _ (sinc_rep a) (sinc_rep a)) (by simp [Rep.toBSet_cleared, SInc]) (fun x => ?_)
  rw [mem_xor _ _ (sinc_rep a) (sinc_rep a), Rep.toBSet_cleared]
  simp [mem]

theorem _root_.RModel.Impl.Rep.cleared_diff_self (a : Rep) : BSet.diff a.toBSet a.toBSet = Rep.cleared.toBSet := by
  refine canon_ext_sinc _ _ (sinc_combine _ _ _ _ _ (sinc_rep a) (sinc_rep a)) (by simp [Rep.toBSet_cleared, SInc]) (fun x => ?_)
  rw [mem_diff _ _ (sinc_rep a) (sinc_rep a), Rep.toBSet_cleared]
  simp [mem]

/-! ### the argument of an in-place binary operation: only flags change -/

/-- `Or` / `Xor` leave the keys and containers of their argument alone -/
theorem _root_.RModel.Impl.Rep.shareTail_same (a b : Rep) :
    (a.shareTail b).cow = b.cow ∧ (a.shareTail b).slots.map (fun s => (s.key, s.c)) = b.slots.map (fun s => (s.key, s.c)) := by
  unfold Rep.shareTail
  split
  · refine ⟨rfl, ?_⟩
    simp only [List.map_map]
    apply List.map_congr_left
    intro s _
    simp only [Function.comp]
    split <;> rfl
  · exact ⟨rfl, rfl⟩

theorem toBSet_of_same (r1 r2 : Rep)
    (h : r1.slots.map (fun s => (s.key, s.c)) = r2.slots.map (fun s => (s.key, s.c))) : r1.toBSet = r2.toBSet := by
  have := congrArg (List.map fun p : Nat × Cont => p.2.toBSet (p.1 * 65536)) h
  simp only [List.map_map] at this
  exact congrArg unionAll this

theorem wf_of_same (r1 r2 : Rep)
    (h : r1.slots.map (fun s => (s.key, s.c)) = r2.slots.map (fun s => (s.key, s.c))) : r1.wf = r2.wf := by
  have hk := congrArg (List.map (·.1)) h
  have ha := congrArg (List.all · fun p => decide (p.1 < 65536) && p.2.wf) h
  simp only [List.map_map, List.all_map] at hk ha
  unfold Rep.wf
  exact congr (congrArg and (congrArg strictInc hk)) ha

/-- the argument of `Or` / `Xor` denotes the same set afterwards (no hypotheses) -/
theorem _root_.RModel.Impl.Rep.toBSet_shareTail (a b : Rep) : (a.shareTail b).toBSet = b.toBSet :=
  toBSet_of_same _ _ (Rep.shareTail_same a b).2

/-- … and stays well-formed -/
theorem _root_.RModel.Impl.Rep.wf_shareTail (a b : Rep) : (a.shareTail b).wf = b.wf :=
  wf_of_same _ _ (Rep.shareTail_same a b).2

/-! ### `Clone`, `SetCopyOnWrite`, `CloneCopyOnWriteContainers`: the set and well-formedness are untouched

(`Rep.toBSet_clone`, `Rep.wf_clone`, `Rep.toBSet_cloneSrc` are in `RProofs/LazyOps.lean`.) -/

/-- the SOURCE of a `Clone` stays well-formed (only flags are raised) -/
theorem _root_.RModel.Impl.Rep.wf_cloneSrc (r : Rep) : r.cloneSrc.wf = r.wf := by
  unfold Rep.cloneSrc
  split
  · simp only [Rep.wf, List.map_map, List.all_map]; rfl
  · rfl

theorem _root_.RModel.Impl.Rep.toBSet_setCow (r : Rep) (v : Bool) : (r.setCow v).toBSet = r.toBSet := rfl
theorem _root_.RModel.Impl.Rep.wf_setCow (r : Rep) (v : Bool) : (r.setCow v).wf = r.wf := rfl

theorem _root_.RModel.Impl.Rep.toBSet_detach (r : Rep) : r.detach.toBSet = r.toBSet := by
  simp only [Rep.detach, Rep.toBSet, List.map_map]; rfl

theorem _root_.RModel.Impl.Rep.wf_detach (r : Rep) : r.detach.wf = r.wf := by
  simp only [Rep.detach, Rep.wf, List.map_map, List.all_map]; rfl

theorem _root_.RModel.Impl.Rep.flag_detach {r : Rep} {s : Slot} (hs : s ∈ r.detach.slots) : s.flag = false := by
  obtain ⟨_, _, rfl⟩ := List.mem_map.mp hs; rfl

/-! ### `RunOptimize` -/

theorem runOptimize_spec (r : Rep) (hr : r.wf = true) : r.runOptimize.wf = true ∧ r.runOptimize.toBSet = r.toBSet :=
  have hw := (slotsWf_iff r).mp hr
  Rep.map_spec (P := Slot.Wf) rfl hw.sorted hw.ok (fun _ => Slot.Wf.bounded) fun _ h =>
    ⟨rfl, ⟨h.1, wf_toEfficient _ h.2⟩, has_toEfficient _ h.2⟩

/-- **C09**: `RunOptimize` keeps the bitmap well-formed -/
theorem _root_.RModel.Impl.Rep.wf_runOptimize (r : Rep) (hr : r.wf = true) : r.runOptimize.wf = true :=
  (runOptimize_spec r hr).1

theorem _root_.RModel.Impl.Rep.toBSet_runOptimize (r : Rep) (hr : r.wf = true) : r.runOptimize.toBSet = r.toBSet :=
  (runOptimize_spec r hr).2

end RepMut

end RModel.Impl
