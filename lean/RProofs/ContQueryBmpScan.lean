import RProofs.ContQueryGlue
/-!
Bitmap-container word scans of the query kernels (`RModel/Impl/ContQuery.lean`): `contains`, `minimum`, `maximum`,
`NextSetBit`, `NextUnsetBit`, `uPrevSetBit`, `previousAbsentValue` satisfy the characterisations of
`RProofs/ContQueryGlue.lean` for the membership test `testBit ws` (`tz` and `lz` of one word: `RProofs/Words.lean`).
-/
namespace RModel.Impl
open RModel RModel.BSet ContOps ContQuery

/-! ### `contains` -/

theorem bmpContains_spec (ws : List (BitVec 64)) (x : Nat) :
    decide (word ws (x / 64) &&& (1#64 <<< (x % 64)) ≠ 0#64) = testBit ws x := by
  have hx : x % 64 < 64 := Nat.mod_lt _ (by omega)
  have := and_one_shift_ne_zero (word ws (x / 64)) (x % 64) hx
  cases hb : testBit ws x with
  | true => exact decide_eq_true (this.2 hb)
  | false =>
    apply decide_eq_false
    intro hc
    have := this.1 hc
    unfold testBit at hb; unfold word at this
    rw [hb] at this; cases this

/-! ### the scans, uniformly in `neg` -/

/-- the word as the scans see it: complemented for the `Unset` / `Absent` variants -/
def fw (neg : Bool) (w : BitVec 64) : BitVec 64 := if neg then ~~~w else w

/-- what the scans look for: a set bit (`neg = false`) or an unset bit (`neg = true`) -/
def hit (neg : Bool) (ws : List (BitVec 64)) (u : Nat) : Bool := testBit ws u != neg

theorem hit_false (ws : List (BitVec 64)) (u : Nat) : hit false ws u = testBit ws u := by simp [hit]
theorem hit_true (ws : List (BitVec 64)) (u : Nat) : hit true ws u = !testBit ws u := by
  cases h : testBit ws u <;> simp [hit, h]

theorem hit_eq (neg : Bool) (ws : List (BitVec 64)) (u : Nat) :
    hit neg ws u = (fw neg (word ws (u / 64))).getLsbD (u % 64) := by
  have : u % 64 < 64 := Nat.mod_lt _ (by omega)
  cases neg <;> simp [hit, fw, testBit, word, this]

theorem scanUp_cons (neg : Bool) (x : Nat) (w : BitVec 64) (t : List (BitVec 64)) :
    scanUp neg x (w :: t) = if fw neg w ≠ 0#64 then some (x * 64 + tz (fw neg w)) else scanUp neg (x + 1) t := rfl

theorem scanDown_succ (neg : Bool) (ws : List (BitVec 64)) (x : Nat) :
    scanDown neg ws (x + 1) =
      if fw neg (word ws x) ≠ 0#64 then some (x * 64 + 63 - lz (fw neg (word ws x))) else scanDown neg ws x := rfl

/-- the first word of the upward scans: `w >> (i % 64)` -/
theorem up_word (neg : Bool) (ws : List (BitVec 64)) (i : Nat) (w : BitVec 64)
    (hw : w = fw neg (word ws (i / 64)) >>> (i % 64)) :
    (w ≠ 0#64 → hit neg ws (i + tz w) = true ∧ ∀ u, i ≤ u → u < i + tz w → hit neg ws u = false) ∧
    (¬ w ≠ 0#64 → ∀ u, i ≤ u → u < 64 * (i / 64 + 1) → hit neg ws u = false) := by
  -- bit `u - i` of the shifted word is the bit of `u`, for `u` from `i` to the end of its word
  have key : ∀ u, i ≤ u → u < 64 * (i / 64 + 1) → hit neg ws u = w.getLsbD (u - i) := by
    intro u h1 h2
    rw [hw, hit_eq, BitVec.getLsbD_ushiftRight, show u / 64 = i / 64 by omega, show i % 64 + (u - i) = u % 64 by omega]
  constructor
  · intro h
    obtain ⟨a, b, c⟩ := tz_spec w h
    generalize tz w = t at a b c ⊢
    have hlt : i % 64 + t < 64 := by
      apply Classical.byContradiction
      intro hc
      rw [hw, BitVec.getLsbD_ushiftRight, BitVec.getLsbD_of_ge _ _ (by omega)] at b; cases b
    constructor
    · rw [key _ (by omega) (by omega), Nat.add_sub_cancel_left]; exact b
    · intro u h1 h2
      rw [key u h1 (by omega)]; exact c _ (by omega)
  · intro h u h1 h2
    rw [key u h1 h2]; exact bits_of_eq_zero _ h _

/-- the first word of the downward scans: `w << (63 - i % 64)` -/
theorem down_word (neg : Bool) (ws : List (BitVec 64)) (i : Nat) (w : BitVec 64)
    (hw : w = fw neg (word ws (i / 64)) <<< (63 - i % 64)) :
    (w ≠ 0#64 →
      lz w ≤ i % 64 ∧ hit neg ws (i - lz w) = true ∧ ∀ u, i - lz w < u → u ≤ i → hit neg ws u = false) ∧
    (¬ w ≠ 0#64 → ∀ u, 64 * (i / 64) ≤ u → u ≤ i → hit neg ws u = false) := by
  -- bit `63 - (i - u)` of the shifted word is the bit of `u`, for `u` from the start of the word of `i` up to `i`
  have key : ∀ u, 64 * (i / 64) ≤ u → u ≤ i → hit neg ws u = w.getLsbD (63 - (i - u)) := by
    intro u h1 h2
    rw [hw, hit_eq, BitVec.getLsbD_shiftLeft, show u / 64 = i / 64 by omega,
      show 63 - (i - u) - (63 - i % 64) = u % 64 by omega, decide_eq_true (show 63 - (i - u) < 64 by omega),
      decide_eq_false (show ¬ 63 - (i - u) < 63 - i % 64 by omega)]
    rfl
  constructor
  · intro h
    obtain ⟨a, b, c⟩ := lz_spec w h
    generalize lz w = l at a b c ⊢
    have hle : l ≤ i % 64 := by
      apply Classical.byContradiction
      intro hc
      rw [hw, BitVec.getLsbD_shiftLeft, decide_eq_true (show 63 - l < 63 - i % 64 by omega)] at b
      simp at b
    refine ⟨hle, ?_, fun u h1 h2 => ?_⟩
    · rw [key _ (by omega) (by omega), show i - (i - l) = l by omega]; exact b
    · rw [key u (by omega) h2]; exact c _ (by omega)
  · intro h u h1 h2
    rw [key u h1 h2]; exact bits_of_eq_zero _ h _

/-- the scan of the words with index `≥ x`; a step on word `x` is `up_word` at its first bit -/
theorem scanUp_spec (neg : Bool) (ws : List (BitVec 64)) : ∀ (t : List (BitVec 64)) (x : Nat), ws.drop x = t →
    (∀ v, scanUp neg x t = some v →
      64 * x ≤ v ∧ v < 64 * ws.length ∧ hit neg ws v = true ∧ ∀ u, 64 * x ≤ u → u < v → hit neg ws u = false) ∧
    (scanUp neg x t = none → ∀ u, 64 * x ≤ u → u < 64 * ws.length → hit neg ws u = false) := by
  intro t
  induction t with
  | nil =>
    intro x hd
    have : ws.length ≤ x := by simpa using hd
    exact ⟨fun v h => (nomatch h), fun _ u a b => by omega⟩
  | cons w t ih =>
    intro x hd
    obtain ⟨hx, hw, ht⟩ := word_of_drop hd
    obtain ⟨H1, H2⟩ := up_word neg ws (64 * x) _ rfl
    rw [Nat.mul_div_cancel_left x (by omega : 0 < 64), Nat.mul_mod_right, BitVec.ushiftRight_zero, hw] at H1 H2
    obtain ⟨i1, i2⟩ := ih (x + 1) ht
    rw [scanUp_cons]
    by_cases h : fw neg w ≠ 0#64
    · rw [if_pos h]
      refine ⟨fun v hv => ?_, fun hh => by cases hh⟩
      cases hv
      have := (tz_spec _ h).1
      rw [Nat.mul_comm x 64]
      exact ⟨by omega, by omega, H1 h⟩
    · rw [if_neg h]
      have hz := H2 h
      constructor
      · intro v hv
        obtain ⟨a, b, c, e⟩ := i1 v hv
        exact ⟨by omega, b, c, fun u h1 h2 => if hh : u < 64 * (x + 1) then hz u h1 hh else e u (by omega) h2⟩
      · exact fun hn u h1 h2 => if hh : u < 64 * (x + 1) then hz u h1 hh else i2 hn u (by omega) h2

/-- the scan of the words with index `< x`; a step on word `x` is `down_word` at its last bit -/
theorem scanDown_spec (neg : Bool) (ws : List (BitVec 64)) : ∀ x : Nat,
    (∀ v, scanDown neg ws x = some v →
      v < 64 * x ∧ hit neg ws v = true ∧ ∀ u, v < u → u < 64 * x → hit neg ws u = false) ∧
    (scanDown neg ws x = none → ∀ u, u < 64 * x → hit neg ws u = false) := by
  intro x
  induction x with
  | zero => exact ⟨fun v h => (nomatch h), fun _ u hu => by omega⟩
  | succ x ih =>
    obtain ⟨H1, H2⟩ := down_word neg ws (64 * x + 63) _ rfl
    rw [show (64 * x + 63) / 64 = x by omega, show 63 - (64 * x + 63) % 64 = 0 by omega, BitVec.shiftLeft_zero] at H1 H2
    obtain ⟨i1, i2⟩ := ih
    rw [scanDown_succ]
    by_cases h : fw neg (word ws x) ≠ 0#64
    · rw [if_pos h]
      refine ⟨fun v hv => ?_, fun hh => by cases hh⟩
      cases hv
      obtain ⟨-, b, c⟩ := H1 h
      rw [Nat.mul_comm x 64]
      exact ⟨by omega, b, fun u h1 h2 => c u h1 (by omega)⟩
    · rw [if_neg h]
      have hz := H2 h
      constructor
      · intro v hv
        obtain ⟨a, c, e⟩ := i1 v hv
        exact ⟨by omega, c, fun u h1 h2 => if hh : u < 64 * x then e u h1 hh else hz u (by omega) (by omega)⟩
      · exact fun hn u hu => if hh : u < 64 * x then i2 hn u hh else hz u (by omega) (by omega)

/-! ### the Go functions: one search upward and one downward, for set bits (`neg = false`) or unset bits -/

/-- `NextSetBit(i)` / `NextUnsetBit(i)` from a word inside the bitmap: the rest of word `i / 64`, then the words above;
`d` is the answer when nothing is found -/
theorem up_search (neg : Bool) (ws : List (BitVec 64)) (i : Nat) (d r : Int)
    (hr : r = if fw neg (word ws (i / 64)) >>> (i % 64) ≠ 0#64
      then ((i + tz (fw neg (word ws (i / 64)) >>> (i % 64)) : Nat) : Int)
      else match scanUp neg (i / 64 + 1) (ws.drop (i / 64 + 1)) with | some v => (v : Int) | none => d) :
    (∃ v : Nat, r = (v : Int) ∧ i ≤ v ∧ hit neg ws v = true ∧ ∀ u, i ≤ u → u < v → hit neg ws u = false) ∨
    (r = d ∧ ∀ u, i ≤ u → u < 64 * ws.length → hit neg ws u = false) := by
  subst hr
  obtain ⟨H1, H2⟩ := up_word neg ws i _ rfl
  obtain ⟨S1, S2⟩ := scanUp_spec neg ws _ (i / 64 + 1) rfl
  by_cases h : fw neg (word ws (i / 64)) >>> (i % 64) ≠ 0#64
  · rw [if_pos h]
    exact Or.inl ⟨_, rfl, by omega, H1 h⟩
  · rw [if_neg h]
    have hz := H2 h
    cases hs : scanUp neg (i / 64 + 1) (List.drop (i / 64 + 1) ws) with
    | some v =>
      obtain ⟨a, -, c, e⟩ := S1 v hs
      refine Or.inl ⟨v, rfl, by omega, c, fun u h1 h2 => ?_⟩
      by_cases hh : u < 64 * (i / 64 + 1)
      · exact hz u h1 hh
      · exact e u (by omega) h2
    | none =>
      refine Or.inr ⟨rfl, fun u h1 h2 => ?_⟩
      by_cases hh : u < 64 * (i / 64 + 1)
      · exact hz u h1 hh
      · exact S2 hs u (by omega) h2

/-- `uPrevSetBit(i)` / `previousAbsentValue(i)` from a word inside the bitmap: the part of word `i / 64` up to bit
`i % 64`, then the words below -/
theorem down_search (neg : Bool) (ws : List (BitVec 64)) (i : Nat) :
    IsPrev (hit neg ws) i
      (if fw neg (word ws (i / 64)) <<< (63 - i % 64) ≠ 0#64
        then (i : Int) - lz (fw neg (word ws (i / 64)) <<< (63 - i % 64))
        else match scanDown neg ws (i / 64) with | some v => (v : Int) | none => -1) := by
  obtain ⟨H1, H2⟩ := down_word neg ws i _ rfl
  obtain ⟨S1, S2⟩ := scanDown_spec neg ws (i / 64)
  by_cases h : fw neg (word ws (i / 64)) <<< (63 - i % 64) ≠ 0#64
  · rw [if_pos h]
    obtain ⟨l, a, b⟩ := H1 h
    exact Or.inl ⟨_, by omega, by omega, a, b⟩
  · rw [if_neg h]
    have hz := H2 h
    cases hs : scanDown neg ws (i / 64) with
    | some v =>
      obtain ⟨a, c, e⟩ := S1 v hs
      refine Or.inl ⟨v, rfl, by omega, c, fun u h1 h2 => ?_⟩
      by_cases hh : u < 64 * (i / 64)
      · exact e u h1 hh
      · exact hz u (by omega) h2
    | none =>
      refine Or.inr ⟨rfl, fun u h1 => ?_⟩
      by_cases hh : u < 64 * (i / 64)
      · exact S2 hs u hh
      · exact hz u (by omega) h1

theorem bmpNextSetBit_spec (ws : List (BitVec 64)) (x : Nat) : IsNext (testBit ws) x (bmpNextSetBit ws x) := by
  unfold bmpNextSetBit
  dsimp only
  split
  · next hx => exact Or.inr ⟨rfl, fun u hu => testBit_of_ge ws u (by omega)⟩
  rcases up_search false ws x (-1) _ rfl with ⟨v, hr, a, c, e⟩ | ⟨hr, hn⟩
  · exact Or.inl ⟨v, hr, a, (hit_false ws v).symm.trans c, fun u h1 h2 => (hit_false ws u).symm.trans (e u h1 h2)⟩
  · refine Or.inr ⟨hr, fun u h1 => ?_⟩
    by_cases h3 : u < 64 * ws.length
    · exact (hit_false ws u).symm.trans (hn u h1 h3)
    · exact testBit_of_ge ws u (by omega)

theorem bmpNextUnsetBit_spec (ws : List (BitVec 64)) (x : Nat) : IsNextAbsent (testBit ws) x (bmpNextUnsetBit ws x) := by
  unfold bmpNextUnsetBit
  dsimp only
  split
  · next hx => exact isNextAbsent_self (testBit_of_ge ws x (by omega))
  rcases up_search true ws x ((ws.length * 64 : Nat) : Int) _ rfl with ⟨v, hr, a, c, e⟩ | ⟨hr, hn⟩
  · simp only [hit_true, Bool.not_eq_true', Bool.not_eq_false'] at c e
    exact ⟨v, hr, a, c, e⟩
  · simp only [hit_true, Bool.not_eq_false'] at hn
    exact ⟨ws.length * 64, hr, by omega, testBit_of_ge ws _ (by omega), fun u h1 h2 => hn u h1 (by omega)⟩

/-- only for `x` inside the bitmap: above it `uPrevSetBit` answers `-1` without looking -/
theorem bmpPrevSetBit_spec (ws : List (BitVec 64)) (x : Nat) (hx : x < 64 * ws.length) :
    IsPrev (testBit ws) x (bmpPrevSetBit ws x) := by
  unfold bmpPrevSetBit
  dsimp only
  rw [if_neg (by omega), ← funext (hit_false ws)]
  exact down_search false ws x

theorem bmpPreviousAbsentValue_spec (ws : List (BitVec 64)) (x : Nat) :
    IsPrevAbsent (testBit ws) x (bmpPreviousAbsentValue ws x) := by
  unfold bmpPreviousAbsentValue
  dsimp only
  split
  · next hx => exact isPrevAbsent_self (testBit_of_ge ws x (by omega))
  have h := down_search true ws x
  simp only [IsPrev, hit_true, Bool.not_eq_true', Bool.not_eq_false'] at h
  exact h

theorem bmpMinFrom_scanUp : ∀ (t : List (BitVec 64)) (i v : Nat),
    scanUp false i t = some v → bmpMinFrom i t = v % 65536 := by
  intro t
  induction t with
  | nil => intro i v h; simp [scanUp] at h
  | cons w t ih =>
    intro i v h
    simp only [scanUp, Bool.false_eq_true, if_false] at h
    simp only [bmpMinFrom]
    by_cases hw : w ≠ 0#64
    · rw [if_pos hw] at h ⊢
      cases h
      congr 1; omega
    · rw [if_neg hw] at h ⊢
      exact ih _ _ h

theorem bmpMaxFrom_scanDown (ws : List (BitVec 64)) : ∀ (n v : Nat),
    scanDown false ws n = some v → bmpMaxFrom ws n = v % 65536 := by
  intro n
  induction n with
  | zero => intro v h; simp [scanDown] at h
  | succ n ih =>
    intro v h
    simp only [scanDown, Bool.false_eq_true, if_false] at h
    simp only [bmpMaxFrom]
    by_cases hw : word ws n ≠ 0#64
    · rw [if_pos hw] at h ⊢
      cases h
      rfl
    · rw [if_neg hw] at h ⊢
      exact ih _ h

theorem bmpMin_spec (ws : List (BitVec 64)) (hl : ws.length = 1024) (hne : ∃ x, testBit ws x = true) :
    IsMin (testBit ws) (bmpMinFrom 0 ws : Int) := by
  obtain ⟨S1, S2⟩ := scanUp_spec false ws ws 0 rfl
  simp only [hit_false] at S1 S2
  cases hs : scanUp false 0 ws with
  | none =>
    obtain ⟨x, hx⟩ := hne
    have : testBit ws x = false := by
      by_cases h : x < 64 * ws.length
      · exact S2 hs x (by omega) h
      · exact testBit_of_ge ws x (by omega)
    rw [hx] at this; cases this
  | some v =>
    obtain ⟨a, b, c, d⟩ := S1 v hs
    have e : bmpMinFrom 0 ws = v := by
      rw [bmpMinFrom_scanUp ws 0 v hs]; omega
    exact ⟨v, by rw [e], c, fun u hu => d u (by omega) hu⟩

theorem bmpMax_spec (ws : List (BitVec 64)) (hl : ws.length = 1024) (hne : ∃ x, testBit ws x = true) :
    IsMax (testBit ws) (bmpMaxFrom ws ws.length : Int) := by
  obtain ⟨S1, S2⟩ := scanDown_spec false ws ws.length
  simp only [hit_false] at S1 S2
  cases hs : scanDown false ws ws.length with
  | none =>
    obtain ⟨x, hx⟩ := hne
    have : testBit ws x = false := by
      by_cases h : x < 64 * ws.length
      · exact S2 hs x h
      · exact testBit_of_ge ws x (by omega)
    rw [hx] at this; cases this
  | some v =>
    obtain ⟨a, c, d⟩ := S1 v hs
    have e : bmpMaxFrom ws ws.length = v := by
      rw [bmpMaxFrom_scanDown ws _ v hs]; omega
    refine ⟨v, by rw [e], c, ?_⟩
    intro u hu
    by_cases h : u < 64 * ws.length
    · exact d u hu h
    · exact testBit_of_ge ws u (by omega)

end RModel.Impl
