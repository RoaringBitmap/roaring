/-!
Arithmetic of bits on `Nat` that several parts of the development need: an `|||` of numbers with disjoint bits is their
sum, shifts by the chunk widths are products and quotients, what `&&&`, `^^^` with a power of two do.  Nothing here
mentions the model.
-/
namespace RModel.Util

/-! ### disjoint bits: `|||` is `+` -/

theorem or_eq_add {k a b : Nat} (ha : a < 2 ^ k) (hb : b % 2 ^ k = 0) : a ||| b = b + a := by
  have h : b = (b / 2 ^ k) <<< k := by rw [Nat.shiftLeft_eq, Nat.div_mul_cancel (Nat.dvd_of_mod_eq_zero hb)]
  rw [Nat.or_comm, h]
  exact (Nat.shiftLeft_add_eq_or_of_lt ha _).symm

theorem or_hs_eq_add {v hs : Nat} (hv : v < 65536) (hhs : hs % 65536 = 0) : v ||| hs = hs + v :=
  or_eq_add (k := 16) hv hhs

/-! ### keys and low parts: chunks of `2^16` values, buckets of `2^32` -/

theorem shl16 (k : Nat) : k <<< 16 = k * 65536 := by
  rw [Nat.shiftLeft_eq]

/-- (`65536 * k`, not `k * 65536`: `omega` runs into deep recursion on `k * literal` in some goals) -/
theorem shl16c (k : Nat) : k <<< 16 = 65536 * k := by
  rw [shl16, Nat.mul_comm]

theorem or16 (k : Nat) {low : Nat} (h : low < 65536) : k <<< 16 ||| low = 65536 * k + low := by
  rw [← Nat.shiftLeft_add_eq_or_of_lt (by simpa using h), shl16c]

/-- `uint32(v) | mask` of the `fillLeastSignificant16bits` functions, for `mask = key << 16` -/
theorem or_mask (v key : Nat) (hv : v < 65536) : v ||| key <<< 16 = key * 65536 + v := by
  rw [Nat.or_comm, ← Nat.shiftLeft_add_eq_or_of_lt (by simpa using hv), Nat.shiftLeft_eq]

theorem shl16_mod {k : Nat} (h : k < 65536) : (k <<< 16) % 4294967296 = 65536 * k := by
  rw [shl16c]; omega

/-- the value `(uint32(nextKey) << 16) | uint32(emptyContainerVal)` that `Next()` / `PeekNext()` return in a gap -/
theorem gap_value_eq {k ev : Nat} (hk : k < 65536) (hev : ev < 65536) :
    ((k <<< 16) % 4294967296) ||| ev = 65536 * k + ev := by
  rw [Nat.mod_eq_of_lt (by rw [shl16c]; omega), or16 _ hev]

theorem shl32 (k : Nat) : k <<< 32 = k * 4294967296 := by
  rw [Nat.shiftLeft_eq]

theorem shr32 (k : Nat) : k >>> 32 = k / 4294967296 := by
  rw [Nat.shiftRight_eq_div_pow]

/-- `minval & 0xffff0000` keeps the chunk key -/
theorem and_hi_mask (m : Nat) (hm : m < 4294967296) : m &&& 0xffff0000 = m / 65536 * 65536 := by
  have e : (0xffff0000 : Nat) = (2 ^ 16 - 1) <<< 16 := by decide
  rw [e]
  have e2 : m / 65536 * 65536 = (m >>> 16) <<< 16 := by
    rw [Nat.shiftLeft_eq, Nat.shiftRight_eq_div_pow]
  rw [e2]
  apply Nat.eq_of_testBit_eq
  intro i
  rw [Nat.testBit_and, Nat.testBit_shiftLeft, Nat.testBit_shiftLeft, Nat.testBit_shiftRight, Nat.testBit_two_pow_sub_one]
  by_cases h : 16 ≤ i
  · simp only [h, decide_true, Bool.true_and]
    by_cases h2 : i - 16 < 16
    · simp [h2]; congr 1; omega
    · simp only [h2, decide_false, Bool.and_false]
      have : 16 + (i - 16) = i := by omega
      rw [this]
      symm
      apply Nat.testBit_lt_two_pow
      calc m < 2 ^ 32 := hm
        _ ≤ 2 ^ i := Nat.pow_le_pow_right (by omega) (by omega)
  · simp [h]

/-! ### single bits; `|||`, `&&&`, `^^^` with a power of two -/

theorem testBit_eq_beq (x k : Nat) : (x / 2 ^ k % 2 == 1) = x.testBit k := by
  rw [Nat.testBit_eq_decide_div_mod_eq, Bool.beq_eq_decide_eq]

theorem mod_succ_testBit (x j : Nat) : x % 2 ^ (j + 1) = x % 2 ^ j + 2 ^ j * (x.testBit j).toNat := by
  rw [Nat.mod_pow_succ, Nat.toNat_testBit]

theorem lt_two_pow_of_not_testBit (x j : Nat) (h : x < 2 ^ (j + 1)) (hb : x.testBit j = false) : x < 2 ^ j := by
  have e := mod_succ_testBit x j
  rw [Nat.mod_eq_of_lt h, hb] at e
  have : x % 2 ^ j < 2 ^ j := Nat.mod_lt _ (Nat.two_pow_pos j)
  simp at e
  omega

theorem nat_two_pow_xor (k r : Nat) (hr : r < 2^k) : 2^k ^^^ r = 2^k + r := by
  -- quotient and remainder by `2^k` commute with `^^^`
  rw [← Nat.div_add_mod (2^k ^^^ r) (2^k), Nat.xor_div_two_pow, Nat.xor_mod_two_pow, Nat.div_self (Nat.two_pow_pos k),
    Nat.div_eq_of_lt hr, Nat.mod_self, Nat.mod_eq_of_lt hr]
  simp

theorem nat_and_two_pow (n k : Nat) (hn : n < 2^(k+1)) : n &&& 2^k = if 2^k ≤ n then 2^k else 0 := by
  apply Nat.eq_of_testBit_eq
  intro j
  rw [Nat.testBit_and, Nat.testBit_two_pow]
  by_cases hjk : k = j
  · subst hjk
    split
    · rename_i h; simp [Nat.testBit_of_two_pow_le_and_two_pow_add_one_gt h hn]
    · rename_i h; simp [Nat.testBit_lt_two_pow (Nat.lt_of_not_le h)]
  · split <;> simp [hjk]

theorem nat_xor_two_pow (n k : Nat) (hn : n < 2^(k+1)) :
    n ^^^ 2^k = if 2^k ≤ n then n - 2^k else n + 2^k := by
  split
  · obtain ⟨r, rfl⟩ := Nat.exists_eq_add_of_le ‹2^k ≤ n›
    rw [Nat.add_sub_cancel_left, ← nat_two_pow_xor k r (by omega), Nat.xor_comm, ← Nat.xor_assoc, Nat.xor_self,
      Nat.zero_xor]
  · rw [Nat.xor_comm, nat_two_pow_xor k n (by omega), Nat.add_comm]

theorem nat_or_high (e j : Nat) (he : e < 2^j) (hj : j ≤ 64) : e ||| (2^64 - 2^j) = e + (2^64 - 2^j) := by
  have : 2^64 = 2^j * 2^(64-j) := by rw [← Nat.pow_add, Nat.add_sub_cancel' hj]
  rw [this, ← Nat.mul_sub_one, Nat.or_comm, ← Nat.two_pow_add_eq_or_of_lt he, Nat.add_comm]

end RModel.Util
