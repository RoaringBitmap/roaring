import RProofs.Util.List
/-!
Counting below a bound: `cnt p n` is the number of `x < n` with `p x`.  Ranks, cardinalities and range counts of every
level (boundary lists, containers, slots, buckets) are stated with it; this file has its arithmetic: splitting at a point,
intervals on which `p` is constant, disjoint unions, one value inserted or erased, a block `[k·B, (k+1)·B)` read through
`/ B` and `% B`, and the length of a strictly increasing list with the same members.
-/
open RModel.Util
namespace RModel.Impl

def cnt (p : Nat → Bool) (n : Nat) : Nat := ((List.range n).filter p).length

theorem cnt_zero (p : Nat → Bool) : cnt p 0 = 0 := by simp [cnt]

theorem cnt_succ (p : Nat → Bool) (n : Nat) : cnt p (n + 1) = cnt p n + (if p n then 1 else 0) := by
  unfold cnt
  rw [List.range_succ, List.filter_append]
  cases h : p n <;> simp [h]

theorem cnt_mono (p : Nat → Bool) {a b : Nat} (h : a ≤ b) : cnt p a ≤ cnt p b := by
  induction h with
  | refl => exact Nat.le_refl _
  | @step b _ ih => rw [cnt_succ]; omega

theorem cnt_le (p : Nat → Bool) (n : Nat) : cnt p n ≤ n := by
  induction n with
  | zero => simp [cnt_zero]
  | succ n ih => rw [cnt_succ]; split <;> omega

theorem cnt_congr {p q : Nat → Bool} (n : Nat) (h : ∀ x, x < n → p x = q x) : cnt p n = cnt q n := by
  induction n with
  | zero => simp [cnt_zero]
  | succ n ih =>
    rw [cnt_succ, cnt_succ, ih (fun x hx => h x (by omega)), h n (by omega)]

theorem cnt_eq_of_none (p : Nat → Bool) {a b : Nat} (hab : a ≤ b) (h : ∀ u, a ≤ u → u < b → p u = false) :
    cnt p b = cnt p a := by
  induction hab with
  | refl => rfl
  | @step b hab ih =>
    rw [cnt_succ, h b hab (Nat.lt_succ_self b), ih (fun u h1 h2 => h u h1 (Nat.lt_succ_of_lt h2))]; rfl

theorem cnt_eq_of_all (p : Nat → Bool) {a b : Nat} (hab : a ≤ b) (h : ∀ u, a ≤ u → u < b → p u = true) :
    cnt p b = cnt p a + (b - a) := by
  induction hab with
  | refl => (rw [Nat.sub_self]; rfl)
  | @step b hab ih =>
    have : a ≤ b := hab
    rw [cnt_succ, h b hab (Nat.lt_succ_self b), ih (fun u h1 h2 => h u h1 (Nat.lt_succ_of_lt h2)), if_pos rfl]
    omega

theorem cnt_eq_self_iff (p : Nat → Bool) (n : Nat) : cnt p n = n ↔ ∀ x, x < n → p x = true := by
  have := List.length_filter_eq_length_iff (l := List.range n) (p := p)
  rw [List.length_range] at this
  exact this.trans ⟨fun h x hx => h x (List.mem_range.mpr hx), fun h x hx => h x (List.mem_range.mp hx)⟩

theorem cnt_diff_congr {p q : Nat → Bool} {a b : Nat} (hab : a ≤ b) (h : ∀ j, a ≤ j → j < b → q j = p j) :
    cnt q b + cnt p a = cnt p b + cnt q a := by
  induction hab with
  | refl => exact Nat.add_comm _ _
  | @step b hab ih =>
    have := ih (fun j h1 h2 => h j h1 (Nat.lt_succ_of_lt h2))
    rw [cnt_succ, cnt_succ, h b hab (Nat.lt_succ_self b)]
    omega

theorem cnt_lt_of_mem (p : Nat → Bool) {a b : Nat} (hab : a < b) (ha : p a = true) : cnt p a < cnt p b := by
  have h1 : cnt p (a + 1) = cnt p a + 1 := by rw [cnt_succ, ha]; simp
  have h2 := cnt_mono p (show a + 1 ≤ b by omega)
  omega

theorem cnt_add (p : Nat → Bool) (s l : Nat) : cnt p (s + l) = cnt p s + cnt (fun i => p (s + i)) l := by
  induction l with
  | zero => simp [cnt_zero]
  | succ l ih =>
    rw [← Nat.add_assoc, cnt_succ, cnt_succ, ih]
    omega

theorem cnt_zero_of_none (p : Nat → Bool) (n : Nat) (h : ∀ u, u < n → p u = false) : cnt p n = 0 := by
  rw [cnt_eq_of_none p (Nat.zero_le n) (fun u _ hu => h u hu), cnt_zero]

theorem cnt_interval {p q : Nat → Bool} {a b n : Nat} (hab : a ≤ b) (hbn : b ≤ n)
    (h : ∀ j, j < n → q j = (p j && decide (a ≤ j ∧ j < b))) : cnt q n = cnt p b - cnt p a := by
  have h1 : cnt q n = cnt q b := cnt_eq_of_none q hbn (fun u h1 h2 => by rw [h u h2]; simp; omega)
  have h2 : cnt q a = cnt q 0 := cnt_eq_of_none q (Nat.zero_le a) (fun u h1 h2 => by rw [h u (by omega)]; simp; omega)
  have h3 := cnt_diff_congr (p := p) (q := q) hab (fun j h1 h2 => by rw [h j (by omega)]; simp; omega)
  rw [cnt_zero] at h2
  have := cnt_mono p hab
  omega

theorem cnt_shift {p q : Nat → Bool} {s l : Nat}
    (h : ∀ j, j < s + l → q j = (decide (s ≤ j) && p (j - s))) : cnt q (s + l) = cnt p l := by
  have h0 : cnt q s = cnt q 0 := cnt_eq_of_none q (Nat.zero_le s) (fun u h1 h2 => by rw [h u (by omega)]; simp; omega)
  rw [cnt_zero] at h0
  rw [cnt_add, h0, Nat.zero_add]
  apply cnt_congr
  intro x hx
  rw [h (s + x) (by omega)]
  simp

theorem cnt_Icc (q : Nat → Bool) {a b n : Nat} (hab : a ≤ b + 1) (hb : b < n) :
    cnt (fun x => (decide (a ≤ x) && decide (x ≤ b)) && q x) n = cnt q (b + 1) - cnt q a :=
  cnt_interval hab hb (fun j _ => by
    rw [Bool.and_comm]
    simp only [Nat.lt_add_one_iff, Bool.decide_and])

theorem cnt_Ico (lo hi n : Nat) : cnt (fun x => decide (lo ≤ x) && decide (x < hi)) n = min hi n - min lo n := by
  induction n with
  | zero => rw [cnt_zero, Nat.min_zero, Nat.min_zero]
  | succ n ih =>
    rw [cnt_succ, ih]
    by_cases h1 : lo ≤ n
    · rw [decide_eq_true h1, Bool.true_and, Nat.min_eq_left h1, Nat.min_eq_left (Nat.le_succ_of_le h1)]
      by_cases h2 : n < hi
      · rw [decide_eq_true h2, if_pos rfl, Nat.min_eq_right (Nat.le_of_lt h2), Nat.min_eq_right h2]; omega
      · rw [decide_eq_false h2, if_neg Bool.false_ne_true, Nat.min_eq_left (Nat.le_of_not_lt h2),
          Nat.min_eq_left (Nat.le_succ_of_le (Nat.le_of_not_lt h2))]; rfl
    · rw [decide_eq_false h1, Bool.false_and, if_neg Bool.false_ne_true, Nat.min_eq_right (Nat.le_of_not_le h1),
        Nat.min_eq_right (Nat.lt_of_not_le h1), Nat.sub_eq_zero_of_le (Nat.min_le_right ..),
        Nat.sub_eq_zero_of_le (Nat.min_le_right ..)]

theorem cnt_range (a b n : Nat) (hb : b < n) (hab : a ≤ b + 1) :
    cnt (fun x => decide (a ≤ x) && decide (x ≤ b)) n = b + 1 - a := by
  rw [cnt_congr n fun x _ => congrArg (_ && ·) (decide_eq_decide.mpr (Nat.lt_succ_iff (m := x) (n := b)).symm), cnt_Ico]
  omega

theorem cnt_or_disjoint (p q : Nat → Bool) (h : ∀ x, ¬ (p x = true ∧ q x = true)) (n : Nat) :
    cnt (fun x => p x || q x) n = cnt p n + cnt q n := by
  induction n with
  | zero => simp [cnt_zero]
  | succ n ih =>
    rw [cnt_succ, cnt_succ, cnt_succ, ih]
    cases hp : p n
    · simp only [Bool.false_or, Bool.false_eq_true, if_false]; omega
    · have hq : q n = false := by
        cases hq : q n
        · rfl
        · exact absurd ⟨hp, hq⟩ (h n)
      simp only [hq, Bool.or_false, Bool.false_eq_true, if_false]; omega

theorem cnt_and_comm (p q : Nat → Bool) (n : Nat) : cnt (fun x => p x && q x) n = cnt (fun x => q x && p x) n :=
  cnt_congr n (fun _ _ => Bool.and_comm _ _)

theorem cnt_insert (p : Nat → Bool) (x n : Nat) (hx : x < n) :
    cnt (fun y => p y || decide (y = x)) n = cnt p n + (if p x then 0 else 1) := by
  induction n with
  | zero => omega
  | succ n ih =>
    rw [cnt_succ, cnt_succ]
    by_cases h : x < n
    · rw [ih h]
      have : decide (n = x) = false := by apply decide_eq_false; omega
      rw [this, Bool.or_false]; omega
    · have hxn : x = n := by omega
      subst hxn
      rw [cnt_congr (p := fun y => p y || decide (y = x)) (q := p) x (fun y hy => by
        have : decide (y = x) = false := by apply decide_eq_false; omega
        simp [this])]
      cases p x <;> simp

theorem cnt_insert_absent (q : Nat → Bool) (a n : Nat) (ha : a < n) (hq : q a = false) :
    cnt (fun x => decide (x = a) || q x) n = cnt q n + 1 := by
  rw [cnt_congr (q := fun y => q y || decide (y = a)) n (fun y _ => Bool.or_comm _ _), cnt_insert q a n ha, hq]
  rfl

/-- erasing is undone by inserting: from `cnt_insert` for the erased predicate and for `p` -/
theorem cnt_erase (p : Nat → Bool) (x n : Nat) (hx : x < n) :
    cnt (fun y => p y && !decide (y = x)) n + (if p x then 1 else 0) = cnt p n := by
  have h := cnt_insert (fun y => p y && !decide (y = x)) x n hx
  rw [cnt_congr (q := fun y => p y || decide (y = x)) n (fun y _ => by by_cases hy : y = x <;> simp [hy]),
    cnt_insert p x n hx] at h
  cases hp : p x <;> simp [hp] at h ⊢ <;> omega

theorem cnt_insert_gt (p : Nat → Bool) (x n : Nat) (hx : x < n) :
    decide ((cnt (fun y => p y || decide (y = x)) n : Int) > cnt p n) = !p x := by
  rw [cnt_insert _ _ _ hx]
  generalize cnt p n = m
  cases p x <;> simp <;> omega

theorem cnt_erase_lt (p : Nat → Bool) (x n : Nat) (hx : x < n) :
    decide ((cnt (fun y => p y && !decide (y = x)) n : Int) < cnt p n) = p x := by
  rw [← cnt_erase p x n hx]
  generalize cnt _ n = m
  cases p x <;> simp <;> omega

/-! ### one block of a chunked set -/

theorem block_div {B k y : Nat} (hy : y < B) : (k * B + y) / B = k := by
  rw [Nat.mul_comm, Nat.mul_add_div (Nat.zero_lt_of_lt hy), Nat.div_eq_of_lt hy, Nat.add_zero]

theorem block_off {B k u : Nat} (q : Nat → Bool) (h : u / B ≠ k) : (k == u / B && q (u % B)) = false := by
  rw [beq_false_of_ne (Ne.symm h), Bool.false_and]

theorem block_on {B : Nat} (k y : Nat) (q : Nat → Bool) (hy : y < B) :
    (k == (k * B + y) / B && q ((k * B + y) % B)) = q y := by
  rw [block_div hy, Nat.mul_add_mod_of_lt hy, beq_self_eq_true, Bool.true_and]

theorem cnt_block {B : Nat} (hB : 0 < B) (k : Nat) (q : Nat → Bool) (n : Nat) :
    cnt (fun x => k == x / B && q (x % B)) n = cnt q (min (n - k * B) B) := by
  -- nothing below the block
  have hz : ∀ m, m ≤ k * B → cnt (fun x => k == x / B && q (x % B)) m = 0 := fun m hm =>
    cnt_zero_of_none _ _ fun u hu =>
      block_off q (Nat.ne_of_lt (Nat.div_lt_of_lt_mul (Nat.mul_comm k B ▸ Nat.lt_of_lt_of_le hu hm)))
  by_cases h1 : n ≤ k * B
  · rw [Nat.sub_eq_zero_of_le h1, Nat.zero_min, cnt_zero, hz n h1]
  · -- `n = k·B + m`: `q` inside the block, nothing above it
    obtain ⟨m, rfl⟩ : ∃ m, n = k * B + m := ⟨n - k * B, (Nat.add_sub_cancel' (Nat.le_of_not_le h1)).symm⟩
    rw [cnt_add, hz _ (Nat.le_refl _), Nat.zero_add, Nat.add_sub_cancel_left]
    refine (cnt_eq_of_none _ (Nat.min_le_left m B) fun u hu _ => block_off q (Nat.ne_of_gt ?_)).trans
      (cnt_congr _ fun y hy => block_on k y q (by omega))
    apply (Nat.le_div_iff_mul_le hB).mpr
    rw [Nat.succ_mul]
    omega

/-! ### strictly increasing lists -/

theorem cnt_eq_length {p : Nat → Bool} {l : List Nat} (hl : l.Pairwise (· < ·)) (n : Nat)
    (h : ∀ x, x ∈ l ↔ (x < n ∧ p x = true)) : cnt p n = l.length := by
  unfold cnt
  apply length_eq_of_mem_iff
  · exact (List.nodup_range (n := n)).filter _
  · exact nodup_of_sorted hl
  · intro a
    rw [h a]; simp

/-- the members below `n` are the first `ip` entries of an increasing list whose entries pass `n` at position `ip` -/
theorem cnt_eq_of_split {l : List Nat} (hl : l.Pairwise (· < ·)) {p : Nat → Bool} (hp : ∀ x, x ∈ l ↔ p x = true) (n ip : Nat)
    (hip : ip ≤ l.length) (h1 : ∀ i, i < ip → l.getD i 0 < n) (h2 : ∀ i, ip ≤ i → i < l.length → n ≤ l.getD i 0) :
    cnt p n = ip := by
  rw [cnt_eq_length (l := l.take ip) (hl.sublist (List.take_sublist _ _)) n fun x => ?_, List.length_take, Nat.min_eq_left hip]
  rw [← hp, List.mem_take_iff_getElem]
  constructor
  · rintro ⟨i, hi, rfl⟩
    have hi' : i < l.length := by omega
    exact ⟨getD_eq_getElem' l i hi' ▸ h1 i (by omega), List.getElem_mem _⟩
  · rintro ⟨hx, hm⟩
    obtain ⟨i, hi, rfl⟩ := List.mem_iff_getElem.mp hm
    have : i < ip := Nat.lt_of_not_le fun hc => by have := getD_eq_getElem' l i hi ▸ h2 i hc hi; omega
    exact ⟨i, by omega, rfl⟩

/-- on a strictly increasing list position and rank agree: entry `i` is the member with `i` members below it -/
theorem getElem?_eq_some_iff_cnt {l : List Nat} (hl : l.Pairwise (· < ·)) {p : Nat → Bool} (hp : ∀ x, x ∈ l ↔ p x = true)
    (i v : Nat) : l[i]? = some v ↔ p v = true ∧ cnt p v = i := by
  have key : ∀ j (hj : j < l.length), cnt p l[j] = j := fun j hj =>
    getD_eq_getElem' l j hj ▸ cnt_eq_of_split hl hp _ j (Nat.le_of_lt hj) (fun i hi => getD_lt_of_sorted hl hi hj)
      fun i hi hil => getD_le_of_sorted hl hi hil
  rw [List.getElem?_eq_some_iff]
  constructor
  · rintro ⟨h, rfl⟩; exact ⟨(hp _).mp (List.getElem_mem _), key i h⟩
  · rintro ⟨hv, rfl⟩
    obtain ⟨j, hj, rfl⟩ := List.mem_iff_getElem.mp ((hp v).mpr hv)
    rw [key j hj]; exact ⟨hj, rfl⟩

theorem cnt_arr_all {xs : List Nat} (h : xs.Pairwise (· < ·))
    (n : Nat) (hb : ∀ v ∈ xs, v < n) : cnt xs.contains n = xs.length :=
  cnt_eq_length h n fun x => by
    rw [List.contains_iff_mem]
    exact ⟨fun hx => ⟨hb x hx, hx⟩, fun hx => hx.2⟩

theorem countP_eq_cnt {xs : List Nat} (hx : xs.Pairwise (· < ·)) (n : Nat) (q : Nat → Bool)
    (hb : ∀ v ∈ xs, q v = true → v < n) : xs.countP q = cnt (fun x => xs.contains x && q x) n := by
  rw [List.countP_eq_length_filter]
  symm
  apply cnt_eq_length (List.Pairwise.filter _ hx)
  intro x
  rw [List.mem_filter, Bool.and_eq_true, List.contains_iff_mem]
  exact ⟨fun ⟨h1, h2⟩ => ⟨hb x h1 h2, h1, h2⟩, fun ⟨_, h⟩ => h⟩

end RModel.Impl
