import RProofs.ContQueryGlue
/-!
Correctness of the array-container query kernels of `RModel/Impl/ContQuery.lean` with respect to the characterisations of
`RProofs/ContQueryGlue.lean`, for the membership predicate `xs.contains` of a strictly increasing value list: `binarySearch`
(hybrid bisection / linear scan) behind `contains`, `rank` and `getCardinalityInRange`; `binarySearchUntil` / `binarySearchPast`
behind the value searches; the pigeon-hole bisections of `nextAbsentValue` / `previousAbsentValue`, which compare value
differences with index differences.
-/
open RModel.Util
namespace RModel.Impl
open RModel RModel.BSet ContOps ContQuery

/-! ### `binarySearch` -/

/-- what `binarySearch` promises: the index of the key, or `-(insertion point) - 1` -/
def BsPost (xs : List Nat) (key : Nat) (r : Int) : Prop :=
  (0 ≤ r ∧ r.toNat < xs.length ∧ xs.getD r.toNat 0 = key) ∨
  (r < 0 ∧ (-r - 1).toNat ≤ xs.length ∧ (∀ i, i < (-r - 1).toNat → xs.getD i 0 < key) ∧
    (∀ i, (-r - 1).toNat ≤ i → i < xs.length → key < xs.getD i 0))

theorem bsLinear_spec {xs : List Nat} (h : xs.Pairwise (· < ·))
    (key low hiX : Nat) (hlh : low ≤ hiX) (hh : hiX ≤ xs.length)
    (hA : ∀ i, i < low → xs.getD i 0 < key) (hB : ∀ i, hiX ≤ i → i < xs.length → key < xs.getD i 0) :
    BsPost xs key (bsLinear xs key low hiX) := by
  fun_induction bsLinear xs key low hiX with
  | case1 low hlt v hge heq =>
    left; exact ⟨by omega, by omega, by simp only [Int.toNat_natCast]; exact heq⟩
  | case2 low hlt v hge hne =>
    right
    refine ⟨by omega, by omega, fun i hi => hA i (by omega), ?_⟩
    intro i hi hil
    have := getD_le_of_sorted h (show low ≤ i by omega) hil
    have hv : v = xs.getD low 0 := rfl
    omega
  | case3 low hlt v hnge ih =>
    apply ih (by omega)
    intro i hi
    by_cases e : i = low
    · subst e; have hv : v = xs.getD i 0 := rfl; omega
    · exact hA i (by omega)
  | case4 low hnlt =>
    right
    refine ⟨by omega, by omega, fun i hi => hA i (by omega), fun i hi hil => hB i (by omega) hil⟩

theorem bsLoop_spec {xs : List Nat} (h : xs.Pairwise (· < ·))
    (key low hiX : Nat) (hlh : low ≤ hiX) (hh : hiX ≤ xs.length)
    (hA : ∀ i, i < low → xs.getD i 0 < key) (hB : ∀ i, hiX ≤ i → i < xs.length → key < xs.getD i 0) :
    BsPost xs key (bsLoop xs key low hiX) := by
  fun_induction bsLoop xs key low hiX with
  | case1 low hiX hlt mid mv hlt' ih =>
    apply ih (by omega) hh _ hB
    intro i hi
    have := getD_le_of_sorted h (show i ≤ mid by omega) (by omega)
    have hv : mv = xs.getD mid 0 := rfl
    omega
  | case2 low hiX hlt mid mv hnlt hgt ih =>
    apply ih (by omega) (by omega) hA
    intro i hi hil
    have := getD_le_of_sorted h (show mid ≤ i by omega) hil
    have hv : mv = xs.getD mid 0 := rfl
    omega
  | case3 low hiX hlt mid mv hnlt hngt =>
    left
    have hv : mv = xs.getD mid 0 := rfl
    exact ⟨by omega, by omega, by simp only [Int.toNat_natCast]; omega⟩
  | case4 low hiX hn => exact bsLinear_spec h key low hiX hlh hh hA hB

theorem binarySearch_spec {xs : List Nat} (h : xs.Pairwise (· < ·))
    (key : Nat) : BsPost xs key (binarySearch xs key) :=
  bsLoop_spec h key 0 xs.length (Nat.zero_le _) (Nat.le_refl _) (fun i hi => by omega) (fun i hi hil => by omega)

theorem contains_of_bs {xs : List Nat} {key : Nat} {r : Int} (hp : BsPost xs key r) :
    xs.contains key = decide (0 ≤ r) := by
  rcases hp with ⟨h0, hl, he⟩ | ⟨h0, hl, hA, hB⟩
  · rw [(contains_iff_getD xs key).mpr ⟨_, hl, he⟩]; simp [h0]
  · cases hc : xs.contains key
    · simp; omega
    · obtain ⟨j, hj, e⟩ := (contains_iff_getD xs key).mp hc
      by_cases hji : j < (-r - 1).toNat
      · have := hA j hji; omega
      · have := hB j (by omega) hj; omega

theorem cnt_of_bs {xs : List Nat} (h : xs.Pairwise (· < ·)) {key : Nat} {r : Int} (hp : BsPost xs key r) :
    (cnt xs.contains key : Int) = if r < 0 then -r - 1 else r := by
  rcases hp with ⟨h0, hl, he⟩ | ⟨h0, hl, hA, hB⟩
  · rw [cnt_eq_of_split h (fun _ => List.contains_iff_mem.symm) key r.toNat (by omega)]
    · rw [if_neg (by omega)]; omega
    · intro i hi; have := getD_lt_of_sorted h hi hl; omega
    · intro i hi hil; have := getD_le_of_sorted h hi hil; omega
  · rw [cnt_eq_of_split h (fun _ => List.contains_iff_mem.symm) key (-r - 1).toNat hl hA
      (fun i hi hil => Nat.le_of_lt (hB i hi hil))]
    rw [if_pos h0]; omega

theorem arrContains_spec {xs : List Nat} (h : xs.Pairwise (· < ·)) (x : Nat) : arrContains xs x = xs.contains x := by
  unfold arrContains
  rw [contains_of_bs (binarySearch_spec h x)]

theorem arrRank_spec {xs : List Nat} (h : xs.Pairwise (· < ·)) (x : Nat) : IsRank xs.contains x (arrRank xs x) := by
  unfold IsRank arrRank
  have hp := binarySearch_spec h x
  have h1 := cnt_of_bs h hp
  have h2 := contains_of_bs hp
  rw [cnt_succ, h2]
  simp only
  by_cases h0 : 0 ≤ binarySearch xs x
  · simp only [h0, decide_true, if_true]
    rw [if_neg (by omega)] at h1
    omega
  · simp only [h0, decide_false, if_false]
    rw [if_pos (by omega)] at h1
    simp; omega

theorem arrCardInRange_spec {xs : List Nat} (h : xs.Pairwise (· < ·)) (hb : ∀ v ∈ xs, v < 65536) (lo hi : Nat)
    (hlo : lo ≤ 65536) (hhi : hi ≤ 65536) : IsCardInRange xs.contains lo hi (arrCardInRange xs lo hi) := by
  unfold IsCardInRange arrCardInRange
  by_cases hge : lo ≥ hi
  · rw [if_pos hge, Nat.sub_eq_zero_of_le (cnt_mono _ hge)]; rfl
  · have hm := cnt_mono xs.contains (show lo ≤ hi by omega)
    rw [if_neg hge]
    dsimp only
    -- the two positions `if r < 0 then -r - 1 else r` are the counts below `lo` and below `hi`
    rw [show lo % 65536 = lo by omega, ← cnt_of_bs h (binarySearch_spec h lo)]
    split
    · rw [show hi = 65536 by omega, cnt_arr_all h 65536 hb] at hm ⊢
      omega
    · rw [show hi % 65536 = hi by omega, ← cnt_of_bs h (binarySearch_spec h hi)]
      omega

theorem arrSelect_spec {xs : List Nat} (h : xs.Pairwise (· < ·)) (i : Nat) (hi : i < xs.length) :
    IsSelect xs.contains i (arrSelect xs i) := by
  unfold IsSelect arrSelect
  rw [if_pos hi]
  exact ⟨xs.getD i 0, rfl, (getElem?_eq_some_iff_cnt h (fun _ => List.contains_iff_mem.symm) i _).mp
    (by rw [List.getD_eq_getElem?_getD, List.getElem?_eq_getElem hi]; rfl)⟩

theorem arrMin_spec {xs : List Nat} (h : xs.Pairwise (· < ·))
    (hpos : 0 < xs.length) : IsMin xs.contains (arrMinimum xs) := by
  unfold IsMin arrMinimum
  rw [if_pos hpos]
  exact ⟨xs.getD 0 0, rfl, contains_getD xs hpos, fun u hu => not_contains_lt_first h hu⟩

theorem arrMax_spec {xs : List Nat} (h : xs.Pairwise (· < ·))
    (hpos : 0 < xs.length) : IsMax xs.contains (arrMaximum xs) := by
  unfold IsMax arrMaximum
  rw [if_pos hpos]
  exact ⟨xs.getD (xs.length - 1) 0, rfl, contains_getD xs (by omega), fun u hu => not_contains_gt_last h hu⟩

/-! ### `binarySearchUntil` / `binarySearchPast` -/

/-- what the two searches promise when the target lies between the first and the last element -/
def SrPost (past : Bool) (xs : List Nat) (target : Nat) (R : SR) : Prop :=
  (R.exact = true ∧ ∃ i, i < xs.length ∧ R.index = (i : Int) ∧ xs.getD i 0 = target ∧ R.value = target) ∨
  (R.exact = false ∧ ∃ i, i + 1 < xs.length ∧ xs.getD i 0 < target ∧ target < xs.getD (i + 1) 0 ∧
    (if past then R.index = (i : Int) + 1 ∧ R.value = xs.getD (i + 1) 0 else R.index = (i : Int) ∧ R.value = xs.getD i 0))

theorem srLoop_spec {xs : List Nat} (past : Bool) (target maxIndex low high : Nat)
    (hmax : maxIndex = xs.length - 1) (hlh : low ≤ high) (hh : high < xs.length)
    (h1 : xs.getD low 0 ≤ target) (h2 : target ≤ xs.getD high 0) :
    ∃ R, srLoop past xs target maxIndex low high = some R ∧ SrPost past xs target R := by
  fun_induction srLoop past xs target maxIndex low high with
  | case1 low high hle mid mv heq =>
    exact ⟨_, rfl, Or.inl ⟨rfl, mid, by omega, rfl, heq, heq⟩⟩
  | case2 low high hle mid mv hne hlt hc hp =>
    refine ⟨_, rfl, Or.inr ⟨rfl, mid - 1, by omega, hc.2, ?_, ?_⟩⟩
    · rw [show mid - 1 + 1 = mid by omega]; exact hlt
    · rw [show mid - 1 + 1 = mid by omega, if_pos hp]
      exact ⟨by show (mid : Int) = ((mid - 1 : Nat) : Int) + 1; omega, rfl⟩
  | case3 low high hle mid mv hne hlt hc hp =>
    refine ⟨_, rfl, Or.inr ⟨rfl, mid - 1, by omega, hc.2, ?_, ?_⟩⟩
    · rw [show mid - 1 + 1 = mid by omega]; exact hlt
    · rw [if_neg hp]
      exact ⟨by show (mid : Int) - 1 = ((mid - 1 : Nat) : Int); omega, rfl⟩
  | case4 low high hle mid mv hne hlt hc hlh' ih =>
    apply ih (by omega) (by omega) h1
    exact Nat.le_of_lt hlt
  | case5 low high hle mid mv hne hlt hc hlh' =>
    -- `low = high = mid`, so `h1` contradicts `target < mv`
    have hv : mv = xs.getD mid 0 := rfl
    rw [show mid = low by omega] at hv
    omega
  | case6 low high hle mid mv hne hnlt hc hp =>
    refine ⟨_, rfl, Or.inr ⟨rfl, mid, by omega, ?_, hc.2, ?_⟩⟩
    · have hv : mv = xs.getD mid 0 := rfl; omega
    · rw [if_pos hp]; exact ⟨rfl, rfl⟩
  | case7 low high hle mid mv hne hnlt hc hp =>
    refine ⟨_, rfl, Or.inr ⟨rfl, mid, by omega, ?_, hc.2, ?_⟩⟩
    · have hv : mv = xs.getD mid 0 := rfl; omega
    · rw [if_neg hp]; exact ⟨rfl, rfl⟩
  | case8 low high hle mid mv hne hnlt hc ih =>
    have hv : mv = xs.getD mid 0 := rfl
    have hmh : mid ≠ high := fun e => by rw [e] at hv; omega
    apply ih (by omega) hh _ h2
    have : ¬ target < xs.getD (mid + 1) 0 := fun hx => hc ⟨by omega, hx⟩
    omega
  | case9 low high hnle => omega

/-- the three outcomes of `binarySearchUntil` (`past = false`) / `binarySearchPast` (`past = true`) on a non-empty
array -/
theorem srSearch_spec {xs : List Nat} (hpos : 0 < xs.length) (past : Bool) (target : Nat) :
    (target < xs.getD 0 0 ∧ srSearch past xs target = some ⟨0, -1, false⟩) ∨
    (xs.getD (xs.length - 1) 0 < target ∧ srSearch past xs target = some ⟨0, xs.length, false⟩) ∨
    (xs.getD 0 0 ≤ target ∧ target ≤ xs.getD (xs.length - 1) 0 ∧
      ∃ R, srSearch past xs target = some R ∧ SrPost past xs target R) := by
  unfold srSearch
  rw [if_neg (by omega)]
  by_cases h1 : target < xs.getD 0 0
  · left; exact ⟨h1, by rw [if_pos h1]⟩
  · rw [if_neg h1]
    by_cases h2 : target > xs.getD (xs.length - 1) 0
    · right; left; exact ⟨h2, by rw [if_pos h2]⟩
    · rw [if_neg h2]
      right; right
      exact ⟨by omega, by omega, srLoop_spec past target _ 0 _ rfl (by omega) (by omega) (by omega) (by omega)⟩

/-- `binarySearchPast` as the absent-value searches read it: whether `t` is in the array, and where -/
theorem srSearch_past {xs : List Nat} (h : xs.Pairwise (· < ·)) (hpos : 0 < xs.length) (t : Nat) :
    ∃ R, srSearch true xs t = some R ∧
      ((R.exact = false ∧ xs.contains t = false) ∨
       (R.exact = true ∧ ∃ i, i < xs.length ∧ R.index = (i : Int) ∧ xs.getD i 0 = t ∧ R.value = t)) := by
  rcases srSearch_spec hpos true t with
    ⟨h1, e⟩ | ⟨h1, e⟩ | ⟨-, -, R, e, ⟨hex, hi⟩ | ⟨hex, i, hi, hlt, hgt, -⟩⟩
  · exact ⟨_, e, Or.inl ⟨rfl, not_contains_lt_first h h1⟩⟩
  · exact ⟨_, e, Or.inl ⟨rfl, not_contains_gt_last h h1⟩⟩
  · exact ⟨R, e, Or.inr ⟨hex, hi⟩⟩
  · exact ⟨R, e, Or.inl ⟨hex, not_contains_between h hlt (fun _ => hgt) (by omega)⟩⟩

theorem arrPreviousValue_spec {xs : List Nat} (h : xs.Pairwise (· < ·)) (hpos : 0 < xs.length) (t : Nat) :
    IsPrev xs.contains t (arrPreviousValue xs t) := by
  unfold arrPreviousValue
  rcases srSearch_spec hpos false t with ⟨h1, e⟩ | ⟨h1, e⟩ | ⟨h1, h2, R, e, hR⟩
  · rw [e]
    simp only
    rw [if_neg (by omega), if_pos (by omega)]
    right
    exact ⟨rfl, fun u hu => not_contains_lt_first h (by omega)⟩
  · rw [e]
    simp only [if_true]
    left
    refine ⟨_, rfl, by omega, contains_getD xs (by omega), ?_⟩
    intro u hu1 hu2
    exact not_contains_gt_last h hu1
  · rw [e]
    simp only
    rcases hR with ⟨hex, i, hi, hidx, hv, hval⟩ | ⟨hex, i, hi, hlt, hgt, hrest⟩
    · rw [if_neg (by omega), if_neg (by omega), hval]
      exact isPrev_self (hv ▸ contains_getD xs hi)
    · simp only [Bool.false_eq_true, if_false] at hrest
      rw [if_neg (by omega), if_neg (by omega), hrest.2]
      left
      refine ⟨_, rfl, by omega, contains_getD xs (by omega), ?_⟩
      intro u hu1 hu2
      exact not_contains_between h hu1 (fun _ => by omega) (by omega)

theorem arrNextValue_spec {xs : List Nat} (h : xs.Pairwise (· < ·)) (hpos : 0 < xs.length) (t : Nat) :
    IsNext xs.contains t (arrNextValue xs t) := by
  unfold arrNextValue
  rw [if_neg (by omega)]
  rcases srSearch_spec hpos false t with ⟨h1, e⟩ | ⟨h1, e⟩ | ⟨h1, h2, R, e, hR⟩
  · rw [e]
    simp only [Bool.false_eq_true, if_false, if_true]
    left
    refine ⟨_, rfl, by omega, contains_getD xs hpos, ?_⟩
    intro u hu1 hu2
    exact not_contains_lt_first h hu2
  · rw [e]
    simp only [Bool.false_eq_true, if_false]
    rw [if_neg (by omega), if_neg (by omega), if_neg (by omega)]
    right
    exact ⟨rfl, fun u hu => not_contains_gt_last h (by omega)⟩
  · rw [e]
    simp only
    rcases hR with ⟨hex, i, hi, hidx, hv, hval⟩ | ⟨hex, i, hi, hlt, hgt, hrest⟩
    · rw [if_pos hex, hval]
      exact isNext_self (hv ▸ contains_getD xs hi)
    · simp only [Bool.false_eq_true, if_false] at hrest
      rw [hex]
      simp only [Bool.false_eq_true, if_false]
      rw [if_neg (by omega), if_neg (by omega), if_pos (by omega), hrest.1]
      rw [show ((i : Int) + 1).toNat = i + 1 by omega]
      left
      refine ⟨_, rfl, by omega, contains_getD xs (by omega), ?_⟩
      intro u hu1 hu2
      exact not_contains_between h (show xs.getD i 0 < u by omega) (fun _ => hu2) (by omega)

/-! ### the pigeon-hole bisections of `previousAbsentValue` / `nextAbsentValue` -/

theorem pa_mid {lowP high : Nat} (h : lowP < high) :
    lowP ≤ (high + lowP - 1) / 2 ∧ (high + lowP - 1) / 2 < high := by omega

theorem paLoop_spec {xs : List Nat} (h : xs.Pairwise (· < ·))
    (hb : ∀ v ∈ xs, v < 65536) (t idx : Nat) (hidx : idx < xs.length)
    (ht : xs.getD idx 0 = t) (lowP high : Nat) (hlh : lowP ≤ high) (hhi : high ≤ idx)
    (hc : xs.getD high 0 + (idx - high) = t) (hn : 0 < lowP → xs.getD (lowP - 1) 0 + (idx - (lowP - 1)) < t) :
    ∃ H, paLoop xs t idx lowP high = H ∧ H ≤ idx ∧ xs.getD H 0 + (idx - H) = t ∧
      (0 < H → xs.getD (H - 1) 0 + (idx - (H - 1)) < t) := by
  have ht65 : t < 65536 := ht ▸ hb _ (Util.getD_mem 0 hidx)
  fun_induction paLoop xs t idx lowP high with
  | case1 lowP high hlt mid idiff vdiff hcmp ih =>
    have hmid : lowP ≤ mid ∧ mid < high := pa_mid hlt
    have hle : xs.getD mid 0 ≤ t := by rw [← ht]; exact getD_le_of_sorted h (by omega) hidx
    have hv : vdiff = t - xs.getD mid 0 := sub16_eq hle ht65
    have hi : idiff = (idx : Int) - mid := rfl
    apply ih (by omega) hhi hc
    intro _
    rw [show mid + 1 - 1 = mid by omega]
    omega
  | case2 lowP high hlt mid idiff vdiff hcmp ih =>
    have hmid : lowP ≤ mid ∧ mid < high := pa_mid hlt
    have hle : xs.getD mid 0 ≤ t := by rw [← ht]; exact getD_le_of_sorted h (by omega) hidx
    have hv : vdiff = t - xs.getD mid 0 := sub16_eq hle ht65
    have hi : idiff = (idx : Int) - mid := rfl
    have hg := sorted_gap h (show mid ≤ idx by omega) hidx
    apply ih (by omega) (by omega) _ hn
    omega
  | case3 lowP high hn' =>
    obtain rfl : lowP = high := by omega
    exact ⟨_, rfl, hhi, hc, hn⟩

theorem na_mid {low high : Nat} (h : low + 1 < high) : low < (high + low) / 2 ∧ (high + low) / 2 < high := by
  omega

theorem naLoop_spec {xs : List Nat} (h : xs.Pairwise (· < ·)) (hb : ∀ v ∈ xs, v < 65536) (t idx : Nat)
    (ht : xs.getD idx 0 = t) (low high : Nat) (hil : idx ≤ low) (hlh : low < high) (hhi : high ≤ xs.length)
    (hc : t + (low - idx) = xs.getD low 0) (hn : high < xs.length → t + (high - idx) < xs.getD high 0) :
    ∃ L, naLoop xs t idx low high = L ∧ idx ≤ L ∧ L < xs.length ∧ t + (L - idx) = xs.getD L 0 ∧
      (L + 1 < xs.length → t + (L + 1 - idx) < xs.getD (L + 1) 0) := by
  fun_induction naLoop xs t idx low high with
  | case1 low high hlt mid idiff vdiff hcmp ih =>
    have hmid : low < mid ∧ mid < high := na_mid hlt
    have hml : mid < xs.length := by omega
    have hle : t ≤ xs.getD mid 0 := by rw [← ht]; exact getD_le_of_sorted h (by omega) hml
    have hv : vdiff = xs.getD mid 0 - t := sub16_eq hle (hb _ (Util.getD_mem 0 hml))
    have hi : idiff = (mid : Int) - idx := rfl
    apply ih hil (by omega) (by omega) hc
    intro _
    omega
  | case2 low high hlt mid idiff vdiff hcmp ih =>
    have hmid : low < mid ∧ mid < high := na_mid hlt
    have hml : mid < xs.length := by omega
    have hle : t ≤ xs.getD mid 0 := by rw [← ht]; exact getD_le_of_sorted h (by omega) hml
    have hv : vdiff = xs.getD mid 0 - t := sub16_eq hle (hb _ (Util.getD_mem 0 hml))
    have hi : idiff = (mid : Int) - idx := rfl
    have hg := sorted_gap h (show idx ≤ mid by omega) hml
    rw [ht] at hg
    apply ih (by omega) (by omega) hhi _ hn
    omega
  | case3 low high hn' =>
    obtain rfl : high = low + 1 := by omega
    exact ⟨_, rfl, hil, by omega, hc, hn⟩

/-- the elements with index `H … i` are consecutive values and there is a gap before index `H`: the greatest absent value
below `xs[i]` is `xs[H] - 1` (`-1` when that would be below 0) -/
theorem prevAbsent_of_stretch {xs : List Nat} (h : xs.Pairwise (· < ·)) {H i : Nat} (hH : H ≤ i) (hi : i < xs.length)
    (hc : xs.getD H 0 + (i - H) = xs.getD i 0) (hg : 0 < H → xs.getD (H - 1) 0 + 1 < xs.getD H 0) :
    IsPrevAbsent xs.contains (xs.getD i 0) ((xs.getD H 0 : Int) - 1) := by
  have hall : ∀ u, xs.getD H 0 ≤ u → u ≤ xs.getD i 0 → xs.contains u = true := fun u a b =>
    contains_of_contig h hH hi hc a b
  by_cases h0 : xs.getD H 0 = 0
  · exact Or.inr ⟨by omega, fun u hu => hall u (by omega) hu⟩
  · refine Or.inl ⟨xs.getD H 0 - 1, by omega, by omega, ?_, fun u hu1 hu2 => hall u (by omega) hu2⟩
    by_cases hH0 : H = 0
    · subst hH0; exact not_contains_lt_first h (by omega)
    · have := hg (by omega)
      apply not_contains_between h (i := H - 1) (by omega) _ (by omega)
      intro _
      rw [show H - 1 + 1 = H by omega]; omega

/-- the elements with index `i … L` are consecutive values and there is a gap after index `L`: the least absent value
above `xs[i]` is `xs[L] + 1` -/
theorem nextAbsent_of_stretch {xs : List Nat} (h : xs.Pairwise (· < ·)) {i L : Nat} (hL : i ≤ L) (hl : L < xs.length)
    (hc : xs.getD i 0 + (L - i) = xs.getD L 0) (hg : L + 1 < xs.length → xs.getD L 0 + 1 < xs.getD (L + 1) 0) :
    IsNextAbsent xs.contains (xs.getD i 0) ((xs.getD L 0 + 1 : Nat) : Int) := by
  refine ⟨_, rfl, by omega, ?_, fun u hu1 hu2 => contains_of_contig h hL hl hc hu1 (by omega)⟩
  by_cases hl' : L + 1 < xs.length
  · exact not_contains_between h (Nat.lt_succ_self _) (fun _ => hg hl') hl
  · apply not_contains_gt_last h
    rw [show xs.length - 1 = L by omega]; omega

theorem arrPreviousAbsentValue_spec {xs : List Nat} (hw : ArrWf xs) (t : Nat) (ht : t < 65536) :
    IsPrevAbsent xs.contains t (arrPreviousAbsentValue xs t) := by
  have h := hw.sorted
  have hpos := hw.pos
  unfold arrPreviousAbsentValue
  rw [if_neg (by omega)]
  by_cases hmax : t > xs.getD (xs.length - 1) 0
  · rw [if_pos hmax]
    exact isPrevAbsent_self (not_contains_gt_last h hmax)
  rw [if_neg hmax]
  obtain ⟨R, e, ⟨hex, hc⟩ | ⟨hex, i, hi, hidx, hv, hval⟩⟩ := srSearch_past h hpos t
  · rw [e]
    simp only [hex, Bool.not_false, if_true]
    exact isPrevAbsent_self hc
  rw [e]
  simp only [hex, hidx, hval, Bool.not_true, Bool.false_eq_true, if_false, Int.toNat_natCast]
  subst hv
  by_cases hsp : (i : Int) = 1 ∧ xs.getD 0 0 ≠ sub16 (xs.getD i 0) 1
  · -- the shortcut for index 1 is the stretch `1 … 1`
    rw [if_pos hsp]
    obtain rfl : i = 1 := by omega
    have h01 := getD_lt_of_sorted h (show 0 < 1 by omega) hi
    rw [sub16_eq (by omega) ht] at hsp ⊢
    rw [show ((xs.getD 1 0 - 1 : Nat) : Int) = (xs.getD 1 0 : Int) - 1 by omega]
    exact prevAbsent_of_stretch h (Nat.le_refl 1) hi rfl (fun _ => by show xs.getD 0 0 + 1 < xs.getD 1 0; omega)
  · rw [if_neg hsp]
    obtain ⟨H, e, p1, p2, p3⟩ := paLoop_spec h hw.bound _ i hi rfl 0 i (Nat.zero_le _) (Nat.le_refl _) (by omega)
      (fun hc => by omega)
    rw [e]
    have hst := prevAbsent_of_stretch h p1 hi p2 (fun hH => by have := p3 hH; omega)
    by_cases hH : H = 0
    · subst hH
      rw [if_pos rfl]; exact hst
    · have hlt' := getD_lt_of_sorted h (show H - 1 < H by omega) (show H < xs.length by omega)
      rw [if_neg hH, sub16_eq (show 1 ≤ xs.getD H 0 by omega) (by omega),
        show ((xs.getD H 0 - 1 : Nat) : Int) = (xs.getD H 0 : Int) - 1 by omega]
      exact hst

theorem arrNextAbsentValue_spec {xs : List Nat} (hw : ArrWf xs) (t : Nat) (ht : t < 65536) :
    IsNextAbsent xs.contains t (arrNextAbsentValue xs t) := by
  have h := hw.sorted
  have hpos := hw.pos
  unfold arrNextAbsentValue
  rw [if_neg (by omega)]
  by_cases hmin : t < xs.getD 0 0
  · rw [if_pos hmin]
    exact isNextAbsent_self (not_contains_lt_first h hmin)
  rw [if_neg hmin]
  obtain ⟨R, e, ⟨hex, hc⟩ | ⟨hex, i, hi, hidx, hv, hval⟩⟩ := srSearch_past h hpos t
  · rw [e]
    simp only [hex, Bool.not_false, if_true]
    exact isNextAbsent_self hc
  rw [e]
  simp only [hex, hidx, hval, Bool.not_true, Bool.false_eq_true, if_false, Int.toNat_natCast]
  subst hv
  have hlast65 := hw.bound _ (Util.getD_mem 0 (show xs.length - 1 < xs.length by omega))
  by_cases hsp : (i : Int) = (xs.length : Int) - 2 ∧ xs.getD (xs.length - 1) 0 ≠ add16 (xs.getD i 0) 1
  · -- the shortcut for the last but one index is the stretch `i … i`
    rw [if_pos hsp]
    have hi1 : i + 1 = xs.length - 1 := by omega
    have h01 := getD_lt_of_sorted h (show i < i + 1 by omega) (by omega)
    rw [hi1] at h01
    rw [add16_eq (by omega)] at hsp ⊢
    exact nextAbsent_of_stretch h (Nat.le_refl i) hi (by omega) (fun _ => by rw [hi1]; omega)
  · rw [if_neg hsp]
    obtain ⟨L, e, p1, p2, p3, p4⟩ := naLoop_spec h hw.bound _ i rfl i xs.length (Nat.le_refl _) hi (Nat.le_refl _)
      (by omega) (fun hc => by omega)
    rw [e]
    have hst := nextAbsent_of_stretch h p1 p2 p3 (fun hl => by have := p4 hl; omega)
    -- both branches of the Go code return `xs[L] + 1`
    split
    · next hl => rw [← hl]; exact hst
    · exact hst

end RModel.Impl
