import RProofs.Iter
import RProofs.IterRun
/-!
Iteration protocols: the many-iterators — the interface field `iter` of `manyIntIterator` (`MIt`) over the three
container kinds, and the bitmap-level `ManyIt` (`NextMany` / `NextMany64`).

One call with buffer length `cap` returns `rem.take cap` and leaves `rem.drop cap`; hence any sequence of buffer lengths
concatenates to a prefix of the remaining list, and with enough total capacity the calls on `ManyIt.create r` concatenate to
`BSet.toList r.toBSet`.
-/
open RModel.Util
namespace RModel.Impl.It
open RModel RModel.Impl RModel.Impl.ContOps RModel.Impl.ContQuery

namespace MIt

def Inv : MIt → Prop
  | .none => True
  | .arr a => a.Inv ∧ ∀ v ∈ a.slice, v < 65536
  | .run r => r.Inv
  | .bmp b => b.Inv

def rem : MIt → List Nat
  | .none => []
  | .arr a => a.rem
  | .run r => r.rem
  | .bmp b => b.rem

theorem nextMany_spec {it : MIt} (hi : it.Inv) (hs cap : Nat) (hhs : hs % 65536 = 0) :
    (it.nextMany hs cap).1 = (it.rem.take cap).map (hs + ·) ∧ (it.nextMany hs cap).2.Inv ∧
      (it.nextMany hs cap).2.rem = it.rem.drop cap ∧ ((it.nextMany hs cap).2 = .none ↔ it = .none) := by
  cases it with
  | none => exact ⟨by simp [nextMany, rem], trivial, by simp [nextMany, rem], Iff.rfl⟩
  | arr a =>
    obtain ⟨h1, h2, h3⟩ := ArrIt.nextMany_spec a hs cap
    refine ⟨?_, CIt.arrInv_of_slice h3 hi, h2, ?_⟩
    · show (a.nextMany hs cap).1 = _
      rw [h1]
      apply List.map_congr_left
      intro v hv
      exact or_hs_eq_add (hi.2 v (List.mem_of_mem_drop (List.mem_of_mem_take hv))) hhs
    · constructor <;> intro h <;> cases h
  | run r =>
    obtain ⟨h1, h2, h3, -⟩ := RunIt.nextMany_spec hi hs cap hhs
    refine ⟨h1, h2, h3, ?_⟩
    constructor <;> intro h <;> cases h
  | bmp b =>
    obtain ⟨h1, h2, h3, -⟩ := BmpManyIt.nextMany_spec hi hs cap hhs
    refine ⟨h1, h2, h3, ?_⟩
    constructor <;> intro h <;> cases h

theorem ofCont_spec {c : Cont} (h : c.wf = true) :
    (ofCont c).Inv ∧ (ofCont c).rem = valsOfCont c ∧ ofCont c ≠ .none := by
  cases c with
  | arr xs =>
    have hw := wf_arr h
    exact ⟨⟨hw.sorted, hw.bound⟩, rfl, fun e => by cases e⟩
  | run rs =>
    have hw := wf_run h
    obtain ⟨a, b⟩ := RunIt.init_spec rs hw.sep hw.bound
    exact ⟨a, b, fun e => by cases e⟩
  | bmp k ws =>
    obtain ⟨hl, -, -⟩ := wf_bmp h
    obtain ⟨h1, h2⟩ := BmpManyIt.init_spec ws hl
    exact ⟨h1, h2, fun e => by cases e⟩

theorem rem_lt {it : MIt} (hi : it.Inv) {v : Nat} (hv : v ∈ it.rem) : v < 65536 := by
  cases it with
  | none => cases hv
  | arr a => exact hi.2 v (List.mem_of_mem_drop hv)
  | run r => exact RunIt.mem_lt hi (mem_remFrom.mp hv).1
  | bmp b => exact valsOfWords_lt hi.1 (mem_remFrom.mp hv).1

end MIt

namespace ManyIt

/-- unlike the forward iterator, a many-iterator may rest on an exhausted container (the next call moves on) -/
def Inv (ii : ManyIt) : Prop :=
  SlotsWf ii.slots ∧
    (ii.pos < ii.slots.length → ii.hs = (slotAt ii.slots ii.pos).key * 65536 ∧ ii.iter.Inv ∧ ii.iter ≠ .none) ∧
    (¬ ii.pos < ii.slots.length → ii.iter = .none)

def rem (ii : ManyIt) : List Nat :=
  if ii.pos < ii.slots.length then
    ii.iter.rem.map (ii.hs + ·) ++ (ii.slots.drop (ii.pos + 1)).flatMap slotVals
  else []

theorem init_spec (ii : ManyIt) (hw : SlotsWf ii.slots) :
    ii.init.Inv ∧ ii.init.rem = (ii.slots.drop ii.pos).flatMap slotVals ∧ ii.init.slots = ii.slots ∧
      ii.init.pos = ii.pos := by
  unfold init
  by_cases h : ii.slots.length > ii.pos
  · rw [if_pos h]
    have hm := hw.ok _ (slotAt_mem h)
    obtain ⟨c1, c2, c3⟩ := MIt.ofCont_spec hm.2
    refine ⟨⟨hw, fun _ => ⟨shl16 _, c1, c3⟩, fun h' => absurd h h'⟩, ?_, rfl, rfl⟩
    simp only [rem]
    rw [if_pos (by exact h), drop_slots h, List.flatMap_cons, c2, shl16]
    rfl
  · rw [if_neg h]
    refine ⟨⟨hw, fun h' => absurd h' (by omega), fun _ => rfl⟩, ?_, rfl, rfl⟩
    simp only [rem]
    rw [if_neg (by omega), List.drop_eq_nil_iff.mpr (by omega)]
    rfl

theorem reinit_spec (ii : ManyIt) (r : Rep) (h : r.wf = true) : (ii.reinit r).Inv ∧ (ii.reinit r).rem = valsOfRep r := by
  obtain ⟨h1, h2, -, -⟩ := init_spec { ii with pos := 0, slots := r.slots } ((slotsWf_iff r).mp h)
  exact ⟨h1, h2⟩

theorem create_spec (r : Rep) (h : r.wf = true) : (create r).Inv ∧ (create r).rem = valsOfRep r :=
  reinit_spec {} r h

/-- one container-level call inside the loop of `NextMany64`, on a state whose `iter` is not nil: it delivers (with `hs64`
added) a prefix `pre` of what remains, and when the buffer is not full afterwards the current container is exhausted -/
theorem step_spec {ii : ManyIt} (hi : ii.Inv) (hne : ii.iter = MIt.none → False) (hs64 : Nat)
    (h64 : hs64 % 4294967296 = 0) (room : Nat) {got : List Nat} {it' : MIt}
    (hr : ii.iter.nextMany (ii.hs ||| hs64) room = (got, it')) :
    ii.pos < ii.slots.length ∧ ∃ pre, got = pre.map (hs64 + ·) ∧ pre.length ≤ room ∧
      ii.rem = pre ++ ({ ii with iter := it' } : ManyIt).rem ∧ ({ ii with iter := it' } : ManyIt).Inv ∧
      (pre.length < room →
        ({ ii with iter := it' } : ManyIt).rem = (ii.slots.drop (ii.pos + 1)).flatMap slotVals) := by
  have hl : ii.pos < ii.slots.length := Classical.not_not.mp fun hc => hne (hi.2.2 hc)
  obtain ⟨e1, e2, e3⟩ := hi.2.1 hl
  have hk := (hi.1.ok _ (slotAt_mem hl)).1
  rw [or_eq_add (k := 32) (by omega) h64] at hr
  obtain ⟨n1, n2, n3, n4⟩ := MIt.nextMany_spec e2 (hs64 + ii.hs) room (by omega)
  rw [hr] at n1 n2 n3 n4
  simp only [] at n1 n2 n3 n4
  refine ⟨hl, (ii.iter.rem.take room).map (ii.hs + ·), ?_, ?_, ?_,
    ⟨hi.1, fun _ => ⟨e1, n2, fun e => e3 (n4.mp e)⟩, fun h' => absurd hl h'⟩, fun h => ?_⟩
  · rw [n1, List.map_map]
    exact List.map_congr_left fun v _ => Nat.add_assoc _ _ _
  · rw [List.length_map, List.length_take]
    exact Nat.min_le_left _ _
  · simp only [rem]
    rw [if_pos hl, if_pos hl, n3, ← List.append_assoc, ← List.map_append, List.take_append_drop]
  · rw [List.length_map, List.length_take] at h
    simp only [rem]
    rw [if_pos hl, n3, List.drop_of_length_le (by omega), List.map_nil, List.nil_append]

/-- the loop of `NextMany64(hs64, buf)` with `len(buf) = room` (`hs64` a mask above the low 32 bits) -/
theorem loop_spec (hs64 : Nat) (h64 : hs64 % 4294967296 = 0) : ∀ (room : Nat) (ii : ManyIt), ii.Inv →
    (loop hs64 room ii).1 = (ii.rem.take room).map (hs64 + ·) ∧ (loop hs64 room ii).2.Inv ∧
      (loop hs64 room ii).2.rem = ii.rem.drop room := by
  intro room ii
  fun_induction ManyIt.loop hs64 room ii with
  | case1 ii => intro hi; exact ⟨rfl, hi, rfl⟩
  | case2 room ii hr0 hn =>
    intro hi
    have hl : ¬ ii.pos < ii.slots.length := fun hl => (hi.2.1 hl).2.2 hn
    have : ii.rem = [] := by simp only [rem]; rw [if_neg hl]
    rw [this]
    exact ⟨by simp, hi, by simp⟩
  | case3 room ii hr0 got it' hg hl hne hr ih =>
    -- nothing delivered: the container was exhausted, on to the next one
    intro hi
    obtain ⟨-, pre, s1, -, s3, -, s5⟩ := step_spec hi hne hs64 h64 room hr
    obtain ⟨i1, i2, -, -⟩ := init_spec { ii with iter := it', pos := ii.pos + 1 } hi.1
    rw [s1, List.length_map] at hg
    have : ii.rem = ({ ii with iter := it', pos := ii.pos + 1 } : ManyIt).init.rem := by
      rw [s3, List.eq_nil_of_length_eq_zero hg, List.nil_append, s5 (by omega), i2]
    rw [this]
    exact ih i1
  | case4 room ii hr0 got it' hg hl hne hr =>
    intro hi
    exact absurd (step_spec hi hne hs64 h64 room hr).1 hl
  | case5 room ii hr0 got it' hg hge hne hr =>
    -- the buffer is full
    intro hi
    obtain ⟨-, pre, s1, s2, s3, s4, -⟩ := step_spec hi hne hs64 h64 room hr
    rw [s1, List.length_map] at hge
    have e : pre.length = room := Nat.le_antisymm s2 hge
    exact ⟨by rw [s3, List.take_left' e]; exact s1, s4, by rw [s3, List.drop_left' e]⟩
  | case6 room ii hr0 got it' hg hge vs ii'' hloop hne hr ih =>
    intro hi
    obtain ⟨-, pre, s1, s2, s3, s4, -⟩ := step_spec hi hne hs64 h64 room hr
    obtain ⟨j1, j2, j3⟩ := ih s4
    rw [hloop, s1, List.length_map] at j1 j3
    rw [hloop] at j2
    obtain ⟨e1, e2⟩ := take_drop_append s2 (hs64 + ·) j1 j3
    rw [s3, s1]
    exact ⟨e1, j2, e2⟩

theorem nextMany_spec {ii : ManyIt} (hi : ii.Inv) (cap : Nat) :
    (ii.nextMany cap).1 = ii.rem.take cap ∧ (ii.nextMany cap).2.Inv ∧ (ii.nextMany cap).2.rem = ii.rem.drop cap := by
  obtain ⟨h1, h2, h3⟩ := loop_spec 0 (by decide) cap ii hi
  refine ⟨?_, h2, h3⟩
  show (loop 0 cap ii).1 = _
  rw [h1]
  simp

theorem nextMany64_spec {ii : ManyIt} (hi : ii.Inv) (hs64 cap : Nat) (h64 : hs64 % 4294967296 = 0) :
    (ii.nextMany64 hs64 cap).1 = (ii.rem.take cap).map (hs64 + ·) ∧ (ii.nextMany64 hs64 cap).2.Inv ∧
      (ii.nextMany64 hs64 cap).2.rem = ii.rem.drop cap :=
  loop_spec hs64 h64 cap ii hi

theorem nextManySeq_spec : ∀ (caps : List Nat) (ii : ManyIt), ii.Inv →
    (ii.nextManySeq caps).1 = ii.rem.take caps.sum ∧ (ii.nextManySeq caps).2.Inv ∧
      (ii.nextManySeq caps).2.rem = ii.rem.drop caps.sum :=
  seq_of_protocol (step := nextMany) (fun _ cap hi => nextMany_spec hi cap) nextManySeq (fun _ => rfl) (fun _ _ _ => rfl)

/-- C04, `ManyIterator()`: `NextMany` with ANY sequence of buffer lengths of sufficient total capacity concatenates to
the members of the denoted set, each once, in increasing order -/
theorem nextManySeq_create (r : Rep) (h : r.wf = true) (caps : List Nat) (hc : BSet.card r.toBSet ≤ caps.sum) :
    ((create r).nextManySeq caps).1 = BSet.toList r.toBSet := by
  obtain ⟨h1, h2⟩ := create_spec r h
  obtain ⟨k1, -, -⟩ := nextManySeq_spec caps _ h1
  have e := valsOfRep_eq_toList r h
  rw [k1, h2, e]
  apply List.take_of_length_le
  rw [BSet.toList_length]; exact hc

end ManyIt

end RModel.Impl.It
