import RProofs.Rep64InPlace
import RProofs.RepMut
/-!
The hypotheses `Ops32.Sound` / `Ops32.SoundBin` of the range and in-place theorems are satisfiable: the instance
`Ops32.viaStatic` implements the 32-bit `Flip / AddRange / RemoveRange (lo, hi)` as the verified STATIC 32-bit
`Xor / Or / AndNot` with a well-formed representation of `[lo, hi)` (`rangeRep`: what `AddRange(lo, hi)` makes of the empty
bitmap, `rangeRep_eq`), and the in-place `And / Or / AndNot` as the static ones.  (It is a witness, not a model of what the Go
functions store: they keep other container kinds.)  The range theorems of `Rep64Range.lean` are instantiated with it at the end.
-/
namespace RModel.Impl
open RModel RModel.BSet RModel.Driver ContOps RepOps R64Ops RepMut

/-- a well-formed container holding exactly `a, a+1, …, a+l` -/
def rangeCont (a l : Nat) : Cont :=
  if l = 0 then .arr [a]
  else if l = 1 then .arr [a, a + 1]
  else if l = 2 then .arr [a, a + 1, a + 2]
  else .run [(a, l)]

/-- the one-run container in its efficient form, as `rangeOfOnes` builds it -/
theorem rangeCont_eq (a l : Nat) : rangeCont a l = runToEfficient [(a, l)] := by
  unfold rangeCont runToEfficient runToEfficientCard
  simp only [runsCard, expandRuns, List.map_cons, List.map_nil, List.sum_cons, List.sum_nil, List.length_cons,
    List.length_nil, List.flatMap_cons, List.flatMap_nil, List.append_nil, arrayMax]
  split
  · subst l; rfl
  · split
    · subst l; rfl
    · split
      · subst l; rfl
      · rw [if_pos (by omega)]

def rangeLo (s k : Nat) : Nat := if k = s / 65536 then s % 65536 else 0
def rangeHi (e k : Nat) : Nat := if k = (e - 1) / 65536 then (e - 1) % 65536 else 65535

def rangeSlot (s e k : Nat) : Slot :=
  { key := k, c := rangeCont (rangeLo s k) (rangeHi e k - rangeLo s k), flag := false }

/-- a well-formed 32-bit representation of `[s, e)`, `s < e ≤ 2^32` -/
def rangeRep (s e : Nat) : Rep :=
  { cow := false, slots := (keyRange (s / 65536) ((e - 1) / 65536)).map (rangeSlot s e) }

theorem rangeHi_eq (e k : Nat) : rangeHi e k = chunkHi e k - 1 := by
  unfold rangeHi chunkHi; split <;> rfl

theorem rangeSlot_eq (s e k : Nat) : [rangeSlot s e k] = absentS (addRangeF s e) k := by
  rw [rangeSlot, rangeCont_eq, rangeHi_eq]; rfl

/-- the witness' bitmap of `[s, e)` is what `AddRange(s, e)` makes of the empty bitmap -/
theorem rangeRep_eq (s e : Nat) (h : s < e) : rangeRep s e = ({} : Rep).addRange s e := by
  unfold rangeRep Rep.addRange
  rw [if_neg (by omega), alterWalk_eq (fun _ _ => false), mergeWalk, List.map_eq_flatMap]
  simp only [rangeSlot_eq]
  rfl

theorem wf_rangeRep (s e : Nat) (h : s < e) (he : e ≤ 4294967296) : (rangeRep s e).wf = true :=
  rangeRep_eq s e h ▸ Rep.wf_addRange {} wf_emptyRep s e he

theorem mem_rangeRep (s e y : Nat) (h : s < e) (he : e ≤ 4294967296) :
    mem (rangeRep s e).toBSet y = (decide (s ≤ y) && decide (y < e)) := by
  rw [rangeRep_eq s e h, Rep.mem_addRange {} wf_emptyRep s e he, mem_emptyRep]; rfl

/-- the witness: range functions through the verified static 32-bit operations -/
def Ops32.viaStatic : Ops32 where
  flip r s e := Rep.xor2 r (rangeRep s e)
  addRange r s e := Rep.or2 r (rangeRep s e)
  removeRange r s e := Rep.andNot2 r (rangeRep s e)
  iand := Rep.and2
  ior := Rep.or2
  iandNot := Rep.andNot2

theorem Ops32.viaStatic_sound : Ops32.viaStatic.Sound where
  mem_flip r s e y hr h he := by
    show mem (Rep.xor2 r (rangeRep s e)).toBSet y = _
    rw [Rep.mem_xor2 _ _ hr (wf_rangeRep s e h he), mem_rangeRep s e y h he]
  wf_flip r s e hr h he := Rep.wf_xor2 _ _ hr (wf_rangeRep s e h he)
  mem_addRange r s e y hr h he := by
    show mem (Rep.or2 r (rangeRep s e)).toBSet y = _
    rw [Rep.mem_or2 _ _ hr (wf_rangeRep s e h he), mem_rangeRep s e y h he]
  wf_addRange r s e hr h he := Rep.wf_or2 _ _ hr (wf_rangeRep s e h he)
  mem_removeRange r s e y hr h he := by
    show mem (Rep.andNot2 r (rangeRep s e)).toBSet y = _
    rw [Rep.mem_andNot2 _ _ hr (wf_rangeRep s e h he), mem_rangeRep s e y h he]
  wf_removeRange r s e hr h he := Rep.wf_andNot2 _ _ hr (wf_rangeRep s e h he)

theorem Ops32.viaStatic_soundBin : Ops32.viaStatic.SoundBin where
  mem_iand a b y ha hb := Rep.mem_and2 a b ha hb y
  wf_iand a b ha hb := Rep.wf_and2 a b ha hb
  mem_ior a b y ha hb := Rep.mem_or2 a b ha hb y
  wf_ior a b ha hb := Rep.wf_or2 a b ha hb
  mem_iandNot a b y ha hb := Rep.mem_andNot2 a b ha hb y
  wf_iandNot a b ha hb := Rep.wf_andNot2 a b ha hb

/-- closed instances: the bucket-level walks of `Flip`, `AddRange`, `RemoveRange` compute the L1 operations over a 32-bit layer
that does -/
theorem Rep64.toBSet_flip_viaStatic (r : Rep64) (hr : r.wf = true) (lo hi : Nat) (hhi : hi < 18446744073709551616) :
    (Rep64.flip Ops32.viaStatic r lo hi).toBSet = BSet.flipRange r.toBSet lo hi ∧
      (Rep64.flip Ops32.viaStatic r lo hi).wf = true :=
  ⟨Rep64.toBSet_flip Ops32.viaStatic_sound r hr lo hi hhi, Rep64.wf_flip Ops32.viaStatic_sound r hr lo hi hhi⟩

theorem Rep64.toBSet_sflip_viaStatic (r : Rep64) (hr : r.wf = true) (lo hi : Nat) (hhi : hi < 18446744073709551616) :
    (Rep64.sflip Ops32.viaStatic r lo hi).toBSet = BSet.flipRange r.toBSet lo hi ∧
      (Rep64.sflip Ops32.viaStatic r lo hi).wf = true :=
  ⟨Rep64.toBSet_sflip Ops32.viaStatic_sound r hr lo hi hhi, Rep64.wf_sflip Ops32.viaStatic_sound r hr lo hi hhi⟩

theorem Rep64.toBSet_addRange_viaStatic (r : Rep64) (hr : r.wf = true) (lo hi : Nat) (hhi : hi ≤ 18446744073709551616) :
    (Rep64.addRange Ops32.viaStatic r lo hi).toBSet = BSet.addRange r.toBSet lo hi ∧
      (Rep64.addRange Ops32.viaStatic r lo hi).wf = true :=
  ⟨Rep64.toBSet_addRange Ops32.viaStatic_sound r hr lo hi hhi, Rep64.wf_addRange Ops32.viaStatic_sound r hr lo hi hhi⟩

theorem Rep64.toBSet_removeRange_viaStatic (r : Rep64) (hr : r.wf = true) (lo hi : Nat) :
    (Rep64.removeRange Ops32.viaStatic r lo hi).toBSet = BSet.removeRange r.toBSet lo hi ∧
      (Rep64.removeRange Ops32.viaStatic r lo hi).wf = true :=
  ⟨Rep64.toBSet_removeRange Ops32.viaStatic_sound r hr lo hi, Rep64.wf_removeRange Ops32.viaStatic_sound r hr lo hi⟩

end RModel.Impl
