import RProofs.IterCont
import RProofs.RepOps
import RProofs.BSetQuery
/-!
Iteration protocols: the BITMAP-level forward iterator `intIterator` (`IntIt`) over the interface field `CIt`
(IterCont.lean).

It follows the pattern of the container iterators: an invariant `Inv`, the list `rem` of values still to be delivered, and
what `hasNext`, `peekNext`, `next` and initialisation do to `rem`: the rest of the current container (shifted by `hs`)
followed by the values of all later slots.  Draining a fresh iterator then yields `valsOfRep r = BSet.toList r.toBSet`.
`AdvanceIfNeeded` at the bitmap level is in IterAdv.lean.
-/
open RModel.Util
namespace RModel.Impl.It
open RModel RModel.Impl RModel.Impl.ContOps RModel.Impl.ContQuery

/-! ## the bitmap-level forward iterator -/

/-- the members stored in one slot, as 32-bit values -/
def slotVals (s : Slot) : List Nat := (valsOfCont s.c).map (s.key * 65536 + ·)

theorem valsOfRep_eq (r : Rep) : valsOfRep r = r.slots.flatMap slotVals := rfl

namespace IntIt

def Inv (ii : IntIt) : Prop :=
  SlotsWf ii.slots ∧
    (ii.pos < ii.slots.length → ii.hs = (slotAt ii.slots ii.pos).key * 65536 ∧ ii.iter.Inv ∧ ii.iter.rem ≠ [])

/-- the values still to be delivered: the rest of the current container, then all later containers -/
def rem (ii : IntIt) : List Nat :=
  if ii.pos < ii.slots.length then
    ii.iter.rem.map (ii.hs + ·) ++ (ii.slots.drop (ii.pos + 1)).flatMap slotVals
  else []

theorem hasNext_iff {ii : IntIt} (hi : ii.Inv) : ii.hasNext = true ↔ ii.rem ≠ [] := by
  unfold hasNext rem
  by_cases h : ii.pos < ii.slots.length
  · have := (hi.2 h).2.2
    simp [h, this]
  · simp [h]

theorem init_spec (ii : IntIt) (hw : SlotsWf ii.slots) :
    ii.init.Inv ∧ ii.init.rem = (ii.slots.drop ii.pos).flatMap slotVals ∧ ii.init.slots = ii.slots ∧
      ii.init.pos = ii.pos := by
  unfold init
  by_cases h : ii.slots.length > ii.pos
  · rw [if_pos h]
    have hm := hw.ok _ (slotAt_mem h)
    obtain ⟨c1, c2⟩ := CIt.ofCont_spec hm.2
    refine ⟨⟨hw, fun _ => ⟨shl16 _, c1, c2 ▸ valsOfCont_ne_nil hm.2⟩⟩, ?_, rfl, rfl⟩
    simp only [rem]
    rw [if_pos (by exact h), drop_slots h, List.flatMap_cons, c2, shl16]
    rfl
  · rw [if_neg h]
    refine ⟨⟨hw, fun h' => absurd h' (by omega)⟩, ?_, rfl, rfl⟩
    simp only [rem]
    rw [if_neg (by omega), List.drop_eq_nil_iff.mpr (by omega)]
    rfl

/-- `Initialize(b)` on a USED iterator object (whatever state it is in) starts the enumeration of `b` -/
theorem reinit_spec (ii : IntIt) (r : Rep) (h : r.wf = true) : (ii.reinit r).Inv ∧ (ii.reinit r).rem = valsOfRep r := by
  obtain ⟨h1, h2, -, -⟩ := init_spec { ii with pos := 0, slots := r.slots } ((slotsWf_iff r).mp h)
  exact ⟨h1, h2⟩

theorem create_spec (r : Rep) (h : r.wf = true) : (create r).Inv ∧ (create r).rem = valsOfRep r :=
  reinit_spec {} r h

theorem rem_cons {ii : IntIt} (hi : ii.Inv) {v : Nat} {t : List Nat} (h : ii.rem = v :: t) :
    ii.pos < ii.slots.length ∧ ∃ v0 t0, ii.iter.rem = v0 :: t0 ∧ v = ii.hs + v0 ∧ v0 < 65536 ∧ ii.hs % 65536 = 0 ∧
      t = t0.map (ii.hs + ·) ++ (ii.slots.drop (ii.pos + 1)).flatMap slotVals := by
  have hl : ii.pos < ii.slots.length := Classical.not_not.mp fun hc => by
    rw [rem, if_neg hc] at h
    cases h
  obtain ⟨e1, e2, e3⟩ := hi.2 hl
  refine ⟨hl, ?_⟩
  cases hr : ii.iter.rem with
  | nil => exact absurd hr e3
  | cons v0 t0 =>
    simp only [rem, hl, if_true, hr, List.map_cons, List.cons_append] at h
    injection h with h1 h2
    refine ⟨v0, t0, rfl, h1.symm, CIt.rem_lt e2 (by rw [hr]; simp), by omega, h2.symm⟩

theorem peekNext_spec {ii : IntIt} (hi : ii.Inv) {v : Nat} {t : List Nat} (h : ii.rem = v :: t) : ii.peekNext = v := by
  obtain ⟨hl, v0, t0, hr, hv, hlt, hhs, -⟩ := rem_cons hi h
  have := CIt.peekNext_spec (hi.2 hl).2.1 hr
  unfold peekNext
  rw [this, hv, show (0xFFFF : Nat) = 2 ^ 16 - 1 from rfl, Nat.and_two_pow_sub_one_eq_mod, Nat.mod_eq_of_lt hlt]
  exact or_hs_eq_add hlt hhs

/-- the common tail of `Next` and `AdvanceIfNeeded`: the container iterator has moved on to `it'`, and when that has nothing
left the iterator goes on to the next slot; `jj` is a variable so that a call site can take the state as the model spells it -/
theorem settle_spec {ii : IntIt} (hi : ii.Inv) (hl : ii.pos < ii.slots.length) {it' : CIt} (h' : it'.Inv) (jj : IntIt)
    (hj : jj = if (!it'.hasNext) = true then init { ii with iter := it', pos := ii.pos + 1 } else { ii with iter := it' }) :
    jj.Inv ∧ jj.rem = it'.rem.map (ii.hs + ·) ++ (ii.slots.drop (ii.pos + 1)).flatMap slotVals ∧ jj.slots = ii.slots := by
  subst hj
  by_cases hn : it'.hasNext = true
  · rw [hn, if_neg (by decide)]
    exact ⟨⟨hi.1, fun _ => ⟨(hi.2 hl).1, h', (CIt.hasNext_iff h').mp hn⟩⟩, if_pos hl, rfl⟩
  · have hnil : it'.rem = [] := Classical.not_not.mp fun hc => hn ((CIt.hasNext_iff h').mpr hc)
    rw [Bool.not_eq_true] at hn
    rw [hn, if_pos (by decide), hnil]
    obtain ⟨i1, i2, i3, -⟩ := init_spec { ii with iter := it', pos := ii.pos + 1 } hi.1
    exact ⟨i1, i2, i3⟩

theorem next_spec {ii : IntIt} (hi : ii.Inv) {v : Nat} {t : List Nat} (h : ii.rem = v :: t) :
    ii.next.1 = v ∧ ii.next.2.Inv ∧ ii.next.2.rem = t ∧ ii.next.2.slots = ii.slots := by
  obtain ⟨hl, v0, t0, hr, hv, hlt, hhs, ht⟩ := rem_cons hi h
  obtain ⟨n1, n2, n3⟩ := CIt.next_spec (hi.2 hl).2.1 hr
  obtain ⟨s1, s2, s3⟩ := settle_spec hi hl n2 _ rfl
  unfold next
  simp only []
  rw [← apply_ite (Prod.mk (ii.iter.next.1 ||| ii.hs))]
  exact ⟨by rw [n1, hv]; exact or_hs_eq_add hlt hhs, s1, by rw [s2, n3, ht], s3⟩

theorem follows : Follows Inv rem hasNext next :=
  ⟨hasNext_iff, fun hi _ _ h => let ⟨a, b, c, _⟩ := next_spec hi h; ⟨a, b, c⟩⟩

theorem drain_spec : ∀ (fuel : Nat) (ii : IntIt), ii.Inv → ii.rem.length ≤ fuel → (ii.drain fuel).1 = ii.rem :=
  drain_of_protocol follows (fun n s => (drain n s).1) (fun _ => rfl) (fun _ _ => apply_ite Prod.fst _ _ _)

end IntIt

/-! ### `valsOfRep` is the enumeration of the denoted set -/

theorem mem_slotVals {s : Slot} (hw : s.c.wf = true) (x : Nat) :
    x ∈ slotVals s ↔ (x / 65536 = s.key ∧ s.c.has (x % 65536) = true) := by
  rw [slotVals, mem_map_key fun v hv => valsOfCont_lt hw hv, mem_valsOfCont]

theorem slotVals_key {l : List Slot} (hw : SlotsWf l) (s : Slot) (hs : s ∈ l) (x : Nat) (hx : x ∈ slotVals s) :
    x / 65536 = s.key :=
  ((mem_slotVals (hw.ok s hs).2 x).mp hx).1

theorem mem_valsOfRep (r : Rep) (h : r.wf = true) (x : Nat) : x ∈ valsOfRep r ↔ r.has x = true := by
  have hw := (slotsWf_iff r).mp h
  rw [has_eq_slotsHas r hw, valsOfRep_eq, List.mem_flatMap]
  simp only [slotsHas, List.any_eq_true, Bool.and_eq_true, beq_iff_eq]
  refine exists_congr fun s => and_congr_right fun hs => ?_
  rw [mem_slotVals (hw.ok s hs).2]
  exact and_congr_left' eq_comm

theorem sorted_flatMap_slotVals (l : List Slot) (hw : SlotsWf l) : (l.flatMap slotVals).Pairwise (· < ·) :=
  sorted_flatMap_keyed l hw.sorted fun s hs =>
    ⟨(sorted_valsOfCont (hw.ok s hs).2).map _ fun _ _ h => Nat.add_lt_add_left h _, slotVals_key hw s hs⟩

theorem valsOfRep_eq_toList (r : Rep) (h : r.wf = true) : valsOfRep r = BSet.toList r.toBSet := by
  have hw := (slotsWf_iff r).mp h
  have hs := sinc_rep r
  have he := even_rep r h
  rw [valsOfRep_eq]
  apply Util.sorted_ext _ _ (sorted_flatMap_slotVals r.slots hw) (BSet.toList_sorted _ hs he)
  intro x
  rw [← valsOfRep_eq, mem_valsOfRep r h, BSet.mem_toList _ hs he, mem_rep r h]

theorem mem_valsOfRep_iff_mem (r : Rep) (h : r.wf = true) (x : Nat) : x ∈ valsOfRep r ↔ BSet.mem r.toBSet x = true := by
  rw [valsOfRep_eq_toList r h, BSet.mem_toList _ (sinc_rep r) (even_rep r h)]

theorem valsOfRep_lt {r : Rep} (h : r.wf = true) {x : Nat} (hx : x ∈ valsOfRep r) : x < 4294967296 :=
  BSet.mem_lt_of_canon _ _ (canon_rep r h) x ((mem_valsOfRep_iff_mem r h x).mp hx)

theorem sorted_valsOfRep {r : Rep} (h : r.wf = true) : (valsOfRep r).Pairwise (· < ·) := by
  rw [valsOfRep_eq]; exact sorted_flatMap_slotVals r.slots ((slotsWf_iff r).mp h)

/-- C04, `Iterator()`: draining a fresh bitmap-level iterator yields the members of the denoted set, each once, in
increasing order -/
theorem IntIt.drain_create (r : Rep) (h : r.wf = true) (fuel : Nat) (hf : BSet.card r.toBSet ≤ fuel) :
    ((IntIt.create r).drain fuel).1 = BSet.toList r.toBSet := by
  obtain ⟨h1, h2⟩ := IntIt.create_spec r h
  have e := valsOfRep_eq_toList r h
  rw [IntIt.drain_spec fuel _ h1 (by rw [h2, e, BSet.toList_length]; exact hf), h2, e]

end RModel.Impl.It
