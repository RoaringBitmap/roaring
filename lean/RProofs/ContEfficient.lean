import RModel.Impl.ContMut
import RProofs.ContOps
import RProofs.BSetQuery
/-!
`toEfficientContainer` (`Cont.toEfficient`). For a BITMAP container the run extraction `runsOfWords` (computed word-wise by the
fast abstraction `wordsBoundsFast`) is `runsOfBounds` of the container's boundary list, hence the maximal runs of the set bits; for
an ARRAY container the one-pass boundary walk `sortedValsBounds` fuses the one-value ranges of the values (`coalesceP`,
`Intervals.lean`), so `runsOfVals` are those fused ranges written as runs. Either way the re-typed container has the same members
and is well-formed (`toEfficient_holds`).
Used by the in-place kernels `runContainer16.iandNotArray / iandNotBitmap` (`Cont.iandNot2`, run × array / bitmap) and by `RunOptimize`.
-/
open RModel.Util
namespace RModel.Impl
open RModel RModel.BSet RModel.Driver ContOps ContMut It

/-! ### the boundary list of a bit list, without the closing boundary -/

/-- boundaries inside a bit list and the membership state after it -/
def boundsOpen : Nat → Bool → List Bool → List Nat × Bool
  | _, prev, [] => ([], prev)
  | pos, prev, b :: t =>
    ((if b != prev then pos :: (boundsOpen (pos + 1) b t).1 else (boundsOpen (pos + 1) b t).1), (boundsOpen (pos + 1) b t).2)

theorem boundsOfBits_append (pos : Nat) (prev : Bool) (l1 l2 : List Bool) :
    boundsOfBits pos prev (l1 ++ l2) =
      (boundsOpen pos prev l1).1 ++ boundsOfBits (pos + l1.length) (boundsOpen pos prev l1).2 l2 := by
  induction l1 generalizing pos prev with
  | nil => simp [boundsOpen]
  | cons b t ih =>
    simp only [List.cons_append, boundsOfBits, boundsOpen, List.length_cons]
    have e : pos + (t.length + 1) = pos + 1 + t.length := by omega
    split
    · rw [ih, e]; simp
    · rename_i hb
      have : b = prev := by cases b <;> cases prev <;> simp_all
      subst this
      rw [ih, e]

theorem boundsOpen_replicate_false (pos : Nat) (prev : Bool) (n : Nat) :
    boundsOpen pos prev (List.replicate (n + 1) false) = ((if prev then [pos] else []), false) := by
  induction n generalizing pos prev with
  | zero => cases prev <;> simp [boundsOpen]
  | succ k ih =>
    rw [List.replicate_succ]
    simp only [boundsOpen, ih]
    cases prev <;> simp

theorem boundsOpen_replicate_true (pos : Nat) (prev : Bool) (n : Nat) :
    boundsOpen pos prev (List.replicate (n + 1) true) = ((if prev then [] else [pos]), true) := by
  induction n generalizing pos prev with
  | zero => cases prev <;> simp [boundsOpen]
  | succ k ih =>
    rw [List.replicate_succ]
    simp only [boundsOpen, ih]
    cases prev <;> simp

theorem wordBoundsFast_go_eq (pos : Nat) (w : BitVec 64) (fuel : Nat) : ∀ (i : Nat) (prev : Bool) (acc : List Nat),
    wordBoundsFast.go pos w i fuel prev acc =
      (acc.reverse ++ (boundsOpen (pos + i) prev ((List.range' i fuel).map w.getLsbD)).1,
        (boundsOpen (pos + i) prev ((List.range' i fuel).map w.getLsbD)).2) := by
  induction fuel with
  | zero => intro i prev acc; simp [wordBoundsFast.go, boundsOpen]
  | succ k ih =>
    intro i prev acc
    rw [wordBoundsFast.go, ih, List.range'_succ, List.map_cons]
    simp only [boundsOpen]
    have e : pos + (i + 1) = pos + i + 1 := by omega
    rw [e]
    split <;> simp

theorem wordBits_zero : wordBits 0#64 = List.replicate 64 false := by
  rw [List.eq_replicate_iff]
  refine ⟨wordBits_length _, ?_⟩
  intro b hb
  simp only [wordBits, List.mem_map, List.mem_range] at hb
  obtain ⟨j, _, rfl⟩ := hb
  exact BitVec.getLsbD_zero

theorem wordBits_allOnes : wordBits (BitVec.allOnes 64) = List.replicate 64 true := by
  rw [List.eq_replicate_iff]
  refine ⟨wordBits_length _, ?_⟩
  intro b hb
  simp only [wordBits, List.mem_map, List.mem_range] at hb
  obtain ⟨j, hj, rfl⟩ := hb
  rw [BitVec.getLsbD_allOnes]
  simpa using hj

theorem wordBoundsFast_eq (pos : Nat) (prev : Bool) (w : BitVec 64) :
    wordBoundsFast pos prev w = boundsOpen pos prev (wordBits w) := by
  unfold wordBoundsFast
  split <;> rename_i h0
  · have : w = 0#64 := by simpa using h0
    subst this
    rw [wordBits_zero, boundsOpen_replicate_false pos prev 63]
  · split <;> rename_i h1
    · have : w = BitVec.allOnes 64 := by simpa using h1
      subst this
      rw [wordBits_allOnes, boundsOpen_replicate_true pos prev 63]
    · -- `rewrite`, not `rw`: closing `(r.1, r.2) = r` by `rfl` makes the kernel unfold `boundsOpen` over all 64 bits
      rewrite [wordBoundsFast_go_eq, wordBits, List.range_eq_range', Nat.add_zero, List.reverse_nil, List.nil_append]
      exact Prod.eta _

theorem wordsBoundsFast_flatten (ws : List (BitVec 64)) : ∀ (pos : Nat) (prev : Bool) (acc : List (List Nat)),
    (wordsBoundsFast pos prev ws acc).flatten = acc.reverse.flatten ++ boundsOfBits pos prev (ws.flatMap wordBits) := by
  induction ws with
  | nil =>
    intro pos prev acc
    simp only [wordsBoundsFast, List.reverse_cons, List.flatten_append, List.flatMap_nil, boundsOfBits]
    simp
  | cons w t ih =>
    intro pos prev acc
    simp only [wordsBoundsFast, List.flatMap_cons]
    rw [wordBoundsFast_eq, boundsOfBits_append, wordBits_length, ih]
    split <;> rename_i he
    · have : (boundsOpen pos prev (wordBits w)).1 = [] := List.isEmpty_iff.mp he
      rw [this]; simp
    · simp

/-- the run extraction works on the abstraction of the bitmap container -/
theorem runsOfWords_eq (c : Int) (ws : List (BitVec 64)) : runsOfWords ws = runsOfBounds ((Cont.bmp c ws).toBSet 0) := by
  simp only [runsOfWords, Cont.toBSet, wordsBoundsFast_flatten]
  simp

/-! ### the runs of a word list -/

/-- no bit is set beyond the last word, so the boundary list closes its last interval -/
theorem even_toBSet_bmp (c : Int) (ws : List (BitVec 64)) : Even ((Cont.bmp c ws).toBSet 0) :=
  (canon_of_bounded (64 * ws.length) _ (sinc_toBSet _) fun x hx => (mem_toBSet_bmp c ws x).trans (testBit_of_ge ws x hx)).2.2

theorem inRuns_runsOfWords (ws : List (BitVec 64)) (x : Nat) : inRuns (runsOfWords ws) x = testBit ws x := by
  rw [runsOfWords_eq 0 ws, inRuns_runsOfBounds _ (sinc_toBSet _) (even_toBSet_bmp 0 ws), mem_toBSet_bmp]

theorem bound_runsOfWords (ws : List (BitVec 64)) (hl : ws.length = 1024) : RunBound 65535 (runsOfWords ws) :=
  bound_of_inRuns fun x hx => Nat.le_of_lt_succ (testBit_lt hl ((inRuns_runsOfWords ws x).symm.trans hx))

theorem sep_runsOfWords (ws : List (BitVec 64)) : RunSep (runsOfWords ws) := by
  rw [runsOfWords_eq 0 ws]; exact sep_runsOfBounds _ (sinc_toBSet _)

/-- as many values in the runs as bits in the words: spread out, the runs list the set bits -/
theorem runsCard_runsOfWords (ws : List (BitVec 64)) : runsCard (runsOfWords ws) = wordsCard ws := by
  rw [← length_expandRuns]
  exact (wordsCard_eq_length (nodup_of_sorted (sorted_expandRuns _ (sep_runsOfWords ws))) fun x => by
    rw [mem_expandRuns, inRuns_runsOfWords]).symm

/-! ### `bitmapContainer.toEfficientContainer` -/

theorem has_toEfficient_bmp (c : Int) (ws : List (BitVec 64)) (y : Nat) :
    ((Cont.bmp c ws).toEfficient).has y = testBit ws y := by
  simp only [Cont.toEfficient]
  split
  · simp only [has_run, inRuns_runsOfWords]
  · split
    · simp only [has_arr, contains_valsOfWords]
    · rfl

theorem nilOrWf_toEfficient_bmp {c : Int} {ws : List (BitVec 64)} (hl : ws.length = 1024) (hc : c = (wordsCard ws : Int)) :
    ((Cont.bmp c ws).toEfficient).NilOrWf := by
  simp only [Cont.toEfficient]
  split <;> rename_i hmin
  · have hcard := runsCard_runsOfWords ws
    exact Or.inr (wf_run_mk (sep_runsOfWords ws) (bound_runsOfWords ws hl) (by omega))
  · split <;> rename_i hle
    · exact nilOrWf_arr (arrOk_valsOfWords hl (by simp only [arrayMax] at hle; omega))
    · right; exact wf_bmp_mk hl hc (by simp only [arrayMax] at hle; omega)

theorem holds_toEfficient_bmp {c : Int} {ws : List (BitVec 64)} (hl : ws.length = 1024) (hc : c = (wordsCard ws : Int)) :
    ((Cont.bmp c ws).toEfficient).Holds (testBit ws) :=
  ⟨has_toEfficient_bmp c ws, nilOrWf_toEfficient_bmp hl hc⟩

/-- `bitmapContainer.toEfficientContainer` keeps the set, whatever the cached cardinality -/
theorem toBSet_toEfficient_bmp (c : Int) (ws : List (BitVec 64)) :
    ((Cont.bmp c ws).toEfficient).toBSet 0 = (Cont.bmp c ws).toBSet 0 :=
  canon_ext_sinc _ _ (sinc_toBSet _) (sinc_toBSet _)
    (fun x => by rw [mem_toBSet, mem_toBSet, has_toEfficient_bmp, has_bmp])

/-! ### `toEfficientContainer` of an array container, and of every kind -/

/-- the one-pass boundary walk over strictly increasing values fuses their one-value ranges; `(lo, hi)` is the range being grown -/
theorem sortedValsBounds_some (base : Nat) : ∀ (vals : List Nat) (lo hi : Nat) (acc : List Nat), vals.Pairwise (· < ·) →
    (∀ v ∈ vals, hi ≤ base + v) →
    sortedValsBounds base vals (some (lo, hi)) acc =
      acc.reverse ++ boundsOf (coalesceGo (lo, hi) ((vals.map (base + ·)).map fun v => (v, v + 1)))
  | [], lo, hi, acc, _, _ => by simp [sortedValsBounds, coalesceGo, boundsOf]
  | v :: t, lo, hi, acc, hs, hb => by
    have hp := List.pairwise_cons.mp hs
    have hv := hb v (List.mem_cons_self ..)
    have htb : ∀ a ∈ t, base + v + 1 ≤ base + a := fun a ha => by have := hp.1 a ha; omega
    simp only [sortedValsBounds, List.map_cons, coalesceGo]
    by_cases c : base + v = hi
    · subst c
      rw [if_pos (beq_self_eq_true _), if_pos (Nat.le_refl _), if_pos (Nat.lt_succ_self _),
        sortedValsBounds_some base t lo _ acc hp.2 htb]
    · rw [if_neg (by simpa using c), if_neg (by omega), sortedValsBounds_some base t _ _ _ hp.2 htb]
      simp [boundsOf]

theorem coalesce_singles {l : List Nat} (h : l.Pairwise (· < ·)) :
    Sep (coalesceP (l.map fun v => (v, v + 1))) ∧ ∀ x, memPairs (coalesceP (l.map fun v => (v, v + 1))) x = l.contains x :=
  have ⟨c1, c2⟩ := coalesceP_spec _ (wsep_singles h).asc
  ⟨c1, fun x => (c2 x).trans (memPairs_singles l x)⟩

theorem sortedValsBounds_eq (base : Nat) (vals : List Nat) (hs : vals.Pairwise (· < ·)) :
    sortedValsBounds base vals none [] = boundsOf (coalesceP ((vals.map (base + ·)).map fun v => (v, v + 1))) := by
  cases vals with
  | nil => rfl
  | cons v t =>
    have hp := List.pairwise_cons.mp hs
    rw [sortedValsBounds, sortedValsBounds_some base t _ _ [] hp.2 fun a ha => Nat.succ_le_of_lt (Nat.add_lt_add_left (hp.1 a ha) base)]
    rfl

theorem sortedValsBounds_none (base : Nat) (vals : List Nat) (hs : vals.Pairwise (· < ·)) :
    sortedValsBounds base vals none [] = (Cont.arr vals).toBSet base := by
  obtain ⟨c1, c2⟩ := coalesce_singles (List.pairwise_map.mpr (hs.imp fun h => Nat.add_lt_add_left h base))
  rw [sortedValsBounds_eq base vals hs]
  exact canon_ext_sinc _ _ (sinc_boundsOf c1) (sinc_toBSet_arr base _) fun x => (mem_boundsOf c1 x).trans ((c2 x).trans (by
    rw [mem_toBSet_arr, List.contains_eq_any_beq, List.any_map]; rfl))

/-- the run extraction works on the abstraction of the array container -/
theorem runsOfVals_eq (vals : List Nat) (hs : vals.Pairwise (· < ·)) :
    runsOfVals vals = runsOfBounds ((Cont.arr vals).toBSet 0) := by
  unfold runsOfVals; rw [sortedValsBounds_none 0 vals hs]

theorem runRanges_runsOfVals {vals : List Nat} (hs : vals.Pairwise (· < ·)) :
    runRanges (runsOfVals vals) = coalesceP (vals.map fun v => (v, v + 1)) := by
  have e : vals.map (0 + ·) = vals := by simp
  rw [runsOfVals, sortedValsBounds_eq 0 vals hs, e, runRanges_runsOfBounds _ (sinc_boundsOf (coalesce_singles hs).1),
    pairsOf_boundsOf]

theorem runsOfVals_spec {xs : List Nat} (hs : xs.Pairwise (· < ·)) :
    RunSep (runsOfVals xs) ∧ ∀ x, inRuns (runsOfVals xs) x = xs.contains x :=
  have h := coalesce_singles hs
  ⟨sep_runRanges.mp (runRanges_runsOfVals hs ▸ h.1), fun x => by rw [← memPairs_runRanges, runRanges_runsOfVals hs, h.2]⟩

/-- as many values in the runs as in the list: spread out, the runs are the list -/
theorem runsCard_runsOfVals {xs : List Nat} (hs : xs.Pairwise (· < ·)) : runsCard (runsOfVals xs) = xs.length := by
  have h := runsOfVals_spec hs
  rw [← length_expandRuns, sorted_ext _ xs (sorted_expandRuns _ h.1) hs fun x => by
    rw [mem_expandRuns, h.2, List.contains_iff_mem]]

theorem toEfficient_holds (c : Cont) (hc : c.wf = true) : c.toEfficient.Holds c.has := by
  cases c with
  | arr xs =>
    have hxs := wf_arr hc
    simp only [Cont.toEfficient]
    split <;> rename_i hmin
    · have h := runsOfVals_spec hxs.sorted
      exact ⟨h.2, Or.inr (wf_run_mk h.1 (bound_of_inRuns fun x hx => Nat.le_of_lt_succ (has_lt hc ((h.2 x).symm.trans hx)))
        (by rw [runsCard_runsOfVals hxs.sorted]; exact hmin))⟩
    · -- an array container never has more than 4096 values
      rw [if_pos (show xs.length ≤ arrayMax from hxs.le)]
      exact holds_of_wf hc
  | bmp k ws =>
    obtain ⟨hl, hk, _⟩ := wf_bmp hc
    exact holds_toEfficient_bmp hl hk
  | run rs => exact holds_runToEfficient ⟨(wf_run hc).sep, fun _ => rfl⟩ (has_lt hc)

theorem has_toEfficient (c : Cont) (hc : c.wf = true) (y : Nat) : c.toEfficient.has y = c.has y :=
  (toEfficient_holds c hc).has y

theorem wf_toEfficient (c : Cont) (hc : c.wf = true) : c.toEfficient.wf = true := by
  obtain ⟨y, hy⟩ := wf_has_member _ hc
  exact (toEfficient_holds c hc).nw.wf_of_has ((has_toEfficient c hc y).trans hy)

end RModel.Impl
