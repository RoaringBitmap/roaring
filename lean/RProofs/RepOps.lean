import RProofs.ContOps
import RProofs.Keyed
import RProofs.BSetQuery
import RModel.Impl.RepOps
/-!
Bitmap-level (roaringArray) L2 theorems for the four static operations `And`, `Or`, `Xor`, `AndNot` (`Rep.and2` …): the slots of
a 32-bit bitmap as a key-sorted list of chunks (`slotV`, `slotsHas`, `SlotsWf`, `mem_rep`), the pieces a kernel result
contributes (`Piece.wf/keep/kernel`), and the four operations as instances of the walk theory of `Keyed.lean` (`mergeSpec_*`).
At the end: the abstraction of a well-formed bitmap is canonical in `[0, 2^32)`.
-/
namespace RModel.Impl
open RModel RModel.BSet RModel.Driver ContOps RepOps

/-! ### membership in the abstraction of a representation -/

theorem sinc_slotSets (r : Rep) : ∀ s ∈ r.slots.map (fun s => s.c.toBSet (s.key * 65536)), SInc s := by
  intro s hs
  obtain ⟨a, _, rfl⟩ := List.mem_map.mp hs
  exact sinc_toBSet_base _ _

theorem sinc_rep (r : Rep) : SInc r.toBSet :=
  sinc_unionAll _ (sinc_slotSets r)

theorem mem_rep_any (r : Rep) (x : Nat) :
    mem r.toBSet x = r.slots.any (fun s => decide (s.key * 65536 ≤ x) && s.c.has (x - s.key * 65536)) := by
  unfold Rep.toBSet
  rw [mem_unionAll _ (sinc_slotSets r)]
  simp only [List.any_map]
  congr 1
  funext s
  simp [Function.comp, mem_toBSet_base]

def slotsHas (l : List Slot) (x : Nat) : Bool := l.any (fun s => s.key == x / 65536 && s.c.has (x % 65536))

/-- the slots of a 32-bit bitmap: chunks of 65536 values, `slotsHas l x = slotV.hasAt l (x / 65536) (x % 65536)` -/
abbrev slotV : Keyed Slot := ⟨(·.key), (·.c.has)⟩

theorem mem_rep_slots (r : Rep) (hb : ∀ s ∈ r.slots, s.c.Bounded) (x : Nat) : mem r.toBSet x = slotsHas r.slots x :=
  slotV.mem_blocks 65536 _ r.slots (fun _ _ => sinc_toBSet_base _ _) (fun _ _ _ => mem_toBSet_base _ _ _) hb x

/-! ### well-formed slot lists -/

/-- `Rep.wf` as a proposition about the slot list -/
structure SlotsWf (l : List Slot) : Prop where
  sorted : l.Pairwise (fun s t => s.key < t.key)
  ok : ∀ s ∈ l, s.key < 65536 ∧ s.c.wf = true

/-- what `SlotsWf` asks of one slot -/
def Slot.Wf (s : Slot) : Prop := s.key < 65536 ∧ s.c.wf = true

theorem slotsWf_iff (r : Rep) : r.wf = true ↔ SlotsWf r.slots := by
  simp only [Rep.wf, Bool.and_eq_true, List.all_eq_true, decide_eq_true_eq]
  constructor
  · rintro ⟨h1, h2⟩
    exact ⟨List.pairwise_map.mp (pairwise_of_strictInc _ h1), h2⟩
  · rintro ⟨h1, h2⟩
    exact ⟨strictInc_of_pairwise _ (List.pairwise_map.mpr h1), h2⟩

theorem SlotsWf.nil : SlotsWf [] := ⟨List.Pairwise.nil, fun _ h => by cases h⟩

theorem SlotsWf.tail {s : Slot} {t : List Slot} (h : SlotsWf (s :: t)) : SlotsWf t :=
  ⟨(List.pairwise_cons.mp h.sorted).2, fun s' hs' => h.ok s' (by simp [hs'])⟩

theorem SlotsWf.head {s : Slot} {t : List Slot} (h : SlotsWf (s :: t)) : s.key < 65536 ∧ s.c.wf = true :=
  h.ok s (by simp)

theorem SlotsWf.head_lt {s : Slot} {t : List Slot} (h : SlotsWf (s :: t)) : ∀ s' ∈ t, s.key < s'.key :=
  (List.pairwise_cons.mp h.sorted).1

theorem SlotsWf.gt_of_lt_head {k : Nat} {s : Slot} {t : List Slot} (h : SlotsWf (s :: t)) (hk : k < s.key) :
    ∀ s' ∈ s :: t, k < s'.key :=
  slotV.gt_of_sorted h.sorted hk

theorem SlotsWf.cons {s : Slot} {t : List Slot} (hs : s.key < 65536 ∧ s.c.wf = true) (ht : SlotsWf t)
    (hlt : ∀ s' ∈ t, s.key < s'.key) : SlotsWf (s :: t) :=
  ⟨List.pairwise_cons.mpr ⟨hlt, ht.sorted⟩, fun s' hs' => by
    rcases List.mem_cons.mp hs' with rfl | h'
    · exact hs
    · exact ht.ok s' h'⟩

theorem wf_keep {k : Nat} {c : Cont} {rest : List Slot} (hk : k < 65536) (hc : c.EmptyOrWf) (hr : SlotsWf rest)
    (hlt : ∀ s ∈ rest, k < s.key) : SlotsWf (keep k c rest) := by
  unfold keep
  rcases hc with ⟨he, _⟩ | ⟨he, hw⟩
  · simpa [he] using hr
  · simp only [he]
    exact SlotsWf.cons ⟨hk, hw⟩ hr hlt

theorem SlotsWf.bounded {l : List Slot} (h : SlotsWf l) : ∀ s ∈ l, s.c.Bounded :=
  fun s hs => bounded_of_wf (h.ok s hs).2

/-! ### chunk-wise membership -/

theorem slotsHas_nil (x : Nat) : slotsHas [] x = false := rfl

theorem slotsHas_cons (s : Slot) (t : List Slot) (x : Nat) :
    slotsHas (s :: t) x = ((s.key == x / 65536 && s.c.has (x % 65536)) || slotsHas t x) := rfl

theorem slotsHas_append (a b : List Slot) (x : Nat) : slotsHas (a ++ b) x = (slotsHas a x || slotsHas b x) :=
  List.any_append

theorem has_eq_slotsHas (r : Rep) (h : SlotsWf r.slots) (x : Nat) : r.has x = slotsHas r.slots x := by
  refine Eq.trans ?_ (slotV.hasAt_eq_find h.sorted _ _).symm
  unfold Rep.has Rep.find
  cases r.slots.find? _ <;> rfl

/-- `x` is in the set a well-formed representation denotes iff the container stored under key
`x / 65536` exists and contains `x % 65536` -/
theorem mem_rep (r : Rep) (h : r.wf = true) (x : Nat) : mem r.toBSet x = r.has x := by
  have hw := (slotsWf_iff r).mp h
  rw [mem_rep_slots r hw.bounded, has_eq_slotsHas r hw]

/-! ### the steps of the walks and the pieces they store -/

/-- a slot only one operand has, stored as a private copy (`clone()`, flag off); `keepS`, `dropS` are the other two ways -/
def cloneS (s : Slot) : List Slot := [{ key := s.key, c := s.c, flag := false }]

/-- how a step treats two slots with the same key: the kernel's result with the flag off, stored only if not empty
(`keepIf`) or in any case (`always`) -/
def keepIf (g : Cont → Cont → Cont) (sa sb : Slot) : List Slot := keep sa.key (g sa.c sb.c) []
def always (g : Slot → Cont → Cont) (sa sb : Slot) : List Slot := [{ key := sa.key, c := g sa sb.c, flag := false }]

section
variable {k : Nat} {p : Nat → Bool}

theorem Piece.wf {c : Cont} {fl : Bool} (hk : k < 65536) (hc : c.wf = true) (hp : ∀ y, c.has y = p y) :
    Piece slotV Slot.Wf k p [{ key := k, c := c, flag := fl }] :=
  .single rfl ⟨hk, hc⟩ hp

theorem Piece.keep {c : Cont} (hk : k < 65536) (hc : c.EmptyOrWf) (hp : ∀ y, c.has y = p y) :
    Piece slotV Slot.Wf k p (keep k c []) := by
  unfold RepOps.keep
  rcases hc with ⟨he, hh⟩ | ⟨he, hw⟩
  · rw [if_pos he]; exact .nil (fun y => by rw [← hp, hh])
  · rw [if_neg (by rw [he]; exact Bool.false_ne_true)]; exact .wf hk hw hp

theorem Piece.kernel {f : Bool → Bool → Bool} {K : Cont → Cont → Cont}
    (hK : ∀ a b, a.wf = true → b.wf = true → (K a b).Holds fun y => f (a.has y) (b.has y)) (sa sb : Slot) (ha : sa.Wf)
    (hb : sb.Wf) (_ : sa.key = sb.key) :
    Piece slotV Slot.Wf sa.key (fun y => f (sa.c.has y) (sb.c.has y)) (keepIf K sa sb) :=
  .keep ha.1 (hK _ _ ha.2 hb.2).emptyOrWf (hK _ _ ha.2 hb.2).has

end

/-! ### from chunk-wise membership to the denoted set -/

theorem toBSet_of_slotsHas {f : Bool → Bool → Bool} (h0 : f false false = false) {r a b : Rep}
    (hr : ∀ s ∈ r.slots, s.c.Bounded) (ha : ∀ s ∈ a.slots, s.c.Bounded) (hb : ∀ s ∈ b.slots, s.c.Bounded)
    (h : ∀ x, slotsHas r.slots x = f (slotsHas a.slots x) (slotsHas b.slots x)) :
    r.toBSet = BSet.combine f a.toBSet b.toBSet false false :=
  canon_ext_sinc _ _ (sinc_rep _) (sinc_combine _ _ _ _ _ (sinc_rep a) (sinc_rep b)) (fun x => by
    rw [mem_combine _ _ _ _ _ (sinc_rep a) (sinc_rep b), mem_rep_slots r hr, mem_rep_slots a ha, mem_rep_slots b hb, h, h0,
      Bool.false_bne, Bool.false_bne, Bool.bne_false])

theorem Slot.Wf.bounded {s : Slot} (h : s.Wf) : s.c.Bounded := bounded_of_wf h.2

/-- a walk read on representations, for any demands on the slots that bound the containers (`Slot.Wf`: `MergeSpec.rep`; the
lazy and the parallel unions ask less of their intermediate results) -/
theorem MergeSpec.slots {f : Bool → Bool → Bool} {Pa Pb Po : Slot → Prop} {L R R' : Slot → List Slot}
    {M : Slot → Slot → List Slot} (W : MergeSpec slotV slotV slotV f Pa Pb Po L R R' M) (hPa : ∀ s, Pa s → s.c.Bounded)
    (hPb : ∀ s, Pb s → s.c.Bounded) (hPo : ∀ s, Po s → s.c.Bounded) {r a b : Rep}
    (hr : r.slots = mergeWalk slotV slotV L R R' M a.slots b.slots) (hsa : slotV.Sorted a.slots) (ha : ∀ s ∈ a.slots, Pa s)
    (hsb : slotV.Sorted b.slots) (hb : ∀ s ∈ b.slots, Pb s) :
    slotV.Sorted r.slots ∧ (∀ s ∈ r.slots, Po s) ∧ r.toBSet = BSet.combine f a.toBSet b.toBSet false false :=
  have hok : ∀ s ∈ r.slots, Po s := hr ▸ W.ok ha hb
  ⟨hr ▸ W.sorted ha hb hsa hsb, hok,
    toBSet_of_slotsHas W.zero (fun s hs => hPo s (hok s hs)) (fun s hs => hPa s (ha s hs)) (fun s hs => hPb s (hb s hs))
      fun _ => hr ▸ W.has ha hb hsa hsb _ _⟩

theorem MergeSpec.rep {f : Bool → Bool → Bool} {L R R' : Slot → List Slot} {M : Slot → Slot → List Slot}
    (W : MergeSpec slotV slotV slotV f Slot.Wf Slot.Wf Slot.Wf L R R' M) {r a b : Rep}
    (hr : r.slots = mergeWalk slotV slotV L R R' M a.slots b.slots) (ha : a.wf = true) (hb : b.wf = true) :
    r.wf = true ∧ r.toBSet = BSet.combine f a.toBSet b.toBSet false false :=
  have hwa := (slotsWf_iff a).mp ha
  have hwb := (slotsWf_iff b).mp hb
  have ⟨h1, h2, h3⟩ := W.slots (fun _ => Slot.Wf.bounded) (fun _ => Slot.Wf.bounded) (fun _ => Slot.Wf.bounded) hr hwa.sorted
    hwa.ok hwb.sorted hwb.ok
  ⟨(slotsWf_iff r).mpr ⟨h1, h2⟩, h3⟩

theorem Rep.map_spec {P : Slot → Prop} {h : Slot → Slot} {r r' : Rep} (e : r'.slots = r.slots.map h)
    (hs : slotV.Sorted r.slots) (hP : ∀ s ∈ r.slots, P s) (hb : ∀ s, P s → s.c.Bounded)
    (hh : ∀ s, P s → (h s).key = s.key ∧ (h s).Wf ∧ ∀ y, (h s).c.has y = s.c.has y) :
    r'.wf = true ∧ r'.toBSet = r.toBSet := by
  obtain ⟨h1, h2, h3⟩ := RModel.Impl.map_spec (Va := slotV) (Vc := slotV) hh hs hP
  have hw : SlotsWf r'.slots := e ▸ ⟨h1, h2⟩
  refine ⟨(slotsWf_iff _).mpr hw, canon_ext_sinc _ _ (sinc_rep _) (sinc_rep _) fun x => ?_⟩
  rw [mem_rep_slots _ hw.bounded, mem_rep_slots r (fun s hs => hb s (hP s hs)), e]
  exact h3 _ _

/-! ### the four static operations -/

theorem copySlot_eq (s : Slot) : copySlot s = s := rfl

theorem map_copySlot (l : List Slot) : l.map copySlot = l := by
  induction l with
  | nil => rfl
  | cons s t ih => rw [List.map_cons, ih, copySlot_eq]

theorem keep_eq (k : Nat) (c : Cont) (rest : List Slot) : keep k c rest = keep k c [] ++ rest := by
  unfold keep; split <;> rfl

theorem andSlots_eq (a b : List Slot) :
    andSlots a b = mergeWalk slotV slotV dropS dropS dropS
      (keepIf Cont.and2) a b := by
  fun_induction andSlots a b <;> simp [mergeWalk, dropS, keepIf, *]
  exact keep_eq _ _ _

theorem orSlots_eq (a b : List Slot) :
    orSlots a b = mergeWalk slotV slotV keepS keepS keepS
      (always fun sa cb => sa.c.or2 cb) a b := by
  fun_induction orSlots a b <;> simp [mergeWalk, keepS, always, map_copySlot, copySlot_eq, *]

theorem xorSlots_eq (a b : List Slot) :
    xorSlots a b = mergeWalk slotV slotV keepS keepS keepS
      (keepIf Cont.xor2) a b := by
  fun_induction xorSlots a b <;> simp [mergeWalk, keepS, keepIf, map_copySlot, copySlot_eq, *]
  exact keep_eq _ _ _

theorem andNotSlots_eq (a b : List Slot) :
    andNotSlots a b = mergeWalk slotV slotV keepS dropS dropS
      (keepIf Cont.andNot2) a b := by
  fun_induction andNotSlots a b <;> simp [mergeWalk, keepS, dropS, keepIf, map_copySlot, copySlot_eq, *]
  exact keep_eq _ _ _

theorem mergeSpec_and : MergeSpec slotV slotV slotV (· && ·) Slot.Wf Slot.Wf Slot.Wf dropS dropS
    dropS (keepIf Cont.and2) :=
  ⟨rfl, fun _ _ => .nil (by simp), fun _ _ => .nil (by simp), fun _ _ => .nil (by simp),
    .kernel and2_holds⟩

theorem mergeSpec_or : MergeSpec slotV slotV slotV (· || ·) Slot.Wf Slot.Wf Slot.Wf keepS keepS
    keepS (always fun sa cb => sa.c.or2 cb) :=
  ⟨rfl, fun _ h => .single rfl h (by simp), fun _ h => .single rfl h (by simp), fun _ h => .single rfl h (by simp),
    fun _ _ ha hb _ => .wf ha.1 (wf_or2_ne _ _ ha.2 hb.2) (has_or2 _ _ ha.2 hb.2)⟩

theorem mergeSpec_xor : MergeSpec slotV slotV slotV (· != ·) Slot.Wf Slot.Wf Slot.Wf keepS keepS
    keepS (keepIf Cont.xor2) :=
  ⟨rfl, fun _ h => .single rfl h (by simp), fun _ h => .single rfl h (by simp), fun _ h => .single rfl h (by simp),
    .kernel xor2_holds⟩

theorem mergeSpec_andNot : MergeSpec slotV slotV slotV (fun p q => p && !q) Slot.Wf Slot.Wf Slot.Wf keepS
    dropS dropS (keepIf Cont.andNot2) :=
  ⟨rfl, fun _ h => .single rfl h (by simp), fun _ _ => .nil (by simp), fun _ _ => .nil (by simp),
    .kernel (f := fun p q => p && !q) andNot2_holds⟩

/-- **C09 at bitmap level**: the static operations return well-formed bitmaps (keys strictly increasing and `< 65536`,
every container non-empty and well-formed) on well-formed operands -/
theorem Rep.wf_and2 (a b : Rep) (ha : a.wf = true) (hb : b.wf = true) : (Rep.and2 a b).wf = true :=
  (mergeSpec_and.rep (r := Rep.and2 a b) (andSlots_eq _ _) ha hb).1
theorem Rep.wf_or2 (a b : Rep) (ha : a.wf = true) (hb : b.wf = true) : (Rep.or2 a b).wf = true :=
  (mergeSpec_or.rep (r := Rep.or2 a b) (orSlots_eq _ _) ha hb).1
theorem Rep.wf_xor2 (a b : Rep) (ha : a.wf = true) (hb : b.wf = true) : (Rep.xor2 a b).wf = true :=
  (mergeSpec_xor.rep (r := Rep.xor2 a b) (xorSlots_eq _ _) ha hb).1
theorem Rep.wf_andNot2 (a b : Rep) (ha : a.wf = true) (hb : b.wf = true) : (Rep.andNot2 a b).wf = true :=
  (mergeSpec_andNot.rep (r := Rep.andNot2 a b) (andNotSlots_eq _ _) ha hb).1

/-- `roaring.And` of two well-formed bitmaps denotes the intersection (equality of canonical boundary lists) -/
theorem Rep.toBSet_and2 (a b : Rep) (ha : a.wf = true) (hb : b.wf = true) :
    (Rep.and2 a b).toBSet = BSet.inter a.toBSet b.toBSet :=
  (mergeSpec_and.rep (r := Rep.and2 a b) (andSlots_eq _ _) ha hb).2

theorem Rep.toBSet_or2 (a b : Rep) (ha : a.wf = true) (hb : b.wf = true) :
    (Rep.or2 a b).toBSet = BSet.union a.toBSet b.toBSet :=
  (mergeSpec_or.rep (r := Rep.or2 a b) (orSlots_eq _ _) ha hb).2

theorem Rep.toBSet_xor2 (a b : Rep) (ha : a.wf = true) (hb : b.wf = true) :
    (Rep.xor2 a b).toBSet = BSet.xor a.toBSet b.toBSet :=
  (mergeSpec_xor.rep (r := Rep.xor2 a b) (xorSlots_eq _ _) ha hb).2

theorem Rep.toBSet_andNot2 (a b : Rep) (ha : a.wf = true) (hb : b.wf = true) :
    (Rep.andNot2 a b).toBSet = BSet.diff a.toBSet b.toBSet :=
  (mergeSpec_andNot.rep (r := Rep.andNot2 a b) (andNotSlots_eq _ _) ha hb).2

theorem Rep.mem_and2 (a b : Rep) (ha : a.wf = true) (hb : b.wf = true) (x : Nat) :
    mem (Rep.and2 a b).toBSet x = (mem a.toBSet x && mem b.toBSet x) := by
  rw [Rep.toBSet_and2 a b ha hb, mem_inter _ _ (sinc_rep a) (sinc_rep b)]

theorem Rep.mem_or2 (a b : Rep) (ha : a.wf = true) (hb : b.wf = true) (x : Nat) :
    mem (Rep.or2 a b).toBSet x = (mem a.toBSet x || mem b.toBSet x) := by
  rw [Rep.toBSet_or2 a b ha hb, mem_union _ _ (sinc_rep a) (sinc_rep b)]

theorem Rep.mem_xor2 (a b : Rep) (ha : a.wf = true) (hb : b.wf = true) (x : Nat) :
    mem (Rep.xor2 a b).toBSet x = (mem a.toBSet x != mem b.toBSet x) := by
  rw [Rep.toBSet_xor2 a b ha hb, mem_xor _ _ (sinc_rep a) (sinc_rep b)]

theorem Rep.mem_andNot2 (a b : Rep) (ha : a.wf = true) (hb : b.wf = true) (x : Nat) :
    mem (Rep.andNot2 a b).toBSet x = (mem a.toBSet x && !mem b.toBSet x) := by
  rw [Rep.toBSet_andNot2 a b ha hb, mem_diff _ _ (sinc_rep a) (sinc_rep b)]

/-- the answer of a static operation never has copy-on-write switched on -/
theorem Rep.cow_ops (a b : Rep) :
    (Rep.and2 a b).cow = false ∧ (Rep.or2 a b).cow = false ∧ (Rep.xor2 a b).cow = false ∧ (Rep.andNot2 a b).cow = false :=
  ⟨rfl, rfl, rfl, rfl⟩

theorem orSlots_ne_nil {a b : List Slot} (ha : a ≠ []) : orSlots a b ≠ [] := by
  cases a with
  | nil => exact absurd rfl ha
  | cons sa ta =>
    cases b with
    | nil => simp [orSlots, map_copySlot]
    | cons sb tb =>
      rw [orSlots]
      split
      · simp
      · split <;> simp

/-! ### the `x1 == x2` shortcut of `Xor` / `AndNot` agrees with the walk -/

theorem xorSlots_self (a : List Slot) (ha : SlotsWf a) : xorSlots a a = [] := by
  induction a with
  | nil => simp [xorSlots]
  | cons s t ih =>
    have hw := ha.head.2
    have he : (s.c.xor2 s.c).isEmptyGo = true :=
      isEmptyGo_of_no_member (xor2_holds _ _ hw hw).emptyOrWf (fun y => by rw [has_xor2 _ _ hw hw]; simp)
    rw [xorSlots]
    simp [keep, he, ih ha.tail]

theorem andNotSlots_self (a : List Slot) (ha : SlotsWf a) : andNotSlots a a = [] := by
  induction a with
  | nil => simp [andNotSlots]
  | cons s t ih =>
    have hw := ha.head.2
    have he : (s.c.andNot2 s.c).isEmptyGo = true :=
      isEmptyGo_of_no_member (andNot2_holds _ _ hw hw).emptyOrWf (fun y => by rw [has_andNot2 _ _ hw hw]; simp)
    rw [andNotSlots]
    simp [keep, he, ih ha.tail]

/-- `Xor(x, x)` returns `NewBitmap()` without walking; on a well-formed operand the walk gives the same representation -/
theorem Rep.xor2_self (a : Rep) (ha : a.wf = true) : Rep.xor2 a a = {} := by
  simp [Rep.xor2, xorSlots_self _ ((slotsWf_iff a).mp ha)]

theorem Rep.andNot2_self (a : Rep) (ha : a.wf = true) : Rep.andNot2 a a = {} := by
  simp [Rep.andNot2, andNotSlots_self _ ((slotsWf_iff a).mp ha)]

/-! ### the abstraction of a well-formed bitmap is canonical in `[0, 2^32)` -/

theorem slotsHas_top {l : List Slot} (h : ∀ s ∈ l, s.Wf) {x : Nat} (hx : ¬ x < 4294967296) : slotsHas l x = false :=
  Bool.eq_false_iff.mpr fun hh => by
    simp only [slotsHas, List.any_eq_true, Bool.and_eq_true, beq_iff_eq] at hh
    obtain ⟨s, hs, hk, _⟩ := hh
    have := (h s hs).1
    omega

theorem canon_rep (r : Rep) (h : r.wf = true) : BSet.Canon 4294967296 r.toBSet := by
  have hw := (slotsWf_iff r).mp h
  refine BSet.canon_of_bounded _ _ (sinc_rep r) fun x hx => ?_
  rw [mem_rep_slots r hw.bounded]
  exact slotsHas_top hw.ok (Nat.not_lt.mpr hx)

theorem even_rep (r : Rep) (h : r.wf = true) : BSet.Even r.toBSet := (canon_rep r h).2.2

end RModel.Impl
