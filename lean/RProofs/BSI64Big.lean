import RModel.Impl.BSI64Big
import RProofs.BSI
import RProofs.BSI64Ops
/-!
The "big" (per-column) paths of `roaring64.BSI` modelled in `RModel/Impl/BSI64Big.lean`, against the map `column → Int`
(`getValue` / `value` of `RProofs/BSI.lean`, `value c = 0` for a column without value; invariant `WF`): the comparison
automaton `compareValue` with its dispatch (`CompareValue` / `CompareBigValue`), `CompareBSI`, `MinMaxBig`, `BatchEqualBig`,
the batch readers `GetBigValues` / `GetValues`, the batches of `parallelExecutor`, and the unused worker `minOrMax`.

* The automaton — the plane loop with its `break`s, the `eq1/lt1/gt1/eq2/lt2` flags, the sign cases, `twosComplement` —
  decides exactly `pred op (value c) lo hi` for constants representable in the index's width (`Fits k BitCount`:
  `-2^BitCount ≤ k < 2^BitCount`, the documented domain "values should be in the range of the BSI"; the end only for RANGE).
  The domain is tight (see the example with the constant 16 at `BitCount = 4`).  The proof reads the planes of a column and
  the two's complement bits of the constants as unsigned words `X`, `S`, `E`.  Once the planes `≥ i` have been visited the flags
  are a function (`flagsOf`) of how `X / 2^i` compares with `S / 2^i` and with `E / 2^i`; one plane refines these comparisons
  lexicographically (`compare_div_pow_step`) and the loop `break`s only where they are decided, so it returns the flags of the
  comparison of the words themselves (`cmpLoop_flagsAt`).  The signs enter in the last step only (`WordOrder`).
* The per-column executor returns the columns OF THE FOUND SET — not intersected with the existence bitmap, a column without
  value counting as 0 — that satisfy the predicate; for a found set of existing columns (the documented domain)
  `CompareBigValue` / `CompareValue`, fast path or not, return exactly the existing columns of the found set whose value
  satisfies it.  The bitmap is the same for every number of workers.
* `CompareBSI` compares two indexes of arbitrary (different) widths on the columns existing in both (∩ found set), by
  reading both at the common width with the sign bit flipped; RANGE panics exactly when that universe is non-empty.
* The batch readers equal `getValue` position by position (duplicates, absent columns; `GetValues` panics iff some requested
  value is not an int64): every pass over a work array is described by `Cells`.
* `minOrMax` (dead code in the package) computes the running minimum / maximum: its flags are the same function of the
  comparison of the words as those of the start half of `compareValue` (`mmFlags`), its partial value the planes seen so far.
-/
open RModel.Util
namespace RModel.BSI
open RModel.BSet

/-! ### bits of integers -/

theorem twosBit_add_mul_pow (v q : Int) (L j : Nat) (h : j < L) : twosBit (v + q * (2 : Int) ^ L) j = twosBit v j := by
  have hL : L = (L - j - 1) + 1 + j := by omega
  have e : q * (2 : Int) ^ L = (q * (2 : Int) ^ (L - j - 1) * 2) * (2 : Int) ^ j := by
    conv => lhs; rw [hL, Int.pow_add, Int.pow_succ]
    simp [Int.mul_assoc]
  have hpos : (2 : Int) ^ j ≠ 0 := Int.ne_of_gt (Facts.two_pow_pos' j)
  simp only [twosBit]
  rw [e, Int.add_mul_ediv_right _ _ hpos, Int.add_mul_emod_self_right]

theorem twosBit_mul_pow (m : Int) (i : Nat) : twosBit ((2 : Int) ^ (i + 1) * m) i = false := by
  rw [Int.mul_comm, ← Int.zero_add (m * _), twosBit_add_mul_pow _ _ _ _ (Nat.lt_succ_self i)]
  simp [twosBit]

theorem twosBit_twosComplementGo (v : Int) (n j : Nat) (h : j < n) :
    twosBit (twosComplementGo v n) j = twosBit v j := by
  simp only [twosComplementGo]
  split
  · rename_i hneg
    have e : ∀ L, (2 : Int) ^ L - (v.natAbs : Int) = v + 1 * (2 : Int) ^ L := by intro L; omega
    split
    · rw [e, twosBit_add_mul_pow _ _ _ _ h]
    · rw [e, twosBit_add_mul_pow _ _ _ _ (by omega)]
  · rfl

theorem twosBit_encodeValue (v : Int) (n j : Nat) (h : j ≤ n) : twosBit v j = (encodeValue v n).testBit j := by
  have hp := Facts.two_pow_pos' (n + 1)
  have h0 := Int.emod_nonneg v (Int.ne_of_gt hp)
  have hv : v = v % (2 : Int) ^ (n + 1) + (v / (2 : Int) ^ (n + 1)) * (2 : Int) ^ (n + 1) := by
    have := Int.emod_add_mul_ediv v ((2 : Int) ^ (n + 1))
    rw [Int.mul_comm] at this; omega
  conv => lhs; rw [hv]
  rw [twosBit_add_mul_pow _ _ _ _ (by omega)]
  simp only [encodeValue, twosBit, Nat.testBit_eq_decide_div_mod_eq]
  generalize v % (2 : Int) ^ (n + 1) = r at h0
  have hc : ((r.toNat / 2 ^ j : Nat) : Int) = r / (2 : Int) ^ j := by
    rw [Int.natCast_ediv, Int.natCast_pow, Int.toNat_of_nonneg h0]; rfl
  rw [Bool.beq_eq_decide_eq, decide_eq_decide]
  omega

/-! ### the comparison automaton on numbers -/

def leOp (op : Op) : Bool := op == .LT || op == .LE
def geOp (op : Op) : Bool := op == .GT || op == .GE || op == .RANGE

/-- the flags of a column whose word compares, on the planes seen so far, as `o1` with the word of the start and (RANGE) as `o2`
with the word of the end: `eq` while the words agree, then what the first plane where they differ has set -/
def flagsOf (op : Op) (sNeg eNeg xNeg : Bool) (o1 o2 : Ordering) : CmpFlags :=
  { eq1 := o1 == .eq, lt1 := leOp op && ltF sNeg xNeg o1, gt1 := geOp op && gtF sNeg xNeg o1,
    eq2 := o2 == .eq, lt2 := ltF eNeg xNeg o2 }

/-- one more plane in the start half: the comparison is refined by the bits `x`, `sBit` of that plane, and the loop `break`s at
the plane that decides it (not for RANGE) -/
theorem startStep_flagsOf (op : Op) (sNeg eNeg xNeg sBit x : Bool) (o1 o2 : Ordering) :
    startStep op sNeg xNeg sBit x (flagsOf op sNeg eNeg xNeg o1 o2) =
      (flagsOf op sNeg eNeg xNeg (o1.then (Ord.compare x sBit)) o2, o1 == .eq && (x != sBit) && op != .RANGE) := by
  cases o1
  case eq =>
    cases sBit <;> cases x <;>
      simp [startStep, flagsOf, leOp, geOp, ltF, gtF, Ordering.then, Bool.and_assoc, Bool.beq_eq_decide_eq,
        show Ord.compare true false = .gt from rfl, show Ord.compare false true = .lt from rfl]
  -- a decided comparison: nothing changes
  all_goals simp [startStep, flagsOf, Ordering.then]

/-- the end half of a RANGE refines the comparison with the end on `eq2`, `lt2`; it `break`s at the deciding plane when the
start is negative, the end is not, and the column is below the end -/
theorem endStep_flagsOf (op : Op) (sNeg eNeg xNeg eBit x : Bool) (o1 o2 : Ordering) :
    endStep op sNeg eNeg xNeg eBit x (flagsOf op sNeg eNeg xNeg o1 o2) =
      if op = .RANGE then
        (flagsOf op sNeg eNeg xNeg o1 (o2.then (Ord.compare x eBit)), o2 == .eq && (eBit && !x) && (sNeg && !eNeg))
      else (flagsOf op sNeg eNeg xNeg o1 o2, false) := by
  by_cases hop : op = .RANGE
  · subst hop
    cases o2
    case eq =>
      cases eBit <;> cases x <;>
        simp [endStep, flagsOf, ltF, Ordering.then, Bool.beq_eq_decide_eq, show Ord.compare true false = .gt from rfl,
          show Ord.compare false true = .lt from rfl]
    all_goals simp [endStep, flagsOf, Ordering.then]
  · simp [endStep, hop]

/-- the flags of the column with word `X` against the words `S`, `E` of the constants once the planes `≥ i` have been visited -/
def flagsAt (k : CmpCtx) (X S E i : Nat) : CmpFlags :=
  flagsOf k.op k.startNeg k.endNeg k.isNeg (Ord.compare (X / 2 ^ i) (S / 2 ^ i))
    (if k.op = .RANGE then Ord.compare (X / 2 ^ i) (E / 2 ^ i) else .eq)

theorem flagsAt_top (k : CmpCtx) (X S E n : Nat) (hX : X < 2 ^ n) (hS : S < 2 ^ n) (hE : E < 2 ^ n) : flagsAt k X S E n = {} := by
  simp [flagsAt, flagsOf, Nat.div_eq_of_lt hX, Nat.div_eq_of_lt hS, Nat.div_eq_of_lt hE, ltF, gtF]

/-- one plane of column `c`, whose word is `X`, against the words `S`, `E` of the constants: the flags are those one plane
further down, and where the loop `break`s they are final -/
theorem cmpStep_flagsAt (b : BSI) (k : CmpCtx) (c S E X : Nat) (H : k.op = .RANGE → k.startNeg = true → k.endNeg = false → E < S)
    (i : Nat) (hs : twosBit k.compStart i = S.testBit i) (he : twosBit k.compEnd i = E.testBit i)
    (hx : mem (b.planes.getD i []) c = X.testBit i) :
    (cmpStep b k c i (flagsAt k X S E (i + 1))).1 = flagsAt k X S E i ∧
    ((cmpStep b k c i (flagsAt k X S E (i + 1))).2 = true → flagsAt k X S E i = flagsAt k X S E 0) := by
  have d1 := compare_div_pow_step X S i
  have d2 := compare_div_pow_step X E i
  have f1 := compare_of_div_ne X S i
  have f2 := compare_of_div_ne X E i
  simp only [cmpStep, hs, he, hx, flagsAt, startStep_flagsOf, ← d1, Nat.pow_zero, Nat.div_one]
  by_cases hop : k.op = .RANGE
  · -- RANGE: only the end half can `break`
    simp only [hop, bne_self_eq_false, Bool.and_false, Bool.false_eq_true, if_false, if_true, endStep_flagsOf, ← d2]
    refine ⟨trivial, fun hb => ?_⟩
    simp only [Bool.and_eq_true, beq_iff_eq, Bool.not_eq_true'] at hb
    obtain ⟨⟨p2, eb, xb⟩, sn, en⟩ := hb
    have e2 : Ord.compare (X / 2 ^ i) (E / 2 ^ i) = .lt := by rw [d2, p2, eb, xb]; rfl
    -- the start half is decided already: otherwise `S` and `X` agree down to plane `i`, and `X < E` there gives `S < E`
    have n1 : Ord.compare (X / 2 ^ i) (S / 2 ^ i) ≠ .eq := fun e1 => by
      have := Nat.compare_eq_eq.mp e1
      have := Nat.compare_eq_lt.mp e2
      have := Nat.lt_of_div_lt_div (a := S) (b := E) (c := 2 ^ i) (by omega)
      have := H hop sn en
      omega
    rw [f1 n1, f2 (e2 ▸ nofun)]
  · have hne : (k.op != .RANGE) = true := by simpa using hop
    simp only [hop, if_false, hne, Bool.and_true, endStep_flagsOf]
    split
    · rename_i hb
      simp only [Bool.and_eq_true, beq_iff_eq, bne_iff_ne] at hb
      exact ⟨rfl, fun _ => by rw [f1 (by rw [d1, hb.1]; exact mt (compare_bool_eq _ _).mp hb.2)]⟩
    · exact ⟨rfl, nofun⟩

theorem cmpLoop_flagsAt (b : BSI) (k : CmpCtx) (c S E X n : Nat) (H : k.op = .RANGE → k.startNeg = true → k.endNeg = false → E < S)
    (hs : ∀ i, i ≤ n → twosBit k.compStart i = S.testBit i) (he : ∀ i, i ≤ n → twosBit k.compEnd i = E.testBit i)
    (hx : ∀ i, mem (b.planes.getD i []) c = X.testBit i) :
    ∀ (j : Nat), j ≤ n → cmpLoop b k c j (flagsAt k X S E (j + 1)) = flagsAt k X S E 0
  | 0, hj => (cmpStep_flagsAt b k c S E X H 0 (hs 0 hj) (he 0 hj) (hx 0)).1
  | j + 1, hj => by
    have hst := cmpStep_flagsAt b k c S E X H (j + 1) (hs _ hj) (he _ hj) (hx _)
    simp only [cmpLoop]
    split
    · rename_i hb; rw [hst.1]; exact hst.2 hb
    · rw [hst.1]; exact cmpLoop_flagsAt b k c S E X n H hs he hx j (by omega)

/-- from the final flags to the comparison of the signed numbers: `X`, `S`, `E` are the words of the column value `v`, the
start `lo` and the end `hi` -/
theorem cmpDecide_flagsAt (k : CmpCtx) (X S E : Nat) (v lo hi : Int)
    (o1 : WordOrder X S v lo k.isNeg k.startNeg) (o2 : k.op = .RANGE → WordOrder X E v hi k.isNeg k.endNeg) :
    cmpDecide k (flagsAt k X S E 0) = true ↔ pred k.op v lo hi := by
  obtain ⟨q1, hn, hsn, l1, g1⟩ := o1
  have hn' : k.isNeg = false ↔ ¬ v < 0 := by rw [← hn]; simp
  have hsn' : k.startNeg = false ↔ ¬ lo < 0 := by rw [← hsn]; simp
  have e1 : (Ord.compare X S == .eq) = true ↔ v = lo := by rw [beq_iff_eq, Nat.compare_eq_eq, q1]
  cases hop : k.op
  case RANGE =>
    obtain ⟨q2, _, _, l2, _⟩ := o2 hop
    have e2 : (Ord.compare X E == .eq) = true ↔ v = hi := by rw [beq_iff_eq, Nat.compare_eq_eq, q2]
    simp [cmpDecide, flagsAt, flagsOf, hop, pred, geOp, e1, e2, l2, g1]
    omega
  all_goals
    simp [cmpDecide, flagsAt, flagsOf, hop, pred, leOp, geOp, e1, l1, g1, hsn, hsn', hn, hn']
  · omega
  · omega

/-! ### `compareValue` for one column -/

/-- on a well-formed index, for constants representable in the index's width
(`-2^BitCount ≤ k < 2^BitCount`; the end only matters for RANGE), the per-column automaton of `compareValue` decides
exactly the comparison predicate on the stored value — a column without value counting as `0`. -/
theorem compareColumn_spec (b : BSI) (h : WF b) (op : Op) (lo hi : Int) (c : Nat)
    (hlo : Fits lo b.bitCount) (hhi : op = .RANGE → Fits hi b.bitCount) :
    compareColumn b op lo hi c = true ↔ pred op (b.value c) lo hi := by
  have hXlt := encN_lt (col b.planes c)
  rw [col_length, planes_length b h.len] at hXlt
  have hSlt := encodeValue_lt lo b.bitCount
  have hElt := encodeValue_lt hi b.bitCount
  let k := cmpCtx b op lo hi c
  have hbits : ∀ (v : Int) (f : Bool) (i : Nat), i ≤ b.bitCount →
      twosBit (if f then twosComplementGo v (b.bitCount + 1) else v) i = (encodeValue v b.bitCount).testBit i := by
    intro v f i hle
    rw [← twosBit_encodeValue v _ i hle]
    cases f
    · rfl
    · exact twosBit_twosComplementGo v _ i (by omega)
  -- a negative start with a non-negative end: the start word is the larger one
  have hH : k.op = .RANGE → k.startNeg = true → k.endNeg = false →
      encodeValue hi b.bitCount < encodeValue lo b.bitCount := by
    intro e1 e2 e3
    have hS := encodeValue_eq lo b.bitCount hlo
    have hE := encodeValue_eq hi b.bitCount (hhi e1)
    have e2' : lo < 0 := by simpa [k, cmpCtx] using e2
    have e3' : ¬ hi < 0 := by simpa [k, cmpCtx] using e3
    have hp : (2 : Int) ^ (b.bitCount + 1) = 2 * 2 ^ b.bitCount := by rw [Int.pow_succ]; omega
    have := hlo.1; have := (hhi e1).2
    split at hS <;> split at hE <;> omega
  have hinv := cmpLoop_flagsAt b k c (encodeValue lo b.bitCount) (encodeValue hi b.bitCount) (encN (col b.planes c)) b.bitCount hH
    (fun i hle => hbits lo _ i hle) (fun i hle => hbits hi _ i hle) (fun i => mem_plane b.planes c i) b.bitCount (Nat.le_refl _)
  rw [flagsAt_top k _ _ _ _ hXlt hSlt hElt] at hinv
  show cmpDecide k (cmpLoop b k c b.bitCount {}) = true ↔ _
  rw [hinv]
  exact cmpDecide_flagsAt k _ _ _ _ lo hi (col_order b h c lo hlo) (fun e => col_order b h c hi (hhi e))

/-! ### the workers over a batch, the dispatch -/

theorem compareValueBatch_eq (b : BSI) (op : Op) (lo hi : Int) (batch : List Nat) :
    compareValueBatch b op lo hi batch = ofList (batch.filter (compareColumn b op lo hi)) := foldl_addIf_eq _ _

/-- the per-column path of `CompareBigValue` returns exactly the columns OF THE FOUND SET (of the
existence bitmap when the found set is nil) whose value — `0` for a column of the found set that holds no value —
satisfies the predicate.  The found set is not intersected with the existence bitmap. -/
theorem compareBig_spec (b : BSI) (h : WF b) (op : Op) (lo hi : Int) (found : Option BSet)
    (hf : ∀ f, found = some f → Good f) (hlo : Fits lo b.bitCount) (hhi : op = .RANGE → Fits hi b.bitCount) (c : Nat) :
    mem (b.compareBig op lo hi found) c = true ↔
      mem (found.getD b.ebm) c = true ∧ pred op (b.value c) lo hi := by
  have hg : Good (found.getD b.ebm) := good_found b h found hf
  rw [compareBig, compareValueBatch_eq, mem_ofList_filter, mem_toList _ hg.1 hg.2, compareColumn_spec b h op lo hi c hlo hhi]

theorem good_compareBig (b : BSI) (op : Op) (lo hi : Int) (found : Option BSet) : Good (b.compareBig op lo hi found) := by
  rw [compareBig, compareValueBatch_eq]; exact good_ofList _

/-- the same for a found set of existing columns (the documented domain): the set statement of `CompareBigValue` -/
theorem compareBig_spec_existing (b : BSI) (h : WF b) (op : Op) (lo hi : Int) (found : Option BSet)
    (hf : ∀ f, found = some f → Good f) (hsub : ∀ f, found = some f → ∀ x, mem f x = true → mem b.ebm x = true)
    (hlo : Fits lo b.bitCount) (hhi : op = .RANGE → Fits hi b.bitCount) (c : Nat) :
    mem (b.compareBig op lo hi found) c = true ↔
      mem b.ebm c = true ∧ inFound found c ∧ pred op (b.value c) lo hi := by
  rw [compareBig_spec b h op lo hi found hf hlo hhi c]
  cases found with
  | none => simp [inFound]
  | some f =>
    simp only [Option.getD_some, inFound]
    constructor
    · intro ⟨h1, h2⟩; exact ⟨hsub f rfl c h1, h1, h2⟩
    · intro ⟨_, h1, h2⟩; exact ⟨h1, h2⟩

/-- what the per-column path does with a column of the found set that holds NO value: it is reported iff `0` satisfies
the predicate (the plane algebra `compareInt64Value` never reports it, see `compare_spec`) -/
theorem compareBig_absent (b : BSI) (h : WF b) (op : Op) (lo hi : Int) (f : BSet) (hf : Good f)
    (hlo : Fits lo b.bitCount) (hhi : op = .RANGE → Fits hi b.bitCount) (c : Nat) (hc : mem b.ebm c = false) :
    mem (b.compareBig op lo hi (some f)) c = true ↔ mem f c = true ∧ pred op 0 lo hi := by
  rw [compareBig_spec b h op lo hi (some f) (fun g e => by cases e; exact hf) hlo hhi c]
  have : b.value c = 0 := by simp [value, getValue_eq, hc]
  rw [this]; rfl

theorem pred_end_irrelevant (op : Op) (hop : op ≠ .RANGE) (v k k2 k2' : Int) : pred op v k k2 ↔ pred op v k k2' := by
  cases op <;> simp [pred] at hop ⊢

/-- whenever the plane algebra answers, it answers with the existing columns of the found set satisfying the predicate -/
theorem compareInt64Value_spec (b : BSI) (h : WF b) (op : Op) (k k2 : Int) (found : Option BSet)
    (hf : ∀ f, found = some f → Good f) (r : BSet) (hr : b.compareInt64Value op k k2 found = some r) (c : Nat) :
    mem r c = true ↔ mem b.ebm c = true ∧ inFound found c ∧ pred op (b.value c) k k2 := by
  have hsome := (compareInt64Value_isSome b op k k2 found).mp (by rw [hr]; rfl)
  have hr : r = b.compare op k k2 found := by simp [compare, hr]
  rw [hr, compare_spec b h op k k2 found (fun f e => (hf f e).1) hsome.1 hsome.2.1 hsome.2.2 c]

/-- `CompareBigValue` (plane algebra when it applies, else the per-column path) on a well-formed
index, constants representable in the index's width, found set nil or a set of existing columns: exactly the existing columns
of the found set whose stored value satisfies the predicate. -/
theorem compareBigValue_spec (b : BSI) (h : WF b) (op : Op) (lo hi : Int) (found : Option BSet)
    (hf : ∀ f, found = some f → Good f) (hsub : ∀ f, found = some f → ∀ x, mem f x = true → mem b.ebm x = true)
    (hlo : Fits lo b.bitCount) (hhi : op = .RANGE → Fits hi b.bitCount) (c : Nat) :
    mem (b.compareBigValue op lo hi found) c = true ↔
      mem b.ebm c = true ∧ inFound found c ∧ pred op (b.value c) lo hi := by
  unfold compareBigValue
  cases hfast : b.compareBigValueAsInt64 op lo hi found with
  | none => exact compareBig_spec_existing b h op lo hi found hf hsub hlo hhi c
  | some r =>
    simp only
    unfold compareBigValueAsInt64 at hfast
    split at hfast
    · cases hfast
    · split at hfast
      · cases hfast
      · rw [compareInt64Value_spec b h op lo _ found hf r hfast c]
        by_cases hop : op = .RANGE
        · simp [hop]
        · simp only [hop, if_false]
          rw [pred_end_irrelevant op hop _ lo 0 hi]

/-- the same for `CompareValue` -/
theorem compareValueAny_spec (b : BSI) (h : WF b) (op : Op) (lo hi : Int) (found : Option BSet)
    (hf : ∀ f, found = some f → Good f) (hsub : ∀ f, found = some f → ∀ x, mem f x = true → mem b.ebm x = true)
    (hlo : Fits lo b.bitCount) (hhi : op = .RANGE → Fits hi b.bitCount) (c : Nat) :
    mem (b.compareValueAny op lo hi found) c = true ↔
      mem b.ebm c = true ∧ inFound found c ∧ pred op (b.value c) lo hi := by
  unfold compareValueAny
  cases hfast : b.compareInt64Value op lo hi found with
  | none => exact compareBigValue_spec b h op lo hi found hf hsub hlo hhi c
  | some r => exact compareInt64Value_spec b h op lo hi found hf r hfast c

/-- on an index wider than 64 planes every comparison goes through the per-column path -/
theorem compareBigValue_big (b : BSI) (hbig : b.bitCount > 63) (op : Op) (lo hi : Int) (found : Option BSet) :
    b.compareBigValue op lo hi found = b.compareBig op lo hi found ∧
    b.compareValueAny op lo hi found = b.compareBig op lo hi found := by
  have h1 : ∀ k k2, b.compareInt64Value op k k2 found = none := by
    intro k k2; simp [compareInt64Value, hbig]
  have h2 : b.compareBigValueAsInt64 op lo hi found = none := by
    unfold compareBigValueAsInt64; split; · rfl
    split; · rfl
    exact h1 _ _
  simp [compareBigValue, compareValueAny, h1, h2]

/-! ### `CompareBSI` -/

theorem isNegative_eq_mem (b : BSI) (h : WF b) (c : Nat) : b.isNegative c = mem (b.planes.getD b.bitCount []) c := by
  have hlen := planes_length b h.len
  rw [isNegative_eq, signBit_col]
  congr 1
  rw [List.getLastD_eq_getLast?, List.getLast?_eq_getElem?, List.getD_eq_getElem?_getD, hlen]
  simp

/-- the column word of `x` sign-extended to `W + 1` bits, sign bit flipped, read unsigned -/
def xtW (x : BSI) (W c : Nat) : Nat := encN (ext (W + 1) (col x.planes c)) ^^^ 2 ^ W

theorem xtW_eq (x : BSI) (hx : WF x) (W : Nat) (hW : x.bitCount ≤ W) (c : Nat) :
    (xtW x W c : Int) = x.value c + (2 : Int) ^ W := by
  have hlen := planes_length x hx.len
  rw [xtW, encN_xor_eq _ W (ext_length _ _ (by rw [col_length]; omega)), dec_ext _ _ (col_ne_nil x hx c),
    value_eq_dec x hx c]

theorem xtW_lt (x : BSI) (hx : WF x) (W : Nat) (hW : x.bitCount ≤ W) (c : Nat) : xtW x W c < 2 ^ (W + 1) := by
  have hlen := planes_length x hx.len
  have h1 := encN_lt (ext (W + 1) (col x.planes c))
  rw [ext_length _ _ (by rw [col_length]; omega)] at h1
  exact Nat.xor_lt_two_pow h1 (Nat.pow_lt_pow_right (by decide) (by omega))

theorem testBit_xtW (x : BSI) (hx : WF x) (W : Nat) (c i : Nat) (hi : i ≤ W) :
    (xtW x W c).testBit i =
      (mem (x.planes.getD (if i > x.bitCount then x.bitCount else i) []) c ^^ decide (W = i)) := by
  have hlen := planes_length x hx.len
  rw [xtW, Nat.testBit_xor, Nat.testBit_two_pow, testBit_encN]
  congr 1
  split
  · rename_i hgt
    rw [ext_getD_ge _ _ _ (by rw [col_length]; omega) (by omega), ← isNegative_eq, isNegative_eq_mem x hx c]
  · rename_i hle
    rw [ext_getD_lt _ _ _ (by rw [col_length]; omega), getD_col]

theorem mem_bsiPlaneChild (x : BSI) (hx : WF x) (W : Nat) (hW : x.bitCount ≤ W) (pre : BSet) (hp : SInc pre)
    (i : Nat) (hi : i ≤ W) (set : Bool) (c : Nat) :
    mem (x.bsiPlaneChild pre i W set) c = (mem pre c && ((xtW x W c).testBit i == set)) := by
  have hb : ∀ p ∈ x.planes, SInc p := fun p hp => (hx.planes p hp).1
  rw [bsiPlaneChild, mem_planeChild _ _ hp (sinc_getD _ hb _), testBit_xtW x hx W c i hi]
  generalize mem (x.planes.getD (if i > x.bitCount then x.bitCount else i) []) c = m
  by_cases h : i = W
  · subst h; cases set <;> cases m <;> simp
  · cases set <;> cases m <;> simp [h, Ne.symm h]

theorem sinc_bsiPlaneChild (x : BSI) (hx : WF x) (pre : BSet) (hp : SInc pre) (i W : Nat) (set : Bool) :
    SInc (x.bsiPlaneChild pre i W set) :=
  sinc_planeChild _ _ hp (sinc_getD _ (fun p hp => (hx.planes p hp).1) _) _

theorem descInv_cmpBsiStep (a o : BSI) (ha : WF a) (ho : WF o) (W : Nat) (hWa : a.bitCount ≤ W) (hWo : o.bitCount ≤ W)
    (univ : BSet) (i : Nat) (hi : i ≤ W) (s : BSet × BSet) (h : DescInv (xtW a W) (xtW o W) univ (i + 1) s) :
    DescInv (xtW a W) (xtW o W) univ i (cmpBsiStep a o W i s) := by
  have hl := sinc_bsiPlaneChild a ha s.2 h.s2 i W true
  have hr := sinc_bsiPlaneChild o ho s.2 h.s2 i W true
  have ma := mem_bsiPlaneChild a ha W hWa _ h.s2 i hi true
  have mo := mem_bsiPlaneChild o ho W hWo _ h.s2 i hi true
  simp only [cmpBsiStep]
  generalize a.bsiPlaneChild s.2 i W true = L at *
  generalize o.bsiPlaneChild s.2 i W true = R at *
  have hrl : SInc (diff R L) := sinc_combine _ _ _ _ _ hr hl
  have hlr : SInc (diff L R) := sinc_combine _ _ _ _ _ hl hr
  have hu : SInc (union (diff R L) (diff L R)) := sinc_combine _ _ _ _ _ hrl hlr
  refine descInv_step _ _ univ i s _ h (sinc_combine _ _ _ _ _ h.s1 hrl) (sinc_combine _ _ _ _ _ h.s2 hu)
    (fun c => ?_) (fun c => ?_)
  · rw [mem_union _ _ h.s1 hrl, mem_diff _ _ hr hl, ma, mo]
    cases mem s.2 c <;> cases (xtW a W c).testBit i <;> cases (xtW o W c).testBit i <;> simp
  · rw [mem_diff _ _ h.s2 hu, mem_union _ _ hrl hlr, mem_diff _ _ hr hl, mem_diff _ _ hl hr, ma, mo]
    cases mem s.2 c <;> cases (xtW a W c).testBit i <;> cases (xtW o W c).testBit i <;> simp

theorem descInv_cmpBsiLoop (a o : BSI) (ha : WF a) (ho : WF o) (W : Nat) (hWa : a.bitCount ≤ W) (hWo : o.bitCount ≤ W)
    (univ : BSet) : ∀ (i : Nat) (s : BSet × BSet), i ≤ W → DescInv (xtW a W) (xtW o W) univ (i + 1) s →
      DescInv (xtW a W) (xtW o W) univ 0 (cmpBsiLoop a o W i s)
  | 0, s, hi, h => descInv_cmpBsiStep a o ha ho W hWa hWo univ 0 hi s h
  | i + 1, s, hi, h => by
    have h' := descInv_cmpBsiStep a o ha ho W hWa hWo univ (i + 1) hi s h
    simp only [cmpBsiLoop]
    split
    · rename_i he
      exact descInv_of_empty _ _ univ _ _ h' ((isEmpty_eq _).mp he)
    · exact descInv_cmpBsiLoop a o ha ho W hWa hWo univ i _ (by omega) h'

/-- `less` / `equal` are the columns of the universe where the value of `a` is `<` / `=`
the value of `o` (both read at the common width `W`, narrower index sign-extended) -/
theorem compareBSILessAndEqual_spec (a o : BSI) (ha : WF a) (ho : WF o) (W : Nat) (hWa : a.bitCount ≤ W)
    (hWo : o.bitCount ≤ W) (univ : BSet) (hu : SInc univ) :
    SInc (compareBSILessAndEqual a o W univ).1 ∧ SInc (compareBSILessAndEqual a o W univ).2 ∧
    (∀ c, mem (compareBSILessAndEqual a o W univ).1 c = true ↔ mem univ c = true ∧ a.value c < o.value c) ∧
    (∀ c, mem (compareBSILessAndEqual a o W univ).2 c = true ↔ mem univ c = true ∧ a.value c = o.value c) := by
  have := descInv_cmpBsiLoop a o ha ho W hWa hWo univ W _ (Nat.le_refl _)
    (descInv_init _ _ univ hu _ (xtW_lt a ha W hWa) (xtW_lt o ho W hWo))
  have key : ∀ c, (xtW a W c < xtW o W c ↔ a.value c < o.value c) ∧ (xtW a W c = xtW o W c ↔ a.value c = o.value c) := by
    intro c
    have e1 := xtW_eq a ha W hWa c
    have e2 := xtW_eq o ho W hWo c
    omega
  refine ⟨this.s1, this.s2, fun c => ?_, fun c => ?_⟩
  · rw [← (key c).1]; simpa [compareBSILessAndEqual] using this.less c
  · rw [← (key c).2]; simpa [compareBSILessAndEqual] using this.eq c

/-- `a.CompareBSI(op, o, foundSet)` returns exactly the columns that hold a value in BOTH indexes (and
belong to the found set, when one is given) where `a[c] op o[c]`; the two indexes may have different widths.
`RANGE` is not supported: it panics, unless the universe is empty (then the result is empty for every operation). -/
theorem compareBSI_spec (a o : BSI) (ha : WF a) (ho : WF o) (op : Op) (found : Option BSet)
    (hf : ∀ f, found = some f → Good f) :
    (op ≠ .RANGE → ∃ r, a.compareBSI op o found = some r ∧ ∀ c, mem r c = true ↔
      (mem a.ebm c = true ∧ mem o.ebm c = true ∧ inFound found c) ∧ pred op (a.value c) (o.value c) 0) ∧
    (op = .RANGE → (a.compareBSI op o found = none ↔
      ∃ c, mem a.ebm c = true ∧ mem o.ebm c = true ∧ inFound found c)) := by
  have hg0 := good_inter _ _ ha.ebm ho.ebm
  have hU : ∃ univ, univ = bsiUniverse a o found ∧
      Good univ ∧ ∀ x, mem univ x = true ↔ (mem a.ebm x = true ∧ mem o.ebm x = true ∧ inFound found x) := by
    cases found with
    | none => exact ⟨_, rfl, hg0, fun x => by simp [bsiUniverse, inFound, mem_inter _ _ ha.ebm.1 ho.ebm.1]⟩
    | some f =>
      exact ⟨_, rfl, good_inter _ _ hg0 (hf f rfl), fun x => by
        simp [bsiUniverse, inFound, mem_inter _ _ hg0.1 (hf f rfl).1, mem_inter _ _ ha.ebm.1 ho.ebm.1, and_assoc]⟩
  obtain ⟨univ, hdef, hgu, hmu⟩ := hU
  have hemp := isEmpty_iff _ hgu.1 hgu.2
  by_cases hno : ∀ x, mem univ x = false
  · -- every early exit (and the walk itself) returns a set without members: the right answer
    have hr : ∃ r, a.compareBSI op o found = some r ∧ ∀ x, mem r x = false := by
      unfold compareBSI
      split
      · exact ⟨[], rfl, fun _ => rfl⟩
      · simp only [← hdef, hemp.mpr hno, if_true]
        exact ⟨univ, rfl, hno⟩
    obtain ⟨r, hr, hr0⟩ := hr
    simp only [← hmu, hno, hr]
    simp [hr0]
  · obtain ⟨x, hx⟩ := Classical.not_forall.mp hno
    rw [Bool.not_eq_false] at hx
    have hP := (hmu x).mp hx
    have h1 : (a.ebm.isEmpty || o.ebm.isEmpty) = false := by
      rw [isEmpty_of_mem _ x hP.1, isEmpty_of_mem _ x hP.2.1]; rfl
    have h2 : univ.isEmpty = false := isEmpty_of_mem _ x hx
    let W := if o.bitCount > a.bitCount then o.bitCount else a.bitCount
    have hWa : a.bitCount ≤ W := by simp only [W]; split <;> omega
    have hWo : o.bitCount ≤ W := by simp only [W]; split <;> omega
    obtain ⟨l1, l2, l3, l4⟩ := compareBSILessAndEqual_spec a o ha ho W hWa hWo univ hgu.1
    constructor
    · intro hop
      cases op
      case RANGE => exact absurd rfl hop
      all_goals
        refine ⟨_, by simp only [compareBSI, h1, Bool.false_eq_true, if_false, ← hdef, h2]; rfl, fun c => ?_⟩
        obtain ⟨m1, m2, m3⟩ := mem_of_less_equal univ _ _ hgu.1 l1 l2 (a.value c) (o.value c) c (l3 c) (l4 c)
        simp only [pred]
      · rw [l3 c, hmu c]
      · rw [m1, hmu c]
      · rw [l4 c, hmu c]
      · rw [m2, hmu c]
      · rw [m3, hmu c]
    · intro hop
      subst hop
      simp only [compareBSI, h1, Bool.false_eq_true, if_false, ← hdef, h2, true_iff]
      exact ⟨x, hP⟩

/-! ### `MinMaxBig` -/

theorem minMaxSignedInt_eq (bc : Nat) : minMaxSignedInt (bc + 1) = (-(2 : Int) ^ bc, (2 : Int) ^ bc - 1) := by
  simp only [minMaxSignedInt, Nat.add_sub_cancel, Prod.mk.injEq]
  generalize (2 : Int) ^ bc = P
  exact ⟨by omega, trivial⟩

/-- `MinMaxBig` as written in the Go text is the `minMax` of `Impl/BSI.lean` -/
theorem minMaxBig_eq_minMax (b : BSI) (isMax : Bool) (found : Option BSet) : b.minMaxBig isMax found = b.minMax isMax found := by
  simp only [minMaxBig, minMax, minMaxSignedInt_eq]

/-- `MinMaxBig(op, foundSet)` looks at the columns of the found set (nil: all) that hold a value.  If there
is none it returns the sentinel of `minMaxSignedInt(BitCount+1)` — `-2^BitCount` for MAX, `2^BitCount - 1` for MIN —,
otherwise the value of one of these columns that is `≥` (MAX) / `≤` (MIN) the value of every one of them. -/
theorem minMaxBig_spec (b : BSI) (h : WF b) (isMax : Bool) (found : Option BSet) (hf : ∀ f, found = some f → Good f) :
    ((∀ c, ¬ (mem b.ebm c = true ∧ inFound found c)) →
      b.minMaxBig isMax found = if isMax then -(2 : Int) ^ b.bitCount else (2 : Int) ^ b.bitCount - 1) ∧
    ((∃ c, mem b.ebm c = true ∧ inFound found c) →
      ∃ c0, (mem b.ebm c0 = true ∧ inFound found c0) ∧ b.minMaxBig isMax found = b.value c0 ∧
        ∀ c, mem b.ebm c = true → inFound found c →
          (if isMax then b.value c ≤ b.value c0 else b.value c0 ≤ b.value c)) := by
  have hgf := good_found b h found hf
  have hm : ∀ c, mem (inter (found.getD b.ebm) b.ebm) c = true ↔ (mem b.ebm c = true ∧ inFound found c) := by
    intro c
    rw [mem_inter _ _ hgf.1 h.ebm.1]
    cases found with
    | none => simp [inFound]
    | some f => simp [inFound, and_comm]
  simpa only [← Bool.not_eq_true, hm, and_imp, minMaxBig_eq_minMax] using minMax_spec b h isMax found hf

/-! ### `BatchEqualBig` -/

theorem batchEqualBatch_eq (b : BSI) (values : List Int) (batch : List Nat) :
    batchEqualBatch b values batch = ofList (batch.filter (fun c => (b.getValue c).any values.contains)) := by
  rw [← foldl_addIf_eq, batchEqualBatch]
  congr 1; funext res c
  unfold batchEqualStep
  cases b.getValue c <;> rfl

theorem batchEqual_isSome (b : BSI) (values : List Int) (hbc : b.bitCount ≤ 63) : ∃ r, b.batchEqual values = some r := by
  unfold batchEqual
  split
  · exact ⟨_, rfl⟩
  · have : ¬ b.bitCount ≥ 64 := by omega
    simp only [this, if_false]
    split
    · exact ⟨_, rfl⟩
    · split <;> exact ⟨_, rfl⟩

/-- `BatchEqualBig(values)` — plane algebra for an index of at most 64 planes and `int64` values,
else one `GetBigValue` per existing column — returns exactly the columns holding a value that occurs in the list.  No
condition on the width or on the values. -/
theorem batchEqualBig_spec (b : BSI) (h : WF b) (values : List Int) (c : Nat) :
    mem (b.batchEqualBig values) c = true ↔ ∃ v ∈ values, b.getValue c = some v := by
  unfold batchEqualBig
  split
  · rename_i he
    simp only [mem_nil, Bool.false_eq_true, false_iff]
    intro ⟨v, hv, e⟩
    rcases (Bool.or_eq_true _ _).mp he with he | he
    · have := (isEmpty_iff _ h.ebm.1 h.ebm.2).mp he c
      rw [mem_of_getValue b c v e] at this; cases this
    · have : values = [] := by simpa using he
      rw [this] at hv; cases hv
  · split
    · rename_i ints hi
      unfold batchEqualBigValuesAsInt64 at hi
      split at hi
      · cases hi
      · split at hi <;> cases hi
        obtain ⟨r, hr⟩ := batchEqual_isSome b values (by omega)
        rw [hr]
        exact batchEqual_spec b h values r hr c
    · rw [batchEqualBatch_eq, mem_ofList_filter, mem_toList _ h.ebm.1 h.ebm.2]
      constructor
      · rintro ⟨_, h2⟩
        cases hg : b.getValue c <;> simp [hg] at h2 ⊢
        exact h2
      · rintro ⟨v, hv, e⟩
        exact ⟨mem_of_getValue b c v e, by simp [e, hv]⟩

/-- `BatchEqual(values)` on an index of ANY width (`BitCount() ≥ 64` goes through `BatchEqualBig`) -/
theorem batchEqualAny_spec (b : BSI) (h : WF b) (values : List Int) (c : Nat) :
    mem (b.batchEqualAny values) c = true ↔ ∃ v ∈ values, b.getValue c = some v := by
  unfold batchEqualAny
  cases hr : b.batchEqual values with
  | some r => exact batchEqual_spec b h values r hr c
  | none => exact batchEqualBig_spec b h values c

/-! ### `GetBigValues` / `GetValues`: positions and cells -/

theorem firstPos_spec (c : Nat) : ∀ (cols : List Nat) (i : Nat), c ∈ cols →
    ∃ q, firstPos c cols i = some (i + q) ∧ cols[q]? = some c
  | [], _, h => nomatch h
  | x :: xs, i, h => by
    simp only [firstPos]
    split
    · rename_i hx; exact ⟨0, rfl, by simpa using hx⟩
    · rename_i hx
      have : c ∈ xs := by
        rcases List.mem_cons.mp h with e | e
        · subst e; simp at hx
        · exact e
      obtain ⟨q, h1, h2⟩ := firstPos_spec c xs (i + 1) this
      exact ⟨q + 1, by rw [h1, Nat.add_right_comm, Nat.add_assoc], by simpa using h2⟩

theorem posOf_spec (cols : List Nat) (c : Nat) (h : c ∈ cols) : cols[posOf cols c]? = some c := by
  obtain ⟨q, hq, hc⟩ := firstPos_spec c cols 0 h
  simpa [posOf, hq] using hc

theorem updAt_length {α : Type} (l : List α) (p : Nat) (f : α → α) : (updAt l p f).length = l.length := by
  unfold updAt; split <;> simp

theorem updAt_getElem? {α : Type} (l : List α) (p : Nat) (f : α → α) (q : Nat) :
    (updAt l p f)[q]? = if q = p then (l[q]?).map f else l[q]? := by
  unfold updAt
  by_cases e : q = p
  · subst e
    split <;> rename_i hv
    · obtain ⟨hlt, hq⟩ := List.getElem?_eq_some_iff.mp hv
      simp [hlt, hq]
    · simp [hv]
  · split <;> simp [e, Ne.symm e]

theorem set_eq_updAt {α : Type} (l : List α) (p : Nat) (v : α) : l.set p v = updAt l p (fun _ => v) := by
  unfold updAt
  split
  · rfl
  · rename_i hv; exact List.set_eq_of_length_le (List.getElem?_eq_none_iff.mp hv)

/-- a pass over distinct requested columns `L`, applying `h c` to the cell at the recorded position of each column `c`: the
cell at position `p` (holding column `c`) is hit exactly when `p` is the recorded position of `c` and `c ∈ L` -/
theorem foldl_updAt_cell {α : Type} (cols : List Nat) (h : Nat → α → α) : ∀ (L : List Nat), L.Nodup → (∀ c ∈ L, c ∈ cols) →
    ∀ (vals : List α) (p c : Nat), cols[p]? = some c →
      (L.foldl (fun vs c => updAt vs (posOf cols c) (h c)) vals)[p]? =
        if posOf cols c = p ∧ c ∈ L then (vals[p]?).map (h c) else vals[p]?
  | [], _, _, vals, p, c, _ => by simp
  | a :: L, hnd, hsub, vals, p, c, hc => by
    have hnd' := List.nodup_cons.mp hnd
    simp only [List.foldl_cons]
    rw [foldl_updAt_cell cols h L hnd'.2 (fun x hx => hsub x (by simp [hx])) _ p c hc, updAt_getElem?]
    by_cases e : a = c
    · subst e; simp [hnd'.1, eq_comm]
    · -- the cell written for `a` holds `a`, not `c`
      have : ¬ p = posOf cols a := fun e' => e (by
        have := posOf_spec cols a (hsub a (by simp))
        rw [← e', hc] at this; exact (Option.some.inj this).symm)
      simp [this, Ne.symm e]

theorem foldl_updAt_length {α : Type} (cols : List Nat) (h : Nat → α → α) : ∀ (L : List Nat) (vals : List α),
    (L.foldl (fun vs c => updAt vs (posOf cols c) (h c)) vals).length = vals.length
  | [], _ => rfl
  | a :: L, vals => by
    simp only [List.foldl_cons]
    rw [foldl_updAt_length cols h L, updAt_length]

/-- a work array of a batch reader, cells initialised to `d`: the cell at position `p` (requested column `c`) has been
written exactly when `p` is the recorded (first) position of `c` and `c` is in `E`, a set of requested columns; it then
holds `g c` -/
structure Cells {α : Type} (cols : List Nat) (E : BSet) (d : α) (g : Nat → α) (vals : List α) : Prop where
  good : Good E
  sub : ∀ c, mem E c = true → c ∈ cols
  len : vals.length = cols.length
  cell : ∀ p c, cols[p]? = some c → vals[p]? = some (if posOf cols c = p ∧ mem E c = true then g c else d)

theorem cells_replicate {α : Type} (cols : List Nat) (E : BSet) (hE : Good E) (hEsub : ∀ c, mem E c = true → c ∈ cols)
    (d : α) : Cells cols E d (fun _ => d) (List.replicate cols.length d) :=
  ⟨hE, hEsub, by simp, fun p c hc => by simp [(List.getElem?_eq_some_iff.mp hc).1]⟩

theorem cells_congr {α : Type} (cols : List Nat) (E : BSet) (d : α) (g g' : Nat → α) (vals : List α)
    (hg : ∀ c, mem E c = true → g c = g' c) (h : Cells cols E d g vals) : Cells cols E d g' vals := by
  refine ⟨h.good, h.sub, h.len, fun p c hc => ?_⟩
  rw [h.cell p c hc]
  by_cases hm : mem E c = true
  · rw [hg c hm]
  · simp [hm]

theorem cells_pass {α : Type} (cols : List Nat) (E S : BSet) (hS : Good S) (hSE : ∀ c, mem S c = true → mem E c = true)
    (d : α) (h : Nat → α → α) (g : Nat → α) (vals : List α) (H : Cells cols E d g vals) :
    Cells cols E d (fun c => if mem S c = true then h c (g c) else g c)
      ((toList S).foldl (fun vs c => updAt vs (posOf cols c) (h c)) vals) := by
  refine ⟨H.good, H.sub, (foldl_updAt_length cols h _ _).trans H.len, fun p c hc => ?_⟩
  rw [foldl_updAt_cell cols h (toList S) (nodup_toList S hS)
    (fun x hx => H.sub x (hSE x ((mem_toList S hS.1 hS.2 x).mp hx))) vals p c hc, H.cell p c hc]
  simp only [mem_toList S hS.1 hS.2]
  by_cases h1 : posOf cols c = p
  · cases h2 : mem S c
    · simp [h1]
    · simp [h1, hSE c h2]
  · simp [h1]

/-- the passes of the readers run over the columns of a plane that are in `E` -/
theorem cells_pass_inter {α : Type} (cols : List Nat) (E P : BSet) (hP : Good P) (d : α) (h : Nat → α → α) (g : Nat → α)
    (vals : List α) (H : Cells cols E d g vals) :
    Cells cols E d (fun c => if mem P c = true then h c (g c) else g c)
      ((toList (inter P E)).foldl (fun vs c => updAt vs (posOf cols c) (h c)) vals) := by
  have hm : ∀ c, mem (inter P E) c = (mem P c && mem E c) := fun c => mem_inter _ _ hP.1 H.good.1 c
  exact cells_congr _ _ _ _ _ _ (fun c hc => by simp only [hm, hc, Bool.and_true])
    (cells_pass cols E _ (good_inter _ _ hP H.good) (fun c hc => by rw [hm] at hc; simp at hc; exact hc.2) d h g vals H)

/-- the first pass of a reader: the cells of the existing requested columns are set, to `g c` -/
theorem cells_init (cols : List Nat) (E : BSet) (hE : Good E) (hEsub : ∀ c, mem E c = true → c ∈ cols) (g : Nat → Int) :
    Cells cols E none (fun c => some (g c))
      ((toList E).foldl (fun vs c => vs.set (posOf cols c) (some (g c))) (List.replicate cols.length none)) := by
  have hset : (fun (vs : List (Option Int)) (c : Nat) => vs.set (posOf cols c) (some (g c))) =
      (fun vs c => updAt vs (posOf cols c) (fun _ => some (g c))) := by
    funext vs c; exact set_eq_updAt _ _ _
  rw [hset]
  exact cells_congr _ _ _ _ _ _ (fun c hc => by simp only [hc, if_true])
    (cells_pass cols E E hE (fun _ hc => hc) none (fun c _ => some (g c)) _ _ (cells_replicate cols E hE hEsub none))

theorem genericPlane_spec (cols : List Nat) (E plane : BSet) (hp : Good plane) (bit : Nat) (g : Nat → Int)
    (hg : ∀ c, twosBit (g c) bit = false)
    (vals : List (Option Int)) (h : Cells cols E none (fun c => some (g c)) vals) :
    Cells cols E none (fun c => some (g c + if mem plane c = true then (2 : Int) ^ bit else 0))
      (genericPlane cols E plane bit vals) := by
  refine cells_congr _ _ _ _ _ _ (fun c _ => ?_) (cells_pass_inter cols E plane hp none
    (fun _ o => o.map (fun v => if twosBit v bit then v else v + (2 : Int) ^ bit)) _ vals h)
  cases mem plane c <;> simp [hg c]

theorem genericPlanes_spec (cols : List Nat) (E : BSet) :
    ∀ (ps : List BSet) (i : Nat) (vals : List (Option Int)), (∀ p ∈ ps, Good p) →
      Cells cols E none (fun _ => some 0) vals →
      Cells cols E none (fun c => some (orBits c ps i)) (genericPlanes cols E ps i vals)
  | [], _, vals, _, h => by simpa [genericPlanes, orBits] using h
  | p :: ps, i, vals, hps, h => by
    have ih := genericPlanes_spec cols E ps (i + 1) vals (fun q hq => hps q (by simp [hq])) h
    have := genericPlane_spec cols E p (hps p (by simp)) i _
      (fun c => by rw [orBits_eq]; exact twosBit_mul_pow _ i) _ ih
    simpa [genericPlanes, orBits] using this

theorem existing_spec (b : BSI) (hb : Good b.ebm) (cols : List Nat) :
    Good (inter b.ebm (requestSet cols)) ∧
    (∀ c, mem (inter b.ebm (requestSet cols)) c = true → c ∈ cols) ∧
    ∀ c, c ∈ cols → mem (inter b.ebm (requestSet cols)) c = mem b.ebm c := by
  have hm : ∀ c, mem (inter b.ebm (requestSet cols)) c = (mem b.ebm c && mem (ofList cols) c) :=
    fun c => mem_inter _ _ hb.1 (good_ofList cols).1 c
  refine ⟨good_inter _ _ hb (good_ofList cols), fun c hc => ?_, fun c hc => ?_⟩
  · rw [hm, Bool.and_eq_true] at hc
    exact (mem_ofList cols c).mp hc.2
  · rw [hm, (mem_ofList cols c).mpr hc, Bool.and_true]

theorem map_getValue_of_empty (b : BSI) (h : WF b) (cols : List Nat)
    (hemp : isEmpty (inter b.ebm (requestSet cols)) = true) : List.replicate cols.length none = cols.map b.getValue := by
  obtain ⟨hE, _, hmE⟩ := existing_spec b h.ebm cols
  have hno := (isEmpty_iff _ hE.1 hE.2).mp hemp
  apply List.ext_getElem?
  intro i
  by_cases hi : i < cols.length
  · have := hno cols[i]
    rw [hmE _ (List.getElem_mem hi)] at this
    simp [hi, getValue_eq, this]
  · simp [hi]

theorem fillDup_spec (b : BSI) (cols : List Nat) (g : Nat → Int) (vals : List (Option Int))
    (h : Cells cols (inter b.ebm (requestSet cols)) none (fun c => some (g c)) vals) (hb : Good b.ebm) :
    fillDup cols vals = cols.map (fun c => if mem b.ebm c = true then some (g c) else none) := by
  have hmE := (existing_spec b hb cols).2.2
  apply List.ext_getElem?
  intro i
  simp only [fillDup, List.getElem?_map]
  by_cases hi : i < cols.length
  · have hci : cols[i]? = some cols[i] := List.getElem?_eq_getElem hi
    have hcm : cols[i] ∈ cols := List.getElem_mem hi
    have hp := h.cell _ _ (posOf_spec cols cols[i] hcm)
    have hq := h.cell i cols[i] hci
    rw [hmE _ hcm] at hp hq
    simp only [List.getElem?_range hi, Option.map_some, hci, List.getD_eq_getElem?_getD]
    cases hm : mem b.ebm cols[i] <;> simp [hm] at hp hq <;> simp [hp, hq]
  · have : cols.length ≤ i := by omega
    simp [this]

/-- the generic batch reader returns, position by position, what `GetBigValue` returns for
the requested column — duplicates and columns without value included -/
theorem getBigValuesGeneric_spec (b : BSI) (h : WF b) (cols : List Nat) :
    b.getBigValuesGeneric cols = cols.map b.getValue := by
  obtain ⟨hE, hEsub, hmE⟩ := existing_spec b h.ebm cols
  unfold getBigValuesGeneric
  simp only
  split
  · exact map_getValue_of_empty b h cols (by assumption)
  · -- the cells of the existing requested columns become 0, the planes are added, the negative columns converted
    have p2 := genericPlanes_spec cols _ b.planes 0 _ h.planes (cells_init cols _ hE hEsub (fun _ => 0))
    have p3 := cells_pass_inter cols _ _ (good_getD b.planes h.planes b.bitCount) none
      (fun _ o => o.map negativeTwosComplementToInt) _ _ p2
    rw [fillDup_spec b cols (fun c => if mem (b.planes.getD b.bitCount []) c = true
      then negativeTwosComplementToInt (orBits c b.planes 0) else orBits c b.planes 0) _
      (cells_congr _ _ _ _ _ _ (fun c _ => by split <;> rfl) p3) h.ebm]
    apply List.map_congr_left
    intro c hc
    rw [getValue]
    cases hm : mem b.ebm c
    · simp
    · simp only [if_true, Bool.not_true, Bool.false_eq_true, if_false, isNegative_eq_mem b h c]

/-! ### the `uint64` batch reader (`getBigValuesInt64` / `getValuesInt64`) -/

theorem rawPlane_spec (cols : List Nat) (E plane : BSet) (hp : Good plane) (bit : Nat) (hbit : bit < 64) (g : Nat → Nat) (hg : ∀ c, g c < 2 ^ bit)
    (raw : List Nat) (h : Cells cols E 0 g raw) :
    Cells cols E 0 (fun c => g c + if mem plane c = true then 2 ^ bit else 0) (rawPlane cols E plane bit raw) := by
  refine cells_congr _ _ _ _ _ _ (fun c _ => ?_) (cells_pass_inter cols E plane hp 0
    (fun _ r => r ||| (if bit < 64 then 2 ^ bit else 0)) g raw h)
  cases mem plane c <;> simp [hbit, Nat.or_two_pow_eq_add_of_lt (hg c)]

theorem rawPlanes_spec (cols : List Nat) (E : BSet) :
    ∀ (ps : List BSet) (i : Nat) (g : Nat → Nat) (raw : List Nat), (∀ p ∈ ps, Good p) → i + ps.length ≤ 64 →
      (∀ c, g c < 2 ^ i) → Cells cols E 0 g raw →
      Cells cols E 0 (fun c => g c + 2 ^ i * encN (col ps c)) (rawPlanes cols E ps i raw)
  | [], _, g, raw, _, _, _, h => by simpa [rawPlanes, encN] using h
  | p :: ps, i, g, raw, hps, hlen, hg, h => by
    simp only [List.length_cons] at hlen
    have h1 := rawPlane_spec cols E p (hps p (by simp)) i (by omega) g hg raw h
    have hg' : ∀ c, (g c + if mem p c = true then 2 ^ i else 0) < 2 ^ (i + 1) := by
      intro c; have := hg c; rw [Nat.pow_succ]; split <;> omega
    have ih := rawPlanes_spec cols E ps (i + 1) _ _ (fun q hq => hps q (by simp [hq])) (by omega) hg' h1
    refine cells_congr _ _ _ _ _ _ (fun c _ => ?_) ih
    simp only [col_cons, encN, Nat.pow_succ]
    cases mem p c <;> simp [Nat.mul_add, Nat.mul_assoc, Nat.add_assoc]

theorem rawToInt_eq (l : List Bool) (n : Nat) (hl : l.length = n + 1) (hn : n + 1 ≤ 64) : rawToInt n (encN l) = dec l := by
  obtain ⟨h1, h2, h3⟩ := word_int l n hl
  have h4 : (encN l).testBit n = signBit l := by
    rw [testBit_encN]; simp only [signBit, List.getLast?_eq_getElem?, hl, Nat.add_sub_cancel, List.getD_eq_getElem?_getD]
  have hq : ((2 ^ n : Nat) : Int) = (2 : Int) ^ n := by simp
  have h63 : 2 ^ n ≤ 2 ^ 63 := Nat.pow_le_pow_right (by decide) (by omega)
  unfold rawToInt
  rw [h4, h3]
  cases hsg : signBit l
  · simp only [hsg, Bool.false_eq_true, false_iff] at h2
    simp only [Bool.false_and, Bool.false_eq_true, if_false]
    split <;> omega
  · have hge := h2.mp hsg
    by_cases hw : n + 1 < 64
    · have h62 : 2 ^ (n + 1) ≤ 2 ^ 63 := Nat.pow_le_pow_right (by decide) (by omega)
      simp only [Bool.true_and, decide_eq_true_eq, hw, if_true,
        nat_or_high (encN l) (n + 1) (by rw [Nat.pow_succ]; omega) (by omega)]
      split <;> omega
    · have : n = 63 := by omega
      subst this
      simp only [Bool.true_and, decide_eq_true_eq, hw, if_false, if_true]
      split <;> omega

/-- on an index of at most 64 planes the `uint64` batch reader (`getBigValuesInt64`,
`getValuesInt64`) returns, position by position, what `GetBigValue` returns -/
theorem getValuesInt64_spec (b : BSI) (h : WF b) (hw : b.planes.length ≤ 64) (cols : List Nat) :
    b.getValuesInt64 cols = cols.map b.getValue := by
  have hlen := planes_length b h.len
  obtain ⟨hE, hEsub, _⟩ := existing_spec b h.ebm cols
  unfold getValuesInt64
  simp only
  split
  · exact map_getValue_of_empty b h cols (by assumption)
  · have r1 := rawPlanes_spec cols _ b.planes 0 _ _ h.planes (by omega) (fun _ => by simp)
      (cells_replicate cols _ hE hEsub 0)
    -- the cells: a raw word converted to `int64` is the value of its column
    generalize rawPlanes cols (inter b.ebm (requestSet cols)) b.planes 0 (List.replicate cols.length 0) = raw at r1 ⊢
    have p1 := cells_congr cols _ none _ (fun c => some (dec (col b.planes c))) _ (fun c hc => by
      have hraw := r1.cell (posOf cols c) c (posOf_spec cols c (hEsub c hc))
      simp only [true_and, hc, if_true, Nat.pow_zero, Nat.one_mul, Nat.zero_add] at hraw
      rw [List.getD_eq_getElem?_getD, hraw, Option.getD_some, rawToInt_eq _ _ (by rw [col_length, hlen]) (by omega)])
      (cells_init cols _ hE hEsub (fun c => rawToInt b.bitCount (raw.getD (posOf cols c) 0)))
    rw [fillDup_spec b cols _ _ p1 h.ebm]
    apply List.map_congr_left
    intro c _
    rw [getValue_eq]

/-- `GetBigValues(columnIDs)` = pointwise `GetBigValue`, whatever path is taken (empty, single
column, `uint64` reader for at most 64 planes, generic reader): duplicates repeat the value, a column without value gives a
nil entry -/
theorem getBigValues_spec (b : BSI) (h : WF b) (cols : List Nat) : b.getBigValues cols = cols.map b.getValue := by
  unfold getBigValues
  split
  · rfl
  · rfl
  · split
    · rename_i hb
      exact getValuesInt64_spec b h (by simpa [isBig] using hb) _
    · exact getBigValuesGeneric_spec b h _

theorem isInt64_of_narrow (b : BSI) (h : WF b) (hw : b.planes.length ≤ 64) (c : Nat) (v : Int)
    (hv : b.getValue c = some v) : isInt64 v = true := by
  have hf := value_fits_all b h c
  have : b.value c = v := by simp [value, hv]
  rw [this] at hf
  have hbc : b.bitCount ≤ 63 := by simp only [bitCount]; omega
  have hpow : (2 : Int) ^ b.bitCount ≤ 2 ^ 63 := by exact_mod_cast Nat.pow_le_pow_right (n := 2) (by decide) hbc
  simp only [isInt64, Bool.and_eq_true, decide_eq_true_eq]
  have h63 : (2 : Int) ^ 63 = 9223372036854775808 := by decide
  obtain ⟨f1, f2⟩ := hf
  omega

/-- `GetValues(columnIDs)` returns pointwise `GetValue` (a column without value: `exists = false`)
when every requested existing value is an `int64`, and panics otherwise -/
theorem getValues_spec (b : BSI) (h : WF b) (cols : List Nat) :
    b.getValues cols =
      if (cols.map b.getValue).all cellOk
      then some (cols.map b.getValue) else none := by
  unfold getValues
  split
  · rfl
  · rename_i c
    cases hv : b.getValue c with
    | none => simp [cellOk, hv]
    | some v => cases hi : isInt64 v <;> simp [cellOk, hv, hi]
  · split
    · rw [getBigValuesGeneric_spec b h]
    · rename_i hb
      have hw : b.planes.length ≤ 64 := by simpa [isBig] using hb
      rw [getValuesInt64_spec b h hw, if_pos]
      rw [List.all_eq_true]
      intro o ho
      obtain ⟨c, _, hc⟩ := List.mem_map.mp ho
      cases o with
      | none => rfl
      | some v => exact isInt64_of_narrow b h hw c v hc

/-! ### `parallelExecutor`: the result does not depend on the number of workers -/

/-- the per-column path of `CompareBigValue` returns the same bitmap for every number of workers -/
theorem compareBigPar_eq (b : BSI) (op : Op) (lo hi : Int) (found : Option BSet) (n : Nat) :
    b.compareBigPar op lo hi found n = b.compareBig op lo hi found :=
  parExec_filter n _ _ (compareValueBatch_eq b op lo hi) _

/-- likewise for the per-column path of `BatchEqualBig` -/
theorem batchEqualPar_eq (b : BSI) (values : List Int) (n : Nat) :
    b.batchEqualPar values n = batchEqualBatch b values (toList b.ebm) :=
  parExec_filter n _ _ (batchEqualBatch_eq b values) _

/-! ### the unused per-column worker `minOrMax` -/

theorem negTwosGen_neg (v : Int) (h : v < 0) : negTwosGen v = v := by
  have h1 := natAbs_lt_bitLen v
  have h2 : ((2 ^ bitLen v : Nat) : Int) = (2 : Int) ^ bitLen v := by simp
  have h3 : (-v - 1) % (2 : Int) ^ bitLen v = -v - 1 := Int.emod_eq_of_lt (by omega) (by omega)
  simp only [negTwosGen, h3]
  show -(-v - 1 + 1) = v
  omega

theorem negTwosGen_pow (n : Nat) : negTwosGen ((2 : Int) ^ n) = -(2 : Int) ^ n := by
  have hb : bitLen ((2 : Int) ^ n) = n + 1 := by
    have := bitLen_of_range (2 ^ n) n (Nat.le_refl _) (by rw [Nat.pow_succ]; have := Nat.two_pow_pos n; omega)
    simpa using this
  have hp : (2 : Int) ^ (n + 1) = 2 * 2 ^ n := by rw [Int.pow_succ]; omega
  have hpos := Facts.two_pow_pos' n
  have h3 : (-(2 : Int) ^ n - 1) % (2 : Int) ^ (n + 1) = (2 : Int) ^ n - 1 := by
    have : -(2 : Int) ^ n - 1 = ((2 : Int) ^ n - 1) + (2 : Int) ^ (n + 1) * (-1) := by omega
    rw [this, Int.add_mul_emod_self_left]
    exact Int.emod_eq_of_lt (by omega) (by omega)
  simp only [negTwosGen, hb, h3]
  show -((2 : Int) ^ n - 1 + 1) = _
  omega

/-- the planes `≥ i` of the word `X`, as an integer -/
def hiPart (X i : Nat) : Int := (2 : Int) ^ i * ((X / 2 ^ i : Nat) : Int)

theorem hiPart_step (X j : Nat) : hiPart X j = hiPart X (j + 1) + if X.testBit j then (2 : Int) ^ j else 0 := by
  unfold hiPart
  rw [div_pow_step X j, Int.pow_succ, Int.mul_assoc]
  cases X.testBit j <;> simp [Int.mul_add]

theorem hiPart_le (X i : Nat) : hiPart X i ≤ X := by
  have := Int.ofNat_le.mpr (Nat.mul_div_le X (2 ^ i))
  simpa [hiPart] using this

theorem hiPart_top (X i : Nat) (h : X < 2 ^ i) : hiPart X i = 0 := by simp [hiPart, Nat.div_eq_of_lt h]

/-- the state of `minOrMax` for a column whose word compares as `o` with the word of the running value on the planes seen so
far: the flags of the start half of `compareValue` (MIN looks for "column < running value": the LT flag, MAX for "column >
running value": the GT flag, which also ends the comparison), and the partial value `cv` -/
def mmFlags (isMax vNeg xNeg : Bool) (o : Ordering) (cv : Int) : MmFlags :=
  { eq := o == .eq, lt := !isMax && ltF vNeg xNeg o, gt := isMax && gtF vNeg xNeg o, done := isMax && gtF vNeg xNeg o, cVal := cv }

theorem mmStep_mmFlags (isMax vNeg xNeg vBit x : Bool) (j : Nat) (o : Ordering) (cv : Int) :
    mmStep isMax vNeg xNeg vBit x j (mmFlags isMax vNeg xNeg o cv) =
      mmFlags isMax vNeg xNeg (o.then (Ord.compare x vBit))
        (if x then
          (if xNeg then negTwosGen (cv + (if twosBit cv j then 0 else (2 : Int) ^ j))
           else cv + (if twosBit cv j then 0 else (2 : Int) ^ j))
         else cv) := by
  cases o
  case eq =>
    cases vBit <;> cases x <;> cases isMax <;>
      simp [mmStep, mmFlags, ltF, gtF, Ordering.then, show Ord.compare true false = .gt from rfl,
        show Ord.compare false true = .lt from rfl] <;>
      cases vNeg <;> cases xNeg <;> rfl
  all_goals
    simp [mmStep, mmFlags, Ordering.then]
    cases x <;> rfl

/-- the state of the plane loop of `minOrMax` once the planes `≥ i` have been visited (`X`, `S`: unsigned words of the column
and of the running value, `n = BitCount`): `cVal` holds the planes `≥ i` of the column, already in two's complement form once the
sign plane has been seen -/
def mmAt (isMax vNeg xNeg : Bool) (X S n i : Nat) : MmFlags :=
  mmFlags isMax vNeg xNeg (Ord.compare (X / 2 ^ i) (S / 2 ^ i))
    (hiPart X i - (if xNeg = true ∧ i ≤ n then (2 : Int) ^ (n + 1) else 0))

theorem mmStep_mmAt (isMax vNeg xNeg : Bool) (X S n j : Nat) (hX : X < 2 ^ (n + 1)) (hxn : xNeg = X.testBit n) (hj : j ≤ n) :
    mmStep isMax vNeg xNeg (S.testBit j) (X.testBit j) j (mmAt isMax vNeg xNeg X S n (j + 1)) = mmAt isMax vNeg xNeg X S n j := by
  have hle := hiPart_le X j
  have hXc : (X : Int) < (2 : Int) ^ (n + 1) := by have := Int.ofNat_lt.mpr hX; simpa using this
  -- the partial value is a multiple of `2^(j+1)`: its bit `j` is clear
  have hbit : twosBit (hiPart X (j + 1) - (if xNeg = true ∧ j + 1 ≤ n then (2 : Int) ^ (n + 1) else 0)) j = false := by
    split
    · have : (2 : Int) ^ (n + 1) = (2 : Int) ^ (j + 1) * (2 : Int) ^ (n - j) := by rw [← Int.pow_add]; congr 1; omega
      rw [hiPart, this, ← Int.mul_sub]; exact twosBit_mul_pow _ j
    · rw [Int.sub_zero]; exact twosBit_mul_pow _ j
  rw [mmAt, mmStep_mmFlags, ← compare_div_pow_step, hbit, mmAt]
  congr 1
  rw [hiPart_step X j] at hle ⊢
  cases xNeg
  · cases X.testBit j <;>
      simp only [Bool.false_eq_true, false_and, if_false, if_true, Int.sub_zero, Int.add_zero]
  · by_cases hjn : j = n
    · -- the sign plane of a negative column: the partial value is still 0
      subst hjn
      have hp : (2 : Int) ^ (j + 1) = 2 * 2 ^ j := by rw [Int.pow_succ]; omega
      rw [← hxn, hiPart_top X _ hX]
      simp only [Nat.not_succ_le_self, and_false, Bool.false_eq_true, if_false, if_true, Int.sub_zero, Int.zero_add,
        Nat.le_refl, and_self, negTwosGen_pow]
      omega
    · have hlt1 : j + 1 ≤ n := by omega
      cases hx : X.testBit j <;>
        simp only [hx, hlt1, hj, and_self, Bool.false_eq_true, if_false, if_true, Int.add_zero] at hle ⊢
      rw [negTwosGen_neg _ (by omega)]; omega

theorem mmLoop_mmAt (b : BSI) (isMax vNeg xNeg : Bool) (value : Int) (c X S n : Nat) (hX : X < 2 ^ (n + 1))
    (hxn : xNeg = X.testBit n) (hs : ∀ i, i ≤ n → twosBit value i = S.testBit i)
    (hx : ∀ i, mem (b.planes.getD i []) c = X.testBit i) :
    ∀ (j : Nat), j ≤ n → mmLoop b isMax vNeg xNeg value c j (mmAt isMax vNeg xNeg X S n (j + 1)) = mmAt isMax vNeg xNeg X S n 0
  | 0, hj => by
    simp only [mmLoop, hs 0 hj, hx 0]
    exact mmStep_mmAt isMax vNeg xNeg X S n 0 hX hxn hj
  | j + 1, hj => by
    simp only [mmLoop, hs (j + 1) hj, hx (j + 1)]
    rw [mmStep_mmAt isMax vNeg xNeg X S n (j + 1) hX hxn hj]
    exact mmLoop_mmAt b isMax vNeg xNeg value c X S n hX hxn hs hx j (by omega)

/-- one column of `minOrMax`: `cVal` ends up as the value of the column, and the flags say whether the column beats the
running extremum `value` (any integer representable in the index's width) -/
theorem mmLoop_spec (b : BSI) (h : WF b) (isMax : Bool) (value : Int) (hv : Fits value b.bitCount) (c : Nat) :
    (let st := mmLoop b isMax (decide (value < 0)) (b.isNegative c) value c b.bitCount {}
     if st.lt || st.gt then st.cVal else value) =
    if isMax then (if value < b.value c then b.value c else value) else (if b.value c < value then b.value c else value) := by
  have hlen := planes_length b h.len
  have hne := col_ne_nil b h c
  have hXlt := encN_lt (col b.planes c)
  rw [col_length, hlen] at hXlt
  have hdec := dec_eq _ hne
  rw [col_length, hlen] at hdec
  have hSlt := encodeValue_lt value b.bitCount
  have hxn : b.isNegative c = (encN (col b.planes c)).testBit b.bitCount := by
    rw [isNegative_eq_mem b h c, mem_plane]
  have hinv := mmLoop_mmAt b isMax (decide (value < 0)) (b.isNegative c) value c (encN (col b.planes c))
    (encodeValue value b.bitCount) b.bitCount hXlt hxn (fun i hi => twosBit_encodeValue value _ i hi)
    (fun i => mem_plane b.planes c i) b.bitCount (Nat.le_refl _)
  have h0 : mmAt isMax (decide (value < 0)) (b.isNegative c) (encN (col b.planes c)) (encodeValue value b.bitCount) b.bitCount
      (b.bitCount + 1) = {} := by
    simp [mmAt, mmFlags, Nat.div_eq_of_lt hXlt, Nat.div_eq_of_lt hSlt, hiPart_top _ _ hXlt, Nat.not_succ_le_self, ltF, gtF]
  rw [h0] at hinv
  obtain ⟨_, _, _, l1, g1⟩ := col_order b h c value hv
  have e1 : hiPart (encN (col b.planes c)) 0 - (if b.isNegative c = true ∧ 0 ≤ b.bitCount then (2 : Int) ^ (b.bitCount + 1) else 0) =
      b.value c := by
    rw [value_eq_dec b h c, hdec, isNegative_eq]
    simp only [hiPart, Nat.pow_zero, Nat.div_one, Int.pow_zero, Int.one_mul, Nat.zero_le, and_true]
  show (if ((mmLoop b isMax _ _ value c b.bitCount {}).lt || (mmLoop b isMax _ _ value c b.bitCount {}).gt) = true
    then (mmLoop b isMax _ _ value c b.bitCount {}).cVal else value) = _
  rw [hinv]
  simp only [mmAt, mmFlags, Nat.pow_zero, Nat.div_one, Bool.or_eq_true, Bool.and_eq_true, l1, g1, e1]
  cases isMax <;> simp

/-- the worker `minOrMax` (not called by any code path of the package) computes, over a batch of columns, the
minimum / maximum of the sentinel and the values of the columns (a column without value counting as 0) -/
theorem minOrMax_spec (b : BSI) (h : WF b) (isMax : Bool) (batch : List Nat) :
    b.minOrMax isMax batch =
      batch.foldl (fun v c => if isMax then (if v < b.value c then b.value c else v) else (if b.value c < v then b.value c else v))
        (if isMax then -(2 : Int) ^ b.bitCount else (2 : Int) ^ b.bitCount - 1) := by
  have hpos := Facts.two_pow_pos' b.bitCount
  have hstart : Fits (if isMax then -(2 : Int) ^ b.bitCount else (2 : Int) ^ b.bitCount - 1) b.bitCount := by
    cases isMax <;> simp only [Fits, Bool.false_eq_true, if_false, if_true] <;> omega
  have hvfit := value_fits_all b h
  simp only [minOrMax, minMaxSignedInt_eq]
  generalize (if isMax then -(2 : Int) ^ b.bitCount else (2 : Int) ^ b.bitCount - 1) = v at hstart ⊢
  -- the running value stays representable: it is the start or the value of a column
  induction batch generalizing v with
  | nil => rfl
  | cons c l ih =>
    simp only [List.foldl_cons]
    rw [mmLoop_spec b h isMax v hstart c]
    apply ih
    cases isMax <;> simp only [Bool.false_eq_true, if_false, if_true] <;> split <;>
      first | exact hvfit c | exact hstart

/-! ### non-vacuity: concrete wide indexes -/

/-- `{2: 2^70+3, 5: -7, 9: 0}`: 72 planes (`BitCount = 71`), every query goes through the per-column path -/
def exBig : BSI := (((BSI.new 0 0).setValue 2 (2 ^ 70 + 3)).setValue 5 (-7)).setValue 9 0

/-- `{2: -2^66, 5: -7, 7: 12, 9: 1}`: 68 planes -/
def exBig2 : BSI := ((((BSI.new 0 0).setValue 2 (-(2 ^ 66))).setValue 5 (-7)).setValue 7 12).setValue 9 1

/-- a narrow index `{2: 100, 5: -8, 9: 0}`: 8 planes -/
def exNarrow : BSI := (((BSI.new 0 0).setValue 2 100).setValue 5 (-8)).setValue 9 0

theorem wf_exBig : WF exBig := by
  unfold exBig; repeat apply wf_setValue
  exact wf_new 0 0
theorem wf_exBig2 : WF exBig2 := by
  unfold exBig2; repeat apply wf_setValue
  exact wf_new 0 0
theorem wf_exNarrow : WF exNarrow := by
  unfold exNarrow; repeat apply wf_setValue
  exact wf_new 0 0

/-- the three indexes plane by plane (one evaluation of the `SetValue` chains; the examples below start from these) -/
theorem exBig_eq : exBig =
    { planes := [[2, 3, 5, 6], [2, 3], []] ++ List.replicate 67 [5, 6] ++ [[2, 3, 5, 6], [5, 6]],
      ebm := [2, 3, 5, 6, 9, 10] } := by
  decide +kernel
theorem exBig2_eq : exBig2 =
    { planes := [[5, 6, 9, 10], [], [7, 8], [5, 6, 7, 8]] ++ List.replicate 62 [5, 6] ++ [[2, 3, 5, 6], [2, 3, 5, 6]],
      ebm := [2, 3, 5, 6, 7, 8, 9, 10] } := by
  decide +kernel
theorem exNarrow_eq : exNarrow =
    { planes := [[], [], [2, 3], [5, 6], [5, 6], [2, 3, 5, 6], [2, 3, 5, 6], [5, 6]], ebm := [2, 3, 5, 6, 9, 10] } := by
  decide +kernel

example : exBig.planes.length = 72 ∧ exBig.bitCount = 71 ∧ exBig.isBig = true ∧ exBig2.planes.length = 68 ∧
    exNarrow.planes.length = 8 := by rw [exBig_eq, exBig2_eq, exNarrow_eq]; decide +kernel
example : [2, 5, 9, 11].map exBig.getValue = [some (2 ^ 70 + 3), some (-7), some 0, none] := by
  rw [exBig_eq]; decide +kernel

-- the hypotheses of `compareColumn_spec` / `compareBig_spec` / `compareBigValue_spec` are satisfiable …
theorem fits_exBig : Fits (-7) exBig.bitCount ∧ Fits 3 exBig.bitCount ∧ Fits (2 ^ 70 + 3) exBig.bitCount ∧
    Fits (-(2 ^ 71)) exBig.bitCount := by
  rw [exBig_eq]; unfold Fits; decide +kernel
-- … and the theorems then speak about the concrete index
example (c : Nat) : compareColumn exBig .RANGE (-7) 3 c = true ↔ -7 ≤ exBig.value c ∧ exBig.value c ≤ 3 := by
  simpa [pred] using compareColumn_spec exBig wf_exBig .RANGE (-7) 3 c fits_exBig.1 (fun _ => fits_exBig.2.1)
example (c : Nat) : mem (exBig.compareBigValue .LT (2 ^ 70 + 3) 0 none) c = true ↔
    mem exBig.ebm c = true ∧ exBig.value c < 2 ^ 70 + 3 := by
  simpa [pred, inFound] using compareBigValue_spec exBig wf_exBig .LT (2 ^ 70 + 3) 0 none (by simp) (by simp)
    fits_exBig.2.2.1 (by simp) c
-- the automaton evaluated: every operator on the wide index (boundary list `[5,6,9,10]` = columns `{5, 9}`)
example : exBig.compareBig .RANGE (-7) 3 none = [5, 6, 9, 10] ∧ exBig.compareBig .LT (2 ^ 70 + 3) 0 none = [5, 6, 9, 10] ∧
    exBig.compareBig .LE (2 ^ 70 + 3) 0 none = [2, 3, 5, 6, 9, 10] ∧ exBig.compareBig .EQ (-7) 0 none = [5, 6] ∧
    exBig.compareBig .GT (-7) 0 none = [2, 3, 9, 10] ∧ exBig.compareBig .GE (-(2 ^ 71)) 0 none = [2, 3, 5, 6, 9, 10] ∧
    exBig.compareBigValue .GE 0 0 (some [5, 6, 9, 10]) = [9, 10] := by rw [exBig_eq]; decide +kernel
-- FINDING (recorded): columns of the found set that hold no value (11, 12) are reported by the per-column path when 0
-- satisfies the predicate, whereas the plane algebra of a narrow index drops them
example : exBig.compareBigValue .GE 0 0 (some [2, 3, 5, 6, 9, 10, 11, 13]) = [2, 3, 9, 10, 11, 13] ∧
    exNarrow.compareBigValue .GE 0 0 (some [2, 3, 5, 6, 9, 10, 11, 13]) = [2, 3, 9, 10] := by
  rw [exBig_eq, exNarrow_eq]; decide +kernel
example : mem (exBig.compareBig .GE 0 0 (some [11, 13])) 12 = true :=
  (compareBig_absent exBig wf_exBig .GE 0 0 [11, 13] ⟨by simp [SInc], rfl⟩
    ((fitsBitCount_iff _ _).mp (by rw [exBig_eq]; decide +kernel))
    (by simp) 12 (by rw [exBig_eq]; decide +kernel)).mpr ⟨by decide +kernel, by simp [pred]⟩
-- the domain of `compareColumn_spec` is tight: in the fixed-width index `NewBSI(7, -8)` (BitCount 4, stores −16 … 15)
-- the constant 16 is not representable and EQ 16 answers the column holding −16
example : compareColumn ((BSI.new 7 (-8)).setValueFixed 0 (-16)) .EQ 16 0 0 = true ∧
    ((BSI.new 7 (-8)).setValueFixed 0 (-16)).getValue 0 = some (-16) ∧ fitsBitCount 16 4 = false := by decide +kernel
-- MinMaxBig: extrema, restriction to a found set, sentinels of an empty candidate set
example : exBig.minMaxBig false none = -7 ∧ exBig.minMaxBig true none = 2 ^ 70 + 3 ∧
    exBig.minMaxBig true (some [5, 6, 9, 10, 11, 12]) = 0 ∧ exBig.minMaxBig true (some [11, 13]) = -(2 ^ 71) ∧
    exBig.minMaxBig false (some [11, 13]) = 2 ^ 71 - 1 := by rw [exBig_eq]; decide +kernel
example : ∃ c0, (mem exBig.ebm c0 = true ∧ inFound none c0) ∧ exBig.minMaxBig true none = exBig.value c0 ∧
    ∀ c, mem exBig.ebm c = true → inFound none c → exBig.value c ≤ exBig.value c0 := by
  simpa using (minMaxBig_spec exBig wf_exBig true none (by simp)).2 ⟨9, by rw [exBig_eq]; decide +kernel, trivial⟩
-- the unused worker `minOrMax` gives the same extrema (`minOrMax_spec`)
example : exBig.minOrMax false [2, 5, 9] = -7 ∧ exBig.minOrMax true [2, 5, 9] = 2 ^ 70 + 3 := by
  rw [exBig_eq]; decide +kernel
-- CompareBSI between indexes of different widths (72, 68 and 8 planes), mixed signs, partially overlapping columns
example : exBig.compareBSI .LT exBig2 none = some [9, 10] ∧ exBig.compareBSI .GE exBig2 none = some [2, 3, 5, 6] ∧
    exBig.compareBSI .EQ exBig2 none = some [5, 6] ∧ exBig2.compareBSI .GT exNarrow (some [2, 3, 9, 20]) = some [9, 10] ∧
    exNarrow.compareBSI .LE exBig (some [0, 6]) = some [2, 3, 5, 6] ∧ exBig.compareBSI .RANGE exBig2 none = none ∧
    exBig.compareBSI .RANGE exBig2 (some [100, 101]) = some [] := by
  rw [exBig_eq, exBig2_eq, exNarrow_eq]; decide +kernel
example (c : Nat) : mem ((exBig.compareBSI .LT exBig2 none).getD []) c = true ↔
    (mem exBig.ebm c = true ∧ mem exBig2.ebm c = true) ∧ exBig.value c < exBig2.value c := by
  obtain ⟨r, hr, h⟩ := (compareBSI_spec exBig exBig2 wf_exBig wf_exBig2 .LT none (by simp)).1 (by simp)
  rw [hr]; simpa [pred, inFound] using h c
-- batch readers: duplicates, a column without value, the panic of GetValues on a value that is not an int64
example : exBig.getBigValues [9, 2, 5, 2, 11, 9] = [some 0, some (2 ^ 70 + 3), some (-7), some (2 ^ 70 + 3), none, some 0] ∧
    exBig.getValues [9, 5, 11, 9] = some [some 0, some (-7), none, some 0] ∧ exBig.getValues [9, 2] = none ∧
    exNarrow.getBigValues [5, 5, 4, 2] = [some (-8), some (-8), none, some 100] := by
  rw [exBig_eq, exNarrow_eq]; decide +kernel
example : exBig.getBigValues [9, 2, 5, 2, 11, 9] = [9, 2, 5, 2, 11, 9].map exBig.getValue := getBigValues_spec exBig wf_exBig _
-- BatchEqualBig / BatchEqual on the wide index
example : exBig.batchEqualBig [2 ^ 70 + 3, -7, 1] = [2, 3, 5, 6] ∧ exBig.batchEqualAny [0, -7, 1] = [5, 6, 9, 10] ∧
    exBig.batchEqual [0] = none := by rw [exBig_eq]; decide +kernel

end RModel.BSI
