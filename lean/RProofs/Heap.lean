import RModel.Impl.Heap
import RModel.Impl.HeapOps
/-!
The copy-on-write discipline preserves the sharing invariant `Safe` (C07 / C08).

`Safe` is restated over the observation functions `slotAt` / `hdrAt` (`SafeP`).  Two facts then carry every operation: a heap
each of whose places has an origin (same cell, same array, not more flagged) in a safe heap, distinct origins for unflagged
places, is safe (`safe_embed`); and a bitmap of new containers may be added to a safe heap (`safe_addBitmap`).  An operation
that allocates embeds into the old heap plus one bitmap holding what it allocates; one that shares maps both references to
the one old place.

Read in terms of `roaringarray.go`: the container `getWritableContainerAtIndex` hands out is reached from no other place and
is not caller memory (`gate_private`, `gate_not_foreign`), `cloneCopyOnWriteContainers` leaves no reference to caller memory
(`detach_no_foreign`), and every heap built from the empty one by the operations under their freshness conditions is safe
(`safe_run`).  The concrete heaps at the end show that `Safe` accepts sharing with both flags set and rejects a missing flag.
-/
namespace RModel.Impl

/-! ## `Safe` in terms of the observation functions `slotAt` / `hdrAt` -/

theorem mem_enumFrom {α : Type} (l : List α) (k n : Nat) (a : α) :
    (n, a) ∈ enumFrom k l ↔ k ≤ n ∧ l[n - k]? = some a := by
  induction l generalizing k with
  | nil => simp [enumFrom]
  | cons x t ih =>
    simp only [enumFrom, List.mem_cons, Prod.mk.injEq, ih, List.getElem?_cons]
    grind

theorem mem_places (h : Heap) (p : Place) : p ∈ h.places ↔ h.slotAt p.b p.i = some p.s := by
  obtain ⟨b, i, s⟩ := p
  simp only [Heap.places, List.mem_flatMap, List.mem_map, Prod.exists, mem_enumFrom, Heap.slotAt, Place.mk.injEq,
    Nat.zero_le, true_and, Nat.sub_zero, Option.bind_eq_some_iff]
  grind

theorem mem_metas (h : Heap) (b r : Nat) (a : ArrId) : (b, r, a) ∈ h.metas ↔ h.hdrAt b r = some a := by
  simp only [Heap.metas, List.mem_flatMap, List.mem_map, Prod.exists, mem_enumFrom, Heap.hdrAt, Prod.mk.injEq,
    Nat.zero_le, true_and, Nat.sub_zero, Option.bind_eq_some_iff]
  grind

def SafeP (h : Heap) : Prop :=
  (∀ b i s, h.slotAt b i = some s → s.flag = false →
      s.backing.foreign = false ∧
      ∀ b' i' s', h.slotAt b' i' = some s' → (b ≠ b' ∨ i ≠ i') →
        s.cell ≠ s'.cell ∧ (s.backing.id ≠ 0 → s.backing.id ≠ s'.backing.id)) ∧
  (∀ b r a, h.hdrAt b r = some a → a.id ≠ 0 →
      a.foreign = false ∧
      (∀ b' r' a', h.hdrAt b' r' = some a' → (b ≠ b' ∨ r ≠ r') → a'.id ≠ a.id) ∧
      (∀ b' i' s', h.slotAt b' i' = some s' → s'.backing.id ≠ a.id))

theorem Place.ok_iff (ps : List Place) (p : Place) : p.ok ps = true ↔ (p.s.flag = false →
    p.s.backing.foreign = false ∧ ∀ q ∈ ps, (p.b ≠ q.b ∨ p.i ≠ q.i) →
      p.s.cell ≠ q.s.cell ∧ (p.s.backing.id ≠ 0 → p.s.backing.id ≠ q.s.backing.id)) := by
  cases hf : p.s.flag with
  | true => simp [Place.ok, hf]
  | false =>
    simp [Place.ok, hf, Place.mustFlag, Place.same, Place.sharesWith, ArrId.isNil]

theorem metaOk_iff (h : Heap) (ps : List Place) (b r : Nat) (a : ArrId) : metaOk h ps (b, r, a) = true ↔ (a.id ≠ 0 →
    a.foreign = false ∧ (∀ m ∈ h.metas, (b ≠ m.1 ∨ r ≠ m.2.1) → m.2.2.id ≠ a.id) ∧
      ∀ p ∈ ps, p.s.backing.id ≠ a.id) := by
  by_cases hnz : a.id = 0
  · simp [metaOk, ArrId.isNil, hnz]
  · simp [metaOk, ArrId.isNil, hnz]
    grind

theorem safe_iff_safeP (h : Heap) : Safe h = true ↔ SafeP h := by
  rw [safe_iff]
  constructor
  · rintro ⟨h1, h2⟩
    refine ⟨fun b i s hs hf => ?_, fun b r a ha hnz => ?_⟩
    · have t := (Place.ok_iff _ _).1 (h1 ⟨b, i, s⟩ ((mem_places _ _).2 hs)) hf
      exact ⟨t.1, fun b' i' s' hs' => t.2 ⟨b', i', s'⟩ ((mem_places _ _).2 hs')⟩
    · have t := (metaOk_iff _ _ _ _ _).1 (h2 (b, r, a) ((mem_metas _ _ _ _).2 ha)) hnz
      exact ⟨t.1, fun b' r' a' ha' => t.2.1 (b', r', a') ((mem_metas _ _ _ _).2 ha'),
        fun b' i' s' hs' => t.2.2 ⟨b', i', s'⟩ ((mem_places _ _).2 hs')⟩
  · rintro ⟨h1, h2⟩
    refine ⟨fun p hp => (Place.ok_iff _ _).2 fun hf => ?_, fun ⟨b, r, a⟩ hm => (metaOk_iff _ _ _ _ _).2 fun hnz => ?_⟩
    · have t := h1 _ _ _ ((mem_places _ _).1 hp) hf
      exact ⟨t.1, fun q hq => t.2 _ _ _ ((mem_places _ _).1 hq)⟩
    · have t := h2 _ _ _ ((mem_metas _ _ _ _).1 hm) hnz
      exact ⟨t.1, fun ⟨b', r', a'⟩ hm' => t.2.1 _ _ _ ((mem_metas _ _ _ _).1 hm'),
        fun p hp => t.2.2 _ _ _ ((mem_places _ _).1 hp)⟩

/-! ## what is reachable, in terms of `slotAt` / `hdrAt` -/

theorem slotAt_eq_some {h : Heap} {b i : Nat} {s : HSlot} :
    h.slotAt b i = some s ↔ ∃ bm, h[b]? = some bm ∧ bm.slots[i]? = some s := by
  simp only [Heap.slotAt]; cases h[b]? <;> simp

theorem hdrAt_eq_some {h : Heap} {b r : Nat} {a : ArrId} :
    h.hdrAt b r = some a ↔ ∃ bm, h[b]? = some bm ∧ bm.hdr[r]? = some a := by
  simp only [Heap.hdrAt]; cases h[b]? <;> simp

theorem slotAt_lt {h : Heap} {b i : Nat} {s : HSlot} (hs : h.slotAt b i = some s) : b < h.length := by
  obtain ⟨bm, hb, -⟩ := slotAt_eq_some.1 hs
  exact (List.getElem?_eq_some_iff.1 hb).1

theorem cell_mem {h : Heap} {b i : Nat} {s : HSlot} (hs : h.slotAt b i = some s) : s.cell ∈ h.cellIds := by
  obtain ⟨bm, hb, hi⟩ := slotAt_eq_some.1 hs
  exact List.mem_flatMap.2 ⟨bm, List.mem_of_getElem? hb, List.mem_map.2 ⟨s, List.mem_of_getElem? hi, rfl⟩⟩

theorem arr_mem {h : Heap} {b i : Nat} {s : HSlot} (hs : h.slotAt b i = some s) : s.backing.id ∈ h.arrIds := by
  obtain ⟨bm, hb, hi⟩ := slotAt_eq_some.1 hs
  exact List.mem_flatMap.2 ⟨bm, List.mem_of_getElem? hb,
    List.mem_append_left _ (List.mem_map.2 ⟨s, List.mem_of_getElem? hi, rfl⟩)⟩

theorem privArr_mem {h : Heap} {b i : Nat} {s : HSlot} (hs : h.slotAt b i = some s) (hf : s.flag = false) :
    s.backing.id ∈ h.privArrIds := by
  obtain ⟨bm, hb, hi⟩ := slotAt_eq_some.1 hs
  exact List.mem_flatMap.2 ⟨bm, List.mem_of_getElem? hb, List.mem_append_left _
    (List.mem_map.2 ⟨s, List.mem_filter.2 ⟨List.mem_of_getElem? hi, by rw [hf]; rfl⟩, rfl⟩)⟩

theorem privArrIds_subset {h : Heap} {a : Nat} (ha : a ∈ h.privArrIds) : a ∈ h.arrIds := by
  obtain ⟨bm, hbm, ha⟩ := List.mem_flatMap.1 ha
  refine List.mem_flatMap.2 ⟨bm, hbm, ?_⟩
  rcases List.mem_append.1 ha with ha | ha
  · obtain ⟨s, hs, e⟩ := List.mem_map.1 ha
    exact List.mem_append_left _ (List.mem_map.2 ⟨s, (List.mem_filter.1 hs).1, e⟩)
  · exact List.mem_append_right _ ha

theorem hdr_mem {h : Heap} {b r : Nat} {x : ArrId} (hx : h.hdrAt b r = some x) : x.id ∈ h.arrIds ∧ x.id ∈ h.privArrIds := by
  obtain ⟨bm, hb, hr⟩ := hdrAt_eq_some.1 hx
  have hp : x.id ∈ h.privArrIds := List.mem_flatMap.2 ⟨bm, List.mem_of_getElem? hb,
    List.mem_append_right _ (List.mem_map.2 ⟨x, List.mem_of_getElem? hr, rfl⟩)⟩
  exact ⟨privArrIds_subset hp, hp⟩

/-! ## observation of the primitive heap updates -/

theorem slotAt_modify (h : Heap) (b : Nat) (f : HBitmap → HBitmap) (b' i : Nat) :
    Heap.slotAt (h.modify b f) b' i = if b = b' then h[b']?.bind (fun bm => (f bm).slots[i]?) else h.slotAt b' i := by
  simp only [Heap.slotAt, List.getElem?_modify]
  split <;> cases h[b']? <;> simp_all

theorem hdrAt_modify (h : Heap) (b : Nat) (f : HBitmap → HBitmap) (b' r : Nat) :
    Heap.hdrAt (h.modify b f) b' r = if b = b' then h[b']?.bind (fun bm => (f bm).hdr[r]?) else h.hdrAt b' r := by
  simp only [Heap.hdrAt, List.getElem?_modify]
  split <;> cases h[b']? <;> simp_all

theorem hdrAt_modify_same (h : Heap) (b : Nat) (f : HBitmap → HBitmap) (hf : ∀ bm, (f bm).hdr = bm.hdr) (b' r : Nat) :
    Heap.hdrAt (h.modify b f) b' r = h.hdrAt b' r := by
  rw [hdrAt_modify]; split <;> simp [Heap.hdrAt, hf]

theorem hdrAt_setSlots (h : Heap) (b : Nat) (g : HBitmap → List HSlot) (b' r : Nat) :
    Heap.hdrAt (h.modify b fun bm => { bm with slots := g bm }) b' r = h.hdrAt b' r :=
  hdrAt_modify_same _ _ (fun bm => { bm with slots := g bm }) (fun _ => rfl) _ _

theorem length_modify' (h : Heap) (b : Nat) (f : HBitmap → HBitmap) : (h.modify b f).length = h.length := by simp

theorem nslots_modify_of_ne (h : Heap) (b b' : Nat) (f : HBitmap → HBitmap) (hne : b ≠ b') :
    Heap.nslots (h.modify b f) b' = h.nslots b' := by
  simp [Heap.nslots, hne]

theorem slotAt_modify_lt {h : Heap} {b : Nat} {f : HBitmap → HBitmap} {b' i : Nat} {s : HSlot}
    (hs : Heap.slotAt (h.modify b f) b' i = some s) : b' < h.length := by
  simpa using slotAt_lt hs

/-! ## observation of a bitmap appended to the heap -/

theorem getElem?_append_singleton {α : Type} (l : List α) (a : α) (i : Nat) (x : α) :
    (l ++ [a])[i]? = some x ↔ l[i]? = some x ∨ (i = l.length ∧ a = x) := by
  rw [List.getElem?_append]
  split
  · grind
  · rw [List.getElem?_eq_none (by omega : l.length ≤ i)]
    cases hk : i - l.length <;> simp <;> omega

theorem slotAt_append (h : Heap) (bm : HBitmap) (b i : Nat) (s : HSlot) :
    (h ++ [bm]).slotAt b i = some s ↔ h.slotAt b i = some s ∨ (b = h.length ∧ bm.slots[i]? = some s) := by
  simp only [Heap.slotAt, Option.bind_eq_some_iff, getElem?_append_singleton]
  grind

theorem hdrAt_append (h : Heap) (bm : HBitmap) (b r : Nat) (a : ArrId) :
    (h ++ [bm]).hdrAt b r = some a ↔ h.hdrAt b r = some a ∨ (b = h.length ∧ bm.hdr[r]? = some a) := by
  simp only [Heap.hdrAt, Option.bind_eq_some_iff, getElem?_append_singleton]
  grind

theorem slotAt_append_left {h : Heap} {b i : Nat} {s : HSlot} (bm : HBitmap) (hs : h.slotAt b i = some s) :
    (h ++ [bm]).slotAt b i = some s := (slotAt_append ..).2 (Or.inl hs)

theorem slotAt_append_length (h : Heap) (bm : HBitmap) (i : Nat) : (h ++ [bm]).slotAt h.length i = bm.slots[i]? := by
  simp [Heap.slotAt]

/-! ## list facts behind the freshness conditions -/

theorem ne_of_nil_or_not_mem {x y : Nat} {l : List Nat} (hx : x = 0 ∨ x ∉ l) (hy : y ≠ 0) (hm : y ∈ l) : x ≠ y :=
  fun e => hx.elim (fun h0 => hy (e ▸ h0)) fun hn => hn (e ▸ hm)

theorem pairwise_getElem? {α : Type} {R : α → α → Prop} {l : List α} (hp : l.Pairwise R) {k k' : Nat} {x y : α}
    (hk : l[k]? = some x) (hk' : l[k']? = some y) (hne : k ≠ k') : R x y ∨ R y x := by
  obtain ⟨h1, rfl⟩ := List.getElem?_eq_some_iff.1 hk
  obtain ⟨h2, rfl⟩ := List.getElem?_eq_some_iff.1 hk'
  rcases Nat.lt_or_gt_of_ne hne with hlt | hlt
  · exact Or.inl (List.pairwise_iff_getElem.1 hp k k' h1 h2 hlt)
  · exact Or.inr (List.pairwise_iff_getElem.1 hp k' k h2 h1 hlt)

theorem pairwise_nz {l : List Nat} (hp : l.Pairwise (fun x y => x ≠ y ∨ x = 0)) {k k' a a' : Nat}
    (hk : l[k]? = some a) (hk' : l[k']? = some a') (hne : k ≠ k') (hnz : a ≠ 0) : a ≠ a' :=
  (pairwise_getElem? hp hk hk' hne).elim (·.resolve_right hnz) fun h' e => h'.elim (· e.symm) fun h0 => hnz (e.trans h0)

theorem getElem?_mkHdr (hs : List Nat) (r : Nat) (x : ArrId) :
    (mkHdr hs)[r]? = some x ↔ ∃ a, hs[r]? = some a ∧ x = ⟨a, false⟩ := by
  simp only [mkHdr, List.getElem?_map, Option.map_eq_some_iff]
  grind

/-! ## the two facts every operation is an instance of: embedding into a safe heap, adding a bitmap -/

/-- `φ` sends a place of `h'` to its origin in `h`, `β` a bitmap of `h'` to the bitmap of `h` whose header arrays it has.  `φ` need
be injective at unflagged places only: two flagged places with one origin are what sharing is. -/
theorem safe_embed {h h' : Heap} (hs : Safe h = true) (φ : Nat → Nat → Nat × Nat) (β : Nat → Nat)
    (hφ : ∀ b i s', h'.slotAt b i = some s' → ∃ s, h.slotAt (φ b i).1 (φ b i).2 = some s ∧
      s.cell = s'.cell ∧ s.backing = s'.backing ∧ (s.flag = true → s'.flag = true))
    (hφi : ∀ b i b' i' s s', h'.slotAt b i = some s → s.flag = false → h'.slotAt b' i' = some s' →
      φ b i = φ b' i' → b = b' ∧ i = i')
    (hβ : ∀ b r a, h'.hdrAt b r = some a → h.hdrAt (β b) r = some a) (hβi : ∀ b b', β b = β b' → b = b') :
    Safe h' = true := by
  rw [safe_iff_safeP] at hs ⊢
  refine ⟨fun b1 i1 s1 hs1 hf1 => ?_, fun b1 r1 a1 hr1 hnz => ?_⟩
  · obtain ⟨t1, ht1, hc1, hb1, hfl1⟩ := hφ _ _ _ hs1
    have hft : t1.flag = false := by
      cases hq : t1.flag with
      | false => rfl
      | true => rw [hfl1 hq] at hf1; exact hf1
    have ht := hs.1 _ _ _ ht1 hft
    refine ⟨hb1 ▸ ht.1, fun b2 i2 s2 hs2 hne => ?_⟩
    obtain ⟨t2, ht2, hc2, hb2, -⟩ := hφ _ _ _ hs2
    have := ht.2 _ _ _ ht2 (Decidable.not_and_iff_not_or_not.1 fun e =>
      have := hφi _ _ _ _ _ _ hs1 hf1 hs2 (Prod.ext e.1 e.2); hne.elim (· this.1) (· this.2))
    rw [hc1, hc2, hb1, hb2] at this
    exact this
  · have ht := hs.2 _ _ _ (hβ _ _ _ hr1) hnz
    refine ⟨ht.1, fun b2 r2 a2 hr2 hne => ?_, fun b2 i2 s2 hs2 => ?_⟩
    · exact ht.2.1 _ _ _ (hβ _ _ _ hr2) (hne.imp (fun hn e => hn (hβi _ _ e)) id)
    · obtain ⟨t2, ht2, -, hb2, -⟩ := hφ _ _ _ hs2
      exact hb2 ▸ ht.2.2 _ _ _ ht2

/-- The cells of the new bitmap are new, but a flagged slot may point at an array the heap already has, as long as no place may
write it without copying (`privArrIds`): zero-copy decoding a second time from one buffer.  Only the arrays of unflagged slots
(`hu`) must be new. -/
theorem safe_addBitmap {h : Heap} (hs : Safe h = true) {bm : HBitmap} {hs' : List Nat} (hh : bm.hdr = mkHdr hs')
    (hf : FreshArrs h hs') (hx : ∀ s ∈ bm.slots, ∀ a ∈ hs', a ≠ 0 → s.backing.id ≠ a)
    (hsl : ∀ t ∈ bm.slots, t.cell ∉ h.cellIds ∧ (t.backing.id = 0 ∨ t.backing.id ∉ h.privArrIds))
    (hu : ∀ (i : Nat) s, bm.slots[i]? = some s → s.flag = false →
      s.backing.foreign = false ∧ (s.backing.id = 0 ∨ s.backing.id ∉ h.arrIds) ∧
      ∀ (i' : Nat) s', bm.slots[i']? = some s' → i ≠ i' →
        s.cell ≠ s'.cell ∧ (s.backing.id ≠ 0 → s.backing.id ≠ s'.backing.id)) :
    Safe (h ++ [bm]) = true := by
  rw [safe_iff_safeP] at hs ⊢
  have hdr : ∀ {r : Nat} {x : ArrId}, bm.hdr[r]? = some x → ∃ a, hs'[r]? = some a ∧ x = ⟨a, false⟩ :=
    fun hr => (getElem?_mkHdr ..).1 (hh ▸ hr)
  -- each obligation is about two places (slots or header positions), each old or in `bm`: old/old is `hs`; old against new is
  -- freshness, since what an old place reaches is in `cellIds` / `arrIds` / `privArrIds`; new/new is `hu`, `hx`, `hf.2`
  refine ⟨fun b i s p hfl => ?_, fun b r x p hnz => ?_⟩
  · rcases (slotAt_append ..).1 p with po | ⟨rfl, pn⟩
    · refine ⟨(hs.1 _ _ _ po hfl).1, fun b' i' t q hne => ?_⟩
      rcases (slotAt_append ..).1 q with qo | ⟨rfl, qn⟩
      · exact (hs.1 _ _ _ po hfl).2 _ _ _ qo hne
      · obtain ⟨hc, hb⟩ := hsl t (List.mem_of_getElem? qn)
        exact ⟨fun e => hc (e ▸ cell_mem po), fun hnz e => ne_of_nil_or_not_mem hb hnz (privArr_mem po hfl) e.symm⟩
    · obtain ⟨hloc, hb, hd⟩ := hu _ _ pn hfl
      refine ⟨hloc, fun b' i' t q hne => ?_⟩
      rcases (slotAt_append ..).1 q with qo | ⟨rfl, qn⟩
      · exact ⟨fun e => (hsl s (List.mem_of_getElem? pn)).1 (e ▸ cell_mem qo),
          fun hnz e => hb.elim hnz fun hn => hn (e ▸ arr_mem qo)⟩
      · exact hd _ _ qn (hne.resolve_left fun hn => hn rfl)
  · rcases (hdrAt_append ..).1 p with po | ⟨rfl, pn⟩
    · refine ⟨(hs.2 _ _ _ po hnz).1, fun b' r' x' q hne => ?_, fun b' i' t q => ?_⟩
      · rcases (hdrAt_append ..).1 q with qo | ⟨rfl, qn⟩
        · exact (hs.2 _ _ _ po hnz).2.1 _ _ _ qo hne
        · obtain ⟨a', ha', rfl⟩ := hdr qn
          exact ne_of_nil_or_not_mem (hf.1 a' (List.mem_of_getElem? ha')) hnz (hdr_mem po).1
      · rcases (slotAt_append ..).1 q with qo | ⟨rfl, qn⟩
        · exact (hs.2 _ _ _ po hnz).2.2 _ _ _ qo
        · exact ne_of_nil_or_not_mem (hsl t (List.mem_of_getElem? qn)).2 hnz (hdr_mem po).2
    · obtain ⟨a, ha, rfl⟩ := hdr pn
      have h0 := (hf.1 a (List.mem_of_getElem? ha)).resolve_left hnz
      refine ⟨rfl, fun b' r' x' q hne (e : x'.id = a) => ?_, fun b' i' t q (e : t.backing.id = a) => ?_⟩
      · rcases (hdrAt_append ..).1 q with qo | ⟨rfl, qn⟩
        · exact h0 (e ▸ (hdr_mem qo).1)
        · obtain ⟨a', ha', rfl⟩ := hdr qn
          exact pairwise_nz hf.2 ha ha' (hne.resolve_left fun hn => hn rfl) hnz e.symm
      · rcases (slotAt_append ..).1 q with qo | ⟨rfl, qn⟩
        · exact h0 (e ▸ arr_mem qo)
        · exact hx _ (List.mem_of_getElem? qn) _ (List.mem_of_getElem? ha) hnz e

/-! ## new bitmaps: zero-copy decoding and deep copies -/

theorem safe_addZeroCopy {h : Heap} (hs : Safe h = true) {name : String} {cow : Bool} {slots : List HSlot}
    {hs' : List Nat} (hz : ZeroCopyOk h slots hs') : Safe (addZeroCopy h name cow slots hs') = true :=
  safe_addBitmap hs rfl hz.2.1 (fun s hs a ha hnz => (hz.2.2 s hs a ha).resolve_left hnz) (fun t ht => (hz.1 t ht).2)
    fun _ s hi hf => absurd (hz.1 s (List.mem_of_getElem? hi)).1 (hf ▸ Bool.false_ne_true)

theorem safe_addEmpty {h : Heap} (hs : Safe h = true) {name : String} {cow : Bool} {hs' : List Nat}
    (hf : FreshArrs h hs') : Safe (addEmpty h name cow hs') = true :=
  safe_addZeroCopy hs ⟨by simp, hf, by simp⟩

theorem FreshArrs.append_left {h : Heap} {as hs : List Nat} (hf : FreshArrs h (as ++ hs)) : FreshArrs h as :=
  ⟨fun a ha => hf.1 a (List.mem_append_left _ ha), (List.pairwise_append.1 hf.2).1⟩

theorem FreshArrs.append_right {h : Heap} {as hs : List Nat} (hf : FreshArrs h (as ++ hs)) : FreshArrs h hs :=
  ⟨fun a ha => hf.1 a (List.mem_append_right _ ha), (List.pairwise_append.1 hf.2).2.1⟩

theorem getElem?_zipFresh (f : HSlot → Nat → Nat → HSlot) (ss : List HSlot) (cs as : List Nat) (i : Nat) (s' : HSlot) :
    (zipFresh f ss cs as)[i]? = some s' ↔
      ∃ s c a, ss[i]? = some s ∧ cs[i]? = some c ∧ as[i]? = some a ∧ s' = f s c a := by
  simp only [zipFresh, List.getElem?_map, Option.map_eq_some_iff, List.getElem?_zip_eq_some, Prod.exists]
  grind

theorem safe_addFresh {h : Heap} (hs : Safe h = true) (name : String) (cow : Bool) (ss : List HSlot) {cs as hs' : List Nat}
    (hc : FreshCells h cs) (ha : FreshArrs h (as ++ hs')) :
    Safe (h ++ [{ name := name, cow := cow, hdr := mkHdr hs', slots := zipFresh HSlot.fresh ss cs as }]) = true := by
  refine safe_addBitmap hs rfl ha.append_right (fun t ht x hx hnz e => ?_) (fun t ht => ?_) (fun i t hi _ => ?_)
  · obtain ⟨i, hi⟩ := List.mem_iff_getElem?.1 ht
    obtain ⟨s, c, a, -, -, hai, rfl⟩ := (getElem?_zipFresh ..).1 hi
    exact ((List.pairwise_append.1 ha.2).2.2 a (List.mem_of_getElem? hai) x hx).elim (· e) fun h0 => hnz (e ▸ h0)
  · obtain ⟨i, hi⟩ := List.mem_iff_getElem?.1 ht
    obtain ⟨s, c, a, -, hci, hai, rfl⟩ := (getElem?_zipFresh ..).1 hi
    exact ⟨hc.1 c (List.mem_of_getElem? hci),
      (ha.1 a (List.mem_append_left _ (List.mem_of_getElem? hai))).imp id fun hn hp => hn (privArrIds_subset hp)⟩
  · obtain ⟨s, c, a, -, hci, hai, rfl⟩ := (getElem?_zipFresh ..).1 hi
    refine ⟨rfl, ha.1 a (List.mem_append_left _ (List.mem_of_getElem? hai)), fun i' t' hi' hne => ?_⟩
    obtain ⟨s', c', a', -, hci', hai', rfl⟩ := (getElem?_zipFresh ..).1 hi'
    exact ⟨(pairwise_getElem? hc.2 hci hci' hne).elim id Ne.symm,
      pairwise_nz ha.append_left.2 hai hai' hne⟩

/-! ## one new container: `gate`, `appendFresh`, `insertFresh` -/

theorem safe_addOne {h : Heap} (hs : Safe h = true) {c a : Nat} (hf : Fresh h c a) :
    Safe (h ++ [{ name := "", cow := false, hdr := [],
                  slots := [{ key := 0, cell := c, backing := ⟨a, false⟩, flag := false }] }]) = true :=
  safe_addFresh hs "" false [⟨0, 0, ⟨0, false⟩, false⟩] (cs := [c]) (as := [a]) (hs' := [])
    ⟨by simpa using hf.1, by simp⟩ ⟨by simpa using hf.2, by simp⟩

theorem slotAt_modSlot (h : Heap) (b i : Nat) (f : HSlot → HSlot) (b' i' : Nat) (s' : HSlot) :
    Heap.slotAt (h.modify b (·.modSlot i f)) b' i' = some s' ↔
      ∃ s, h.slotAt b' i' = some s ∧ s' = if b' = b ∧ i' = i then f s else s := by
  simp only [HBitmap.modSlot, List.getElem?_modify, Heap.slotAt]
  cases h[b']? <;> simp <;> grind

theorem slotAt_gate (h : Heap) (b i c a b' i' : Nat) (s' : HSlot) :
    (gate h b i c a).slotAt b' i' = some s' ↔
      ∃ s, h.slotAt b' i' = some s ∧ s' = if b' = b ∧ i' = i then s.gate c a else s :=
  slotAt_modSlot h b i (·.gate c a) b' i' s'

theorem safe_gate {h : Heap} (hs : Safe h = true) {b i c a : Nat} (hf : Fresh h c a) :
    Safe (gate h b i c a) = true := by
  refine safe_embed (safe_addOne hs hf)
    (fun b' i' => if b' = b ∧ i' = i ∧ (h.slotAt b i).any (·.flag) then (h.length, 0) else (b', i')) id
    (fun b' i' s' hs' => ?_) (fun b1 i1 b2 i2 s1 s2 h1 _ h2 => ?_)
    (fun b' r x hx => (hdrAt_append ..).2 (Or.inl (hdrAt_setSlots .. ▸ hx))) fun _ _ => id
  · obtain ⟨s, hs0, rfl⟩ := (slotAt_gate ..).1 hs'
    by_cases hbi : b' = b ∧ i' = i
    · obtain ⟨rfl, rfl⟩ := hbi
      cases hfl : s.flag with
      | true => simp [hs0, hfl, slotAt_append_length, HSlot.gate, HSlot.fresh]
      | false =>
        rw [if_neg (by simp [hs0, hfl]), if_pos ⟨rfl, rfl⟩]
        exact ⟨s, slotAt_append_left _ hs0, by simp [HSlot.gate, hfl]⟩
    · rw [if_neg fun e => hbi ⟨e.1, e.2.1⟩, if_neg hbi]
      exact ⟨s, slotAt_append_left _ hs0, rfl, rfl, id⟩
  · -- only `(b, i)` can be sent to bitmap `h.length`; every other place stays, below `h.length`
    obtain ⟨t1, h1, -⟩ := (slotAt_gate ..).1 h1
    obtain ⟨t2, h2, -⟩ := (slotAt_gate ..).1 h2
    have := slotAt_lt h1
    have := slotAt_lt h2
    grind

theorem safe_insertFresh {h : Heap} (hs : Safe h = true) {b pos key c a : Nat} (hf : Fresh h c a) :
    Safe (insertFresh h b pos key c a) = true := by
  refine safe_embed (safe_addOne hs hf)
    (fun b' i' => if b' = b then (if i' < pos then (b', i') else if i' = pos then (h.length, 0) else (b', i' - 1)) else (b', i'))
    id (fun b' i' s' hs' => ?_) (fun b1 i1 b2 i2 s1 s2 h1 _ h2 => ?_)
    (fun b' r x hx => (hdrAt_append ..).2 (Or.inl (hdrAt_setSlots .. ▸ hx))) fun _ _ => id
  · rw [insertFresh, slotAt_modify] at hs'
    by_cases hb : b' = b
    · subst hb
      rw [if_pos rfl] at *
      obtain ⟨bm, hbm, hi⟩ := Option.bind_eq_some_iff.1 hs'
      have at_ : ∀ j, bm.slots[j]? = some s' → h.slotAt b' j = some s' := fun j hj => slotAt_eq_some.2 ⟨bm, hbm, hj⟩
      dsimp only at hi
      rcases Nat.lt_trichotomy i' pos with hlt | rfl | hgt
      · rw [List.getElem?_insertIdx_of_lt hlt] at hi
        rw [if_pos hlt]
        exact ⟨s', slotAt_append_left _ (at_ _ hi), rfl, rfl, id⟩
      · rw [List.getElem?_insertIdx_self] at hi
        rw [if_neg (Nat.lt_irrefl _), if_pos rfl]
        split at hi
        · cases hi; exact ⟨_, slotAt_append_length .., rfl, rfl, id⟩
        · cases hi
      · rw [List.getElem?_insertIdx_of_gt hgt] at hi
        rw [if_neg (by omega), if_neg (by omega)]
        exact ⟨s', slotAt_append_left _ (at_ _ hi), rfl, rfl, id⟩
    · rw [if_neg (Ne.symm hb)] at hs'
      rw [if_neg hb]
      exact ⟨s', slotAt_append_left _ hs', rfl, rfl, id⟩
  · -- positions before `pos` stay, those after it shift down by one, `pos` alone goes to bitmap `h.length`
    have := slotAt_modify_lt h1
    have := slotAt_modify_lt h2
    grind

theorem safe_appendFresh {h : Heap} (hs : Safe h = true) {b key c a : Nat} (hf : Fresh h c a) :
    Safe (appendFresh h b key c a) = true := by
  have e : appendFresh h b key c a = insertFresh h b (h.nslots b) key c a := by
    refine List.ext_getElem? fun k => ?_
    rw [appendFresh, insertFresh, List.getElem?_modify, List.getElem?_modify]
    split
    · subst k
      cases hb : h[b]? with
      | none => rfl
      | some bm => simp [HBitmap.pushSlot, Heap.nslots, hb, List.insertIdx_length_self]
    · rfl
  rw [e]
  exact safe_insertFresh hs hf

/-! ## no new container: more flags, sharing, removal -/

/-- the same places with the same cells and arrays, some of them flagged in addition -/
theorem safe_mono {h h' : Heap} (hs : Safe h = true)
    (hsl : ∀ b i s', h'.slotAt b i = some s' → ∃ s, h.slotAt b i = some s ∧
      s.cell = s'.cell ∧ s.backing = s'.backing ∧ (s.flag = true → s'.flag = true))
    (hh : ∀ b r, h'.hdrAt b r = h.hdrAt b r) : Safe h' = true :=
  safe_embed hs (fun b i => (b, i)) id hsl (fun _ _ _ _ _ _ _ _ _ e => by simpa using e)
    (fun b r a ha => hh b r ▸ ha) fun _ _ => id

theorem safe_setCow {h : Heap} (hs : Safe h = true) (b : Nat) (v : Bool) : Safe (setCow h b v) = true := by
  refine safe_mono hs (fun b' i' s' hs' => ⟨s', ?_, rfl, rfl, id⟩)
    (hdrAt_modify_same _ _ (fun bm => { bm with cow := v }) fun _ => rfl)
  rw [setCow, slotAt_modify] at hs'
  split at hs'
  · exact hs'
  · exact hs'

theorem safe_mark {h : Heap} (hs : Safe h = true) (b i : Nat) : Safe (h.modify b (·.modSlot i HSlot.mark)) = true := by
  refine safe_mono hs (fun b' i' s' hs' => ?_) (hdrAt_setSlots _ _ _)
  obtain ⟨s, hs0, rfl⟩ := (slotAt_modSlot ..).1 hs'
  refine ⟨s, hs0, ?_⟩
  split
  · exact ⟨rfl, rfl, fun _ => rfl⟩
  · exact ⟨rfl, rfl, id⟩

theorem slotAt_lt_nslots {h : Heap} {b i : Nat} {s : HSlot} (hs : h.slotAt b i = some s) : i < h.nslots b := by
  obtain ⟨bm, hb, hi⟩ := slotAt_eq_some.1 hs
  simp [Heap.nslots, hb, (List.getElem?_eq_some_iff.1 hi).1]

theorem slotAt_pushSlot (h : Heap) (b : Nat) (x : HSlot) (b' i' : Nat) (s' : HSlot) :
    Heap.slotAt (h.modify b (·.pushSlot x)) b' i' = some s' ↔
      h.slotAt b' i' = some s' ∨ (b' = b ∧ b < h.length ∧ i' = h.nslots b ∧ s' = x) := by
  simp only [HBitmap.pushSlot, List.getElem?_modify, Heap.slotAt, Heap.nslots]
  by_cases hb : b = b'
  · subst hb
    cases hbm : h[b]? with
    | none => simp; grind
    | some bm =>
      have : b < h.length := (List.getElem?_eq_some_iff.1 hbm).1
      simp [List.getElem?_append]
      grind
  · cases h[b']? <;> simp [hb] <;> grind

theorem safe_pushShared {h : Heap} (hs : Safe h = true) {b₀ i₀ : Nat} {s : HSlot} (h₀ : h.slotAt b₀ i₀ = some s)
    (hfl : s.flag = true) (b : Nat) : Safe (h.modify b (·.pushSlot s)) = true := by
  have old : ∀ {b' i' : Nat} {s' : HSlot}, h.slotAt b' i' = some s' → ¬(b' = b ∧ i' = h.nslots b) := fun p e => by
    have := slotAt_lt_nslots p
    rw [e.1, e.2] at this
    exact Nat.lt_irrefl _ this
  refine safe_embed hs (fun b' i' => if b' = b ∧ i' = h.nslots b then (b₀, i₀) else (b', i')) id
    (fun b' i' s' hs' => ?_) (fun b1 i1 b2 i2 s1 s2 h1 hf1 h2 e => ?_)
    (fun b' r x hx => hdrAt_setSlots .. ▸ hx) fun _ _ => id
  · rcases (slotAt_pushSlot ..).1 hs' with p | ⟨rfl, -, rfl, rfl⟩
    · rw [if_neg (old p)]
      exact ⟨s', p, rfl, rfl, id⟩
    · rw [if_pos ⟨rfl, rfl⟩]
      exact ⟨_, h₀, rfl, rfl, id⟩
  · rcases (slotAt_pushSlot ..).1 h1 with p1 | ⟨-, -, -, rfl⟩
    · rw [if_neg (old p1)] at e
      rcases (slotAt_pushSlot ..).1 h2 with p2 | ⟨rfl, -, rfl, rfl⟩
      · rw [if_neg (old p2)] at e
        exact ⟨congrArg Prod.fst e, congrArg Prod.snd e⟩
      · rw [if_pos ⟨rfl, rfl⟩] at e
        cases e
        cases p1.symm.trans h₀
        exact absurd hfl (hf1 ▸ Bool.false_ne_true)
    · exact absurd hfl (hf1 ▸ Bool.false_ne_true)

theorem safe_appendCopy {h : Heap} (hs : Safe h = true) {dst src i c a : Nat} (hf : Fresh h c a) :
    Safe (appendCopy h dst src i c a) = true := by
  unfold appendCopy
  split
  · rename_i d sb s hd hsb hsi
    split
    · exact safe_pushShared (safe_mark hs src i) ((slotAt_modSlot ..).2 ⟨s, hsi, (if_pos ⟨rfl, rfl⟩).symm⟩) rfl dst
    · exact safe_appendFresh (key := s.key) hs hf
  · exact hs

theorem slotAt_removeSlot (h : Heap) (b i b' i' : Nat) :
    (removeSlot h b i).slotAt b' i' = h.slotAt b' (if b' = b ∧ i ≤ i' then i' + 1 else i') := by
  simp only [removeSlot, Heap.slotAt, List.getElem?_modify]
  cases h[b']? with
  | none => simp
  | some bm => simp; grind

theorem safe_removeSlot {h : Heap} (hs : Safe h = true) (b i : Nat) : Safe (removeSlot h b i) = true := by
  refine safe_embed hs (fun b' i' => (b', if b' = b ∧ i ≤ i' then i' + 1 else i')) id
    (fun b' i' s' hs' => ⟨s', slotAt_removeSlot .. ▸ hs', rfl, rfl, id⟩) ?_ (fun b' r a ha => hdrAt_setSlots .. ▸ ha)
    fun _ _ => id
  intros; grind  -- skipping slot index `i` is injective

theorem slotAt_dropBitmap (h : Heap) (b b' i' : Nat) :
    (dropBitmap h b).slotAt b' i' = h.slotAt (if b' < b then b' else b' + 1) i' := by
  simp only [dropBitmap, Heap.slotAt, List.getElem?_eraseIdx]; split <;> rfl

theorem hdrAt_dropBitmap (h : Heap) (b b' r : Nat) :
    (dropBitmap h b).hdrAt b' r = h.hdrAt (if b' < b then b' else b' + 1) r := by
  simp only [dropBitmap, Heap.hdrAt, List.getElem?_eraseIdx]; split <;> rfl

theorem safe_dropBitmap {h : Heap} (hs : Safe h = true) (b : Nat) : Safe (dropBitmap h b) = true := by
  refine safe_embed hs (fun b' i' => (if b' < b then b' else b' + 1, i')) (fun b' => if b' < b then b' else b' + 1)
    (fun b' i' s' hs' => ⟨s', slotAt_dropBitmap .. ▸ hs', rfl, rfl, id⟩) ?_ (fun b' r a ha => hdrAt_dropBitmap .. ▸ ha) ?_
  · intros; grind  -- skipping bitmap index `b` is injective, on places
  · intros; grind  -- and on bitmaps

/-! ## whole bitmaps: `cloneBitmap`, `detach` -/

theorem slotAt_mapSlots (h : Heap) (b : Nat) (f : HSlot → HSlot) (b' i' : Nat) (s' : HSlot) :
    Heap.slotAt (h.modify b (·.mapSlots f)) b' i' = some s' ↔
      ∃ s, h.slotAt b' i' = some s ∧ s' = if b' = b then f s else s := by
  simp only [HBitmap.mapSlots, List.getElem?_modify, Heap.slotAt]
  cases h[b']? <;> simp <;> grind

/-- With copy-on-write the clone shares every container of `b`, flagged on both sides: each new place has its origin in `b`.
Without, it is a bitmap of new containers. -/
theorem safe_cloneBitmap {h : Heap} (hs : Safe h = true) {b : Nat} {name' : String} {cs as hs' : List Nat}
    (hc : FreshCells h cs) (ha : FreshArrs h (as ++ hs')) : Safe (cloneBitmap h b name' cs as hs') = true := by
  unfold cloneBitmap
  split
  · exact hs
  · rename_i bm hb
    split
    · refine safe_embed (safe_addFresh hs name' true [] (cs := []) (as := []) ⟨nofun, .nil⟩ ha.append_right)
        (fun b' i' => if b' < h.length then (b', i') else (b, i')) id
        (fun b' i' s' hs' => ?_) (fun b1 i1 b2 i2 s1 s2 h1 hf1 h2 e => ?_) (fun b' r x hx => ?_)
        fun _ _ => id
      · rcases (slotAt_append ..).1 hs' with p | ⟨rfl, p⟩
        · obtain ⟨s, hs0, rfl⟩ := (slotAt_mapSlots ..).1 p
          rw [if_pos (slotAt_lt hs0)]
          refine ⟨s, slotAt_append_left _ hs0, ?_⟩
          split
          · exact ⟨rfl, rfl, fun _ => rfl⟩
          · exact ⟨rfl, rfl, id⟩
        · rw [List.getElem?_map] at p
          obtain ⟨s, hs0, rfl⟩ := Option.map_eq_some_iff.1 p
          rw [if_neg (by simp)]
          exact ⟨s, slotAt_append_left _ (slotAt_eq_some.2 ⟨bm, hb, hs0⟩), rfl, rfl, fun _ => rfl⟩
      · have flagged : ∀ {s : HSlot}, s1 = s.mark → False := fun e => Bool.false_ne_true (hf1.symm.trans (e ▸ rfl))
        rcases (slotAt_append ..).1 h1 with p1 | ⟨rfl, p1⟩
        · obtain ⟨t1, ht1, e1⟩ := (slotAt_mapSlots ..).1 p1
          have hb1 : b1 ≠ b := fun hb1 => flagged (e1.trans (if_pos hb1))
          rw [if_pos (slotAt_lt ht1)] at e
          rcases (slotAt_append ..).1 h2 with p2 | ⟨rfl, -⟩
          · rw [if_pos (slotAt_modify_lt p2)] at e
            simpa using e
          · rw [if_neg (by simp)] at e
            exact absurd (congrArg Prod.fst e) hb1
        · rw [List.getElem?_map] at p1
          obtain ⟨t1, -, e1⟩ := Option.map_eq_some_iff.1 p1
          exact (flagged e1.symm).elim
      · rcases (hdrAt_append ..).1 hx with p | ⟨rfl, p⟩
        · exact (hdrAt_append ..).2 (Or.inl (hdrAt_setSlots .. ▸ p))
        · exact (hdrAt_append ..).2 (Or.inr ⟨List.length_modify .., p⟩)
    · exact safe_addFresh hs name' false bm.slots hc ha

/-- every flagged slot of `b` is found among the new containers, the others stay where they are -/
theorem safe_detach {h : Heap} (hs : Safe h = true) {b : Nat} {cs as : List Nat}
    (hc : FreshCells h cs) (ha : FreshArrs h as) : Safe (detach h b cs as) = true := by
  cases hb : h[b]? with
  | none => rw [detach, List.modify_eq_self (List.getElem?_eq_none_iff.1 hb)]; exact hs
  | some bm =>
    refine safe_embed (safe_addFresh hs "" false bm.slots hc (hs' := []) (by simpa using ha))
      (fun b' i' => if b' = b ∧ (h.slotAt b i').any (·.flag) then (h.length, i') else (b', i')) id
      (fun b' i' s' hs' => ?_) (fun b1 i1 b2 i2 s1 s2 h1 _ h2 => ?_)
      (fun b' r x hx => (hdrAt_append ..).2 (Or.inl (hdrAt_setSlots .. ▸ hx))) fun _ _ => id
    · rw [detach, slotAt_modify] at hs'
      by_cases hbb : b = b'
      · subst hbb
        rw [if_pos rfl, hb] at hs'
        obtain ⟨s, c, a, hsi, hci, hai, rfl⟩ := (getElem?_zipFresh ..).1 hs'
        have p : h.slotAt b i' = some s := slotAt_eq_some.2 ⟨bm, hb, hsi⟩
        cases hfl : s.flag with
        | false =>
          rw [if_neg (by simp [p, hfl])]
          exact ⟨s, slotAt_append_left _ p, by simp [HSlot.gate, hfl]⟩
        | true =>
          rw [if_pos ⟨rfl, by simp [p, hfl]⟩, slotAt_append_length]
          exact ⟨_, (getElem?_zipFresh ..).2 ⟨s, c, a, hsi, hci, hai, rfl⟩, by simp [HSlot.gate, hfl, HSlot.fresh]⟩
      · rw [if_neg hbb] at hs'
        rw [if_neg fun e => hbb e.1.symm]
        exact ⟨s', slotAt_append_left _ hs', rfl, rfl, id⟩
    · -- the slot index is kept; the bitmap is kept (it lies below `h.length`) or `b` is replaced by `h.length`
      have := slotAt_modify_lt h1
      have := slotAt_modify_lt h2
      grind

/-! ## the write frame: what `gate` returns is private and local -/

theorem Place.sharesWith_symm_false {p q : Place} (h : p.sharesWith q = false) : q.sharesWith p = false := by
  simp only [Place.sharesWith, ArrId.isNil] at h ⊢
  grind

theorem gate_frame (h : Heap) (b i c a : Nat) (q : Place) (hq : ¬(q.b = b ∧ q.i = i)) :
    q ∈ (gate h b i c a).places ↔ q ∈ h.places := by
  simp only [mem_places, slotAt_gate, hq, if_false]
  grind

theorem gate_place_exists {h : Heap} {b i : Nat} {s : HSlot} (c a : Nat) (hs : h.slotAt b i = some s) :
    ∃ p ∈ (gate h b i c a).places, p.b = b ∧ p.i = i ∧ p.s.key = s.key := by
  refine ⟨⟨b, i, s.gate c a⟩, (mem_places _ _).2 ((slotAt_gate _ _ _ _ _ _ _ _).2 ⟨s, hs, by simp⟩), rfl, rfl, ?_⟩
  simp only [HSlot.gate, HSlot.fresh]; split <;> rfl

/-- **Write frame.**  After `getWritableContainerAtIndex(i)` on bitmap `b` of a safe heap, the slot `(b, i)` is unflagged,
its array is not caller memory, and NO other place of the heap reaches its cell or its array (in either direction);
all other places are what they were before. -/
theorem gate_private {h : Heap} (hs : Safe h = true) {b i c a : Nat} (hf : Fresh h c a)
    (p : Place) (hp : p ∈ (gate h b i c a).places) (hb : p.b = b) (hi : p.i = i) :
    p.s.flag = false ∧ p.s.backing.foreign = false ∧
    ∀ q ∈ (gate h b i c a).places, p.same q = false →
      p.sharesWith q = false ∧ q.sharesWith p = false ∧ q ∈ h.places := by
  have hs' := safe_gate (b := b) (i := i) hs hf
  have hflag : p.s.flag = false := by
    rw [mem_places, slotAt_gate] at hp
    obtain ⟨s, -, hps⟩ := hp
    simp only [hb, hi, and_self, if_true] at hps
    rw [hps]; simp only [HSlot.gate, HSlot.fresh]
    cases hfl : s.flag <;> simp [hfl]
  refine ⟨hflag, safe_unflagged_not_foreign _ hs' p hp hflag, fun q hq hne => ?_⟩
  have hsh := safe_unflagged_private _ hs' p q hp hq hflag hne
  refine ⟨hsh, Place.sharesWith_symm_false hsh, (gate_frame h b i c a q ?_).1 hq⟩
  -- `q` is not the place `(b, i)`, because `p` is and `p.same q = false`
  simp only [Place.same] at hne
  grind

/-- **Caller memory is never written**: the array of the slot returned by `gate` is not foreign -/
theorem gate_not_foreign {h : Heap} (hs : Safe h = true) {b i c a : Nat} (hf : Fresh h c a) (s : HSlot)
    (hsl : (gate h b i c a).slotAt b i = some s) : s.flag = false ∧ s.backing.foreign = false := by
  have := gate_private hs hf ⟨b, i, s⟩ ((mem_places _ _).2 hsl) rfl rfl
  exact ⟨this.1, this.2.1⟩

/-! ## `detach` leaves no reference to caller memory -/

/-- no header array is marked foreign.  `Safe` says so for the non-nil ones only; the operations never create a foreign header
array, nil or not (`hdrLocal_step`). -/
def HdrLocal (h : Heap) : Prop := ∀ b r a, h.hdrAt b r = some a → a.foreign = false

/-- after `cloneCopyOnWriteContainers` on a safe heap the bitmap references no caller memory.
The hypothesis on nil header arrays is needed: `Safe` ignores the `foreign` bit of a nil array (see the counterexample below). -/
theorem detach_no_foreign {h : Heap} (hs : Safe h = true) {b : Nat} {bm : HBitmap} (cs as : List Nat)
    (hb : h[b]? = some bm) (hnil : ∀ a ∈ bm.hdr, a.id = 0 → a.foreign = false) :
    ∃ bm', (detach h b cs as)[b]? = some bm' ∧ bm'.foreignRefs = 0 := by
  obtain ⟨h1, h2⟩ := (safe_iff_safeP h).1 hs
  refine ⟨{ bm with slots := zipFresh HSlot.gate bm.slots cs as }, by simp [detach, hb], ?_⟩
  simp only [HBitmap.foreignRefs, Nat.add_eq_zero_iff, List.length_eq_zero_iff, List.filter_eq_nil_iff]
  constructor
  · intro s' hs'
    obtain ⟨i, hi⟩ := List.mem_iff_getElem?.1 hs'
    obtain ⟨s, c, a, hsi, -, -, rfl⟩ := (getElem?_zipFresh _ _ _ _ _ _).1 hi
    cases hfl : s.flag with
    | true => simp [HSlot.gate, hfl, HSlot.fresh]
    | false =>
      have := (h1 b i s (by simp [Heap.slotAt, hb, hsi]) hfl).1
      simp [HSlot.gate, hfl, this]
  · intro a ha
    obtain ⟨r, hr⟩ := List.mem_iff_getElem?.1 ha
    by_cases hnz : a.id = 0
    · simp [hnil a ha hnz]
    · simp [(h2 b r a (by simp [Heap.hdrAt, hb, hr]) hnz).1]

theorem detach_no_foreign' {h : Heap} (hs : Safe h = true) (hl : HdrLocal h) {b : Nat} {bm : HBitmap} (cs as : List Nat)
    (hb : h[b]? = some bm) : ∃ bm', (detach h b cs as)[b]? = some bm' ∧ bm'.foreignRefs = 0 := by
  apply detach_no_foreign hs cs as hb
  intro a ha _
  obtain ⟨r, hr⟩ := List.mem_iff_getElem?.1 ha
  exact hl b r a (by simp [Heap.hdrAt, hb, hr])

/-- `Safe` alone does not give `detach_no_foreign`: a nil header array may carry the foreign bit -/
example :
    let h : Heap := [{ name := "x", cow := false, hdr := [⟨0, true⟩], slots := [] }]
    Safe h = true ∧ (detach h 0 [] [])[0]?.map (·.foreignRefs) = some 1 := by decide

/-! ## reachability closure: every heap built by the operations is safe -/

theorem hdrLocal_of_eq {h h' : Heap} (hl : HdrLocal h) (e : ∀ b r, h'.hdrAt b r = h.hdrAt b r) : HdrLocal h' :=
  fun b r a ha => hl b r a (e b r ▸ ha)

theorem hdrLocal_append {h : Heap} (hl : HdrLocal h) (name : String) (cow : Bool) (hs : List Nat) (slots : List HSlot) :
    HdrLocal (h ++ [{ name := name, cow := cow, hdr := mkHdr hs, slots := slots }]) := by
  intro b r x hx
  rcases (hdrAt_append ..).1 hx with p | ⟨-, p⟩
  · exact hl _ _ _ p
  · obtain ⟨a, -, rfl⟩ := (getElem?_mkHdr ..).1 p
    rfl

theorem hdrAt_appendCopy (h : Heap) (dst src i c a b' r : Nat) :
    (appendCopy h dst src i c a).hdrAt b' r = h.hdrAt b' r := by
  unfold appendCopy
  split
  · split
    · exact (hdrAt_setSlots ..).trans (hdrAt_setSlots ..)
    · exact hdrAt_setSlots ..
  · rfl

theorem hdrLocal_step {h : Heap} (hl : HdrLocal h) (op : Op) : HdrLocal (step h op) := by
  cases op with
  | gate b i c a => exact hdrLocal_of_eq hl fun _ _ => hdrAt_setSlots ..
  | clone b n cs as hs =>
    rw [step, cloneBitmap]
    split
    · exact hl
    · split
      · exact hdrLocal_append (hdrLocal_of_eq hl (hdrAt_setSlots _ _ _)) _ _ _ _
      · exact hdrLocal_append hl _ _ _ _
  | appendCopy d s i c a => exact hdrLocal_of_eq hl fun _ _ => hdrAt_appendCopy ..
  | appendFresh b k c a => exact hdrLocal_of_eq hl (hdrAt_setSlots _ _ _)
  | insertFresh b p k c a => exact hdrLocal_of_eq hl fun _ _ => hdrAt_setSlots ..
  | removeSlot b i => exact hdrLocal_of_eq hl fun _ _ => hdrAt_setSlots ..
  | detach b cs as => exact hdrLocal_of_eq hl fun _ _ => hdrAt_setSlots ..
  | zeroCopy n cow sl hs => exact hdrLocal_append hl _ _ _ _
  | drop b => exact fun b' r x hx => hl _ _ _ (hdrAt_dropBitmap .. ▸ hx)
  | setCow b v => exact hdrLocal_of_eq hl (hdrAt_modify_same _ _ (fun bm => { bm with cow := v }) fun _ => rfl)

theorem hdrLocal_nil : HdrLocal [] := by intro b r a h; simp [Heap.hdrAt] at h

theorem safe_step {h : Heap} (hs : Safe h = true) (op : Op) (hok : op.Ok h) : Safe (step h op) = true := by
  cases op with
  | gate b i c a => exact safe_gate hs hok
  | clone b n cs as hs' => exact safe_cloneBitmap hs hok.1 hok.2.1
  | appendCopy d s i c a => exact safe_appendCopy hs hok
  | appendFresh b k c a => exact safe_appendFresh hs hok
  | insertFresh b p k c a => exact safe_insertFresh hs hok.1
  | removeSlot b i => exact safe_removeSlot hs b i
  | detach b cs as => exact safe_detach hs hok.1 hok.2.1
  | zeroCopy n cow sl hs' => exact safe_addZeroCopy hs hok
  | drop b => exact safe_dropBitmap hs b
  | setCow b v => exact safe_setCow hs b v

theorem safe_run {h₀ : Heap} (hs : Safe h₀ = true) (ops : List Op) (hok : RunOk h₀ ops) : Safe (run h₀ ops) = true := by
  induction ops generalizing h₀ with
  | nil => exact hs
  | cons op ops ih => exact ih (safe_step hs op hok.1) hok.2

theorem hdrLocal_run {h₀ : Heap} (hl : HdrLocal h₀) (ops : List Op) : HdrLocal (run h₀ ops) := by
  induction ops generalizing h₀ with
  | nil => exact hl
  | cons op ops ih => exact ih (hdrLocal_step hl op)

theorem safe_reachable (ops : List Op) (hok : RunOk [] ops) : Safe (run [] ops) = true ∧ HdrLocal (run [] ops) :=
  ⟨safe_run safe_nil ops hok, hdrLocal_run hdrLocal_nil ops⟩

/-! ## non-vacuity -/

/-- two bitmaps sharing one container (cell 10, array 20), flagged on both sides, and one private container -/
def exShared : Heap :=
  [ { name := "a", cow := true, hdr := [⟨1, false⟩, ⟨2, false⟩, ⟨3, false⟩],
      slots := [⟨0, 10, ⟨20, false⟩, true⟩, ⟨1, 11, ⟨21, false⟩, false⟩] },
    { name := "b", cow := true, hdr := [⟨4, false⟩, ⟨5, false⟩, ⟨6, false⟩],
      slots := [⟨0, 10, ⟨20, false⟩, true⟩] } ]

example : Safe exShared = true := by decide

/-- the same graph with the flag missing on ONE side is rejected -/
example : Safe (exShared.modify 1 (·.modSlot 0 fun s => { s with flag := false })) = false := by decide

/-- an unflagged slot over caller memory is rejected; flagged it is accepted -/
example : Safe [{ name := "z", cow := false, hdr := [], slots := [⟨0, 1, ⟨9, true⟩, false⟩] }] = false := by decide
example : Safe [{ name := "z", cow := false, hdr := [], slots := [⟨0, 1, ⟨9, true⟩, true⟩] }] = true := by decide

/-- a header array shared by two bitmaps is rejected -/
example : Safe [{ name := "a", cow := false, hdr := [⟨1, false⟩], slots := [] },
                { name := "b", cow := false, hdr := [⟨1, false⟩], slots := [] }] = false := by decide

instance (h : Heap) (c a : Nat) : Decidable (Fresh h c a) := inferInstanceAs (Decidable (_ ∧ _))
instance (h : Heap) (cs : List Nat) : Decidable (FreshCells h cs) := inferInstanceAs (Decidable (_ ∧ _))
instance (h : Heap) (as : List Nat) : Decidable (FreshArrs h as) := inferInstanceAs (Decidable (_ ∧ _))
instance (h : Heap) (sl : List HSlot) (hs : List Nat) : Decidable (ZeroCopyOk h sl hs) :=
  inferInstanceAs (Decidable (_ ∧ _ ∧ _))

instance (h : Heap) : (op : Op) → Decidable (op.Ok h)
  | .gate _ _ c a => inferInstanceAs (Decidable (Fresh h c a))
  | .clone b _ cs as hs =>
    inferInstanceAs (Decidable (FreshCells h cs ∧ FreshArrs h (as ++ hs) ∧
      (h.cowAt b = false → h.nslots b ≤ cs.length ∧ h.nslots b ≤ as.length)))
  | .appendCopy _ _ _ c a => inferInstanceAs (Decidable (Fresh h c a))
  | .appendFresh _ _ c a => inferInstanceAs (Decidable (Fresh h c a))
  | .insertFresh b pos _ c a => inferInstanceAs (Decidable (Fresh h c a ∧ pos ≤ h.nslots b))
  | .removeSlot _ _ => inferInstanceAs (Decidable True)
  | .detach b cs as =>
    inferInstanceAs (Decidable (FreshCells h cs ∧ FreshArrs h as ∧ h.nslots b ≤ cs.length ∧ h.nslots b ≤ as.length))
  | .zeroCopy _ _ sl hs => inferInstanceAs (Decidable (ZeroCopyOk h sl hs))
  | .drop _ => inferInstanceAs (Decidable True)
  | .setCow _ _ => inferInstanceAs (Decidable True)

def RunOk.dec : (h : Heap) → (ops : List Op) → Decidable (RunOk h ops)
  | _, [] => isTrue trivial
  | h, op :: ops => @instDecidableAnd (op.Ok h) (RunOk (step h op) ops) _ (RunOk.dec (step h op) ops)

instance (h : Heap) (ops : List Op) : Decidable (RunOk h ops) := RunOk.dec h ops

/-- a concrete run from the empty heap that exercises every operation -/
def exOps : List Op :=
  [ .zeroCopy "a" true [] [1, 2, 3],                                  -- a := New(), copy-on-write on
    .appendFresh 0 5 10 20,                                            -- a gets container (cell 10, array 20) for key 5
    .appendFresh 0 7 11 21,
    .clone 0 "b" [] [] [4, 5, 6],                                      -- b := a.Clone(): shares both containers, all flagged
    .gate 1 0 12 22,                                                   -- b writes key 5: private copy (12, 22)
    .zeroCopy "z" false [⟨0, 13, ⟨100, true⟩, true⟩] [7, 8, 9],       -- z := FromUnsafeBytes(buf)
    .appendCopy 1 2 0 14 24,                                           -- b.appendCopy(z, 0): shares the foreign container
    .insertFresh 1 0 3 15 25,
    .setCow 0 false,
    .clone 0 "c" [16, 17] [26, 27] [28, 29, 30],                       -- c := a.Clone() without cow: deep copy
    .detach 1 [40, 41, 42, 43] [50, 51, 52, 53],                       -- b.CloneCopyOnWriteContainers()
    .removeSlot 0 0,
    .drop 2 ]                                                          -- z becomes garbage

/-- every step of `exOps` is admissible in the state it meets -/
theorem runOk_exOps : RunOk [] exOps := by decide +kernel
example : RunOk [] exOps := runOk_exOps
example : Safe (run [] exOps) = true := safe_run safe_nil exOps runOk_exOps
example : Safe (run [] exOps) = true := by decide
/-- after the clone `a` and `b` really share flagged containers -/
example : ((run [] (exOps.take 4)).places.filter (·.s.flag)).length = 4 := by decide
/-- bitmap `b` holds a reference to caller memory before its `detach` (the eleventh operation) and none after it -/
example : (run [] (exOps.take 10))[1]?.map (·.foreignRefs) = some 1 ∧
          (run [] (exOps.take 11))[1]?.map (·.foreignRefs) = some 0 := by decide

/-- the side conditions matter: `appendFresh` with a cell that is already live breaks `Safe` -/
example : Safe (run [] [.zeroCopy "a" false [] [1, 2, 3], .appendFresh 0 5 10 20, .appendFresh 0 7 10 21]) = false := by
  decide

end RModel.Impl
