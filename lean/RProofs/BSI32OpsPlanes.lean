import RProofs.BSI32Ops
/-!
`TransposeWithCounts` at PLANE level: the index it returns — every plane, the number of planes, the existence bitmap — does not
depend on the number of workers nor on the order in which the batch results arrive on the channel and are added up
(`transposeWithCounts_planes_independent`, `transposeWithCounts_planes_order_independent`).  This is what lets the plane
tracker of the compiled checker follow a `btwc` result with ONE modelled worker whatever the script's worker count is.

Idea: call a plane list *tight* when its top plane (if there is one) is not empty (`LastNE`).  `SetValue` with a growing
count keeps an auto-sized index tight, `Add` of tight indexes is tight (no value reasoning: `addLoop_lastNE`), and a tight,
well-formed index of at most 64 planes is determined by its column → value map (`tight_ext`).
-/
open RModel.Util
namespace RModel.BSI32
open RModel.BSet
open RModel.BSI (Good good_nil good_inter batches cell)

/-- the top plane, when there is one, is not empty -/
def LastNE : List BSet → Prop
  | [] => True
  | [p] => p ≠ []
  | _ :: q :: rest => LastNE (q :: rest)

theorem lastNE_cons_of_ne (p : BSet) (l : List BSet) (hl : l ≠ []) : LastNE (p :: l) ↔ LastNE l := by
  cases l with
  | nil => exact absurd rfl hl
  | cons q rest => rfl

theorem lastNE_append (a l : List BSet) (hl : l ≠ []) : LastNE (a ++ l) ↔ LastNE l := by
  induction a with
  | nil => rfl
  | cons x a ih => rw [List.cons_append, lastNE_cons_of_ne _ _ (by simp [hl]), ih]

theorem lastNE_singleton (p : BSet) : LastNE [p] ↔ p ≠ [] := Iff.rfl

theorem lastNE_iff_getD : ∀ (ps : List BSet), ps ≠ [] → (LastNE ps ↔ ps.getD (ps.length - 1) [] ≠ [])
  | [], h => absurd rfl h
  | [p], _ => by simp [LastNE]
  | p :: q :: rest, _ => by
    have ih := lastNE_iff_getD (q :: rest) (by simp)
    simpa [LastNE] using ih

theorem lastNE_of_mem (ps : List BSet) (hne : ps ≠ []) (x : Nat) (h : mem (ps.getD (ps.length - 1) []) x = true) :
    LastNE ps :=
  (lastNE_iff_getD ps hne).mpr (ne_nil_of_mem _ x h)

theorem lastNE_getD (ps : List BSet) (hne : ps ≠ []) (h : LastNE ps) : ps.getD (ps.length - 1) [] ≠ [] :=
  (lastNE_iff_getD ps hne).mp h

/-! ### `Add` keeps the top plane non-empty -/

theorem addCarry_cons (p : BSet) (ps : List BSet) (f : BSet) :
    addCarry (p :: ps) f = if !(inter p f).isEmpty then xor p f :: addCarry ps (inter p f) else xor p f :: ps := rfl

theorem addCarry_ne_nil (ps : List BSet) (f : BSet) : addCarry ps f ≠ [] := by
  have := addCarry_length_pos ps f
  intro e; rw [e] at this; simp at this

/-- the chain ends on a non-empty top plane: the old one where no carry arrives, else the carry itself (appended when the
chain runs off the end: `[]` stands for that fresh plane, and then the digit must not be empty) -/
theorem addCarry_lastNE : ∀ (ps : List BSet) (f : BSet), (∀ p ∈ ps, Good p) → Good f → (ps = [] → f ≠ []) →
    LastNE ps → LastNE (addCarry ps f)
  | [], f, _, hf, h, _ => by
    obtain ⟨x, hx⟩ := exists_mem_of_ne_nil hf.1 (h rfl)
    show xor [] f ≠ []
    apply ne_nil_of_mem _ x
    rw [mem_xor [] _ List.Pairwise.nil hf.1]; simpa using hx
  | [p], f, hg, hf, _, h => by
    have hp := hg p (by simp)
    have hc := good_inter p f hp hf
    rw [addCarry_cons]
    split
    · rename_i hne
      rw [lastNE_cons_of_ne _ _ (addCarry_ne_nil _ _)]
      exact addCarry_lastNE [] _ (by simp) hc (fun _ e => by simp [e, isEmpty] at hne) trivial
    · rename_i he
      have he' : inter p f = [] := by simpa [isEmpty] using he
      obtain ⟨x, hx⟩ := exists_mem_of_ne_nil hp.1 h
      have hfx : mem f x = false := by
        have : (mem p x && mem f x) = false := by rw [← mem_inter _ _ hp.1 hf.1, he']; rfl
        simpa [hx] using this
      show xor p f ≠ []
      apply ne_nil_of_mem _ x
      rw [mem_xor _ _ hp.1 hf.1, hx, hfx]; rfl
  | p :: q :: rest, f, hg, hf, _, h => by
    have hp := hg p (by simp)
    rw [addCarry_cons]
    split
    · rw [lastNE_cons_of_ne _ _ (addCarry_ne_nil _ _)]
      exact addCarry_lastNE (q :: rest) _ (fun r hr => hg r (by simp [hr])) (good_inter p f hp hf) nofun h
    · exact h

theorem addDigit_lastNE (ps : List BSet) (f : BSet) (i : Nat) (hg : ∀ p ∈ ps, Good p) (hf : Good f) (hi : i < ps.length)
    (h : LastNE ps) : LastNE (addDigit ps f i) := by
  have hd : ps.drop i ≠ [] := by
    intro e
    have := congrArg List.length e
    simp only [List.length_drop, List.length_nil] at this
    omega
  rw [addDigit, lastNE_append _ _ (addCarry_ne_nil _ _)]
  apply addCarry_lastNE _ _ (forall_drop _ _ _ hg) hf (fun e => absurd e hd)
  rw [← lastNE_append (ps.take i) _ hd, List.take_append_drop]
  exact h

theorem addLoop_lastNE (E : BSet) : ∀ (qs ps : List BSet) (i : Nat), qs ≠ [] → LastNE qs → Inside E qs → Inside E ps →
    i ≤ ps.length → (i < ps.length → LastNE ps) → LastNE (addLoop ps qs i)
  | [], _, _, h, _, _, _, _, _ => absurd rfl h
  | [q], ps, i, _, hq, hgq, hgp, hi, hp => by
    have hq0 := (hgq q (by simp)).1
    show LastNE (addDigit ps q i)
    rcases Nat.lt_or_eq_of_le hi with hlt | rfl
    · exact addDigit_lastNE ps q i (fun p hp => (hgp p hp).1) hq0 hlt (hp hlt)
    · rw [addDigit, List.drop_length, lastNE_append _ _ (addCarry_ne_nil _ _)]
      exact addCarry_lastNE [] q (by simp) hq0 (fun _ => hq) trivial
  | q :: q' :: rest, ps, i, _, hq, hgq, hgp, hi, hp => by
    have hq0 := hgq q (by simp)
    show LastNE (addLoop (addDigit ps q i) (q' :: rest) (i + 1))
    apply addLoop_lastNE E (q' :: rest) _ (i + 1) (by simp) hq (fun r hr => hgq r (by simp [hr]))
      (inside_addDigit E ps q i hgp hq0) (addDigit_length ps q i hi)
    intro hlt
    rcases Nat.lt_or_eq_of_le hi with hlt' | rfl
    · exact addDigit_lastNE ps q i (fun p hp => (hgp p hp).1) hq0.1 hlt' (hp hlt')
    · -- `i = len ps`: the digit was appended, the list has exactly `i + 1` planes
      exfalso
      have : (addDigit ps q ps.length).length = ps.length + 1 := by
        simp [addDigit, addCarry]
      omega

theorem lastNE_addIndex (b o : Index) (h : WF b) (ho : WF o) (hb : LastNE b.planes) (hot : LastNE o.planes) :
    LastNE (addIndex b o).planes := by
  show LastNE (addLoop b.planes o.planes 0)
  by_cases he : o.planes = []
  · rw [he]; exact hb
  · exact addLoop_lastNE _ o.planes b.planes 0 he hot (inside_union b o h ho).2 (inside_union b o h ho).1
      (Nat.zero_le _) (fun _ => hb)

/-! ### `SetValue` with a growing value keeps an auto-sized index tight -/

/-- writing `v` into column `c` of a tight auto-sized index: tight again when the column held nothing or a smaller
non-negative value (the top bit of the widest value cannot disappear) -/
theorem setValue_lastNE (b : Index) (h : WF b) (ha : auto b = true) (hl : LastNE b.planes) (hL : b.planes.length ≤ 64)
    (c : Nat) (v : Int) (hv1 : 1 ≤ v) (hv2 : v ≤ max64) (hold : ∀ n, getValue b c = some n → 0 ≤ n ∧ n < v) :
    LastNE (setValue b c v).planes ∧ (setValue b c v).planes.length ≤ 64 := by
  have hu0 : u64 v ≠ 0 := Nat.ne_of_gt (u64_lt_u64 0 v (Int.le_refl 0) hv1 hv2)
  have hlen64 : len64 v = (u64 v).log2 + 1 := by rw [len64, if_neg hu0]
  have hlen : (setValue b c v).planes.length = (widen b v).length := by
    rw [setValue_eq_setMany b h]; exact writeMany_length _ _ _ _
  have hW : (widen b v).length = max b.planes.length (len64 v) := by rw [widen_length, if_pos ha]
  have h64 := len64_le_64 v
  have hmem := mem_setValue_plane b h c v
  by_cases hA : b.planes.length < len64 v
  · -- widened: the new top plane is the top bit of `v`
    rw [Nat.max_eq_right (Nat.le_of_lt hA), hlen64] at hW
    refine ⟨?_, by omega⟩
    apply lastNE_of_mem _ (List.ne_nil_of_length_pos (by omega)) c
    rw [hlen, hmem, if_pos rfl, hW, Nat.add_sub_cancel, bit64_eq, Nat.testBit_log2 hu0,
      decide_eq_true (Nat.lt_succ_self _)]
    rfl
  · -- not widened: the top plane stays the top plane
    rw [Nat.max_eq_left (Nat.le_of_not_lt hA)] at hW
    have hpos : 0 < b.planes.length := by omega
    refine ⟨?_, by omega⟩
    have hne : (setValue b c v).planes ≠ [] := List.ne_nil_of_length_pos (by omega)
    obtain ⟨x0, hx0⟩ := exists_mem_of_ne_nil (h.getD_good _).1 (lastNE_getD b.planes (List.ne_nil_of_length_pos hpos) hl)
    by_cases hbit : bit64 v (b.planes.length - 1) = true
    · apply lastNE_of_mem _ hne c
      rw [hlen, hmem, if_pos rfl, hW, hbit, decide_eq_true (Nat.sub_lt hpos Nat.one_pos)]
      rfl
    · -- `v` has no top bit, the old value of `c` is smaller still: `c` is not in the top plane, whose member `x0` stays
      have hvlt : u64 v < 2 ^ (b.planes.length - 1) := by
        apply lt_two_pow_of_not_testBit
        · exact Nat.lt_of_lt_of_le (lt_two_pow_len64 v) (Nat.pow_le_pow_right (by decide) (by omega))
        · rw [← bit64_eq]; simpa using hbit
      have hraw : raw b c < 2 ^ (b.planes.length - 1) := by
        cases hex : mem b.ebm c
        · rw [raw_absent b h c hex]; exact Nat.two_pow_pos _
        · have hn := hold (colValue b c) (by rw [getValue_eq, value, hex]; rfl)
          rw [← u64_colValue]
          exact Nat.lt_trans (u64_lt_u64 _ _ hn.1 hn.2 hv2) hvlt
      have hc : mem (b.planes.getD (b.planes.length - 1) []) c = false := by
        have := testBit_raw b c (b.planes.length - 1)
        rwa [Nat.testBit_lt_two_pow hraw, decide_eq_true (show b.planes.length - 1 < 64 by omega), Bool.true_and,
          eq_comm] at this
      apply lastNE_of_mem _ hne x0
      rw [hlen, hW, hmem, if_neg (fun e => by rw [e, hc] at hx0; cases hx0)]
      exact hx0

theorem twcBatch_tight (input : Index) (cols : List Nat) (hb : cols.length < 9223372036854775808) :
    WF (twcBatch input cols) ∧ (LastNE (twcBatch input cols).planes ∧ (twcBatch input cols).planes.length ≤ 64) ∧
      ∀ k, getValue (twcBatch input cols) k = cell (countOf input cols k) :=
  twcBatch_spec input cols hb (fun r => LastNE r.planes ∧ r.planes.length ≤ 64)
    (by simp [newDefault, new, LastNE, len64, u64])
    (fun res N h hN hb hp k0 => setValue_lastNE res h.1 h.2 hp.1 hp.2 k0 _ (by omega) (hb k0).2 (fun n hn => by
      rw [hN k0] at hn
      simp only [cell] at hn
      split at hn <;> cases hn <;> omega))

/-! ### a tight well-formed index of at most 64 planes is determined by its map -/

theorem tight_top (ps : List BSet) (hl : LastNE ps) (hg : ∀ p ∈ ps, Good p) (hne : ps ≠ []) :
    ∃ x, 2 ^ (ps.length - 1) ≤ word ps x := by
  obtain ⟨x, hx⟩ := exists_mem_of_ne_nil (BSI.good_getD _ hg _).1 (lastNE_getD ps hne hl)
  exact ⟨x, Nat.ge_two_pow_of_testBit (by rw [word, ← RModel.BSI.mem_plane]; exact hx)⟩

theorem raw_of_getValue_eq (a b : Index) (ha : WF a) (hb : WF b) (hv : ∀ c, getValue a c = getValue b c) (c : Nat) :
    mem a.ebm c = mem b.ebm c ∧ raw a c = raw b c := by
  have h := hv c
  rw [getValue_eq, getValue_eq, value, value] at h
  cases hma : mem a.ebm c <;> cases hmb : mem b.ebm c <;> rw [hma, hmb] at h
  · exact ⟨rfl, by rw [raw_absent a ha c hma, raw_absent b hb c hmb]⟩
  · cases h
  · cases h
  · exact ⟨rfl, raw_inj a b c c (Option.some.inj h)⟩

theorem length_le_of_tight (a b : Index) (ha : WF a) (hla : LastNE a.planes) (h64a : a.planes.length ≤ 64)
    (h64b : b.planes.length ≤ 64) (hraw : ∀ c, raw a c = raw b c) : a.planes.length ≤ b.planes.length := by
  apply Classical.byContradiction
  intro hlt
  obtain ⟨x, hx⟩ := tight_top a.planes hla ha.planes (by intro e; rw [e] at hlt; simp at hlt)
  rw [(word_eq_raw a h64a x).1, hraw x] at hx
  have hlt2 := (word_eq_raw b h64b x).2
  have : (2 : Nat) ^ bitCount b ≤ 2 ^ (a.planes.length - 1) := Nat.pow_le_pow_right (by decide) (by
    simp only [bitCount]; omega)
  omega

/-- two well-formed, tight indexes of at most 64 planes that denote the same map have the same planes and the
same existence bitmap -/
theorem tight_ext (a b : Index) (ha : WF a) (hb : WF b) (hla : LastNE a.planes) (hlb : LastNE b.planes)
    (h64a : a.planes.length ≤ 64) (h64b : b.planes.length ≤ 64) (hv : ∀ c, getValue a c = getValue b c) :
    a.planes = b.planes ∧ a.ebm = b.ebm := by
  have hr := raw_of_getValue_eq a b ha hb hv
  have hlen : a.planes.length = b.planes.length :=
    Nat.le_antisymm (length_le_of_tight a b ha hla h64a h64b (fun c => (hr c).2))
      (length_le_of_tight b a hb hlb h64b h64a (fun c => ((hr c).2).symm))
  refine ⟨?_, RModel.BSI.sinc_ext _ _ ha.ebm.1 hb.ebm.1 (fun x => by rw [(hr x).1])⟩
  apply list_ext_getD [] _ _ hlen
  intro i h1
  apply RModel.BSI.sinc_ext _ _ (ha.getD_good i).1 (hb.getD_good i).1
  intro x
  have ta := testBit_raw a x i
  have tb := testBit_raw b x i
  have hi : i < 64 := by omega
  simp only [hi, decide_true, Bool.true_and] at ta tb
  rw [← ta, ← tb, (hr x).2]

/-! ### `TransposeWithCounts`: the returned index does not depend on workers or arrival order -/

theorem word_of_cell (r : Index) (h : WF r) (h64 : r.planes.length ≤ 64) (k A : Nat) (hA : getValue r k = cell A)
    (hb : A < 9223372036854775808) : word r.planes k = A := by
  rw [(word_eq_raw r h64 k).1, ← u64_colValue, ← getValueD_eq_colValue r h, getValueD_of_cell r k A hA]
  simp only [u64]
  omega

/-- a tight plane list whose column words stay below `2^63` has at most 64 planes (63, in fact: the top bit of some word) -/
theorem length_le_of_words (ps : List BSet) (hl : LastNE ps) (hg : ∀ p ∈ ps, Good p)
    (hb : ∀ k, word ps k < 9223372036854775808) : ps.length ≤ 64 := by
  apply Classical.byContradiction
  intro hgt
  obtain ⟨x, hx⟩ := tight_top ps hl hg (by intro e; rw [e] at hgt; simp at hgt)
  have hp : (2 : Nat) ^ 64 ≤ 2 ^ (ps.length - 1) := Nat.pow_le_pow_right (by decide) (by omega)
  have := hb x
  have p64 : (2 : Nat) ^ 64 = 18446744073709551616 := by decide
  omega

/-- adding two tight count maps of at most 64 planes whose counts stay below `2^63`: tight, at most 64 planes (the unbounded
column words are the counts, and they add up) -/
theorem tight_add_counts (acc r : Index) (h : WF acc) (hr : WF r) (A B : Nat → Nat)
    (hA : ∀ k, getValue acc k = cell (A k)) (hB : ∀ k, getValue r k = cell (B k))
    (hb : ∀ k, A k + B k < 9223372036854775808) (ht : LastNE acc.planes ∧ acc.planes.length ≤ 64)
    (htr : LastNE r.planes ∧ r.planes.length ≤ 64) :
    LastNE (addIndex acc r).planes ∧ (addIndex acc r).planes.length ≤ 64 := by
  have hl := lastNE_addIndex acc r h hr ht.1 htr.1
  refine ⟨hl, length_le_of_words _ hl (wf_addIndex acc r h hr).planes (fun k => ?_)⟩
  have := hb k
  rw [word_addIndex acc r h hr, word_of_cell acc h ht.2 k _ (hA k) (by omega), word_of_cell r hr htr.2 k _ (hB k) (by omega)]
  exact this

theorem sumResults_canonical (input : Index) (bts : List (List Nat)) (hlen : bts.flatten.length < 9223372036854775808) :
    WF (sumResults (bts.map (twcBatch input))) ∧ LastNE (sumResults (bts.map (twcBatch input))).planes ∧
    (sumResults (bts.map (twcBatch input))).planes.length ≤ 64 ∧
    ∀ k, getValue (sumResults (bts.map (twcBatch input))) k = cell (countOf input bts.flatten k) := by
  have := foldl_addIndex_spec input (fun r => LastNE r.planes ∧ r.planes.length ≤ 64)
    (fun acc A bt h hA hb ht => by
      obtain ⟨hbt1, hbt2, hbt3⟩ := twcBatch_tight input bt (by have := hb 0; omega)
      exact tight_add_counts acc _ h hbt1 A _ hA hbt3
        (fun k => by have := hb k; have := countOf_le input bt k; omega) ht hbt2)
    bts newDefault (fun _ => 0) (wf_new 0 0) (fun k => by rw [newDefault, getValue_new]; rfl)
    (fun _ => by simpa using hlen) (by simp [newDefault, new, LastNE, len64, u64])
  exact ⟨this.1, this.2.1.1, this.2.1.2, fun k => by simpa [sumResults] using this.2.2 k⟩

/-- `Add` keeps the receiver's `MaxValue` / `MinValue`: the sum of the batch results is a fresh default index but for its
planes and its existence bitmap -/
theorem sumResults_eta (rs : List Index) : sumResults rs = ⟨(sumResults rs).planes, (sumResults rs).ebm, 0, 0⟩ := by
  have : ∀ (rs : List Index) (acc : Index), rs.foldl addIndex acc =
      ⟨(rs.foldl addIndex acc).planes, (rs.foldl addIndex acc).ebm, acc.maxValue, acc.minValue⟩ := by
    intro rs
    induction rs with
    | nil => intro acc; rfl
    | cons r rs ih => intro acc; exact ih (addIndex acc r)
  exact this rs newDefault

/-- whatever the number of workers and whatever the order in which the batch
results are added up, `TransposeWithCounts` returns THE SAME index — the same planes, the same number of planes, the same
existence bitmap (and `MaxValue = MinValue = 0`) — as one worker does. -/
theorem transposeWithCounts_planes_order_independent (input : Index) (n : Nat) (found : Option BSet)
    (hlen : card (found.getD input.ebm) < 9223372036854775808) (bts : List (List Nat))
    (hp : bts.Perm (batches n (toList (found.getD input.ebm)))) :
    sumResults (bts.map (twcBatch input)) = transposeWithCounts input 1 found := by
  have hfl : bts.flatten.Perm (toList (found.getD input.ebm)) := by
    have := hp.flatten; rwa [batches_flatten] at this
  have hl1 : bts.flatten.length < 9223372036854775808 := by rw [hfl.length_eq, toList_length]; exact hlen
  have hl2 : (batches 1 (toList (found.getD input.ebm))).flatten.length < 9223372036854775808 := by
    rw [batches_flatten, toList_length]; exact hlen
  obtain ⟨w1, t1, l1, g1⟩ := sumResults_canonical input bts hl1
  obtain ⟨w2, t2, l2, g2⟩ := sumResults_canonical input _ hl2
  have := tight_ext _ _ w1 w2 t1 t2 l1 l2 (fun c => by
    rw [g1 c, g2 c, batches_flatten]
    simp only [countOf, hfl.countP_eq])
  rw [sumResults_eta, this.1, this.2, transposeWithCounts, sumResults_eta (List.map _ _)]

/-- the same index for every two worker counts -/
theorem transposeWithCounts_planes_independent (input : Index) (n m : Nat) (found : Option BSet)
    (hlen : card (found.getD input.ebm) < 9223372036854775808) :
    transposeWithCounts input n found = transposeWithCounts input m found := by
  rw [show transposeWithCounts input n found = transposeWithCounts input 1 found from
      transposeWithCounts_planes_order_independent input n found hlen _ (List.Perm.refl _),
    show transposeWithCounts input m found = transposeWithCounts input 1 found from
      transposeWithCounts_planes_order_independent input m found hlen _ (List.Perm.refl _)]

-- the planes of the histogram of `exT` ({1:5, 2:7, 3:5, 9:0, 12:7, 13:7}): counts 1 (key 0), 2 (key 5), 3 (key 7) on two planes
example : [1, 2, 3, 7].map (fun n => (transposeWithCounts exT n none).planes) = List.replicate 4 [[0, 1, 7, 8], [5, 6, 7, 8]] := by
  rw [exT_eq]; decide +kernel
example : transposeWithCounts exT 3 none = transposeWithCounts exT 5 none :=
  transposeWithCounts_planes_independent exT 3 5 none (by decide +kernel)

end RModel.BSI32
