import RProofs.Intervals
import RProofs.IterBase
import RModel.Impl.Iter2
/-!
`Bitmap.Ranges()` (model: `rangesRep` in `RModel/Impl/Iter2.lean`), part 1: the container-independent layer.

On the interval lists of `RProofs/Intervals.lean`: `RangesFrom p cur L` says that `L` lists the maximal ranges of the
predicate `p` from the cursor `cur` on; it comes with the steps of a walk that produces them (`nil`, `skip` over absent
values, `cons` to report a range).  The closure `emit` (merge a pair into the pending one when it starts at or before the
pending end) is `coalesceGo`: folding `rangesEmit` over a candidate list and yielding the pending range at the end is the
early-terminating fold `foldUntil2` over the fused list.
-/
namespace RModel.Impl.It
open RModel RModel.Impl

/-! ### the maximal ranges of a predicate -/

/-- `L` lists the maximal ranges of consecutive values with `p`, from the cursor `cur` on -/
structure RangesFrom (p : Nat → Bool) (cur : Nat) (L : List (Nat × Nat)) : Prop where
  sep : Sep L
  ge : ∀ q ∈ L, cur ≤ q.1
  mem : ∀ x, cur ≤ x → memPairs L x = p x

namespace RangesFrom
variable {p : Nat → Bool} {cur : Nat} {L : List (Nat × Nat)}

theorem nil (h : ∀ x, cur ≤ x → p x = false) : RangesFrom p cur [] :=
  ⟨Sep.nil, fun _ hq => (nomatch hq), fun x hx => (h x hx).symm⟩

theorem skip {cur' : Nat} (hle : cur ≤ cur') (hgap : ∀ x, cur ≤ x → x < cur' → p x = false) (h : RangesFrom p cur' L) :
    RangesFrom p cur L :=
  ⟨h.sep, fun q hq => Nat.le_trans hle (h.ge q hq), fun x hx => by
    by_cases c : cur' ≤ x
    · exact h.mem x c
    · rw [hgap x hx (Nat.lt_of_not_le c)]
      exact memPairs_false_of_lt (fun q hq => Nat.lt_of_lt_of_le (Nat.lt_of_not_le c) (h.ge q hq))⟩

theorem cons {s e : Nat} (hcs : cur ≤ s) (hse : s < e) (hgap : ∀ x, cur ≤ x → x < s → p x = false)
    (hrun : ∀ x, s ≤ x → x < e → p x = true) (hend : p e = false) (h : RangesFrom p e L) :
    RangesFrom p cur ((s, e) :: L) := by
  have hsep : Sep ((s, e) :: L) := by
    refine Sep.cons hse (fun q hq => Nat.lt_of_le_of_ne (h.ge q hq) ?_) h.sep
    intro e'
    have b := memPairs_start hq (h.sep.1 q hq)
    rw [h.mem _ (h.ge q hq), ← e', hend] at b
    cases b
  refine ⟨hsep, ?_, ?_⟩
  · exact List.forall_mem_cons.mpr ⟨hcs, fun q hq => by have := h.ge q hq; omega⟩
  · intro x hx
    rw [memPairs_cons_sep hsep]
    by_cases c1 : x < s
    · rw [if_pos c1, hgap x hx c1]
    · rw [if_neg c1]
      by_cases c2 : x < e
      · rw [if_pos c2, hrun x (Nat.le_of_not_lt c1) c2]
      · rw [if_neg c2]
        exact h.mem x (Nat.le_of_not_lt c2)

end RangesFrom

/-! ### the early-terminating fold over pairs -/

/-- hand the pairs of a list to a state-transforming callback until it answers `false`:
(did it run to the end?, final state) -/
def foldUntil2 {σ : Type} (cb : σ → Nat → Nat → Bool × σ) : List (Nat × Nat) → σ → Bool × σ
  | [], s => (true, s)
  | p :: t, s => if (cb s p.1 p.2).1 then foldUntil2 cb t (cb s p.1 p.2).2 else (false, (cb s p.1 p.2).2)

theorem foldUntil2_congr {σ : Type} {cb cb' : σ → Nat → Nat → Bool × σ} : ∀ (l : List (Nat × Nat)) (s : σ),
    (∀ s, ∀ p ∈ l, cb s p.1 p.2 = cb' s p.1 p.2) → foldUntil2 cb l s = foldUntil2 cb' l s
  | [], _, _ => rfl
  | p :: t, s, h => by
    simp only [foldUntil2]
    rw [h s p (List.mem_cons_self ..), foldUntil2_congr t _ fun s q hq => h s q (List.mem_cons_of_mem _ hq)]

/-- `yield(uint32(pendingStart), pendingEnd)` -/
def cbm {σ : Type} (cb : σ → Nat → Nat → Bool × σ) (s : σ) (a b : Nat) : Bool × σ := cb s (a % 4294967296) b

/-- `for … { if !emit(a, b) { return } }` over a candidate list (`rangesCont` without the offset) -/
def rangesList {σ : Type} (cb : σ → Nat → Nat → Bool × σ) :
    List (Nat × Nat) → Option (Nat × Nat) × σ → Bool × (Option (Nat × Nat) × σ)
  | [], st => (true, st)
  | p :: t, st =>
    let r := rangesEmit cb st p.1 p.2
    if r.1 then rangesList cb t r.2 else r

/-- the tail of `Ranges()`: `if hasPending { yield(uint32(pendingStart), pendingEnd) }` unless the loop was left early -/
def rangesFinish {σ : Type} (cb : σ → Nat → Nat → Bool × σ) (res : Bool × (Option (Nat × Nat) × σ)) : σ :=
  if res.1 then
    match res.2.1 with
    | some (ps, pe) => (cb res.2.2 (ps % 4294967296) pe).2
    | none => res.2.2
  else res.2.2

theorem rangesList_some {σ : Type} (cb : σ → Nat → Nat → Bool × σ) : ∀ (l : List (Nat × Nat)) (pend : Nat × Nat) (s : σ),
    rangesFinish cb (rangesList cb l (some pend, s)) = (foldUntil2 (cbm cb) (coalesceGo pend l) s).2
  | [], pend, s => by
    obtain ⟨ps, pe⟩ := pend
    simp only [rangesList, rangesFinish, coalesceGo, foldUntil2, cbm, if_true]
    by_cases hc : (cb s (ps % 4294967296) pe).1 = true <;> simp [hc]
  | p :: t, pend, s => by
    obtain ⟨a, b⟩ := p
    obtain ⟨ps, pe⟩ := pend
    simp only [rangesList, rangesEmit, coalesceGo]
    by_cases h : a ≤ pe
    · simp only [h, if_true]
      exact rangesList_some cb t _ s
    · simp only [h, if_false]
      by_cases hc : (cb s (ps % 4294967296) pe).1 = true
      · simp only [hc, if_true, foldUntil2, cbm]
        exact rangesList_some cb t (a, b) _
      · simp [hc, foldUntil2, cbm, rangesFinish]

theorem rangesList_spec {σ : Type} (cb : σ → Nat → Nat → Bool × σ) (l : List (Nat × Nat)) (s : σ) :
    rangesFinish cb (rangesList cb l (none, s)) = (foldUntil2 (cbm cb) (coalesceP l) s).2 := by
  cases l with
  | nil => rfl
  | cons p t =>
    simp only [rangesList, rangesEmit, coalesceP, if_true]
    exact rangesList_some cb t p s

/-! ### the recording yield function -/

theorem foldUntil2_eq {σ : Type} (cb : σ → Nat → Nat → Bool × σ) : ∀ (l : List (Nat × Nat)) (s : σ),
    foldUntil2 cb l s = foldUntilA (fun s p => cb s p.1 p.2) l s
  | [], _ => rfl
  | v :: t, s => by simp only [foldUntil2, foldUntilA, foldUntil2_eq cb t]

theorem foldUntil2_seen (k : Option Nat) (l : List (Nat × Nat)) :
    (foldUntil2 (seenCb2 k) l (0, [])).2.2.reverse =
      match k with
      | none => l
      | some k => l.take (max k 1) := by
  rw [foldUntil2_eq]
  exact foldUntilA_seen k l

end RModel.Impl.It
