import RProofs.Rep64Agg
import RModel.Impl.Rep64ParOr
/-!
# `roaring64.ParOr` at representation level

The DATA model `Rep64.parOr` (`RModel/Impl/Rep64ParOr.lean`, tied to `/repo/roaring64/parallel64.go` by the `l2agg64 paror:<w>`
correspondence check) computes the union of its inputs and returns a well-formed bitmap, for well-formed inputs, EVERY effective
worker count `w ≥ 1` and every sound 32-bit in-place layer (`Ops32.SoundBin`); closed instances with the exact 32-bit model
`Ops32.exact`.

The data argument — operands cut to a key range, two union walks per chunk, chunks over an ascending grid that covers
`[lKey, hKey]` concatenated — is `Keyed.parOr_spec` (`KeyedPar.lean`); `parOrBuckets_spec` instantiates it with the walks of the static
and the in-place `Or` on bucket lists (`spec_or`, `spec_ior64`) and no finishing pass.  Chunk size, chunk count and the chunk
intervals before conversion are those of the 32-bit package (`ParData.parOrChunkSize`, `parOrChunkCount`, `chunkIv`: pure `Nat`
arithmetic, `chunkIv_tiles` there holds for any key bound); here the `uint32` conversions of the chunk bounds are shown never to wrap
(`chunkRange64_eq`, up to `hKey = 0xFFFFFFFF`), so this grid tiles as well (`chunkRange64_tiles`) and the facts about it are read off.  `Rep64.parOr_spec` adds what the Go
function does around the grid: the filter of empty operands, the `New` / `Clone` shortcuts and the one-key path through the 32-bit
`ParOr` (`as64`).
-/
open RModel.Util
namespace RModel.Impl
open RModel RModel.BSet RModel.Driver ContOps RepOps R64Ops ParData

namespace R64Par

/-! ### the chunk grid over `uint32` keys -/

/-- the `uint32` conversions in `chunkRange64` are the identity on the values that occur: no chunk bound wraps, also at the top of
the key space -/
theorem chunkRange64_eq (lKey hKey w i : Nat) (hlh : lKey ≤ hKey) (hh : hKey ≤ 4294967295) (hw : 1 ≤ w)
    (hi : i < parOrChunkCount lKey hKey w) : chunkRange64 lKey hKey w i = chunkIv lKey hKey w i := by
  have hs := chunk_start_le lKey hKey w i hlh hw hi
  unfold chunkRange64 u32 chunkIv
  simp only []
  rw [Nat.mod_eq_of_lt (by omega), Nat.mod_eq_of_lt (by omega)]

/-- so the grid in `uint32` tiles `[lKey, hKey]` up to `hKey = 0xFFFFFFFF` -/
theorem chunkRange64_tiles (lKey hKey w : Nat) (hlh : lKey ≤ hKey) (hh : hKey ≤ 4294967295) (hw : 1 ≤ w) :
    Tiles lKey hKey (parOrChunkCount lKey hKey w) (chunkRange64 lKey hKey w) (chunkOf lKey hKey w) :=
  (chunkIv_tiles lKey hKey w hlh hw).congr fun i hi => chunkRange64_eq lKey hKey w i hlh hh hw hi

theorem chunkRange64_nonempty (lKey hKey w i : Nat) (hlh : lKey ≤ hKey) (hh : hKey ≤ 4294967295) (hw : 1 ≤ w)
    (hi : i < parOrChunkCount lKey hKey w) : (chunkRange64 lKey hKey w i).1 ≤ (chunkRange64 lKey hKey w i).2 :=
  (chunkRange64_tiles lKey hKey w hlh hh hw).nonempty i hi

theorem chunkRange64_first (lKey hKey w : Nat) (hlh : lKey ≤ hKey) (hh : hKey ≤ 4294967295) (hw : 1 ≤ w) :
    (chunkRange64 lKey hKey w 0).1 = lKey :=
  (chunkRange64_tiles lKey hKey w hlh hh hw).first

theorem chunkRange64_succ (lKey hKey w i : Nat) (hlh : lKey ≤ hKey) (hh : hKey ≤ 4294967295) (hw : 1 ≤ w)
    (hi : i + 1 < parOrChunkCount lKey hKey w) :
    (chunkRange64 lKey hKey w (i + 1)).1 = (chunkRange64 lKey hKey w i).2 + 1 :=
  (chunkRange64_tiles lKey hKey w hlh hh hw).succ i hi

theorem chunkRange64_last (lKey hKey w : Nat) (hlh : lKey ≤ hKey) (hh : hKey ≤ 4294967295) (hw : 1 ≤ w) :
    (chunkRange64 lKey hKey w (parOrChunkCount lKey hKey w - 1)).2 = hKey :=
  (chunkRange64_tiles lKey hKey w hlh hh hw).last

/-- **the chunk grid covers `[lKey, hKey]` exactly once**, for `uint32` keys: for every worker count `w ≥ 1` (whatever its size
relative to the key span) and every key range up to `hKey = 0xFFFFFFFF`, a key `k ∈ [lKey, hKey]` lies in the range of chunk
`i < chunkCount` iff `i = (k − lKey) / chunkSize`, and that index IS below `chunkCount` -/
theorem chunk_partition64 (lKey hKey w k : Nat) (hlh : lKey ≤ hKey) (hh : hKey ≤ 4294967295) (hw : 1 ≤ w)
    (hk1 : lKey ≤ k) (hk2 : k ≤ hKey) :
    chunkOf lKey hKey w k < parOrChunkCount lKey hKey w ∧
      ∀ i, i < parOrChunkCount lKey hKey w →
        (((chunkRange64 lKey hKey w i).1 ≤ k ∧ k ≤ (chunkRange64 lKey hKey w i).2) ↔ i = chunkOf lKey hKey w k) :=
  have T := chunkRange64_tiles lKey hKey w hlh hh hw
  ⟨T.idx_lt k hk1 hk2, fun i hi => T.partition k i hk1 hk2 hi⟩

theorem chunkRange64_within (lKey hKey w i : Nat) (hlh : lKey ≤ hKey) (hh : hKey ≤ 4294967295) (hw : 1 ≤ w)
    (hi : i < parOrChunkCount lKey hKey w) :
    lKey ≤ (chunkRange64 lKey hKey w i).1 ∧ (chunkRange64 lKey hKey w i).2 ≤ hKey :=
  (chunkRange64_tiles lKey hKey w hlh hh hw).within i hi

/-- the hypotheses are satisfiable at the very top of the key space: keys `0xFFFFFFF9 … 0xFFFFFFFF`, one worker: 4 chunks of (at
most) 2 keys, the last one is the single key `0xFFFFFFFF`, nothing wraps; and the partition theorem instantiated there -/
example : (parOrChunkSize 4294967289 4294967295 1, parOrChunkCount 4294967289 4294967295 1) = (2, 4) ∧
    (List.range 4).map (chunkRange64 4294967289 4294967295 1) =
      [(4294967289, 4294967290), (4294967291, 4294967292), (4294967293, 4294967294), (4294967295, 4294967295)] := by decide
example : chunkOf 4294967289 4294967295 1 4294967295 < parOrChunkCount 4294967289 4294967295 1 ∧
    ∀ i, i < parOrChunkCount 4294967289 4294967295 1 →
      (((chunkRange64 4294967289 4294967295 1 i).1 ≤ 4294967295 ∧ 4294967295 ≤ (chunkRange64 4294967289 4294967295 1 i).2) ↔
        i = chunkOf 4294967289 4294967295 1 4294967295) :=
  chunk_partition64 4294967289 4294967295 1 4294967295 (by decide) (by decide) (by decide) (by decide) (by decide)
/-- a re-trimmed grid: 70 keys, 16 workers: `chunkCount₀ = 64`, `chunkSize = 2`, `chunkCount = 35` -/
example : (parOrChunkSize 0 69 16, parOrChunkCount 0 69 16) = (2, 35) := by decide

/-! ### `lKey`, `hKey` -/

theorem keys_between64 (l : List Rep64) (hl : ∀ r ∈ l, BucketsWf r.buckets) :
    highKey64 l ≤ 4294967295 ∧ (∀ r ∈ l, ∀ s ∈ r.buckets, lowKey64 l ≤ s.high ∧ s.high ≤ highKey64 l) ∧
      ((∃ r ∈ l, r.buckets ≠ []) → lowKey64 l ≤ highKey64 l) :=
  bucketV.keys_between Rep64.buckets 4294967295 l fun r hr =>
    ⟨(hl r hr).sorted, fun s hs => Nat.le_of_lt_succ ((hl r hr).ok s hs).1⟩

/-! ### assembling the chunks -/

/-- **the assembled result of `ParOr`** (at least two non-empty operands, more than one key): well-formed — keys strictly
increasing across the chunk boundaries — and it holds exactly the members of the operands, for every worker count `w ≥ 1` -/
theorem parOrBuckets_spec {o : Ops32} (ho : o.SoundBin) (w : Nat) (hw : 1 ≤ w) (a b : Rep64) (t : List Rep64)
    (hl : ∀ r ∈ a :: b :: t, BucketsWf r.buckets) (hne : a.buckets ≠ []) :
    BucketsWf (parOrBuckets o w a b t) ∧
      ∀ x, bucketsHas (parOrBuckets o w a b t) x = (a :: b :: t).any (fun r => bucketsHas r.buckets x) := by
  have := Keyed.parOr_spec (V := bucketV) Rep64.buckets spec_or (spec_ior64 ho false) orBuckets_eq (iorBuckets_eq o false)
    (fin := id) (fun h => ⟨h, fun _ _ => rfl⟩) 4294967295 a b t
    (fun r hr => ⟨(hl r hr).sorted, fun s hs => ⟨(hl r hr).ok s hs, Nat.le_of_lt_succ ((hl r hr).ok s hs).1⟩⟩) hne
    (count := fun l h => parOrChunkCount l h w) (rng := fun l h i => chunkRange64 l h w i)
    fun lKey hKey hlh hh => (chunkRange64_tiles lKey hKey w hlh hh hw).grid
  exact ⟨⟨this.1, this.2.1⟩, fun x => this.2.2 _ _⟩

/-! ### membership operand by operand -/

theorem any_mem_eq_any_buckets (l : List Rep64) (hl : ∀ r ∈ l, r.wf = true) (x : Nat) :
    l.any (fun r => mem r.toBSet x) = l.any (fun r => bucketsHas r.buckets x) :=
  any_congr_mem (fun r hr => mem_rep64_buckets r ((bucketsWf_iff r).mp (hl r hr)).bounded x)

/-! ### `roaring32AsRoaring64` and the one-key path -/

/-- `as64 R k` stores `R` under `k` unless `R` is empty -/
theorem as64_spec (R : Rep) (k : Nat) (hk : k < 4294967296) (hR : R.wf = true) :
    (as64 R k).wf = true ∧
      ∀ x, mem (as64 R k).toBSet x = (k == x / 4294967296 && mem R.toBSet (x % 4294967296)) := by
  have hp := piece_nonEmpty (fl := false) hk hR fun _ => rfl
  have e : as64 R k = { cow := false, buckets := (nonEmpty { high := k, bm := R, flag := false }).toList } := by
    unfold as64 nonEmpty; split <;> rfl
  have hw : BucketsWf (as64 R k).buckets := e ▸ ⟨hp.sorted, fun b hb => (hp.ok b hb).2⟩
  exact ⟨(bucketsWf_iff _).mpr hw, fun x => (mem_rep64_buckets _ hw.bounded x).trans (e ▸ hp.has _ _)⟩

theorem bucketsHas_onekey (bs : List Bucket) (k : Nat) (h : ∀ b ∈ bs, b.high = k) (x : Nat) :
    bucketsHas bs x = (k == x / 4294967296 && (bs.map (·.bm)).any (fun m => mem m.toBSet (x % 4294967296))) := by
  unfold bucketsHas
  rw [List.any_map, Bool.and_comm, List.and_any_distrib_right]
  exact any_congr_mem fun b hb => by rw [h b hb, Bool.and_comm]; rfl

theorem any_onekey (l : List Rep64) (k : Nat) (h : ∀ r ∈ l, ∀ b ∈ r.buckets, b.high = k) (x : Nat) :
    l.any (fun r => bucketsHas r.buckets x) =
      (k == x / 4294967296 &&
        (l.flatMap fun r => r.buckets.map (·.bm)).any (fun m => mem m.toBSet (x % 4294967296))) := by
  rw [show (l.any fun r => bucketsHas r.buckets x) = bucketsHas (l.flatMap (·.buckets)) x from List.any_flatMap.symm,
    bucketsHas_onekey (l.flatMap (·.buckets)) k (fun b hb => by
    obtain ⟨r, hr, hb'⟩ := List.mem_flatMap.mp hb
    exact h r hr b hb') x, List.map_flatMap]

end R64Par

open R64Par

/-! ### concrete operands for the `example`s below -/

namespace R64ParDemo
def sa (k : Nat) (vs : List Nat) : Slot := { key := k, c := .arr vs, flag := false }
/-- three non-empty operands around the top of the key space; `x1`'s last bucket and all buckets of `x3` are flagged -/
def x1 : Rep64 :=
  { cow := true, buckets := [⟨4294967290, { slots := [sa 0 [1, 2]] }, false⟩,
                             ⟨4294967295, { slots := [sa 0 [7], sa 65535 [65535]] }, true⟩] }
def x2 : Rep64 :=
  { cow := false, buckets := [⟨4294967292, { slots := [sa 3 [9]] }, false⟩, ⟨4294967295, { slots := [sa 0 [8]] }, false⟩] }
def x3 : Rep64 :=
  { cow := true, buckets := [⟨4294967289, { slots := [sa 1 [0]] }, true⟩, ⟨4294967291, { slots := [sa 1 [5]] }, true⟩,
                             ⟨4294967295, { slots := [sa 2 [4]] }, true⟩] }
/-- with an empty operand in the middle -/
def demo : List Rep64 := [x1, {}, x2, x3]
/-- two operands that consist of the one bucket `0xFFFFFFFF` (the 32-bit `ParOr` path) -/
def y1 : Rep64 := { buckets := [⟨4294967295, { slots := [sa 0 [1]] }, true⟩] }
def y2 : Rep64 := { buckets := [⟨4294967295, { cow := true, slots := [sa 3 [2]] }, false⟩] }

theorem demo_wf : ∀ r ∈ demo, r.wf = true := by decide
theorem demo1_wf : ∀ r ∈ [y1, y2], r.wf = true := by decide
end R64ParDemo
open R64ParDemo

/-! ### `ParOr` -/

/-- `roaring64.ParOr` on well-formed operands, for every effective worker count `w ≥ 1` and every sound 32-bit in-place layer: a
well-formed result holding exactly the members of the operands -/
theorem Rep64.parOr_spec {o : Ops32} (ho : o.SoundBin) (w : Nat) (hw : 1 ≤ w) (l : List Rep64)
    (hl : ∀ r ∈ l, r.wf = true) :
    (Rep64.parOr o w l).wf = true ∧ ∀ x, mem (Rep64.parOr o w l).toBSet x = l.any (fun r => mem r.toBSet x) := by
  obtain ⟨hsub, hfil⟩ := bucketV.filter_nonempty Rep64.buckets l
  have hkey : ∀ x, l.any (fun r => mem r.toBSet x) =
      (l.filter (fun r => !r.buckets.isEmpty)).any (fun r => bucketsHas r.buckets x) := fun x =>
    (any_mem_eq_any_buckets l hl x).trans (hfil (x / 4294967296) (x % 4294967296)).symm
  unfold Rep64.parOr
  generalize l.filter (fun r => !r.buckets.isEmpty) = l' at hkey hsub
  match l', hkey, hsub with
  | [], hkey, _ => exact ⟨rfl, fun x => by rw [hkey x]; rfl⟩
  | [a], hkey, hsub =>
    have ha := hl a (hsub a (by simp)).1
    refine ⟨Rep64.wf_clone a ha, fun x => ?_⟩
    simp only []
    rw [Rep64.toBSet_clone a ha, hkey x, List.any_cons, List.any_nil, Bool.or_false]
    exact mem_rep64_buckets a ((bucketsWf_iff a).mp ha).bounded x
  | a :: b :: t, hkey, hsub =>
    have hwf : ∀ r ∈ a :: b :: t, BucketsWf r.buckets := fun r hr => (bucketsWf_iff r).mp (hl r (hsub r hr).1)
    have hne := (hsub a (by simp)).2
    simp only []
    split
    · -- all operands consist of the one bucket `lKey`: the 32-bit `ParOr` of all buckets, wrapped
      rename_i h1
      obtain ⟨hh, hkeys, hlh⟩ := keys_between64 (a :: b :: t) hwf
      have hlh := hlh ⟨a, by simp, hne⟩
      have h1' : highKey64 (a :: b :: t) + 1 - lowKey64 (a :: b :: t) = 1 := beq_iff_eq.mp h1
      generalize hlk : lowKey64 (a :: b :: t) = lKey at *
      generalize hhk : highKey64 (a :: b :: t) = hKey at *
      have hone : ∀ r ∈ a :: b :: t, ∀ s ∈ r.buckets, s.high = lKey := by
        intro r hr s hs
        have := hkeys r hr s hs
        omega
      have hbms : ∀ m ∈ (a :: b :: t).flatMap (fun r => r.buckets.map (·.bm)), m.wf = true := by
        intro m hm
        obtain ⟨r, hr, hm'⟩ := List.mem_flatMap.mp hm
        obtain ⟨bk, hbk, rfl⟩ := List.mem_map.mp hm'
        exact ((hwf r hr).ok bk hbk).2.1
      have hR := Rep.parOr_spec w hw _ hbms
      have h64 := as64_spec _ lKey (by omega) hR.1
      refine ⟨h64.1, fun x => ?_⟩
      rw [h64.2, hR.2, hkey x, any_onekey (a :: b :: t) lKey hone x]
    · obtain ⟨h1, h2⟩ := parOrBuckets_spec ho w hw a b t hwf hne
      refine ⟨(bucketsWf_iff _).mpr h1, fun x => ?_⟩
      rw [mem_rep64_buckets _ h1.bounded, hkey x]
      exact h2 x

/-- **`roaring64.ParOr` computes the union**, whatever the worker count: for well-formed inputs, every effective worker count
`w ≥ 1` and every sound 32-bit in-place layer, the representation returned by the modelled `ParOr` (empty operands filtered out;
`New` / `Clone` shortcuts; one key → the 32-bit `ParOr` of all buckets wrapped by `roaring32AsRoaring64`; otherwise the chunk grid
built from `w`, per chunk `orOnRange` then `iorOnRange`, chunks concatenated in order) denotes `BSet.unionL` of the inputs' sets -/
theorem Rep64.toBSet_parOr {o : Ops32} (ho : o.SoundBin) (w : Nat) (hw : 1 ≤ w) (l : List Rep64)
    (hl : ∀ r ∈ l, r.wf = true) :
    (Rep64.parOr o w l).toBSet = BSet.unionL (l.map Rep64.toBSet) :=
  eq_unionL_of_any sinc_rep64 (sinc_rep64 _) (Rep64.parOr_spec ho w hw l hl).2

/-- the hypotheses are satisfiable: the theorem instantiated on `demo` (keys `0xFFFFFFF9 … 0xFFFFFFFF`, chunk grid 4 × 2 keys) and on
the one-key operands `[y1, y2]`; and what the model returns there (one worker: every bucket of the flagged operand `x3` lands in a
chunk that already holds a larger key or the same key → inserted / merged with the flag off) -/
example : (Rep64.parOr Ops32.exact 1 demo).toBSet = BSet.unionL (demo.map Rep64.toBSet) :=
  Rep64.toBSet_parOr Ops32.exact_soundBin 1 (by decide) demo demo_wf
example : (Rep64.parOr Ops32.exact 3 [y1, y2]).toBSet = BSet.unionL ([y1, y2].map Rep64.toBSet) :=
  Rep64.toBSet_parOr Ops32.exact_soundBin 3 (by decide) [y1, y2] demo1_wf
example : Rep64.parOr Ops32.exact 1 demo =
    { cow := false,
      buckets := [⟨4294967289, { slots := [sa 1 [0]] }, false⟩, ⟨4294967290, { slots := [sa 0 [1, 2]] }, false⟩,
                  ⟨4294967291, { slots := [sa 1 [5]] }, false⟩, ⟨4294967292, { slots := [sa 3 [9]] }, false⟩,
                  ⟨4294967295, { slots := [sa 0 [7, 8], sa 2 [4], sa 65535 [65535]] }, false⟩] } := by
  simp [Rep64.parOr, demo, x1, x2, x3, parOrBuckets, orChunk64, highKey64, lowKey64, firstKey64, lastKey64, parOrChunkCount,
    parOrChunkSize, chunkRange64, u32, rangeBuckets, orBuckets, iorBuckets, List.range, List.range.loop, copyBucket, insertClone,
    writableBm, sa, Rep.cloneB, Rep.or2, orSlots, Ops32.exact, Rep.ior, RepMut.iorSlots2, copySlot, Cont.or2, ArrayC.union2by2,
    arrayMax]
example : Rep64.parOr Ops32.exact 3 [y1, y2] =
    { cow := false, buckets := [⟨4294967295, { cow := false, slots := [sa 0 [1], sa 3 [2]] }, false⟩] } := by
  with_unfolding_all rfl

/-- **`roaring64.ParOr` returns a well-formed bitmap** for every worker count: keys strictly increasing (also across the chunk
boundaries) and `< 2^32`, no empty bucket, every bucket a well-formed 32-bit bitmap -/
theorem Rep64.wf_parOr {o : Ops32} (ho : o.SoundBin) (w : Nat) (hw : 1 ≤ w) (l : List Rep64)
    (hl : ∀ r ∈ l, r.wf = true) : (Rep64.parOr o w l).wf = true :=
  (Rep64.parOr_spec ho w hw l hl).1

example : (Rep64.parOr Ops32.exact 2 demo).wf = true := Rep64.wf_parOr Ops32.exact_soundBin 2 (by decide) demo demo_wf

/-- **the set computed by `roaring64.ParOr` does not depend on the worker count** (nor on the 32-bit layer): any two worker counts
give representations of the same set -/
theorem Rep64.parOr_worker_independent {o o' : Ops32} (ho : o.SoundBin) (ho' : o'.SoundBin) (w w' : Nat) (hw : 1 ≤ w)
    (hw' : 1 ≤ w') (l : List Rep64) (hl : ∀ r ∈ l, r.wf = true) :
    (Rep64.parOr o w l).toBSet = (Rep64.parOr o' w' l).toBSet := by
  rw [Rep64.toBSet_parOr ho w hw l hl, Rep64.toBSet_parOr ho' w' hw' l hl]

/-- instantiated on `demo` — where the REPRESENTATIONS for `w = 1` and `w = 2` differ: with two workers every key is a chunk of its
own and the flagged buckets `0xFFFFFFF9`, `0xFFFFFFFB` of the third operand are appended with their flag, with one worker they are
inserted below a key already in their chunk with the flag off -/
example : (Rep64.parOr Ops32.exact 1 demo).toBSet = (Rep64.parOr Ops32.exact 2 demo).toBSet :=
  Rep64.parOr_worker_independent Ops32.exact_soundBin Ops32.exact_soundBin 1 2 (by decide) (by decide) demo demo_wf
example : (Rep64.parOr Ops32.exact 1 demo).buckets.map (fun b => (b.high, b.flag)) =
      [(4294967289, false), (4294967290, false), (4294967291, false), (4294967292, false), (4294967295, false)] ∧
    (Rep64.parOr Ops32.exact 2 demo).buckets.map (fun b => (b.high, b.flag)) =
      [(4294967289, true), (4294967290, false), (4294967291, true), (4294967292, false), (4294967295, false)] := by
  decide +kernel

/-- the closed instance: the 32-bit layer is the exact model of the Go code (`Impl/RepMut.lean`) -/
theorem Rep64.parOr_exact (w : Nat) (hw : 1 ≤ w) (l : List Rep64) (hl : ∀ r ∈ l, r.wf = true) :
    (Rep64.parOr Ops32.exact w l).toBSet = BSet.unionL (l.map Rep64.toBSet) ∧ (Rep64.parOr Ops32.exact w l).wf = true :=
  ⟨Rep64.toBSet_parOr Ops32.exact_soundBin w hw l hl, Rep64.wf_parOr Ops32.exact_soundBin w hw l hl⟩

example : (Rep64.parOr Ops32.exact 16 demo).toBSet = BSet.unionL (demo.map Rep64.toBSet) ∧
    (Rep64.parOr Ops32.exact 16 demo).wf = true := Rep64.parOr_exact 16 (by decide) demo demo_wf

/-- `ParOr` and `FastOr` agree as sets -/
theorem Rep64.parOr_eq_fastOr {o o' : Ops32} (ho : o.SoundBin) (ho' : o'.SoundBin) (w : Nat) (hw : 1 ≤ w) (l : List Rep64)
    (hl : ∀ r ∈ l, r.wf = true) : (Rep64.parOr o w l).toBSet = (Rep64.fastOr o' l).toBSet := by
  rw [Rep64.toBSet_parOr ho w hw l hl, Rep64.toBSet_fastOr ho' l hl]

end RModel.Impl
