import RProofs.ByteInputDecode
import RProofs.Serial64
/-!
The 64-bit stream readers over the byte-input layer.

* `readFrom64` is `(*roaring64.Bitmap).ReadFrom(stream io.Reader)` as the Go code does it: `io.ReadFull(stream, sizeBuf)`,
  then per bucket `io.ReadFull(stream, keyBuf)` and `roaring.NewBitmap().ReadFrom(stream)` — a FRESH `ByteInputAdapter`
  (counter 0) over the SAME reader, so every bucket starts wherever the previous adapter left the reader.
* `fromUnsafe64` is `FromUnsafeBytes`: one `ByteBuffer` (`stream.Read(sizeBuf)` = `Next(8)`, `Next(4)` per key) handed to the
  32-bit reader, whose counter is therefore cumulative.

Both are proved equal to the byte-list model `decode64` (the model all C18 theorems are about) — `readFrom64` for EVERY chunk
schedule of the reader.
-/
namespace RModel.Impl.ByteIn
open RModel RModel.Impl RModel.Impl.Serial64

def le64 (bs : Bytes) : Nat := le32 bs + 4294967296 * le32 (bs.drop 4)

/-- the bucket loop of `ReadFrom`; `p` = bytes read so far -/
def bucketsFromReader (P : SerParams) : Nat → Reader → Nat → Option (List Bucket × Nat)
  | 0, _, p => some ([], p)
  | n + 1, r, p =>
    match r.readFull 4 with
    | ((_, some _), _) => none                     -- "could not read key #i"
    | ((kb, none), r1) =>
      match (decodeProg P false).runAdapterS ⟨r1, 0⟩ with
      | none => none                               -- "Could not deserialize bitmap for key #i"
      | some (bm, a') =>
        if a'.getReadBytes = 0 then none else
        match bucketsFromReader P n a'.r (p + 4 + a'.getReadBytes) with
        | none => none
        | some (l, p') => some ({ high := le32 kb, bm := bm, flag := false } :: l, p')

/-- `(*roaring64.Bitmap).ReadFrom` on an `io.Reader`, into a fresh bitmap: the representation and the byte count returned -/
def readFrom64 (P : SerParams) (r : Reader) : Option (Rep64 × Nat) :=
  match r.readFull 8 with
  | ((_, some _), _) => none
  | ((sb, none), r1) =>
    (bucketsFromReader P (le64 sb) r1 8).map fun (l, p) => ({ cow := false, buckets := l }, p)

/-- the bucket loop of `FromUnsafeBytes` on the shared `ByteBuffer` -/
def bucketsFromBuf (P : SerParams) : Nat → Buf → Option (List Bucket × Buf)
  | 0, b => some ([], b)
  | n + 1, b =>
    match b.next 4 with
    | (.error _, _) => none
    | (.ok kb, b1) =>
      match (decodeProg P true).runBufS b1 with
      | none => none
      | some (bm, b2) =>
        if b2.getReadBytes = 0 then none else
        match bucketsFromBuf P n b2 with
        | none => none
        | some (l, b3) => some ({ high := le32 kb, bm := bm, flag := false } :: l, b3)

/-- `(*roaring64.Bitmap).FromUnsafeBytes`, into a fresh bitmap -/
def fromUnsafe64 (P : SerParams) (data : Bytes) : Option (Rep64 × Nat) :=
  match (Buf.mk data 0).next 8 with
  | (.error _, _) => none
  | (.ok sb, b1) =>
    (bucketsFromBuf P (le64 sb) b1).map fun (l, b) => ({ cow := false, buckets := l }, b.getReadBytes)

def report64 : Option (Rep64 × Nat) → Outcome (Rep64 × Nat)
  | some x => .ok x
  | none => .err

theorem le64_eq (l : Bytes) : le64 l = leVal (l.take 8) := by
  rw [le64, le32_eq, le32_eq, show 8 = 4 + 4 from rfl, List.take_add, leVal_append]
  by_cases h : 4 ≤ l.length
  · rw [List.length_take_of_le h]
  · rw [List.drop_eq_nil_of_le (by omega)]; rfl

theorem rd64_eq_takeN (l : Bytes) : rd64 l = (takeN 8 l).map fun (p, t) => (le64 p, t) :=
  (rd64_eq l).trans (rdLE_eq_takeN le64_eq l)

/-- the 32-bit decoder client on a fresh adapter over a reader: what `decode` says about the reader's bytes; the reader is left
right behind the bytes consumed and the adapter's counter is the number of bytes consumed -/
theorem decodeProg_runAdapterS (P : SerParams) (r : Reader) :
    match decode P false r.rest with
    | .ok (bm, m) => ∃ a', (decodeProg P false).runAdapterS ⟨r, 0⟩ = some (bm, a') ∧ a'.r.rest = r.rest.drop m ∧
        a'.getReadBytes = m
    | _ => (decodeProg P false).runAdapterS ⟨r, 0⟩ = none := by
  obtain ⟨hok, hno⟩ := progS_adapter_sim (decodeProg P false) ⟨r, 0⟩ (Buf.mk r.rest 0) ⟨rfl, rfl, Nat.zero_le _⟩
  have hb := decodeProg_runBufS P false (Buf.mk r.rest 0) (Nat.zero_le _)
  rw [show (Buf.mk r.rest 0).cursor = r.rest from rfl] at hb
  cases hd : decode P false r.rest with
  | ok x =>
    rw [hd] at hb
    obtain ⟨a', ha, hs⟩ := hok _ _ hb
    exact ⟨a', ha, by rw [hs.1]; simp, by simp [Adapter.getReadBytes, hs.2.1]⟩
  | err => rw [hd] at hb; exact hno hb
  | panic => rw [hd] at hb; exact hno hb

theorem bucketsFromReader_spec (P : SerParams) (n : Nat) (r : Reader) (p : Nat) :
    bucketsFromReader P n r p =
      match readBuckets P false n r.rest with
      | .ok (l, rest) => some (l, p + (r.rest.length - rest.length))
      | _ => none := by
  induction n generalizing r p with
  | zero => simp [bucketsFromReader, readBuckets]
  | succ n ih =>
    unfold bucketsFromReader readBuckets
    obtain ⟨s', hrf⟩ := readFull_takeN r 4
    rw [hrf, rd32_eq_takeN]
    cases h4 : takeN 4 r.rest with
    | none => rfl
    | some pt =>
      obtain ⟨-, hbs1, h4le⟩ := takeN_some h4
      have hdec := decodeProg_runAdapterS P { r with rest := pt.2, sched := s' }
      simp only [Option.map_some]
      cases hd : decode P false pt.2 with
      | ok x =>
        rw [hd] at hdec
        obtain ⟨a', ha, hrest, hrb⟩ := hdec
        obtain ⟨hm4, hmle⟩ := decode_consumed P false _ _ _ hd
        rw [ha]
        simp only [hrb, if_neg (show ¬ x.2 = 0 by omega), ih, hrest]
        cases hrec : readBuckets P false n (pt.2.drop x.2) with
        | ok y =>
          have hl := (readBuckets_length hrec).2
          simp only [hbs1, List.length_drop] at hl hmle ⊢
          simp only [Option.some.injEq, Prod.mk.injEq, true_and]
          omega
        | err => rfl
        | panic => rfl
      | err => rw [hd] at hdec; rw [hdec]
      | panic => rw [hd] at hdec; rw [hdec]

theorem bucketsFromBuf_spec (P : SerParams) (n : Nat) (b : Buf) (hw : b.wf) :
    bucketsFromBuf P n b =
      match readBuckets P true n b.cursor with
      | .ok (l, rest) => some (l, { b with off := b.data.length - rest.length })
      | _ => none := by
  induction n generalizing b with
  | zero =>
    unfold Buf.wf at hw
    simp only [bucketsFromBuf, readBuckets, Buf.cursor, List.length_drop]
    rw [show b.data.length - (b.data.length - b.off) = b.off by omega]
  | succ n ih =>
    unfold bucketsFromBuf readBuckets
    rw [Buf.next_eq, rd32_eq_takeN]
    cases h4 : takeN 4 b.cursor with
    | none => rfl
    | some pt =>
      obtain ⟨-, hbs1, h4le⟩ := takeN_some h4
      obtain ⟨hw1, hc1⟩ := Buf.adv hw h4le
      simp only [Option.map_some]
      rw [decodeProg_runBufS P true _ hw1, hc1, hbs1]
      cases hd : decode P true (b.cursor.drop 4) with
      | ok x =>
        obtain ⟨hm4, hmle⟩ := decode_consumed P true _ _ _ hd
        obtain ⟨hw2, hc2⟩ := Buf.adv hw1 (hc1 ▸ hmle)
        have h0 : ∀ k : Nat, ¬ k + x.2 = 0 := fun k => by omega
        simp only [Buf.getReadBytes, h0, if_false, if_neg (show ¬ x.2 = 0 by omega)]
        rw [ih _ hw2, hc2, hc1]
        cases readBuckets P true n ((b.cursor.drop 4).drop x.2) <;> rfl
      | err => rfl
      | panic => rfl

/-- **`roaring64.ReadFrom` on a stream delivered in arbitrary chunk sizes** is the byte-list model `decode64` (fresh adapters per
bucket over one reader, `io.ReadFull` for the count and the keys): same buckets, same byte count, error in the same cases -/
theorem readFrom64_eq_decode64 (P : SerParams) (bs : Bytes) (sched : List Nat) (eager : Bool) :
    report64 (readFrom64 P (Reader.ofData bs sched none eager)) = decode64 P false bs := by
  unfold readFrom64 decode64
  obtain ⟨s', hrf⟩ := readFull_takeN (Reader.ofData bs sched none eager) 8
  rw [hrf, rd64_eq_takeN, show (Reader.ofData bs sched none eager).rest = bs from rfl]
  cases h8 : takeN 8 bs with
  | none => rfl
  | some pt =>
    obtain ⟨-, hbs1, h8le⟩ := takeN_some h8
    simp only [Option.map_some, bucketsFromReader_spec]
    cases hrec : readBuckets P false (le64 pt.1) pt.2 with
    | ok y =>
      have hl := (readBuckets_length hrec).2
      simp only [hbs1, List.length_drop] at hl ⊢
      simp only [Option.map_some, report64, Outcome.ok.injEq, Prod.mk.injEq, true_and]
      omega
    | err => rfl
    | panic => exact absurd hrec (readBuckets_no_panic P false _ _)

/-- **`roaring64.FromUnsafeBytes`** (one shared `ByteBuffer`) is `decode64` with zero-copy containers -/
theorem fromUnsafe64_eq_decode64 (P : SerParams) (bs : Bytes) :
    report64 (fromUnsafe64 P bs) = decode64 P true bs := by
  unfold fromUnsafe64 decode64
  rw [Buf.next_eq, rd64_eq_takeN, show (Buf.mk bs 0).cursor = bs from rfl]
  cases h8 : takeN 8 bs with
  | none => rfl
  | some pt =>
    obtain ⟨-, hbs1, h8le⟩ := takeN_some h8
    obtain ⟨hw1, hc1⟩ := Buf.adv (b := Buf.mk bs 0) (Nat.zero_le _) h8le
    simp only [Option.map_some]
    rw [bucketsFromBuf_spec P _ _ hw1, hc1, hbs1, show (Buf.mk bs 0).cursor = bs from rfl]
    cases hrec : readBuckets P true (le64 pt.1) (List.drop 8 bs) with
    | ok y => rfl
    | err => rfl
    | panic => exact absurd hrec (readBuckets_no_panic P true _ _)

/-- non-vacuity: one bucket (key 7) holding {1, 2, 3}, the reader delivering 5, 1, 5, 1 … bytes: both `io.ReadFull` calls and
the inner adapter are cut by the schedule; 34 bytes are consumed, the trailing byte is not touched -/
example :
    readFrom64 ⟨12347, 12346, 4, 4096⟩
      (Reader.ofData ([1, 0, 0, 0, 0, 0, 0, 0, 7, 0, 0, 0] ++
        [0x3a, 0x30, 0, 0, 1, 0, 0, 0, 0, 0, 2, 0, 16, 0, 0, 0, 1, 0, 2, 0, 3, 0] ++ [0xEE]) [5, 1] none) =
    some ({ cow := false, buckets := [{ high := 7, bm := { cow := false, slots := [{ key := 0, c := .arr [1, 2, 3], flag := false }] },
                                        flag := false }] }, 34) := by
  rfl

end RModel.Impl.ByteIn
