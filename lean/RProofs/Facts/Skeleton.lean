import RModel.Gen.Facts
/-!
The channel-protocol skeletons regenerated from the Go source must equal the skeletons the transition
systems of `RModel/Impl/Par.lean` were written against (goroutine starts, sends, receives, closes, in source
order; capacities as written).  A reordering such as closing a channel before the result is received, a
removed `expectedKeysChan` hand-shake or a changed loop structure makes the corresponding equation fail to check.
-/
namespace RModel.Facts

theorem skeletonParHeapOr_pinned : skeletonParHeapOr = [
  "return",
  "return",
  "make bitmapChan cap=0",
  "make inputChan cap=128",
  "make resultChan cap=32",
  "make expectedKeysChan cap=0",
  "func orFunc{",
  "range inputChan{",
  "send resultChan",
  "}",
  "}",
  "go appenderRoutine",
  "for{",
  "go orFunc",
  "}",
  "for{",
  "send resultChan",
  "send inputChan",
  "}",
  "send expectedKeysChan",
  "recv bitmapChan",
  "close inputChan",
  "close resultChan",
  "close expectedKeysChan",
  "return"
] := rfl

theorem skeletonParAnd_pinned : skeletonParAnd = [
  "return",
  "return",
  "make bitmapChan cap=0",
  "make inputChan cap=128",
  "make resultChan cap=32",
  "make expectedKeysChan cap=0",
  "func andFunc{",
  "range inputChan{",
  "send resultChan",
  "}",
  "}",
  "go appenderRoutine",
  "for{",
  "go andFunc",
  "}",
  "for{",
  "send inputChan",
  "}",
  "send expectedKeysChan",
  "recv bitmapChan",
  "close inputChan",
  "close resultChan",
  "close expectedKeysChan",
  "return"
] := rfl

theorem skeletonParOr_pinned : skeletonParOr = [
  "return",
  "return",
  "return",
  "make chunkSpecChan cap=minOfInt(maxOfInt(64, 2*parallelism), chunkCount)",
  "make chunkChan cap=minOfInt(32, chunkCount)",
  "func orFunc{",
  "range chunkSpecChan{",
  "send chunkChan",
  "}",
  "}",
  "for{",
  "go orFunc",
  "}",
  "go func{",
  "for{",
  "send chunkSpecChan",
  "}",
  "}",
  "range chunkChan{",
  "}",
  "close chunkChan",
  "close chunkSpecChan",
  "return"
] := rfl

theorem skeletonAppender_pinned : skeletonAppender = [
  "for{",
  "select{",
  "recv resultChan",
  "recv expectedKeysChan",
  "}",
  "}",
  "send bitmapChan"
] := rfl

theorem skeletonParOr64_pinned : skeletonParOr64 = [
  "return",
  "return",
  "return",
  "make chunkSpecChan cap=minOfInt(maxOfInt(64, 2*parallelism), int(chunkCount))",
  "make chunkChan cap=minOfInt(32, int(chunkCount))",
  "func orFunc{",
  "range chunkSpecChan{",
  "send chunkChan",
  "}",
  "}",
  "for{",
  "go orFunc",
  "}",
  "go func{",
  "for{",
  "send chunkSpecChan",
  "}",
  "}",
  "range chunkChan{",
  "}",
  "close chunkChan",
  "close chunkSpecChan",
  "return"
] := rfl

end RModel.Facts
