import RModel.Gen.Facts
import RProofs.Util.Nat
/-! Obligations about the regenerated key-splitting helpers: `highbits`/`lowbits`/`combineLoHi*` are the
quotient/remainder by 65536 (2^32 for roaring64) and their inverse; the size-bound function; and the
two's-complement helpers of the 64-bit bit-sliced index. -/
open RModel.Util
namespace RModel.Facts

theorem wrapU_of_lt (w : Nat) (x : Int) (h0 : 0 ≤ x) (h : x < (2 : Int) ^ w) : wrapU w x = x := by
  unfold wrapU; exact Int.emod_eq_of_lt h0 h

theorem two_pow_lt (k m : Nat) (h : k < m) : (2:Int)^k < 2^m := by
  exact_mod_cast Nat.pow_lt_pow_right (by decide) h

theorem two_pow_dvd (j m : Nat) (h : j ≤ m) : (2:Int)^j ∣ 2^m := by
  exact_mod_cast (Int.natCast_dvd_natCast.mpr (Nat.pow_dvd_pow 2 h))

theorem two_pow_pos' (k : Nat) : (0:Int) < 2^k := Int.pow_pos (by decide)

theorem natCast_two_pow (k : Nat) : ((2^k : Nat) : Int) = (2:Int)^k := Int.natCast_pow 2 k

theorem wrapU_natCast_toNat (w n : Nat) (h : n < 2^w) : (wrapU w (n:Int)).toNat = n := by
  rw [wrapU_of_lt _ _ (by omega) (by exact_mod_cast h), Int.toNat_natCast]

/-- `wrapS 64` picks, in the residue class modulo `2^64`, the member that is an `int64` -/
theorem wrapS_eq (x y : Int) (h1 : -2^63 ≤ y) (h2 : y < 2^63) (h : x % 2^64 = y % 2^64) : wrapS 64 x = y := by
  simp only [wrapS]; split <;> omega

theorem bitAnd_mask (w : Nat) (a : Int) (j : Nat) (hj : j ≤ w) : bitAnd w a ((2:Int)^j - 1) = a % 2^j := by
  have hp := Nat.two_pow_pos j
  have hle : 2^j ≤ 2^w := Nat.pow_le_pow_right (by decide) hj
  have hm : (2:Int)^j - 1 = ((2^j - 1 : Nat) : Int) := by push_cast [Int.natCast_sub hp]; rfl
  rw [hm, bitAnd, wrapU_natCast_toNat w _ (by omega), wrapU, Nat.and_two_pow_sub_one_eq_mod, Int.ofNat_eq_natCast,
    Int.natCast_emod, natCast_two_pow, Int.toNat_of_nonneg (Int.emod_nonneg a (Int.ne_of_gt (two_pow_pos' w)))]
  exact Int.emod_emod_of_dvd _ (two_pow_dvd j w hj)

theorem shl_one_wrap (k : Nat) (h : k < 64) : shl 1 (wrapU 64 (k:Int)) = (2:Int)^k := by
  simp [shl, wrapU_of_lt 64 k (by omega) (by omega)]

theorem wrapU_two_pow (k : Nat) (h : k < 64) : wrapU 64 ((2:Int)^k) = 2^k :=
  wrapU_of_lt _ _ (Int.le_of_lt (two_pow_pos' k)) (two_pow_lt k 64 h)

theorem wrapS_two_pow (k : Nat) (h : k < 63) : wrapS 64 ((2:Int)^k) = 2^k :=
  wrapS_eq _ _ (by have := two_pow_pos' k; omega) (two_pow_lt k 63 h) rfl

theorem emod_of_fits (v : Int) (k : Nat) (h1 : -(2:Int)^k ≤ v) (h2 : v < (2:Int)^k) :
    v % (2:Int)^(k+1) = if 0 ≤ v then v else v + 2^(k+1) := by
  rw [Int.pow_succ]
  split
  · exact Int.emod_eq_of_lt (by omega) (by omega)
  · rw [← Int.add_emod_right]
    exact Int.emod_eq_of_lt (by omega) (by omega)

theorem highbits_spec (x : Int) (h0 : 0 ≤ x) (h : x < 4294967296) : highbits x = x / 65536 := by
  simp [highbits, shr, wrapU]; omega

theorem lowbits_spec (x : Int) (h0 : 0 ≤ x) (h : x < 4294967296) : lowbits x = x % 65536 := by
  have _ := And.intro h0 h  -- not needed: masking gives the residue of every integer
  rw [show lowbits x = wrapU 16 (bitAnd 32 x (2^16 - 1)) from rfl, bitAnd_mask 32 x 16 (by decide), wrapU]
  omega

theorem combineLoHi32_spec (lo hi : Int) (hl0 : 0 ≤ lo) (hl : lo < 65536) (hh0 : 0 ≤ hi) (hh : hi < 65536) :
    combineLoHi32 lo hi = lo + hi * 65536 := by
  obtain ⟨a, rfl⟩ := Int.eq_ofNat_of_zero_le hl0
  obtain ⟨b, rfl⟩ := Int.eq_ofNat_of_zero_le hh0
  have ha : a < 2^16 := by omega
  have e1 : ((a:Int) % 4294967296).toNat = a := by omega
  have e2 : ((b:Int) * 65536 % 4294967296).toNat = 2^16 * b := by omega
  simp [combineLoHi32, bitOr, wrapU, shl]
  rw [e1, e2, Nat.or_comm, ← Nat.two_pow_add_eq_or_of_lt ha]
  omega

theorem combineLoHi16_spec (lo hi : Int) (hl0 : 0 ≤ lo) (hl : lo < 65536) (hh0 : 0 ≤ hi) (hh : hi < 65536) :
    combineLoHi16 lo hi = lo + hi * 65536 := by
  simp only [combineLoHi16, wrapU_of_lt 32 lo hl0 (by omega), wrapU_of_lt 32 hi hh0 (by omega)]
  exact combineLoHi32_spec lo hi hl0 hl hh0 hh

theorem combine_high_low (x : Int) (h0 : 0 ≤ x) (h : x < 4294967296) :
    combineLoHi16 (lowbits x) (highbits x) = x := by
  rw [lowbits_spec x h0 h, highbits_spec x h0 h,
    combineLoHi16_spec _ _ (by omega) (by omega) (by omega) (by omega)]
  omega

theorem r64Highbits_spec (x : Int) (h0 : 0 ≤ x) (h : x < 18446744073709551616) : r64Highbits x = x / 4294967296 := by
  simp [r64Highbits, shr, wrapU]; omega

theorem r64Lowbits_spec (x : Int) (h0 : 0 ≤ x) (h : x < 18446744073709551616) : r64Lowbits x = x % 4294967296 := by
  have _ := And.intro h0 h  -- not needed, as in `lowbits_spec`
  rw [show r64Lowbits x = wrapU 32 (bitAnd 64 x (2^32 - 1)) from rfl, bitAnd_mask 64 x 32 (by decide), wrapU]
  omega

/-- closed form of `BoundSerializedSizeInBytes` (no 64-bit overflow for these arguments) -/
theorem boundSerializedSizeInBytes_spec (n u : Int) (hn : 0 ≤ n) (hn' : n ≤ 4294967296) (hu : 0 ≤ u) (hu' : u ≤ 4294967296) :
    boundSerializedSizeInBytes n u =
      (let c := min ((u + 65535) / 65536) n
       min (2 * n) (c * 8224) + (8 * c + 4) + max 4 ((c + 7) / 8)) := by
  have e3 : wrapS 64 n = n := by simp [wrapS]; omega
  dsimp only
  unfold boundSerializedSizeInBytes
  rw [wrapU_of_lt 64 (u + 65535) (by omega) (by omega), Int.tdiv_eq_ediv_of_nonneg (by omega)]
  -- The first `if` only chooses the container count handed to the rest of the function (a join point of the `do`
  -- block): it is `min`, at most 65537, so every later value is far below 2^64 and all wrap-arounds go.
  extract_lets q va vb rest c
  rw [← apply_ite (rest ()), show (if decide (q > n) = true then c else q) = min q n by
    simp only [decide_eq_true_eq, c]; omega]
  have hm0 : 0 ≤ min q n := by omega
  have hm1 : min q n ≤ 65537 := by omega
  generalize min q n = m at *
  simp only [rest, vb, va, e3, arrayContainerSizeInBytes, bitmapContainerSizeInBytes, Id.run, pure, decide_eq_true_eq,
    gt_iff_lt]
  simp (disch := omega) only [wrapU_of_lt, Int.tdiv_eq_ediv_of_nonneg]
  split <;> split <;> omega

/-! two's complement helpers of roaring64.BSI (`bc` = BitCount = index of the sign plane) -/

theorem bsi64ValueFitsBitCount_spec (v bc : Int) (h0 : 0 ≤ bc) (h : bc < 63) :
    bsi64ValueFitsBitCount v bc = true ↔ (-(2 : Int) ^ bc.toNat ≤ v ∧ v < (2 : Int) ^ bc.toNat) := by
  obtain ⟨k, rfl⟩ := Int.eq_ofNat_of_zero_le h0
  have hn : ¬ ((k:Int) ≥ 63) := by omega
  simp [bsi64ValueFitsBitCount, hn, shl_one_wrap k (by omega), wrapS_two_pow k (by omega)]
  omega

theorem encode_eq (v bc : Int) (h0 : 0 ≤ bc) (h : bc < 63) : encodeBSI64Value v bc = v % (2:Int)^(bc.toNat+1) := by
  obtain ⟨k, rfl⟩ := Int.eq_ofNat_of_zero_le h0
  have hn : ¬ ((k:Int) ≥ 63) := by omega
  have e1 : ((k:Int) + 1) = ((k+1 : Nat) : Int) := rfl
  have hp := two_pow_pos' (k+1)
  have hl := two_pow_lt (k+1) 64 (by omega)
  simp only [encodeBSI64Value, hn, e1, shl_one_wrap (k+1) (by omega), wrapU_two_pow (k+1) (by omega),
    wrapU_of_lt 64 ((2:Int)^(k+1) - 1) (by omega) (by omega)]
  simp
  rw [bitAnd_mask 64 _ (k+1) (by omega), wrapU]
  exact Int.emod_emod_of_dvd _ (two_pow_dvd _ _ (by omega))

theorem encodeBSI64Value_range (v bc : Int) (h0 : 0 ≤ bc) (h : bc < 63) :
    0 ≤ encodeBSI64Value v bc ∧ encodeBSI64Value v bc < (2 : Int) ^ (bc.toNat + 1) := by
  have hp := two_pow_pos' (bc.toNat + 1)
  rw [encode_eq v bc h0 h]
  exact ⟨Int.emod_nonneg _ (Int.ne_of_gt hp), Int.emod_lt_of_pos _ hp⟩

theorem encodeBSI64Value_spec (v bc : Int) (h0 : 0 ≤ bc) (h : bc < 63)
    (hv : -(2 : Int) ^ 63 ≤ v ∧ v < (2 : Int) ^ 63) :
    encodeBSI64Value v bc = v % (2 : Int) ^ (bc.toNat + 1) := by
  have _ := hv  -- not needed: the identity holds for every integer `v`
  exact encode_eq v bc h0 h

theorem transform_eq (e bc : Int) (h0 : 0 ≤ bc) (h : bc < 63) (he0 : 0 ≤ e) (he : e < (2:Int)^(bc.toNat+1)) :
    transformBSI64SignedEncoding e bc = if (2:Int)^bc.toNat ≤ e then e - 2^bc.toNat else e + 2^bc.toNat := by
  obtain ⟨k, rfl⟩ := Int.eq_ofNat_of_zero_le h0
  obtain ⟨n, rfl⟩ := Int.eq_ofNat_of_zero_le he0
  have hk : 2^(k+1) ≤ 2^63 := Nat.pow_le_pow_right (by decide) (by omega)
  simp only [transformBSI64SignedEncoding, shl_one_wrap k (by omega), wrapU_two_pow k (by omega), bitXor, Id.run_pure]
  simp only [Int.toNat_natCast, ← natCast_two_pow, Int.ofNat_le, Int.ofNat_eq_natCast] at he ⊢
  rw [wrapU_natCast_toNat 64 n (by omega), nat_xor_two_pow n k (by omega)]
  split <;> omega

/-- sign extension: flip the sign bit, then take the bias `2^bc` away again -/
theorem decode_eq (e bc : Int) (h0 : 0 ≤ bc) (h : bc < 63) (he0 : 0 ≤ e) (he : e < (2:Int)^(bc.toNat+1)) :
    decodeBSI64Value e bc = transformBSI64SignedEncoding e bc - 2^bc.toNat := by
  rw [transform_eq e bc h0 h he0 he]
  obtain ⟨k, rfl⟩ := Int.eq_ofNat_of_zero_le h0
  obtain ⟨n, rfl⟩ := Int.eq_ofNat_of_zero_le he0
  have hk : 2^(k+1) ≤ 2^63 := Nat.pow_le_pow_right (by decide) (by omega)
  have hp := two_pow_pos' k
  have c := natCast_two_pow k
  have hn63 : ¬ ((k:Int) ≥ 63) := by omega
  have hk1 : (k:Int) + 1 < 64 := by omega
  have hw : wrapU 64 ((k:Int) + 1) = ((k+1 : Nat) : Int) := wrapU_of_lt 64 _ (by omega) (by omega)
  have hmask : wrapU 64 (shl 18446744073709551615 ((k+1 : Nat) : Int)) = ((2^64 - 2^(k+1) : Nat) : Int) := by
    simp only [shl, wrapU, Int.toNat_natCast, ← natCast_two_pow]
    omega
  simp only [decodeBSI64Value, hn63, hw, shl_one_wrap k (by omega), wrapU_two_pow k (by omega), hmask]
  simp only [Int.toNat_natCast, ← natCast_two_pow, Int.ofNat_le] at he ⊢
  rw [bitAnd, bitOr, wrapU_natCast_toNat 64 n (by omega), wrapU_natCast_toNat 64 _ (by omega),
    wrapU_natCast_toNat 64 _ (by omega), nat_or_high n (k+1) (by omega) (by omega), nat_and_two_pow n k (by omega)]
  by_cases hc : 2^k ≤ n
  · -- sign bit set: `|||` has added `2^64 - 2^(k+1)`, which `int64(·)` reads as `- 2^(k+1)`
    simp [hc, hk1, Int.ne_of_gt hp]
    exact wrapS_eq _ _ (by omega) (by omega) (by omega)
  · simp [hc]
    exact wrapS_eq _ _ (by omega) (by omega) rfl

/-- on values that fit, encoding and then flipping the sign bit is adding the bias `2^bc` -/
theorem transform_encode (v bc : Int) (h0 : 0 ≤ bc) (h : bc < 63) (hfit : bsi64ValueFitsBitCount v bc = true) :
    transformBSI64SignedEncoding (encodeBSI64Value v bc) bc = v + 2^bc.toNat := by
  have hf := (bsi64ValueFitsBitCount_spec v bc h0 h).mp hfit
  have hr := encodeBSI64Value_range v bc h0 h
  rw [transform_eq _ bc h0 h hr.1 hr.2, encode_eq v bc h0 h, emod_of_fits v _ hf.1 hf.2, Int.pow_succ]
  split <;> split <;> omega

theorem decode_encode_BSI64 (v bc : Int) (h0 : 0 ≤ bc) (h : bc ≤ 64)
    (hv : -(2 : Int) ^ 63 ≤ v ∧ v < (2 : Int) ^ 63) (hfit : bsi64ValueFitsBitCount v bc = true) :
    decodeBSI64Value (encodeBSI64Value v bc) bc = v := by
  have _ := h  -- not needed: for every bc ≥ 63 both functions take the early return (wrapS 64 ∘ wrapU 64 = id on int64)
  by_cases hge : bc ≥ 63
  · simp only [encodeBSI64Value, decodeBSI64Value, hge, decide_true, if_true, Id.run_pure]
    exact wrapS_eq _ v hv.1 hv.2 (Int.emod_emod _ _)
  · have hr := encodeBSI64Value_range v bc h0 (by omega)
    rw [decode_eq _ bc h0 (by omega) hr.1 hr.2, transform_encode v bc h0 (by omega) hfit]
    omega

/-- flipping the sign bit turns signed order into unsigned order (the basis of the plane-algebra comparison) -/
theorem transform_monotone (v1 v2 bc : Int) (h0 : 0 ≤ bc) (h : bc < 63)
    (hf1 : bsi64ValueFitsBitCount v1 bc = true) (hf2 : bsi64ValueFitsBitCount v2 bc = true) :
    (v1 < v2 ↔ transformBSI64SignedEncoding (encodeBSI64Value v1 bc) bc <
               transformBSI64SignedEncoding (encodeBSI64Value v2 bc) bc) := by
  rw [transform_encode v1 bc h0 h hf1, transform_encode v2 bc h0 h hf2]
  omega

end RModel.Facts


/- What `#print axioms` reports for the obligations (Lean 4.33.0; `tools/run_check.py` asks on every run for those that
`tools/props.py` lists under a property: the 64-bit key split, the size bound and the BSI helpers; the 32-bit key split is
built with this module and not asked about):
`highbits_spec`, `combineLoHi32_spec`, `combineLoHi16_spec`, `r64Highbits_spec` and `boundSerializedSizeInBytes_spec` rest on
[propext, Quot.sound]; `lowbits_spec`, `combine_high_low`, `r64Lowbits_spec`, `bsi64ValueFitsBitCount_spec`,
`encodeBSI64Value_range`, `encodeBSI64Value_spec`, `decode_encode_BSI64` and `transform_monotone` on
[propext, Classical.choice, Quot.sound].
`hv` in `encodeBSI64Value_spec`, `h : bc ≤ 64` in `decode_encode_BSI64` and the range hypotheses of `lowbits_spec` /
`r64Lowbits_spec` are superfluous: the conclusions hold without them.
-/
