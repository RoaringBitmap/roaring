import RModel.Spec.BSet
import RModel.Driver.Util
import RProofs.Util.List
/-!
Meaning of the boundary-list sweep in terms of membership (L0): one theorem about `combine` gives the members of
and/or/xor/andNot from the truth table, the sweep keeps the canonical form, and canonical lists with the same members
are equal (then: the induction over the intervals of a finite set, `even_induction`, with what one step needs). The
single-value and range updates and the complement follow as instances, and so does a sweep folded over a list of sets (what the
many-way aggregates of `Agg.lean` are).  Canonical finite sets with no universe (`BSI.Good`, the column
sets of the bit-sliced indexes) are `Canon` without the bound and closed under the sweep for the same reason.  At the end: the
checker's set-building glue (`Driver.unionAll`, `Driver.ofVals`) is made of the verified `union`, so the set the checker builds
from a list of values or of sets has exactly those members; that takes the glue out of the trusted base.
-/
open RModel.Util
namespace RModel.BSet

@[simp] theorem mem_nil (x : Nat) : mem [] x = false := rfl

theorem mem_cons (b : Nat) (t : BSet) (x : Nat) :
    mem (b :: t) x = if x < b then false else !(mem t x) := rfl

/-- an even number of boundaries: the last interval is closed, the set is finite -/
abbrev Even (s : BSet) : Prop := s.length % 2 = 0

theorem mem_cons2 (lo hi : Nat) (t : BSet) (x : Nat) :
    mem (lo :: hi :: t) x = if x < lo then false else if x < hi then true else mem t x := by
  simp only [mem_cons]
  split
  · rfl
  · split <;> simp

theorem mem_of_lt_all : ∀ (s : BSet) (x : Nat), (∀ b ∈ s, x < b) → mem s x = false
  | [], _, _ => rfl
  | b :: t, x, h => by simp [mem_cons, h b (by simp)]

theorem mem_tail_of_lt {x : Nat} {a : BSet} {z : Nat} (h : (x :: a).Pairwise (· < ·)) (hz : z < x) :
    mem a z = false := by
  apply mem_of_lt_all
  intro b hb
  have := (List.pairwise_cons.mp h).1 b hb
  omega

/-- membership in one step of the sweep: below the boundary `x'` nothing has been emitted yet (there the state `A`
equals `p`), from `x'` on the state `p` of the rest is replaced by `q` -/
theorem mem_emit (x' x : Nat) (R : BSet) (p q A : Bool) (hR : mem R x = (A != p)) (hlt : x < x' → A = p) :
    mem (emit (p != q) x' R) x = if x < x' then false else (A != q) := by
  by_cases h : x < x'
  · cases hlt h
    cases p <;> cases q <;> simp [emit, mem_cons, h, hR]
  · cases p <;> cases q <;> cases A <;> simp [emit, mem_cons, h, hR]

theorem bne_not_swap (a m : Bool) : (a != !m) = (!a != m) := by cases a <;> cases m <;> rfl

theorem emit_subset (c : Bool) (x : Nat) (r : BSet) : ∀ z ∈ emit c x r, z = x ∨ z ∈ r := by
  cases c <;> simp [emit] <;> grind

theorem combine_subset (f : Bool → Bool → Bool) (a b : BSet) (ia ib : Bool) :
    ∀ z ∈ combine f a b ia ib, z ∈ a ∨ z ∈ b := by
  fun_induction combine f a b ia ib <;> intro z hz
  · simp_all
  all_goals
    have := emit_subset _ _ _ z hz
    grind

theorem mem_combine (f : Bool → Bool → Bool) (a b : BSet) (ia ib : Bool)
    (ha : a.Pairwise (· < ·)) (hb : b.Pairwise (· < ·)) (x : Nat) :
    mem (combine f a b ia ib) x = ((f (ia != mem a x) (ib != mem b x)) != f ia ib) := by
  fun_induction combine f a b ia ib
  · simp
  · rename_i x' a ia ib ih
    rw [mem_emit x' x _ _ _ _ (ih (List.pairwise_cons.mp ha).2 hb) (fun hz => by simp [mem_tail_of_lt ha hz])]
    by_cases hz : x < x' <;> simp [mem_cons, hz]
  · rename_i y' b ia ib ih
    rw [mem_emit y' x _ _ _ _ (ih ha (List.pairwise_cons.mp hb).2) (fun hz => by simp [mem_tail_of_lt hb hz])]
    by_cases hz : x < y' <;> simp [mem_cons, hz]
  · rename_i x' a y' b ia ib hxy ih
    rw [mem_emit x' x _ _ _ _ (ih (List.pairwise_cons.mp ha).2 hb)
      (fun hz => by simp [mem_tail_of_lt ha hz, mem_cons, Nat.lt_trans hz hxy])]
    by_cases hz : x < x'
    · simp [mem_cons, hz, Nat.lt_trans hz hxy]
    · simp [mem_cons, hz]
  · rename_i x' a y' b ia ib hxy hyx ih
    rw [mem_emit y' x _ _ _ _ (ih ha (List.pairwise_cons.mp hb).2)
      (fun hz => by simp [mem_tail_of_lt hb hz, mem_cons, Nat.lt_trans hz hyx])]
    by_cases hz : x < y'
    · simp [mem_cons, hz, Nat.lt_trans hz hyx]
    · simp [mem_cons, hz]
  · rename_i x' a y' b ia ib hxy hyx ih
    cases (by omega : y' = x')
    rw [mem_emit x' x _ _ _ _ (ih (List.pairwise_cons.mp ha).2 (List.pairwise_cons.mp hb).2)
      (fun hz => by simp [mem_tail_of_lt ha hz, mem_tail_of_lt hb hz])]
    by_cases hz : x < x' <;> simp [mem_cons, hz]

/-! ### canonical form is preserved -/

abbrev SInc (s : BSet) : Prop := s.Pairwise (· < ·)

theorem emit_lb (c : Bool) (x : Nat) (r : BSet) (n : Nat) (hx : n ≤ x) (hr : ∀ z ∈ r, n ≤ z) :
    ∀ z ∈ emit c x r, n ≤ z := by
  intro z hz
  rcases emit_subset c x r z hz with h | h
  · omega
  · exact hr z h

theorem sinc_emit (c : Bool) (x : Nat) (r : BSet) (hr : SInc r) (hx : ∀ z ∈ r, x < z) :
    SInc (emit c x r) := by
  cases c <;> simp [emit, SInc, hr]
  exact hx

theorem lt_combine {f : Bool → Bool → Bool} {a b : BSet} {ia ib : Bool} {n : Nat} (ha : ∀ z ∈ a, n < z)
    (hb : ∀ z ∈ b, n < z) : ∀ z ∈ combine f a b ia ib, n < z :=
  fun z hz => (combine_subset f a b ia ib z hz).elim (ha z) (hb z)

theorem lt_all_of_lt_head {x y : Nat} {b : BSet} (h : SInc (y :: b)) (hxy : x < y) : ∀ z ∈ y :: b, x < z := by
  intro z hz
  rcases List.mem_cons.mp hz with rfl | hz
  · exact hxy
  · exact Nat.lt_trans hxy ((List.pairwise_cons.mp h).1 z hz)

theorem sinc_combine (f : Bool → Bool → Bool) (a b : BSet) (ia ib : Bool)
    (ha : SInc a) (hb : SInc b) : SInc (combine f a b ia ib) := by
  fun_induction combine f a b ia ib with
  | case1 => exact List.Pairwise.nil
  | case2 x a ia ib ih =>
    exact sinc_emit _ _ _ (ih ha.of_cons hb) (lt_combine (List.pairwise_cons.mp ha).1 (by simp))
  | case3 y b ia ib ih =>
    exact sinc_emit _ _ _ (ih ha hb.of_cons) (lt_combine (by simp) (List.pairwise_cons.mp hb).1)
  | case4 x a y b ia ib hxy ih =>
    exact sinc_emit _ _ _ (ih ha.of_cons hb) (lt_combine (List.pairwise_cons.mp ha).1 (lt_all_of_lt_head hb hxy))
  | case5 x a y b ia ib hxy hyx ih =>
    exact sinc_emit _ _ _ (ih ha hb.of_cons) (lt_combine (lt_all_of_lt_head ha hyx) (List.pairwise_cons.mp hb).1)
  | case6 x a y b ia ib hxy hyx ih =>
    cases (by omega : y = x)
    exact sinc_emit _ _ _ (ih ha.of_cons hb.of_cons)
      (lt_combine (List.pairwise_cons.mp ha).1 (List.pairwise_cons.mp hb).1)

theorem mem_of_ge_all : ∀ (s : BSet) (x : Nat), (∀ b ∈ s, b ≤ x) → mem s x = (s.length % 2 == 1)
  | [], _, _ => by simp
  | b :: t, x, h => by
      have hb : ¬ x < b := by have := h b (by simp); omega
      have ih := mem_of_ge_all t x (fun c hc => h c (by simp [hc]))
      simp only [mem_cons, hb, if_false, ih, List.length_cons]
      rcases Nat.mod_two_eq_zero_or_one t.length with h0 | h0 <;>
        simp [Nat.add_mod, h0]

theorem mem_head {c : Nat} {t : BSet} (h : SInc (c :: t)) : mem (c :: t) c = true := by
  simp [mem_cons, mem_of_lt_all t c (List.pairwise_cons.mp h).1]

theorem mem_flip_at (r : BSet) (hr : SInc r) (z : Nat) (hz : z ∈ r) (hpos : 0 < z) :
    mem r z = !(mem r (z - 1)) := by
  induction r with
  | nil => simp at hz
  | cons b t ih =>
    have hp := List.pairwise_cons.mp hr
    rcases List.mem_cons.mp hz with e | e
    · subst e
      rw [mem_head hr]
      simp [mem_cons, show z - 1 < z by omega]
    · have := hp.1 z e
      simp only [mem_cons, show ¬ z < b by omega, show ¬ z - 1 < b by omega, if_false]
      rw [ih hp.2 e]

/-! A strictly increasing list is canonical in `[0, U)` exactly when it has no member from `U` on (`mem_lt_of_canon`,
`canon_of_bounded`): an operation whose result is strictly increasing and whose members are known keeps the canonical form. -/

theorem mem_lt_of_canon (U : Nat) (s : BSet) (hs : Canon U s) (x : Nat) (hx : mem s x = true) : x < U := by
  apply Classical.byContradiction
  intro hge
  have := mem_of_ge_all s x (fun b hb => by have := hs.2.1 b hb; omega)
  rw [hs.2.2] at this
  simp [hx] at this

theorem canon_of_bounded (U : Nat) (r : BSet) (hr : SInc r) (h : ∀ x, U ≤ x → mem r x = false) :
    Canon U r := by
  -- a boundary above `U` would be a change of membership above `U`
  have hb : ∀ z ∈ r, z ≤ U := by
    intro z hz
    apply Classical.byContradiction; intro hc
    have := mem_flip_at r hr z hz (by omega)
    rw [h z (by omega), h (z - 1) (by omega)] at this
    simp at this
  refine ⟨hr, hb, ?_⟩
  have := mem_of_ge_all r U hb
  rw [h U (Nat.le_refl _)] at this
  have := Nat.mod_two_eq_zero_or_one r.length
  simp_all

theorem canon_combine (U : Nat) (f : Bool → Bool → Bool) (hf : f false false = false) (a b : BSet)
    (ha : Canon U a) (hb : Canon U b) : Canon U (combine f a b false false) :=
  canon_of_bounded U _ (sinc_combine f a b _ _ ha.1 hb.1) fun x hx => by
    have out : ∀ s, Canon U s → mem s x = false := fun s hs =>
      Bool.eq_false_iff.mpr fun hm => Nat.not_lt.mpr hx (mem_lt_of_canon U s hs x hm)
    rw [mem_combine f a b _ _ ha.1 hb.1, out a ha, out b hb]
    simp [hf]

/-! ### uniqueness of canonical forms -/

theorem canon_ext_sinc : ∀ (s t : BSet), SInc s → SInc t → (∀ x, mem s x = mem t x) → s = t
  | [], [], _, _, _ => rfl
  | [], c :: t, _, ht, h => by
      have := h c
      rw [mem_head ht] at this
      simp at this
  | b :: s, [], hs, _, h => by
      have := h b
      rw [mem_head hs] at this
      simp at this
  | b :: s, c :: t, hs, ht, h => by
      have hbc : b = c := by
        rcases Nat.lt_trichotomy b c with hlt | heq | hgt
        · have := h b
          rw [mem_head hs, mem_cons] at this
          simp [hlt] at this
        · exact heq
        · have := h c
          rw [mem_head ht, mem_cons] at this
          simp [hgt] at this
      subst hbc
      congr 1
      apply canon_ext_sinc s t (List.pairwise_cons.mp hs).2 (List.pairwise_cons.mp ht).2
      intro x
      by_cases hx : x < b
      · rw [mem_of_lt_all s x (fun z hz => by have := (List.pairwise_cons.mp hs).1 z hz; omega),
            mem_of_lt_all t x (fun z hz => by have := (List.pairwise_cons.mp ht).1 z hz; omega)]
      · have := h x
        simp only [mem_cons, hx, if_false] at this
        exact Bool.not_inj this

/-- Two canonical sets with the same members are the same list: comparing printed dumps IS set equality. -/
theorem canon_ext (U : Nat) (s t : BSet) (hs : Canon U s) (ht : Canon U t)
    (h : ∀ x, mem s x = mem t x) : s = t :=
  canon_ext_sinc s t hs.1 ht.1 h

theorem exists_mem_of_ne_nil {s : BSet} (hs : SInc s) (hne : s ≠ []) : ∃ x, mem s x = true := by
  cases s with
  | nil => exact absurd rfl hne
  | cons b t => exact ⟨b, mem_head hs⟩

theorem eq_nil_iff_no_mem (s : BSet) (hs : SInc s) : s = [] ↔ ∀ x, mem s x = false :=
  ⟨fun e _ => e ▸ rfl, fun h => Decidable.byContradiction fun hne =>
    have ⟨x, hx⟩ := exists_mem_of_ne_nil hs hne
    Bool.false_ne_true ((h x).symm.trans hx)⟩

theorem combine_eq_of_mem (f : Bool → Bool → Bool) (hf : f false false = false) {a b t : BSet} (ha : SInc a) (hb : SInc b)
    (ht : SInc t) (h : ∀ x, f (mem a x) (mem b x) = mem t x) : combine f a b false false = t :=
  canon_ext_sinc _ _ (sinc_combine f a b _ _ ha hb) ht fun x => by
    rw [mem_combine f a b _ _ ha hb, hf, ← h x]
    simp

/-! ### induction over the intervals of a finite set -/

theorem even_induction {motive : (s : BSet) → SInc s → Even s → Prop}
    (nil : motive [] List.Pairwise.nil rfl)
    (step : ∀ (lo hi : Nat) (t : BSet) (_ : lo < hi) (_ : ∀ z ∈ t, hi < z) (hs : SInc t) (he : Even t)
      (hs' : SInc (lo :: hi :: t)) (he' : Even (lo :: hi :: t)),
      motive t hs he → motive (lo :: hi :: t) hs' he') :
    ∀ s hs he, motive s hs he
  | [], _, _ => nil
  | [_], _, he => by simp [Even] at he
  | lo :: hi :: t, hs, he => by
      have h1 := List.pairwise_cons.mp hs
      have h2 := List.pairwise_cons.mp h1.2
      have he' : Even t := by
        simp only [Even, List.length_cons] at he ⊢; omega
      exact step lo hi t (h1.1 hi (by simp)) h2.1 h2.2 he' hs he (even_induction nil step t h2.2 he')

theorem mem_eq_false_of_le_all (t : BSet) (x : Nat) {hi : Nat} (h : ∀ z ∈ t, hi < z) (hx : x ≤ hi) :
    mem t x = false :=
  mem_of_lt_all t x (fun b hb => by have := h b hb; omega)

/-- the four facts about `lo :: hi :: r` that every interval-recursive proof needs -/
theorem step_facts (lo hi : Nat) (r : BSet) (hlh : lo < hi) (ht : ∀ z ∈ r, hi < z) :
    (∀ u, u < lo → mem (lo :: hi :: r) u = false) ∧
    (∀ u, lo ≤ u → u < hi → mem (lo :: hi :: r) u = true) ∧
    (∀ u, hi ≤ u → mem (lo :: hi :: r) u = mem r u) ∧
    (∀ u, u ≤ hi → mem r u = false) := by
  refine ⟨?_, ?_, ?_, ?_⟩
  · intro u h; simp [mem_cons2, h]
  · intro u h1 h2; simp [mem_cons2, show ¬ u < lo by omega, h2]
  · intro u h; simp [mem_cons2, show ¬ u < lo by omega, show ¬ u < hi by omega]
  · intro u h; exact mem_eq_false_of_le_all r u ht h

theorem mem_cons2_or (lo hi : Nat) (r : BSet) (hlh : lo < hi) (ht : ∀ z ∈ r, hi < z) (u : Nat) :
    mem (lo :: hi :: r) u = ((decide (lo ≤ u) && decide (u < hi)) || mem r u) := by
  rw [mem_cons2]
  by_cases h1 : u < lo
  · simp [h1, mem_eq_false_of_le_all r u ht (show u ≤ hi by omega)]; omega
  · by_cases h2 : u < hi <;> simp [h1, h2]; omega

/-! ### the Boolean operations -/

theorem mem_union (a b : BSet) (ha : SInc a) (hb : SInc b) (x : Nat) :
    mem (union a b) x = (mem a x || mem b x) := by
  simp [union, mem_combine _ _ _ _ _ ha hb]

theorem mem_inter (a b : BSet) (ha : SInc a) (hb : SInc b) (x : Nat) :
    mem (inter a b) x = (mem a x && mem b x) := by
  simp [inter, mem_combine _ _ _ _ _ ha hb]

theorem mem_xor (a b : BSet) (ha : SInc a) (hb : SInc b) (x : Nat) :
    mem (xor a b) x = (mem a x != mem b x) := by
  simp [xor, mem_combine _ _ _ _ _ ha hb]

theorem mem_diff (a b : BSet) (ha : SInc a) (hb : SInc b) (x : Nat) :
    mem (diff a b) x = (mem a x && !mem b x) := by
  simp [diff, mem_combine _ _ _ _ _ ha hb]

theorem canon_union (U : Nat) (a b : BSet) (ha : Canon U a) (hb : Canon U b) : Canon U (union a b) :=
  canon_combine U _ rfl a b ha hb
theorem canon_inter (U : Nat) (a b : BSet) (ha : Canon U a) (hb : Canon U b) : Canon U (inter a b) :=
  canon_combine U _ rfl a b ha hb
theorem canon_xor (U : Nat) (a b : BSet) (ha : Canon U a) (hb : Canon U b) : Canon U (xor a b) :=
  canon_combine U _ rfl a b ha hb
theorem canon_diff (U : Nat) (a b : BSet) (ha : Canon U a) (hb : Canon U b) : Canon U (diff a b) :=
  canon_combine U _ rfl a b ha hb

theorem canon_nil (U : Nat) : Canon U [] := by simp [Canon]

theorem canon_range (U lo hi : Nat) (h : hi ≤ U) : Canon U (range lo hi) := by
  unfold range; split
  · refine ⟨by simp; omega, ?_, by simp⟩
    intro b hb; simp at hb; omega
  · exact canon_nil U

theorem mem_pair (a b x : Nat) : mem [a, b] x = (decide (a ≤ x) && decide (x < b)) := by
  simp only [mem]
  by_cases h1 : x < a <;> by_cases h2 : x < b <;> simp [h1, h2] <;> omega

theorem mem_range (lo hi x : Nat) : mem (range lo hi) x = (decide (lo ≤ x) && decide (x < hi)) := by
  unfold range; split
  · exact mem_pair lo hi x
  · by_cases h1 : lo ≤ x <;> by_cases h2 : x < hi <;> simp [h1, h2]; omega

theorem canon_single (U x : Nat) (h : x < U) : Canon U (single x) := by
  refine ⟨by simp [single], ?_, by simp [single]⟩
  intro b hb; simp [single] at hb; omega

theorem mem_single (v x : Nat) : mem (single v) x = decide (x = v) := by
  rw [single, mem_pair, ← Bool.decide_and]
  exact decide_eq_decide.mpr (by omega)

theorem mem_add (s : BSet) (hs : SInc s) (v x : Nat) : mem (add s v) x = (mem s x || decide (x = v)) := by
  rw [add, mem_union _ _ hs (by simp [single]), mem_single]

theorem mem_remove (s : BSet) (hs : SInc s) (v x : Nat) :
    mem (remove s v) x = (mem s x && !decide (x = v)) := by
  rw [remove, mem_diff _ _ hs (by simp [single]), mem_single]

theorem sinc_range (lo hi : Nat) : SInc (range lo hi) := by
  unfold range; split <;> simp [*]

theorem mem_addRange (s : BSet) (hs : SInc s) (lo hi x : Nat) :
    mem (addRange s lo hi) x = (mem s x || (decide (lo ≤ x) && decide (x < hi))) := by
  rw [addRange, mem_union _ _ hs (sinc_range lo hi), mem_range]

theorem mem_removeRange (s : BSet) (hs : SInc s) (lo hi x : Nat) :
    mem (removeRange s lo hi) x = (mem s x && !(decide (lo ≤ x) && decide (x < hi))) := by
  rw [removeRange, mem_diff _ _ hs (sinc_range lo hi), mem_range]

theorem mem_flipRange (s : BSet) (hs : SInc s) (lo hi x : Nat) :
    mem (flipRange s lo hi) x = (mem s x != (decide (lo ≤ x) && decide (x < hi))) := by
  rw [flipRange, mem_xor _ _ hs (sinc_range lo hi), mem_range]

theorem mem_compl (U : Nat) (s : BSet) (hs : SInc s) (x : Nat) :
    mem (compl U s) x = (mem s x != decide (x < U)) := by
  rw [compl, mem_xor _ _ hs (sinc_range 0 U), mem_range]; simp

theorem canon_compl (U : Nat) (s : BSet) (hs : Canon U s) : Canon U (compl U s) :=
  canon_xor U _ _ hs (canon_range U 0 U (Nat.le_refl U))

theorem union_nil_left (a : BSet) (ha : SInc a) : BSet.union [] a = a :=
  combine_eq_of_mem _ rfl .nil ha ha fun _ => rfl

/-! ### every operation keeps the boundary list strictly increasing -/

theorem sinc_single (v : Nat) : SInc (single v) := by simp [single, SInc]

theorem sinc_union (a b : BSet) (ha : SInc a) (hb : SInc b) : SInc (union a b) :=
  sinc_combine _ a b false false ha hb

theorem sinc_add (s : BSet) (hs : SInc s) (v : Nat) : SInc (BSet.add s v) := sinc_union _ _ hs (sinc_single v)

theorem sinc_remove (s : BSet) (hs : SInc s) (v : Nat) : SInc (BSet.remove s v) :=
  sinc_combine _ _ _ _ _ hs (sinc_single v)

theorem sinc_addRange (s : BSet) (hs : SInc s) (lo hi : Nat) : SInc (BSet.addRange s lo hi) :=
  sinc_union _ _ hs (sinc_range lo hi)

theorem sinc_removeRange (s : BSet) (hs : SInc s) (lo hi : Nat) : SInc (BSet.removeRange s lo hi) :=
  sinc_combine _ _ _ _ _ hs (sinc_range lo hi)

theorem sinc_flipRange (s : BSet) (hs : SInc s) (lo hi : Nat) : SInc (BSet.flipRange s lo hi) :=
  sinc_combine _ _ _ _ _ hs (sinc_range lo hi)

/-! ### a sweep folded over a list of sets -/

theorem sinc_foldl_combine (f : Bool → Bool → Bool) (l : List BSet) (acc : BSet) (ha : SInc acc) (hl : ∀ s ∈ l, SInc s) :
    SInc (l.foldl (fun a b => combine f a b false false) acc) :=
  List.foldlRecOn l _ ha fun a h s hs => sinc_combine f a s _ _ h (hl s hs)

theorem mem_foldl_combine (f : Bool → Bool → Bool) (hf : f false false = false) (l : List BSet) (acc : BSet) (ha : SInc acc)
    (hl : ∀ s ∈ l, SInc s) (x : Nat) :
    mem (l.foldl (fun a b => combine f a b false false) acc) x = l.foldl (fun p s => f p (mem s x)) (mem acc x) := by
  rw [← List.foldl_map]
  exact (foldl_inv (I := SInc) (den := (mem · x)) (fun a b ha hb => ⟨sinc_combine f a b _ _ ha hb, by
    rw [mem_combine f a b _ _ ha hb, hf]; simp⟩) l acc ha hl).2

theorem sinc_foldl_union (l : List BSet) (acc : BSet) (ha : SInc acc) (hl : ∀ s ∈ l, SInc s) :
    SInc (l.foldl BSet.union acc) := sinc_foldl_combine _ l acc ha hl

theorem mem_foldl_union (l : List BSet) (acc : BSet) (ha : SInc acc) (hl : ∀ s ∈ l, SInc s) (x : Nat) :
    mem (l.foldl BSet.union acc) x = (mem acc x || l.any (fun s => mem s x)) :=
  (mem_foldl_combine _ rfl l acc ha hl x).trans (foldl_or_eq_any _ l _)

end RModel.BSet

/-! ### canonical finite sets with no universe (the sets of columns of the bit-sliced indexes) -/
namespace RModel.BSI
open RModel.BSet

/-- strictly increasing boundary list of even length: a canonical FINITE set -/
def Good (s : BSet) : Prop := SInc s ∧ Even s

theorem good_nil : Good [] := ⟨List.Pairwise.nil, rfl⟩

theorem good_canon (s : BSet) (h : Good s) (U : Nat) (hU : s.foldr (· + ·) 0 ≤ U) : Canon U s :=
  ⟨h.1, fun x hx => Nat.le_trans (le_sum_of_mem s x hx) hU, h.2⟩

/-- any universe that holds all boundaries will do for `canon_combine` -/
theorem good_combine (f : Bool → Bool → Bool) (hf : f false false = false) (a b : BSet)
    (ha : Good a) (hb : Good b) : Good (combine f a b false false) := by
  have := canon_combine (a.foldr (· + ·) 0 + b.foldr (· + ·) 0) f hf a b
    (good_canon a ha _ (by omega)) (good_canon b hb _ (by omega))
  exact ⟨this.1, this.2.2⟩

theorem good_union (a b : BSet) (ha : Good a) (hb : Good b) : Good (union a b) := good_combine _ rfl a b ha hb

theorem good_inter (a b : BSet) (ha : Good a) (hb : Good b) : Good (inter a b) := good_combine _ rfl a b ha hb

theorem good_diff (a b : BSet) (ha : Good a) (hb : Good b) : Good (diff a b) := good_combine _ rfl a b ha hb

theorem good_single (x : Nat) : Good (single x) := ⟨sinc_single x, by simp [single, Even]⟩

theorem good_add (a : BSet) (x : Nat) (ha : Good a) : Good (add a x) := good_union _ _ ha (good_single x)

theorem sinc_ext (s t : BSet) (hs : SInc s) (ht : SInc t) (h : ∀ x, mem s x = true ↔ mem t x = true) : s = t :=
  canon_ext_sinc s t hs ht (fun x => Bool.eq_iff_iff.mpr (h x))

/-! intersections that change nothing -/

theorem inter_eq_left (p e : BSet) (hp : Good p) (he : Good e) (h : ∀ x, mem p x = true → mem e x = true) :
    inter p e = p :=
  combine_eq_of_mem _ rfl hp.1 he.1 hp.1 fun x => by
    cases hm : mem p x
    · rfl
    · rw [h x hm]; rfl

/-- restricting the found set to the existence set does not change `|f ∩ plane|` for a plane inside it -/
theorem inter_inter_sub (f e p : BSet) (hf : Good f) (he : Good e) (hp : Good p)
    (hsub : ∀ x, mem p x = true → mem e x = true) : inter (inter f e) p = inter f p :=
  combine_eq_of_mem _ rfl (good_inter f e hf he).1 hp.1 (good_inter f p hf hp).1 fun x => by
    rw [mem_inter _ _ hf.1 he.1, mem_inter _ _ hf.1 hp.1]
    cases hm : mem p x
    · simp
    · simp [hsub x hm]

end RModel.BSI

namespace RModel.BSI32
open RModel.BSet
open RModel.BSI (Good)

theorem ne_nil_of_mem (s : BSet) (x : Nat) (h : mem s x = true) : s ≠ [] := by
  intro e; rw [e] at h; simp at h

theorem remove_eq_self (p : BSet) (hp : Good p) (c : Nat) (hc : mem p c = false) : remove p c = p :=
  combine_eq_of_mem _ rfl hp.1 (sinc_single c) hp.1 fun x => by
    rw [mem_single]
    by_cases e : x = c
    · rw [e, hc]; rfl
    · rw [decide_eq_false e]; simp

end RModel.BSI32

/-! ### the checker's `unionAll` and `ofVals` -/

namespace RModel.Driver
open RModel RModel.BSet

theorem sinc_unionPairs (l : List BSet) (hl : ∀ s ∈ l, SInc s) : ∀ s ∈ unionPairs l, SInc s := by
  fun_induction unionPairs l with
  | case1 a b t ih =>
    intro s hs
    simp only [List.mem_cons] at hs
    rcases hs with rfl | hs
    · exact sinc_combine _ _ _ _ _ (hl a (by simp)) (hl b (by simp))
    · exact ih (fun s hs => hl s (by simp [hs])) s hs
  | case2 l h => exact hl

theorem any_unionPairs (l : List BSet) (hl : ∀ s ∈ l, SInc s) (x : Nat) :
    (unionPairs l).any (fun s => mem s x) = l.any (fun s => mem s x) := by
  fun_induction unionPairs l with
  | case1 a b t ih =>
    simp only [List.any_cons]
    rw [ih (fun s hs => hl s (by simp [hs])), mem_union _ _ (hl a (by simp)) (hl b (by simp))]
    simp [Bool.or_assoc]
  | case2 l h => rfl

theorem mem_unionAllFuel (n : Nat) (l : List BSet) (hl : ∀ s ∈ l, SInc s) (x : Nat) :
    mem (unionAllFuel n l) x = l.any (fun s => mem s x) ∧ SInc (unionAllFuel n l) := by
  induction n generalizing l with
  | zero =>
    simp only [unionAllFuel]
    refine ⟨?_, sinc_foldl_union l [] (by simp) hl⟩
    rw [mem_foldl_union l [] (by simp) hl]; simp
  | succ n ih =>
    match l with
    | [] => simp [unionAllFuel]
    | [a] => simp [unionAllFuel, hl a (by simp)]
    | a :: b :: t =>
      simp only [unionAllFuel]
      have := ih (unionPairs (a :: b :: t)) (sinc_unionPairs _ hl)
      rw [any_unionPairs _ hl] at this
      exact this

theorem mem_unionAll (l : List BSet) (hl : ∀ s ∈ l, SInc s) (x : Nat) :
    mem (unionAll l) x = l.any (fun s => mem s x) := (mem_unionAllFuel _ l hl x).1

theorem sinc_unionAll (l : List BSet) (hl : ∀ s ∈ l, SInc s) : SInc (unionAll l) := (mem_unionAllFuel _ l hl 0).2

theorem mem_ofVals (l : List Nat) (x : Nat) : mem (ofVals l) x = l.contains x := by
  unfold ofVals
  rw [mem_unionAll _ (by intro s hs; simp at hs; obtain ⟨v, _, rfl⟩ := hs; simp [BSet.single])]
  induction l with
  | nil => simp
  | cons a t ih =>
    simp only [List.map_cons, List.any_cons, List.contains_cons]
    rw [ih, mem_single]
    simp [BEq.beq]

end RModel.Driver
