import RProofs.RepOps
import RProofs.RepMut
import RProofs.LazyOps
import RProofs.Agg
import RProofs.Iter
import RProofs.IterBmp
import RProofs.RepQueryBase
import RProofs.BinHeap
import RModel.Impl.RepBulk
/-!
L2 theorems for the bulk entry points of `RModel/Impl/RepBulk.lean`. `AddMany` (and `BitmapOf`) is the fold of `Add`: the
cached `(index, container)` pair of the Go loop stays in step with the slot list (`Cached`) and only ever writes through a
cleared flag. `HeapOr` / `HeapXor` pair their operands in the order of a size-keyed priority queue; since the queue only
permutes what is queued (`RProofs/BinHeap.lean`), `Or` / `Xor` read through membership are the folds of `||` / `!=` over the
operands (`pqReduce_fold`), and a flagged slot of the result is a flagged slot of an operand (`pqReduce_share`).
`ToArray` / `ToExistingArray` enumerate the set through the per-kind fill loops, `Stats` adds up the per-kind counters.
-/
open RModel.Util
namespace RModel.Impl
open RModel RModel.BSet RModel.Driver ContOps ContMut RepOps LazyOps RepMut RepBulk

namespace RepBulk

/-! ### `AddMany`: the cached pair -/

theorem iaddRM_nil (lb : Nat) : (Cont.arr []).iaddRM lb = .arr [lb] := by
  simp [Cont.iaddRM, insertVal, arrayMax]

theorem newSlot_eq (hb lb : Nat) : newSlot hb lb = { key := hb, c := .arr [lb], flag := false } := by
  simp [newSlot, iaddRM_nil]

/-- the cached pair `(idx, c)` of `AddMany` is in step with the slot list: slot `idx` carries key `hb`, container `c`, and its
`needCopyOnWrite` flag is OFF; all slots before it have smaller keys -/
def Cached (hb : Nat) (c : Cont) : List Slot → Nat → Prop
  | [], _ => False
  | s :: _, 0 => s = { key := hb, c := c, flag := false }
  | s :: t, i + 1 => s.key < hb ∧ Cached hb c t i

/-- `addwithptr` leaves the slot list `Rep.add` leaves, and hands out a pair that is in step with it -/
theorem addWithPtr_spec (hb lb : Nat) (l : List Slot) : (addWithPtr hb lb l).1 = alterWalk (addF lb) hb 1 l ∧
    Cached hb (addWithPtr hb lb l).2.2 (addWithPtr hb lb l).1 (addWithPtr hb lb l).2.1 := by
  induction l with
  | nil => simp [addWithPtr, alterWalk, addF, newSlot_eq, iaddRM_nil, Cached]
  | cons s t ih =>
    rw [addWithPtr, alterWalk]
    by_cases h1 : s.key < hb
    · rw [if_pos h1, if_pos h1]
      exact ⟨congrArg (s :: ·) ih.1, h1, ih.2⟩
    · by_cases h2 : s.key = hb
      · rw [if_neg h1, if_pos h2, if_neg h1, if_pos h2]
        simp [addF, alterWalk, Cached, h2]
      · rw [if_neg h1, if_neg h2, if_neg h1, if_neg h2]
        simp [addF, alterWalk, Cached, newSlot_eq, iaddRM_nil]

theorem cached_step {hb : Nat} {c : Cont} (lb : Nat) : ∀ (l : List Slot) (i : Nat), Cached hb c l i →
    setContainerAt l i (c.iaddRM lb) = alterWalk (addF lb) hb 1 l ∧
      Cached hb (c.iaddRM lb) (setContainerAt l i (c.iaddRM lb)) i ∧ (l[i]?.map (·.flag)).getD true = false
  | [], _, h => by cases h
  | s :: t, 0, h => by
    simp only [Cached] at h
    subst h
    simp [setContainerAt, alterWalk, addF, Cached]
  | s :: t, i + 1, h => by
    simp only [Cached] at h
    obtain ⟨h1, h2, h3⟩ := cached_step lb t i h.2
    have e : setContainerAt (s :: t) (i + 1) (c.iaddRM lb) = s :: setContainerAt t i (c.iaddRM lb) := by
      simp [setContainerAt]
    rw [e, alterWalk, if_pos h.1, h1]
    exact ⟨rfl, ⟨h.1, h1 ▸ h2⟩, by simpa using h3⟩

theorem addManyLoop_spec : ∀ (t : List Nat) (slots : List Slot) (idx : Nat) (c : Cont) (prev : Nat),
    Cached (prev / 65536) c slots idx →
    (∀ cow, ({ cow := cow, slots := addManyLoop slots idx c prev t } : Rep) = t.foldl Rep.add { cow := cow, slots := slots }) ∧
      ∀ b ∈ addManyWriteFlags slots idx c prev t, b = false
  | [], _, _, _, _, _ => ⟨fun _ => rfl, fun _ h => nomatch h⟩
  | i :: t, slots, idx, c, prev, h => by
    rw [addManyLoop, addManyWriteFlags]
    by_cases hp : prev / 65536 = i / 65536
    · rw [if_pos hp, if_pos hp]
      obtain ⟨h1, h2, h3⟩ := cached_step (i % 65536) slots idx h
      obtain ⟨e, f⟩ := addManyLoop_spec t _ idx _ i (hp ▸ h2)
      exact ⟨fun cow => by rw [e, h1, hp]; rfl, List.forall_mem_cons.mpr ⟨h3, f⟩⟩
    · rw [if_neg hp, if_neg hp]
      obtain ⟨e, f⟩ := addManyLoop_spec t _ _ _ i (addWithPtr_spec _ _ _).2
      exact ⟨fun cow => by rw [e, (addWithPtr_spec _ _ _).1]; rfl, f⟩

theorem addManyWriteFlags_false : ∀ (t : List Nat) (slots : List Slot) (idx : Nat) (c : Cont) (prev : Nat),
    Cached (prev / 65536) c slots idx → ∀ b ∈ addManyWriteFlags slots idx c prev t, b = false :=
  fun t slots idx c prev h => (addManyLoop_spec t slots idx c prev h).2

end RepBulk

/-! ### the theorems about `Rep.addMany` -/

/-- **`AddMany` is the fold of `Add`** on the stored representation (keys, kinds, payloads, cached cardinalities, flags, switch) —
for ANY receiver, order and multiplicity of the values: the cached `(index, container)` pair changes nothing -/
theorem Rep.addMany_eq_foldl (r : Rep) (vals : List Nat) : r.addMany vals = vals.foldl Rep.add r := by
  cases vals with
  | nil => rfl
  | cons v t =>
    rw [Rep.addMany, (addManyLoop_spec t _ _ _ v (addWithPtr_spec _ _ _).2).1, (addWithPtr_spec _ _ _).1]
    rfl

theorem Rep.foldl_add_spec (vals : List Nat) (r : Rep) (hr : r.wf = true) (hv : ∀ v ∈ vals, v < 4294967296) :
    (vals.foldl Rep.add r).wf = true ∧ (vals.foldl Rep.add r).toBSet = vals.foldl BSet.add r.toBSet ∧
      ∀ x, mem (vals.foldl Rep.add r).toBSet x = (mem r.toBSet x || vals.contains x) := by
  have h1 := foldl_inv (I := (·.wf = true)) (den := Rep.toBSet) (denb := id)
    (fun a v ha hv => ⟨Rep.wf_add a ha v hv, Rep.toBSet_add a ha v hv⟩) vals r hr hv
  have h2 := foldl_inv_any (I := (·.wf = true)) (m := fun a x => mem a.toBSet x) (mb := fun v x => decide (x = v))
    (fun a v ha hv => ⟨Rep.wf_add a ha v hv, Rep.mem_add a ha v hv⟩) vals r hr hv
  rw [List.map_id] at h1
  exact ⟨h1.1, h1.2, fun x => by rw [h2.2, List.contains_eq_any_beq]; simp only [Bool.beq_eq_decide_eq]⟩

theorem Rep.toBSet_addMany (r : Rep) (hr : r.wf = true) (vals : List Nat) (hv : ∀ v ∈ vals, v < 4294967296) :
    (r.addMany vals).toBSet = vals.foldl BSet.add r.toBSet := by
  rw [Rep.addMany_eq_foldl]; exact (Rep.foldl_add_spec vals r hr hv).2.1

/-- **C09**: `AddMany` keeps the bitmap well-formed -/
theorem Rep.wf_addMany (r : Rep) (hr : r.wf = true) (vals : List Nat) (hv : ∀ v ∈ vals, v < 4294967296) :
    (r.addMany vals).wf = true := by
  rw [Rep.addMany_eq_foldl]; exact (Rep.foldl_add_spec vals r hr hv).1

theorem Rep.mem_addMany (r : Rep) (hr : r.wf = true) (vals : List Nat) (hv : ∀ v ∈ vals, v < 4294967296) (x : Nat) :
    mem (r.addMany vals).toBSet x = (mem r.toBSet x || vals.contains x) := by
  rw [Rep.addMany_eq_foldl]; exact (Rep.foldl_add_spec vals r hr hv).2.2 x

theorem Rep.toBSet_bitmapOf (vals : List Nat) (hv : ∀ v ∈ vals, v < 4294967296) :
    (Rep.bitmapOf vals).toBSet = vals.foldl BSet.add [] :=
  Rep.toBSet_addMany {} rfl vals hv

theorem Rep.wf_bitmapOf (vals : List Nat) (hv : ∀ v ∈ vals, v < 4294967296) : (Rep.bitmapOf vals).wf = true :=
  Rep.wf_addMany {} rfl vals hv

/-! ### sharing -/

namespace RepBulk

theorem mem_alterWalk_of_ne (f : Nat → Option Slot → Option Slot) {hb : Nat} {s : Slot} (hne : s.key ≠ hb) :
    ∀ (l : List Slot), s ∈ l → s ∈ alterWalk f hb 1 l
  | [], h => nomatch h
  | s0 :: t, h => by
    rw [alterWalk]
    split
    · rcases List.mem_cons.mp h with rfl | h'
      · exact List.mem_cons_self
      · exact List.mem_cons_of_mem _ (mem_alterWalk_of_ne f hne t h')
    · split
      · next h2 =>
        rw [alterWalk]
        exact List.mem_append_right _ ((List.mem_cons.mp h).resolve_left fun e => hne (e ▸ h2))
      · rw [alterWalk]
        exact List.mem_append_right _ h

theorem of_mem_alterWalk (f : Nat → Option Slot → Option Slot) (hb : Nat) (s : Slot) (l : List Slot) (hl : SlotsWf l)
    (h : s ∈ alterWalk f hb 1 l) : (s ∈ l ∧ s.key ≠ hb) ∨ ∃ o, s ∈ (f hb o).toList := by
  rw [alterWalk_eq_splice f (fun k => l.find? (·.key == k)) hb hb 1 l rfl hl (fun _ _ => rfl)] at h
  simp only [List.range'_one, List.flatMap_cons, List.flatMap_nil, List.append_nil, List.mem_append, List.mem_filter,
    decide_eq_true_eq] at h
  rcases h with (⟨h1, h2⟩ | h) | ⟨h1, h2⟩
  · exact .inl ⟨h1, Nat.ne_of_lt h2⟩
  · exact .inr ⟨_, h⟩
  · exact .inl ⟨h1, Nat.ne_of_gt h2⟩

end RepBulk

/-- **no cached write of `AddMany` runs on a flagged (possibly shared) container**: the in-place kernel
`iaddReturnMinimized` is entered without the copy-on-write gate only on the slot whose flag `addwithptr` has just cleared -/
theorem Rep.addManyWriteFlags_false (r : Rep) (vals : List Nat) : ∀ b ∈ r.addManyWriteFlags vals, b = false := by
  cases vals with
  | nil => simp [Rep.addManyWriteFlags]
  | cons v t =>
    rw [Rep.addManyWriteFlags]
    exact RepBulk.addManyWriteFlags_false t _ _ _ v (addWithPtr_spec _ _ _).2

theorem Rep.cow_addMany (r : Rep) (vals : List Nat) : (r.addMany vals).cow = r.cow := by
  cases vals with
  | nil => rfl
  | cons v t => rfl

/-- **a container under a key that no value of the batch falls into is left exactly as it was** (payload AND flag: it stays
shared with whoever shares it) -/
theorem Rep.addMany_untouched (r : Rep) (vals : List Nat) (s : Slot) (hs : s ∈ r.slots)
    (hk : ∀ v ∈ vals, v / 65536 ≠ s.key) : s ∈ (r.addMany vals).slots := by
  rw [Rep.addMany_eq_foldl]
  induction vals generalizing r with
  | nil => exact hs
  | cons v t ih =>
    simp only [List.foldl_cons]
    refine ih (r.add v) ?_ (fun w hw => hk w (by simp [hw]))
    exact mem_alterWalk_of_ne _ (fun e => hk v (by simp) e.symm) _ hs

/-- **every container of the result under a key that some value of the batch falls into is private** (flag off: it was cloned
before the first write, or newly made), all others are old slots, unchanged -/
theorem Rep.addMany_slots (r : Rep) (hr : r.wf = true) (vals : List Nat) (hv : ∀ v ∈ vals, v < 4294967296) (s : Slot)
    (hs : s ∈ (r.addMany vals).slots) :
    (s ∈ r.slots ∧ ∀ v ∈ vals, v / 65536 ≠ s.key) ∨ ((∃ v ∈ vals, v / 65536 = s.key) ∧ s.flag = false) := by
  rw [Rep.addMany_eq_foldl] at hs
  induction vals generalizing r with
  | nil => exact Or.inl ⟨hs, by simp⟩
  | cons v t ih =>
    simp only [List.foldl_cons] at hs
    have hvv := hv v (by simp)
    rcases ih (r.add v) (Rep.wf_add r hr v hvv) (fun w hw => hv w (by simp [hw])) hs with ⟨h1, h2⟩ | ⟨⟨w, hw, e⟩, h2⟩
    · rcases of_mem_alterWalk _ _ s r.slots ((slotsWf_iff r).mp hr) h1 with ⟨a, b⟩ | ⟨o, h⟩
      · refine Or.inl ⟨a, fun w hw => ?_⟩
        rcases List.mem_cons.mp hw with rfl | hw
        · exact fun e => b e.symm
        · exact h2 w hw
      · -- the slot `Add` stores carries the key and no flag
        have : s.key = v / 65536 ∧ s.flag = false := by
          cases o <;> cases List.mem_singleton.mp h <;> exact ⟨rfl, rfl⟩
        exact Or.inr ⟨⟨v, by simp, this.1.symm⟩, this.2⟩
    · exact Or.inr ⟨⟨w, by simp [hw], e⟩, h2⟩

/-! ### the hypotheses are satisfiable: a flagged array chunk, an unflagged run chunk; an unsorted batch with duplicates that
re-enters chunk 0 and inserts chunks 1 and 3 -/

example :
    let r : Rep := { cow := true, slots := [{ key := 0, c := .arr [1, 5], flag := true }, { key := 2, c := .run [(0, 9)], flag := false }] }
    r.wf = true ∧
    (r.addMany [7, 3, 65536 + 4, 3, 7, 196608 + 10] ==
      { cow := true, slots := [{ key := 0, c := .arr [1, 3, 5, 7], flag := false }, { key := 1, c := .arr [4], flag := false },
                               { key := 2, c := .run [(0, 9)], flag := false }, { key := 3, c := .arr [10], flag := false }] }) = true ∧
    r.addManyWriteFlags [7, 3, 65536 + 4, 3, 7, 196608 + 10] = [false, false] := by
  decide +kernel

/-! ### `HeapOr` / `HeapXor` -/

namespace RepBulk

theorem canon_map_rep (L : List Rep) (hL : ∀ r ∈ L, r.wf = true) : ∀ s ∈ L.map Rep.toBSet, Canon 4294967296 s := by
  intro s hs
  obtain ⟨r, hr, rfl⟩ := List.mem_map.mp hs
  exact canon_rep r (hL r hr)

theorem unionL_rep_perm {L L' : List Rep} (hL : ∀ r ∈ L, r.wf = true) (p : L.Perm L') :
    BSet.unionL (L.map Rep.toBSet) = BSet.unionL (L'.map Rep.toBSet) :=
  unionL_perm 4294967296 _ _ (canon_map_rep L hL) (canon_map_rep L' fun r hr => hL r (p.mem_iff.mpr hr))
    fun _ => (p.map _).mem_iff

/-! ### flags: what the result can share with the operands -/

theorem flagged_mergeWalk {M : Slot → Slot → List Slot} (hM : ∀ sa sb, ∀ s ∈ M sa sb, s.flag = false) (s : Slot)
    (a b : List Slot) (h : s ∈ mergeWalk slotV slotV keepS keepS keepS M a b) (hf : s.flag = true) : s ∈ a ∨ s ∈ b := by
  fun_induction mergeWalk slotV slotV keepS keepS keepS M a b with
  | case1 b => rw [flatMap_keepS] at h; exact Or.inr h
  | case2 a _ => rw [flatMap_keepS] at h; exact Or.inl h
  | case3 sa ta sb tb _ ih =>
    rcases List.mem_cons.mp h with rfl | h'
    · exact Or.inl List.mem_cons_self
    · exact (ih h').imp_left (List.mem_cons_of_mem _)
  | case4 sa ta sb tb _ _ ih =>
    rcases List.mem_cons.mp h with rfl | h'
    · exact Or.inr List.mem_cons_self
    · exact (ih h').imp_right (List.mem_cons_of_mem _)
  | case5 sa ta sb tb _ _ ih =>
    rcases List.mem_append.mp h with h' | h'
    · rw [hM sa sb s h'] at hf; cases hf
    · exact (ih h').imp (List.mem_cons_of_mem _) (List.mem_cons_of_mem _)

theorem flagged_orSlots (s : Slot) (a b : List Slot) (h : s ∈ orSlots a b) (hf : s.flag = true) : s ∈ a ∨ s ∈ b :=
  flagged_mergeWalk (fun _ _ s hs => by rw [List.mem_singleton.mp hs]) s a b (orSlots_eq a b ▸ h) hf

theorem flagged_xorSlots (s : Slot) (a b : List Slot) (h : s ∈ xorSlots a b) (hf : s.flag = true) : s ∈ a ∨ s ∈ b :=
  flagged_mergeWalk (fun sa sb s hs => by
    unfold keepIf keep at hs
    split at hs
    · cases hs
    · rw [List.mem_singleton.mp hs]) s a b (xorSlots_eq a b ▸ h) hf

theorem pqReduce_share (op : Rep → Rep → Rep) (hc : ∀ a b, (op a b).cow = false)
    (hf : ∀ a b s, s ∈ (op a b).slots → s.flag = true → s ∈ a.slots ∨ s ∈ b.slots) (l : List Rep) (hlen : 2 ≤ l.length) :
    (pqReduce Rep.sizeInBytes op l).cow = false ∧
      ∀ s ∈ (pqReduce Rep.sizeInBytes op l).slots, s.flag = true → ∃ r ∈ l, s ∈ r.slots := by
  obtain ⟨a, b, e⟩ := pqReduce_isOp Rep.sizeInBytes op l hlen
  refine ⟨e ▸ hc a b, fun s hs hfl => ?_⟩
  obtain ⟨r, hr, h, -⟩ := pqReduce_exists Rep.sizeInBytes op (Q := fun r => s ∈ r.slots ∧ s.flag = true)
    (fun a b h => (hf a b s h.1 h.2).imp (⟨·, h.2⟩) (⟨·, h.2⟩)) l (by omega) ⟨hs, hfl⟩
  exact ⟨r, hr, h⟩

end RepBulk

/-! ### the theorems about `Rep.heapOr` / `Rep.heapXor` -/

theorem Rep.heapOr_spec (l : List Rep) (hl : ∀ r ∈ l, r.wf = true) :
    (Rep.heapOr l).wf = true ∧ ∀ x, mem (Rep.heapOr l).toBSet x = l.any (fun r => mem r.toBSet x) := by
  match l, hl with
  | [], _ => exact ⟨rfl, fun _ => rfl⟩
  | [a], hl => exact ⟨(Rep.wf_clone a).trans (hl a (by simp)), fun x => by rw [Rep.heapOr, Rep.toBSet_clone]; simp⟩
  | a :: b :: t, hl =>
    have h := fun x => pqReduce_fold Rep.sizeInBytes Rep.or2 (den := fun r => mem r.toBSet x) Bool.or_comm Bool.or_assoc Bool.false_or
      (fun a b ha hb => ⟨Rep.wf_or2 a b ha hb, Rep.mem_or2 a b ha hb x⟩) _ hl (by simp)
    exact ⟨(h 0).1, fun x => (h x).2.trans (by rw [List.foldl_map, foldl_or_eq_any, Bool.false_or])⟩

/-- **`HeapOr` computes the union** of well-formed operands — whatever pairs the size-ordered queue forms -/
theorem Rep.toBSet_heapOr (l : List Rep) (hl : ∀ r ∈ l, r.wf = true) :
    (Rep.heapOr l).toBSet = BSet.unionL (l.map Rep.toBSet) :=
  Rep.toBSet_eq_unionL (Rep.heapOr_spec l hl).2

/-- **C09**: `HeapOr` returns a well-formed bitmap -/
theorem Rep.wf_heapOr (l : List Rep) (hl : ∀ r ∈ l, r.wf = true) : (Rep.heapOr l).wf = true := (Rep.heapOr_spec l hl).1

theorem Rep.heapXor_spec (l : List Rep) (hl : ∀ r ∈ l, r.wf = true) :
    (Rep.heapXor l).wf = true ∧ ∀ x, mem (Rep.heapXor l).toBSet x = BSet.parity (l.map Rep.toBSet) x false := by
  match l, hl with
  | [], _ => exact ⟨rfl, fun _ => rfl⟩
  | [a], hl => exact ⟨(Rep.wf_clone a).trans (hl a (by simp)), fun x => by rw [Rep.heapXor, Rep.toBSet_clone]; simp [BSet.parity]⟩
  | a :: b :: t, hl =>
    have h := fun x => pqReduce_fold Rep.sizeInBytes Rep.xor2 (den := fun r => mem r.toBSet x) (m := (· != ·)) (e := false)
      (by decide) (by decide) (by decide)
      (fun a b ha hb => ⟨Rep.wf_xor2 a b ha hb, Rep.mem_xor2 a b ha hb x⟩) _ hl (by simp)
    exact ⟨(h 0).1, fun x => (h x).2.trans (by rw [BSet.parity, List.foldl_map, List.foldl_map])⟩

/-- **`HeapXor` computes the symmetric difference** (membership = odd number of operands) of well-formed operands -/
theorem Rep.toBSet_heapXor (l : List Rep) (hl : ∀ r ∈ l, r.wf = true) :
    (Rep.heapXor l).toBSet = BSet.xorL (l.map Rep.toBSet) :=
  have hc := canon_map_rep l hl
  canon_ext _ _ _ (canon_rep _ (Rep.heapXor_spec l hl).1) (canon_xorL _ _ hc) fun x => by
    rw [(Rep.heapXor_spec l hl).2, mem_xorL _ _ hc]

/-- **C09**: `HeapXor` returns a well-formed bitmap -/
theorem Rep.wf_heapXor (l : List Rep) (hl : ∀ r ∈ l, r.wf = true) : (Rep.heapXor l).wf = true := (Rep.heapXor_spec l hl).1

theorem Rep.mem_heapOr (l : List Rep) (hl : ∀ r ∈ l, r.wf = true) (x : Nat) :
    mem (Rep.heapOr l).toBSet x = l.any (fun r => mem r.toBSet x) := (Rep.heapOr_spec l hl).2 x

theorem Rep.mem_heapXor (l : List Rep) (hl : ∀ r ∈ l, r.wf = true) (x : Nat) :
    mem (Rep.heapXor l).toBSet x = BSet.parity (l.map Rep.toBSet) x false := (Rep.heapXor_spec l hl).2 x

/-- the result does not depend on the ORDER of the operands as a set (its representation may) -/
theorem Rep.toBSet_heapOr_perm (l l' : List Rep) (p : l.Perm l') (hl : ∀ r ∈ l, r.wf = true) :
    (Rep.heapOr l).toBSet = (Rep.heapOr l').toBSet := by
  rw [Rep.toBSet_heapOr l hl, Rep.toBSet_heapOr l' (fun r hr => hl r (p.mem_iff.mpr hr)), unionL_rep_perm hl p]

theorem Rep.toBSet_heapXor_perm (l l' : List Rep) (p : l.Perm l') (hl : ∀ r ∈ l, r.wf = true) :
    (Rep.heapXor l).toBSet = (Rep.heapXor l').toBSet :=
  canon_ext_sinc _ _ (sinc_rep _) (sinc_rep _) fun x => by
    rw [Rep.mem_heapXor l hl, Rep.mem_heapXor l' fun r hr => hl r (p.mem_iff.mpr hr)]
    -- the parity of a count does not depend on the order
    exact (p.map _).foldl_eq' (fun a _ b _ z => by cases z <;> cases mem a x <;> cases mem b x <;> rfl) false

/-! ### independence of the result from the operands -/

/-- one operand: the result is `Clone()` (with copy-on-write the source is flagged, `Rep.cloneSrc`) -/
theorem Rep.heapOr_single (a : Rep) : Rep.heapOr [a] = a.clone := rfl
theorem Rep.heapXor_single (a : Rep) : Rep.heapXor [a] = a.clone := rfl
theorem Rep.heapOr_nil : Rep.heapOr [] = {} := rfl
theorem Rep.heapXor_nil : Rep.heapXor [] = {} := rfl

/-- **two or more operands: the result is a fresh bitmap** (`copyOnWrite = false`) **and every container it shares with an
operand is flagged on both sides**: a flagged slot of the result is literally a flagged slot of some operand (appended shared
because the source was already flagged); all other containers are new or private clones -/
theorem Rep.heapOr_share (a b : Rep) (t : List Rep) :
    (Rep.heapOr (a :: b :: t)).cow = false ∧
      ∀ s ∈ (Rep.heapOr (a :: b :: t)).slots, s.flag = true → ∃ r ∈ a :: b :: t, s ∈ r.slots :=
  pqReduce_share Rep.or2 (fun _ _ => rfl) (fun _ _ s hs hf => flagged_orSlots s _ _ hs hf) _ (by simp)

theorem Rep.heapXor_share (a b : Rep) (t : List Rep) :
    (Rep.heapXor (a :: b :: t)).cow = false ∧
      ∀ s ∈ (Rep.heapXor (a :: b :: t)).slots, s.flag = true → ∃ r ∈ a :: b :: t, s ∈ r.slots :=
  pqReduce_share Rep.xor2 (fun _ _ => rfl) (fun _ _ s hs hf => flagged_xorSlots s _ _ hs hf) _ (by simp)

/-! ### the hypotheses are satisfiable: three well-formed operands of three kinds (array, run, array + flagged run), two of them of
equal size (a tie in the queue order) -/

def exHeap : List Rep :=
  [{ cow := false, slots := [{ key := 0, c := .arr [1, 5, 9], flag := false }] },
   { cow := true, slots := [{ key := 0, c := .run [(3, 10)], flag := true }, { key := 2, c := .arr [7], flag := false }] },
   { cow := false, slots := [{ key := 0, c := .arr [2, 5, 8], flag := false }, { key := 7, c := .run [(0, 65535)], flag := true }] }]

theorem exHeap_wf : ∀ r ∈ exHeap, r.wf = true := by decide

example : (Rep.heapOr exHeap).wf = true ∧ (Rep.heapOr exHeap).toBSet = BSet.unionL (exHeap.map Rep.toBSet) :=
  ⟨Rep.wf_heapOr exHeap exHeap_wf, Rep.toBSet_heapOr exHeap exHeap_wf⟩
example : (Rep.heapXor exHeap).wf = true ∧ (Rep.heapXor exHeap).toBSet = BSet.xorL (exHeap.map Rep.toBSet) :=
  ⟨Rep.wf_heapXor exHeap exHeap_wf, Rep.toBSet_heapXor exHeap exHeap_wf⟩
example : (exHeap.map Rep.sizeInBytes) = [16, 20, 24] := by decide

/-! ### `ToArray` / `ToExistingArray` -/

namespace RepBulk
open ContQuery It

theorem fillArr_eq (xs : List Nat) (key : Nat) (h : ∀ v ∈ xs, v < 65536) :
    fillArr xs (key <<< 16) = xs.map (key * 65536 + ·) := by
  unfold fillArr
  apply List.map_congr_left
  intro v hv
  exact or_mask v key (h v hv)

theorem fillRun_eq (rs : List (Nat × Nat)) (key : Nat) (h : ∀ p ∈ rs, p.1 + p.2 ≤ 65535) :
    fillRun rs (key <<< 16) = (expandRuns rs).map (key * 65536 + ·) := by
  rw [fillRun, expandRuns, List.map_flatMap, List.flatMap_def, List.flatMap_def]
  refine congrArg List.flatten (List.map_congr_left fun p hp => ?_)
  have hb := h p hp
  obtain ⟨s0, l0⟩ := p
  simp only at hb ⊢
  rw [List.range'_eq_map_range, List.map_map]
  exact List.map_congr_left fun j hj => or_mask (s0 + j) key (by have := List.mem_range.mp hj; omega)

theorem wordLoop_eq (base : Nat) : ∀ (fuel : Nat) (w : BitVec 64), popcount w ≤ fuel → wordLoop base fuel w = wordVals base w
  | 0, w, h => (List.eq_nil_of_length_eq_zero (by rw [length_wordVals]; omega)).symm
  | f + 1, w, h => by
    rw [wordLoop]
    by_cases hz : w = 0#64
    · rw [if_pos hz, hz]; rfl
    · have hs := wordVals_step base w hz
      rw [if_neg hz, hs, clearLowest_eq]
      congr 1
      apply wordLoop_eq base f
      have := congrArg List.length hs
      rw [List.length_cons, length_wordVals, length_wordVals] at this
      omega

/-- the two loops over the words are `fillArray`'s -/
theorem fillBmp_eq : ∀ (ws : List (BitVec 64)) (base : Nat), fillBmp ws base = valsOfWordsFrom base ws
  | [], _ => rfl
  | w :: t, b => by rw [fillBmp, valsOfWordsFrom, wordLoop_eq _ 64 w (popcount_le64 w), fillBmp_eq t]

end RepBulk

open It in
/-- one container: `fillLeastSignificant16bits` writes the members of the container, in increasing order, under the key -/
theorem Cont.fill_spec (c : Cont) (hc : c.wf = true) (key : Nat) :
    c.fill (key <<< 16) = (valsOfCont c).map (key * 65536 + ·) := by
  cases c with
  | arr xs =>
    simp only [Cont.wf, Bool.and_eq_true, List.all_eq_true, decide_eq_true_eq] at hc
    exact fillArr_eq xs key hc.2
  | bmp k ws =>
    simp only [Cont.fill, valsOfCont, valsOfWords]
    have := valsOfWordsFrom_add (key <<< 16) ws 0
    rw [Nat.add_zero] at this
    rw [fillBmp_eq, this, Nat.shiftLeft_eq]
  | run rs => exact fillRun_eq rs key (wf_run hc).bound

open It in
/-- **`ToArray` enumerates the denoted set**: every member once, in increasing order -/
theorem Rep.toArray_spec (r : Rep) (hr : r.wf = true) : r.toArray = BSet.toList r.toBSet := by
  rw [← valsOfRep_eq_toList r hr, Rep.toArray, valsOfRep, List.flatMap_def, List.flatMap_def]
  exact congrArg List.flatten
    (List.map_congr_left fun s hs => Cont.fill_spec s.c (((slotsWf_iff r).mp hr).ok s hs).2 s.key)

theorem Rep.toArray_length (r : Rep) (hr : r.wf = true) : r.toArray.length = BSet.card r.toBSet := by
  rw [Rep.toArray_spec r hr, BSet.toList_length]

/-- **`ToExistingArray`**: a slice of at least `GetCardinality()` elements receives the members in increasing order in front and
keeps its tail; a shorter slice makes the call panic -/
theorem Rep.toExistingArray_spec (r : Rep) (hr : r.wf = true) (old : List Nat) :
    r.toExistingArray old =
      if BSet.card r.toBSet ≤ old.length then some (BSet.toList r.toBSet ++ old.drop (BSet.card r.toBSet)) else none := by
  unfold Rep.toExistingArray
  simp only [Rep.toArray_spec r hr, BSet.toList_length]

/-! ### `Stats` -/

namespace RepBulk

theorem statsStep_spec (st : Stats) (c : Cont) :
    let r := statsStep st c
    r.cardinality = st.cardinality + c.getCardinalityQ ∧
    r.containers = st.containers ∧
    r.arrayContainerValues + r.bitmapContainerValues + r.runContainerValues =
      st.arrayContainerValues + st.bitmapContainerValues + st.runContainerValues + c.getCardinalityQ ∧
    r.arrayContainers + r.bitmapContainers + r.runContainers =
      st.arrayContainers + st.bitmapContainers + st.runContainers + 1 ∧
    r.arrayContainerBytes + r.bitmapContainerBytes + r.runContainerBytes =
      st.arrayContainerBytes + st.bitmapContainerBytes + st.runContainerBytes + c.sizeInBytes := by
  cases c <;> simp only [statsStep, true_and] <;> omega

/-- the loop of `Stats`; every slot also adds the 2 header bytes `GetSizeInBytes()` counts for it -/
theorem foldl_statsStep : ∀ (l : List Slot) (st : Stats),
    let r := (l.map (·.c)).foldl statsStep st
    r.cardinality = st.cardinality + RepQuery.cardSum l ∧
    r.containers = st.containers ∧
    r.arrayContainerValues + r.bitmapContainerValues + r.runContainerValues =
      st.arrayContainerValues + st.bitmapContainerValues + st.runContainerValues + RepQuery.cardSum l ∧
    r.arrayContainers + r.bitmapContainers + r.runContainers =
      st.arrayContainers + st.bitmapContainers + st.runContainers + l.length ∧
    r.arrayContainerBytes + r.bitmapContainerBytes + r.runContainerBytes + 2 * l.length =
      st.arrayContainerBytes + st.bitmapContainerBytes + st.runContainerBytes + (l.map fun s => 2 + s.c.sizeInBytes).sum
  | [], st => ⟨(Int.add_zero _).symm, rfl, (Int.add_zero _).symm, rfl, rfl⟩
  | s :: t, st => by
    obtain ⟨h1, h2, h3, h4, h5⟩ := foldl_statsStep t (statsStep st s.c)
    obtain ⟨s1, s2, s3, s4, s5⟩ := statsStep_spec st s.c
    simp only [List.map_cons, List.foldl_cons, RepQuery.cardSum, List.length_cons, List.sum_cons]
    exact ⟨by rw [h1, s1, Int.add_assoc], by rw [h2, s2], by rw [h3, s3, Int.add_assoc],
      by rw [h4, s4, Nat.add_assoc, Nat.add_comm 1], by omega⟩

end RepBulk

/-- **`Stats`**: `Cardinality` is the number of members, the three per-kind value counts add up to it, the three container counts
add up to `Containers` = the number of chunks, and the byte counts add up to `GetSizeInBytes()` minus the `8 + 2·Containers` header -/
theorem Rep.stats_spec (r : Rep) (hr : r.wf = true) :
    r.stats.cardinality = (BSet.card r.toBSet : Int) ∧
    r.stats.arrayContainerValues + r.stats.bitmapContainerValues + r.stats.runContainerValues = r.stats.cardinality ∧
    r.stats.containers = r.slots.length ∧
    r.stats.arrayContainers + r.stats.bitmapContainers + r.stats.runContainers = r.stats.containers ∧
    r.stats.arrayContainerBytes + r.stats.bitmapContainerBytes + r.stats.runContainerBytes + 8 + 2 * r.stats.containers =
      r.sizeInBytes := by
  have := foldl_statsStep r.slots { containers := r.slots.length }
  simp only at this
  obtain ⟨h1, h2, h3, h4, h5⟩ := this
  have hc : RepQuery.cardSum r.slots = (BSet.card r.toBSet : Int) := Rep.card_spec r hr
  unfold Rep.stats Rep.sizeInBytes
  refine ⟨by rw [h1, hc]; simp, by rw [h3, h1]; simp, h2, by rw [h4, h2]; simp, by rw [h2]; omega⟩

/-! ### the hypotheses are satisfiable: an array chunk with word-edge values, a run chunk ending at 65535 under the top key -/

def exArr : Rep :=
  { cow := true, slots := [{ key := 1, c := .arr [0, 63, 64, 65535], flag := true }, { key := 65535, c := .run [(7, 3), (65530, 5)], flag := false }] }

theorem exArr_wf : exArr.wf = true := by decide

example : exArr.toArray = BSet.toList exArr.toBSet := Rep.toArray_spec exArr exArr_wf
example : exArr.toArray = [65536, 65599, 65600, 131071, 4294901767, 4294901768, 4294901769, 4294901770,
    4294967290, 4294967291, 4294967292, 4294967293, 4294967294, 4294967295] := by decide +kernel
def exArrStats : Stats :=
  { cardinality := 14, containers := 2
    arrayContainers := 1, arrayContainerBytes := 8, arrayContainerValues := 4
    runContainers := 1, runContainerBytes := 10, runContainerValues := 10 }
example : exArr.stats = exArrStats := by decide +kernel
/-- the word scan on a (short, not well-formed) bitmap container: bits 0, 63 of word 0 and bit 1 of word 2 -/
example : (Cont.bmp 3 [0x8000000000000001#64, 0#64, 2#64]).fill (3 <<< 16) = [196608, 196671, 196737] := by decide +kernel

end RModel.Impl
