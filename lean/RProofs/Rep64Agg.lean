import RProofs.Rep64InPlace
import RProofs.RepMut
import RProofs.ParData
import RModel.Impl.Rep64Agg
/-!
# `roaring64.FastOr` / `FastAnd` at representation level

The exact 32-bit models of `Impl/RepMut.lean` (`Rep.flip`, `Rep.addRange`, `Rep.removeRange`, `Rep.iand`, `Rep.ior`, `Rep.iandNot`)
meet the hypotheses `Ops32.Sound` / `Ops32.SoundBin` under which the bucket walks of `Rep64Range.lean` / `Rep64InPlace.lean` are
proved, so every parametric `Rep64` theorem can be instantiated with a 32-bit layer that is the exact model of the Go code.  The
aggregates compute the union / intersection (`BSet.unionL` / `BSet.interL`) of the inputs' sets and return well-formed bitmaps, for
every sound 32-bit layer and so for the exact one.
-/
open RModel.Util
namespace RModel.Impl
open RModel RModel.BSet RModel.Driver ContOps RepOps R64Ops

theorem Ops32.exact_sound : Ops32.exact.Sound where
  mem_flip r s e y hr _ he := by
    show mem (r.flip s e).toBSet y = _
    rw [Rep.mem_flip r hr s e he]
  wf_flip r s e hr _ he := Rep.wf_flip r hr s e he
  mem_addRange r s e y hr _ he := by
    show mem (r.addRange s e).toBSet y = _
    rw [Rep.mem_addRange r hr s e he]
  wf_addRange r s e hr _ he := Rep.wf_addRange r hr s e he
  mem_removeRange r s e y hr _ he := by
    show mem (r.removeRange s e).toBSet y = _
    rw [Rep.mem_removeRange r hr s e, Nat.min_eq_left he]
  wf_removeRange r s e hr _ _ := Rep.wf_removeRange r hr s e

theorem Ops32.exact_soundBin : Ops32.exact.SoundBin where
  mem_iand a b y ha hb := Rep.mem_iand a b ha hb y
  wf_iand a b ha hb := Rep.wf_iand a b ha hb
  mem_ior a b y ha hb := Rep.mem_ior a b ha hb y
  wf_ior a b ha hb := Rep.wf_ior a b ha hb
  mem_iandNot a b y ha hb := Rep.mem_iandNot a b ha hb y
  wf_iandNot a b ha hb := Rep.wf_iandNot a b ha hb

/-! ### `FastOr`, `FastAnd`: a static operation on the first two bitmaps, then the in-place one with every further bitmap -/

theorem foldl_op64 {f : Rep64 → Rep64 → Rep64} {g : BSet → BSet → BSet}
    (hwf : ∀ a b : Rep64, a.wf = true → b.wf = true → (f a b).wf = true)
    (hset : ∀ a b : Rep64, a.wf = true → b.wf = true → (f a b).toBSet = g a.toBSet b.toBSet)
    (t : List Rep64) (acc : Rep64) (hacc : acc.wf = true) (ht : ∀ r ∈ t, r.wf = true) :
    (t.foldl f acc).wf = true ∧ (t.foldl f acc).toBSet = (t.map Rep64.toBSet).foldl g acc.toBSet :=
  foldl_inv (I := (·.wf = true)) (fun a b ha hb => ⟨hwf a b ha hb, hset a b ha hb⟩) t acc hacc ht

theorem fastOr64_spec {o : Ops32} (ho : o.SoundBin) (l : List Rep64) (hl : ∀ r ∈ l, r.wf = true) :
    (Rep64.fastOr o l).wf = true ∧ (Rep64.fastOr o l).toBSet = BSet.unionL (l.map Rep64.toBSet) := by
  match l, hl with
  | [], _ => exact ⟨rfl, rfl⟩
  | [a], hl =>
    have ha := hl a (by simp)
    exact ⟨Rep64.wf_clone a ha, by
      simp only [Rep64.fastOr, Rep64.toBSet_clone a ha, BSet.unionL, List.map_cons, List.map_nil, List.foldl_cons,
        List.foldl_nil, union_nil_left _ (sinc_rep64 a)]⟩
  | a :: b :: t, hl =>
    have ⟨ha, hl'⟩ := List.forall_mem_cons.mp hl
    have ⟨hb, ht⟩ := List.forall_mem_cons.mp hl'
    have := foldl_op64 (Rep64.wf_ior ho) (Rep64.toBSet_ior ho) t _ (Rep64.wf_or2 a b ha hb) ht
    simp only [Rep64.fastOr, BSet.unionL, List.map_cons, List.foldl_cons]
    rw [this.2, Rep64.toBSet_or2 a b ha hb, union_nil_left _ (sinc_rep64 a)]
    exact ⟨this.1, rfl⟩

/-- **`FastOr` computes the union** of the inputs' sets, for every sound 32-bit layer -/
theorem Rep64.toBSet_fastOr {o : Ops32} (ho : o.SoundBin) (l : List Rep64) (hl : ∀ r ∈ l, r.wf = true) :
    (Rep64.fastOr o l).toBSet = BSet.unionL (l.map Rep64.toBSet) :=
  (fastOr64_spec ho l hl).2

/-- **`FastOr` returns a well-formed bitmap** -/
theorem Rep64.wf_fastOr {o : Ops32} (ho : o.SoundBin) (l : List Rep64) (hl : ∀ r ∈ l, r.wf = true) :
    (Rep64.fastOr o l).wf = true :=
  (fastOr64_spec ho l hl).1

theorem fastAnd64_spec {o : Ops32} (ho : o.SoundBin) (l : List Rep64) (hl : ∀ r ∈ l, r.wf = true) :
    (Rep64.fastAnd o l).wf = true ∧ (Rep64.fastAnd o l).toBSet = BSet.interL (l.map Rep64.toBSet) := by
  match l, hl with
  | [], _ => exact ⟨rfl, rfl⟩
  | [a], hl =>
    have ha := hl a (by simp)
    exact ⟨Rep64.wf_clone a ha, by
      simp only [Rep64.fastAnd, Rep64.toBSet_clone a ha, BSet.interL, List.map_cons, List.map_nil, List.foldl_nil]⟩
  | a :: b :: t, hl =>
    have ⟨ha, hl'⟩ := List.forall_mem_cons.mp hl
    have ⟨hb, ht⟩ := List.forall_mem_cons.mp hl'
    have := foldl_op64 (Rep64.wf_iand ho) (Rep64.toBSet_iand ho) t _ (Rep64.wf_and2 a b ha hb) ht
    simp only [Rep64.fastAnd, BSet.interL, List.map_cons, List.foldl_cons]
    rw [this.2, Rep64.toBSet_and2 a b ha hb]
    exact ⟨this.1, rfl⟩

/-- **`FastAnd` computes the intersection** (`BSet.interL`: the empty list gives the empty bitmap, which is what `FastAnd()` returns) -/
theorem Rep64.toBSet_fastAnd {o : Ops32} (ho : o.SoundBin) (l : List Rep64) (hl : ∀ r ∈ l, r.wf = true) :
    (Rep64.fastAnd o l).toBSet = BSet.interL (l.map Rep64.toBSet) :=
  (fastAnd64_spec ho l hl).2

/-- **`FastAnd` returns a well-formed bitmap** -/
theorem Rep64.wf_fastAnd {o : Ops32} (ho : o.SoundBin) (l : List Rep64) (hl : ∀ r ∈ l, r.wf = true) :
    (Rep64.fastAnd o l).wf = true :=
  (fastAnd64_spec ho l hl).1

/-! ### the closed instances: the 32-bit layer is the exact model of the Go code -/

theorem Rep64.fastOr_exact (l : List Rep64) (hl : ∀ r ∈ l, r.wf = true) :
    (Rep64.fastOr Ops32.exact l).toBSet = BSet.unionL (l.map Rep64.toBSet) ∧ (Rep64.fastOr Ops32.exact l).wf = true :=
  ⟨Rep64.toBSet_fastOr Ops32.exact_soundBin l hl, Rep64.wf_fastOr Ops32.exact_soundBin l hl⟩

theorem Rep64.fastAnd_exact (l : List Rep64) (hl : ∀ r ∈ l, r.wf = true) :
    (Rep64.fastAnd Ops32.exact l).toBSet = BSet.interL (l.map Rep64.toBSet) ∧ (Rep64.fastAnd Ops32.exact l).wf = true :=
  ⟨Rep64.toBSet_fastAnd Ops32.exact_soundBin l hl, Rep64.wf_fastAnd Ops32.exact_soundBin l hl⟩

/-! ### the hypotheses are satisfiable (`exA`, `exB`, `exC` of `Rep64.lean`) -/

example : (Rep64.fastOr Ops32.exact [exA, exB, exC]).toBSet = BSet.unionL ([exA, exB, exC].map Rep64.toBSet) ∧
    (Rep64.fastOr Ops32.exact [exA, exB, exC]).wf = true :=
  Rep64.fastOr_exact _ (by decide)
example : (Rep64.fastAnd Ops32.exact [exA, exB, exC]).toBSet = BSet.interL ([exA, exB, exC].map Rep64.toBSet) ∧
    (Rep64.fastAnd Ops32.exact [exA, exB, exC]).wf = true :=
  Rep64.fastAnd_exact _ (by decide)
example : (Rep64.fastAnd Ops32.exact [exA, exB, exC]).toBSet = [5, 6, 17179869183, 17179869184] := by
  rw [(Rep64.fastAnd_exact [exA, exB, exC] (by decide)).1]
  decide +kernel

end RModel.Impl
