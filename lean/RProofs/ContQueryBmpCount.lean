import RProofs.ContQueryGlue
/-!
The bitmap-container COUNTING kernels of `RModel/Impl/ContQuery.lean` (`bmpRank`, `bmpCardInRange`,
`selectBitPosition`, `bmpSelectFrom`) compute the counting characterisations `IsRank`, `IsCardInRange`, `IsSelect`
for the membership predicate `testBit ws`.
-/
namespace RModel.Impl
open RModel RModel.BSet ContOps ContQuery

/-! ### counting up to a position: whole words, then a part of one (from `wordsCard_eq_cnt_of_le`, `Words.lean`) -/

theorem testBit_word (ws : List (BitVec 64)) (k j : Nat) (hj : j < 64) :
    testBit ws (64 * k + j) = (word ws k).getLsbD j :=
  testBit_mk ws k j hj

theorem wordsCard_take_eq_cnt (ws : List (BitVec 64)) (k : Nat) :
    wordsCard (ws.take k) = cnt (testBit ws) (64 * k) :=
  (wordsCard_eq_cnt_of_le (by rw [List.length_take]; omega)).trans
    (cnt_congr _ fun x hx => by rw [testBit_take, decide_eq_true (by omega), Bool.true_and])

theorem cnt_testBit (ws : List (BitVec 64)) (k j : Nat) (hj : j ≤ 64) :
    cnt (testBit ws) (64 * k + j) = wordsCard (ws.take k) + cnt (word ws k).getLsbD j := by
  rw [cnt_add, wordsCard_take_eq_cnt]
  exact congrArg _ (cnt_congr j fun i hi => testBit_word ws k i (by omega))

theorem wordsCard_take_succ (ws : List (BitVec 64)) (k : Nat) :
    wordsCard (ws.take (k + 1)) = wordsCard (ws.take k) + popcount (word ws k) := by
  rw [wordsCard_take_eq_cnt, Nat.mul_succ, cnt_testBit ws k 64 (Nat.le_refl _), popcount_eq_cnt]

theorem cnt_testBit_div (ws : List (BitVec 64)) (n : Nat) :
    cnt (testBit ws) n = wordsCard (ws.take (n / 64)) + cnt (word ws (n / 64)).getLsbD (n % 64) := by
  have := cnt_testBit ws (n / 64) (n % 64) (by omega)
  rwa [Nat.div_add_mod] at this

/-! ### masked popcounts -/

theorem getLsbD_maskLo (a j : Nat) (hj : j < 64) : (allOnes <<< a).getLsbD j = decide (a ≤ j ∧ j < 64) := by
  unfold allOnes
  simp only [BitVec.getLsbD_shiftLeft, BitVec.getLsbD_allOnes]
  by_cases h1 : j < a <;> simp [h1, hj] <;> omega

theorem getLsbD_maskHi (sh j : Nat) : (allOnes >>> sh).getLsbD j = decide (0 ≤ j ∧ j < 64 - sh) := by
  unfold allOnes
  simp only [BitVec.getLsbD_ushiftRight, BitVec.getLsbD_allOnes]
  by_cases h1 : sh + j < 64 <;> simp [h1] <;> omega

theorem getLsbD_maskBoth (a sh j : Nat) (hj : j < 64) :
    ((allOnes <<< a) &&& (allOnes >>> sh)).getLsbD j = decide (a ≤ j ∧ j < 64 - sh) := by
  rw [BitVec.getLsbD_and, getLsbD_maskLo a j hj, getLsbD_maskHi sh j]
  simp [hj]

theorem endShift_eq (e : Nat) (h0 : 0 < e) (he : e ≤ 65536) : 64 - endShift e = (e - 1) % 64 + 1 := by
  unfold endShift
  omega

/-! ### rank -/

theorem bmpRank_spec (ws : List (BitVec 64)) (x : Nat) : IsRank (testBit ws) x (bmpRank ws x) := by
  unfold IsRank bmpRank
  rw [cnt_testBit_div]
  dsimp only
  split
  · next h => rw [h, cnt_zero]; simp
  · rw [popcount_shl _ _ (by omega)]; simp

/-! ### cardinality in a range -/

theorem bmpCardInRange_spec (ws : List (BitVec 64)) (lo hi : Nat) (hlo : lo ≤ 65536)
    (hhi : hi ≤ 65536) : IsCardInRange (testBit ws) lo hi (bmpCardInRange ws lo hi) := by
  unfold IsCardInRange bmpCardInRange
  split
  · next h =>
    have := cnt_mono (testBit ws) (show hi ≤ lo from h)
    omega
  · next h =>
    have hes := endShift_eq hi (by omega) hhi
    have hbhi := cnt_testBit ws ((hi - 1) / 64) ((hi - 1) % 64 + 1) (by omega)
    rw [← Nat.add_assoc, Nat.div_add_mod, Nat.sub_add_cancel (by omega)] at hbhi
    rw [cnt_testBit_div ws lo, hbhi]
    dsimp only
    split
    · next hw =>
      rw [popcount_and_mask _ _ (lo % 64) ((hi - 1) % 64 + 1) (by omega) (by omega)
        (fun j hj => by rw [getLsbD_maskBoth _ _ _ hj, hes])]
      rw [hw]
      omega
    · next hw =>
      rw [popcount_and_mask _ _ (lo % 64) 64 (by omega) (by omega) (fun j hj => getLsbD_maskLo _ _ hj)]
      rw [popcount_and_mask _ _ 0 ((hi - 1) % 64 + 1) (by omega) (by omega)
        (fun j hj => by rw [getLsbD_maskHi, hes])]
      have h1 := wordsCard_take_drop ws (lo / 64 + 1) ((hi - 1) / 64) (by omega)
      have h2 := wordsCard_take_succ ws (lo / 64)
      rw [popcount_eq_cnt] at h2
      have h3 := cnt_mono (word ws (lo / 64)).getLsbD (show lo % 64 ≤ 64 by omega)
      rw [cnt_zero]
      omega

/-! ### select inside one word -/

/-- one halving step of `selectBitPosition` on the state `(word, seen, j)` -/
def halve (h : Nat) (m : BitVec 64) (st : BitVec 64 × Nat × Nat) : BitVec 64 × Nat × Nat :=
  if popcount (st.1 &&& m) ≤ st.2.2 then (st.1 >>> h, st.2.1 + h, st.2.2 - popcount (st.1 &&& m))
  else (st.1 &&& m, st.2.1, st.2.2)

theorem selectBitPosition_eq (w : BitVec 64) (j : Nat) :
    selectBitPosition w j =
      (halve 8 0xFF#64 (halve 16 0xFFFF#64 (halve 32 0xFFFFFFFF#64 (w, 0, j)))).2.1 +
        selectBitPosition.byteLoop (halve 8 0xFF#64 (halve 16 0xFFFF#64 (halve 32 0xFFFFFFFF#64 (w, 0, j)))).1 8 0
          (halve 8 0xFF#64 (halve 16 0xFFFF#64 (halve 32 0xFFFFFFFF#64 (w, 0, j)))).2.2 := by
  unfold selectBitPosition halve
  dsimp only

/-- invariant of the halving steps, relative to the original word `w` and index `j`: the low `B` bits of the current
word are the bits `seen, seen+1, …` of `w`; `j` minus the number of set bits of `w` below `seen` is the current index,
which is smaller than the number of set bits among those low `B` bits -/
def SelInv (w : BitVec 64) (j B : Nat) (st : BitVec 64 × Nat × Nat) : Prop :=
  st.2.1 + B ≤ 64 ∧ (∀ i, i < B → st.1.getLsbD i = w.getLsbD (st.2.1 + i)) ∧
    cnt w.getLsbD st.2.1 + st.2.2 = j ∧ st.2.2 < cnt st.1.getLsbD B

theorem selInv_halve (w : BitVec 64) (j h : Nat) (m : BitVec 64) (st : BitVec 64 × Nat × Nat) (hh : 2 * h ≤ 64)
    (hm : m = allOnes >>> (64 - h)) (hinv : SelInv w j (2 * h) st) :
    SelInv w j h (halve h m st) := by
  replace hm : ∀ i, m.getLsbD i = decide (i < h) := fun i => by
    rw [hm, getLsbD_maskHi, Nat.sub_sub_self (by omega)]
    simp
  obtain ⟨h1, h2, h3, h4⟩ := hinv
  have hn : popcount (st.1 &&& m) = cnt st.1.getLsbD h := by
    rw [popcount_and_mask _ _ 0 h (Nat.zero_le _) (by omega) (fun i _ => by rw [hm i]; simp), cnt_zero]
    omega
  have hsplit : cnt st.1.getLsbD (2 * h) = cnt st.1.getLsbD h + cnt (fun i => st.1.getLsbD (h + i)) h := by
    rw [show 2 * h = h + h by omega, cnt_add]
  unfold halve
  split
  · next hle =>
    refine ⟨by dsimp only; omega, ?_, ?_, ?_⟩
    · intro i hi
      dsimp only
      rw [BitVec.getLsbD_ushiftRight, h2 (h + i) (by omega)]
      congr 1; omega
    · dsimp only
      have : cnt (fun i => w.getLsbD (st.2.1 + i)) h = cnt st.1.getLsbD h :=
        cnt_congr h (fun x hx => (h2 x (by omega)).symm)
      rw [cnt_add, this]
      omega
    · dsimp only
      have : cnt (st.1 >>> h).getLsbD h = cnt (fun i => st.1.getLsbD (h + i)) h :=
        cnt_congr h (fun x hx => by rw [BitVec.getLsbD_ushiftRight])
      omega
  · next hgt =>
    refine ⟨by dsimp only; omega, ?_, h3, ?_⟩
    · intro i hi
      dsimp only
      rw [BitVec.getLsbD_and, hm i, h2 i (by omega)]
      simp [hi]
    · dsimp only
      have : cnt (st.1 &&& m).getLsbD h = cnt st.1.getLsbD h :=
        cnt_congr h (fun x hx => by rw [BitVec.getLsbD_and, hm x]; simp [hx])
      omega

/-- the final linear scan, stated with the global index `J` (number of set bits of `w` below the answer) -/
theorem byteLoop_spec (w : BitVec 64) (J : Nat) : ∀ (fuel counter j : Nat), J = cnt w.getLsbD counter + j →
    J < cnt w.getLsbD (counter + fuel) →
    selectBitPosition.byteLoop w fuel counter j < counter + fuel ∧
      w.getLsbD (selectBitPosition.byteLoop w fuel counter j) = true ∧
      cnt w.getLsbD (selectBitPosition.byteLoop w fuel counter j) = J := by
  intro fuel
  induction fuel with
  | zero => intro counter j h1 h2; simp only [Nat.add_zero] at h2; omega
  | succ fuel ih =>
    intro counter j h1 h2
    simp only [selectBitPosition.byteLoop, toNat_bit]
    have hs := cnt_succ w.getLsbD counter
    rw [show counter + (fuel + 1) = counter + 1 + fuel by omega] at h2
    by_cases hb : w.getLsbD counter = true
    · simp only [hb, if_true] at hs ⊢
      split
      · next hj => exact ⟨by omega, hb, by omega⟩
      · next hj =>
        have := ih (counter + 1) (j - 1) (by omega) h2
        exact ⟨by omega, this.2.1, this.2.2⟩
    · simp only [hb] at hs ⊢
      simp only [Bool.false_eq_true, if_false, Nat.not_lt_zero, Nat.sub_zero] at hs ⊢
      have := ih (counter + 1) j (by omega) h2
      exact ⟨by omega, this.2.1, this.2.2⟩

theorem selectBitPosition_spec (w : BitVec 64) (j : Nat) (hj : j < popcount w) :
    selectBitPosition w j < 64 ∧ w.getLsbD (selectBitPosition w j) = true ∧
      ((List.range (selectBitPosition w j)).filter w.getLsbD).length = j := by
  have inv0 : SelInv w j (2 * 32) (w, 0, j) :=
    ⟨by simp, fun i _ => by simp, by simp [cnt_zero], hj⟩
  have inv1 := selInv_halve w j 32 0xFFFFFFFF#64 _ (by omega) (by decide) inv0
  have inv2 := selInv_halve w j 16 0xFFFF#64 _ (by omega) (by decide) inv1
  have inv3 := selInv_halve w j 8 0xFF#64 _ (by omega) (by decide) inv2
  rw [selectBitPosition_eq]
  generalize halve 8 0xFF#64 (halve 16 0xFFFF#64 (halve 32 0xFFFFFFFF#64 (w, 0, j))) = st at inv3 ⊢
  obtain ⟨h1, h2, h3, h4⟩ := inv3
  obtain ⟨r1, r2, r3⟩ := byteLoop_spec st.1 st.2.2 8 0 st.2.2 (by simp [cnt_zero]) (by simpa using h4)
  generalize selectBitPosition.byteLoop st.1 8 0 st.2.2 = r at r1 r2 r3
  refine ⟨by omega, by rw [← h2 r (by omega)]; exact r2, ?_⟩
  show cnt w.getLsbD (st.2.1 + r) = j
  have : cnt (fun i => w.getLsbD (st.2.1 + i)) r = cnt st.1.getLsbD r :=
    cnt_congr r (fun x hx => (h2 x (by omega)).symm)
  rw [cnt_add, this]
  omega

/-! ### select over the words -/

theorem bmpSelectFrom_spec (ws : List (BitVec 64)) : ∀ (t : List (BitVec 64)) (k rem : Nat), ws.drop k = t →
    rem < wordsCard t →
    ∃ v : Nat, bmpSelectFrom k t rem = (v : Int) ∧ testBit ws v = true ∧
      cnt (testBit ws) v = wordsCard (ws.take k) + rem := by
  intro t
  induction t with
  | nil => intro k rem _ h; rw [wordsCard_nil] at h; omega
  | cons w t ih =>
    intro k rem hd hrem
    obtain ⟨-, hw, ht⟩ := word_of_drop hd
    rw [wordsCard_cons] at hrem
    simp only [bmpSelectFrom]
    split
    · next hc =>
      obtain ⟨s1, s2, s3⟩ := selectBitPosition_spec w rem hc
      refine ⟨k * 64 + selectBitPosition w rem, rfl, ?_, ?_⟩
      · rw [Nat.mul_comm k 64, testBit_word ws k _ s1, hw]; exact s2
      · rw [Nat.mul_comm k 64, cnt_testBit ws k _ (by omega), hw]
        have s3' : cnt w.getLsbD (selectBitPosition w rem) = rem := s3
        rw [s3']
    · next hc =>
      obtain ⟨v, v1, v2, v3⟩ := ih (k + 1) (rem - popcount w) ht (by omega)
      refine ⟨v, v1, v2, ?_⟩
      rw [v3, wordsCard_take_succ, hw]
      omega

theorem bmpSelect_spec (ws : List (BitVec 64)) (i : Nat) (hi : i < wordsCard ws) :
    IsSelect (testBit ws) i (bmpSelectFrom 0 ws i) := by
  obtain ⟨v, v1, v2, v3⟩ := bmpSelectFrom_spec ws ws 0 i rfl hi
  exact ⟨v, v1, v2, by rw [v3, List.take_zero, wordsCard_nil, Nat.zero_add]⟩

end RModel.Impl
