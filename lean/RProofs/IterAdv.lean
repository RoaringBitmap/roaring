import RProofs.Iter
/-!
Iteration protocols: `intIterator.AdvanceIfNeeded` at the bitmap level.

On a state with remaining values `rem`, `AdvanceIfNeeded(m)` (`m < 2^32`) leaves a valid state whose remaining values are
`rem.dropWhile (· < m)`: the key loop skips whole containers below the chunk of `m`, then the container iterator advances
by the low 16 bits if it stands in that chunk.  In cursor form (`rem` = the members `≥ c` of the set) this is `c ↦ max c m`,
and `HasNext`/`PeekNext` of such a state answer `BSet.nextValue`, which is what the driver compares Go against.
-/
open RModel.Util
namespace RModel.Impl.It
open RModel RModel.Impl RModel.Impl.ContOps RModel.Impl.ContQuery

/-! ### `dropWhile` on the current item followed by the later ones -/

/-- `AdvanceIfNeeded(hs + lo)` on "rest of the current item, then the later items": the current item's part advances to
`lo`, the later items lie above -/
theorem dropWhile_cur_append {hs lo : Nat} {later : List Nat} (hl : ∀ x ∈ later, hs + lo ≤ x) (cur : List Nat) :
    (cur.map (hs + ·) ++ later).dropWhile (fun x => decide (x < hs + lo)) =
      (cur.dropWhile (fun x => decide (x < lo))).map (hs + ·) ++ later := by
  rw [dropWhile_append_of_neg (fun x hx => decide_eq_false (Nat.not_lt.mpr (hl x hx))), List.dropWhile_map]
  congr 3
  funext x
  simp only [Function.comp, decide_eq_decide]
  omega

/-! ### values of later slots are above the current chunk -/

theorem later_slots_ge {slots : List Slot} (hw : SlotsWf slots) {i : Nat} (hi : i < slots.length) {x : Nat}
    (hx : x ∈ (slots.drop (i + 1)).flatMap slotVals) : ((slotAt slots i).key + 1) * 65536 ≤ x := by
  have := later_key_lt hw.sorted (slotVals_key hw) hi hx
  rw [slotAt_eq hi]
  omega

namespace IntIt

theorem cur_range {ii : IntIt} (hi : ii.Inv) (hl : ii.pos < ii.slots.length) {x : Nat}
    (hx : x ∈ ii.iter.rem.map (ii.hs + ·)) : ii.hs ≤ x ∧ x < ii.hs + 65536 := by
  obtain ⟨v, hv, rfl⟩ := List.mem_map.mp hx
  have := CIt.rem_lt (hi.2 hl).2.1 hv
  omega

theorem rem_ge {ii : IntIt} (hi : ii.Inv) {x : Nat} (hx : x ∈ ii.rem) : ii.pos < ii.slots.length ∧ ii.hs ≤ x := by
  have hl : ii.pos < ii.slots.length := by
    apply Classical.byContradiction; intro hc
    simp only [rem, hc, if_false] at hx; cases hx
  refine ⟨hl, ?_⟩
  simp only [rem, hl, if_true, List.mem_append] at hx
  rcases hx with h | h
  · exact (cur_range hi hl h).1
  · have := later_slots_ge hi.1 hl h
    have e := (hi.2 hl).1
    omega

theorem rem_lt32 {ii : IntIt} (hi : ii.Inv) {x : Nat} (hx : x ∈ ii.rem) : x < 4294967296 := by
  have hl : ii.pos < ii.slots.length := (rem_ge hi hx).1
  simp only [rem, hl, if_true, List.mem_append] at hx
  have hk := (hi.1.ok _ (slotAt_mem hl)).1
  rcases hx with h | h
  · have := cur_range hi hl h
    have e := (hi.2 hl).1
    omega
  · obtain ⟨s, hs, hxs⟩ := List.mem_flatMap.mp h
    have hs' := List.mem_of_mem_drop hs
    have := ((mem_slotVals (hi.1.ok s hs').2 x).mp hxs).1
    have := (hi.1.ok s hs').1
    omega

theorem skipTo_spec (to : Nat) (hto : to % 65536 = 0) : ∀ (ii : IntIt), ii.Inv →
    (ii.skipTo to).Inv ∧ (ii.skipTo to).rem = ii.rem.dropWhile (fun x => decide (x < to)) ∧
      ((ii.skipTo to).pos < (ii.skipTo to).slots.length → to ≤ (ii.skipTo to).hs) := by
  intro ii
  fun_induction skipTo ii to with
  | case1 ii hc ih =>
    intro hi
    obtain ⟨hl, hlt⟩ := hc
    obtain ⟨i1, i2, i3, i4⟩ := init_spec { ii with pos := ii.pos + 1 } hi.1
    obtain ⟨r1, r2, r3⟩ := ih i1
    refine ⟨r1, ?_, r3⟩
    rw [r2, i2]
    simp only [rem, hl, if_true]
    rw [List.dropWhile_append_of_pos]
    intro a ha
    have := cur_range hi hl ha
    have e := (hi.2 hl).1
    simp only [decide_eq_true_eq]
    omega
  | case2 ii hc =>
    intro hi
    refine ⟨hi, ?_, ?_⟩
    · symm
      apply dropWhile_eq_self_of_all_neg
      intro x hx
      obtain ⟨hl, hge⟩ := rem_ge hi hx
      simp only [decide_eq_false_iff_not]
      have : ¬ ii.hs < to := fun h => hc ⟨hl, h⟩
      omega
    · intro hl
      have : ¬ ii.hs < to := fun h => hc ⟨hl, h⟩
      omega

/-- C04: `AdvanceIfNeeded(m)`: exactly the remaining members `≥ m` stay, the iterator stands on the least of them -/
theorem advanceIfNeeded_spec {ii : IntIt} (hi : ii.Inv) (m : Nat) (hm : m < 4294967296) :
    (ii.advanceIfNeeded m).Inv ∧ (ii.advanceIfNeeded m).rem = ii.rem.dropWhile (fun x => decide (x < m)) := by
  unfold advanceIfNeeded
  simp only []
  rw [and_hi_mask m hm]
  -- `m = to + lo`, chunk base and low bits
  have hsplit : m = m / 65536 * 65536 + m % 65536 ∧ m % 65536 < 65536 ∧ (m / 65536 * 65536) % 65536 = 0 := by omega
  generalize m / 65536 * 65536 = to at hsplit ⊢
  generalize m % 65536 = lo at hsplit ⊢
  obtain ⟨rfl, hlo, hto⟩ := hsplit
  obtain ⟨s1, s2, s3⟩ := skipTo_spec to hto ii hi
  generalize ii.skipTo to = jj at s1 s2 s3
  rw [← dropWhile_dropWhile_of_imp (p := fun x => decide (x < to))
    (fun x hx => by simp only [decide_eq_true_eq] at hx ⊢; omega) ii.rem, ← s2]
  by_cases hc : (jj.hasNext && jj.hs == to) = true
  · rw [if_pos hc]
    simp only [Bool.and_eq_true, beq_iff_eq, hasNext, decide_eq_true_eq] at hc
    obtain ⟨hl, rfl⟩ := hc
    obtain ⟨a1, a2⟩ := CIt.advanceIfNeeded_spec (s1.2 hl).2.1 lo hlo
    obtain ⟨t1, t2, -⟩ := settle_spec s1 hl a1 _ rfl
    -- the container-level advance acts on the current container's part; the later containers lie above `m`
    refine ⟨t1, t2.trans ?_⟩
    simp only [rem, hl, if_true]
    rw [a2]
    exact (dropWhile_cur_append (fun x hx => by have := later_slots_ge s1.1 hl hx; have := (s1.2 hl).1; omega) _).symm
  · rw [if_neg hc]
    refine ⟨s1, (dropWhile_eq_self_of_all_neg fun x hx => ?_).symm⟩
    obtain ⟨hl, hge⟩ := rem_ge s1 hx
    have h3 := s3 hl
    simp only [Bool.and_eq_true, beq_iff_eq, hasNext, decide_eq_true_eq, not_and] at hc
    have hne := hc hl
    have e := (s1.2 hl).1
    simp only [decide_eq_false_iff_not]
    omega

/-- `advanceIfNeeded_spec` in cursor form: a state that represents "the members `≥ c`" goes to the state that represents
"the members `≥ max c m`" -/
theorem advance_from_cursor {ii : IntIt} (hi : ii.Inv) (r : Rep) (hr : r.wf = true) (c m : Nat) (hm : m < 4294967296)
    (h : ii.rem = remFrom (BSet.toList r.toBSet) c) :
    (ii.advanceIfNeeded m).Inv ∧ (ii.advanceIfNeeded m).rem = remFrom (BSet.toList r.toBSet) (max c m) := by
  obtain ⟨h1, h2⟩ := advanceIfNeeded_spec hi m hm
  refine ⟨h1, ?_⟩
  rw [h2, h]
  exact remFrom_dropWhile (BSet.toList_sorted _ (sinc_rep r) (even_rep r hr)) c m

theorem create_from_cursor (r : Rep) (hr : r.wf = true) : (create r).rem = remFrom (BSet.toList r.toBSet) 0 := by
  rw [(create_spec r hr).2, valsOfRep_eq_toList r hr, remFrom_zero]

end IntIt

/-! ### the set-level cursor of the L1 checker (`BSet.nextValue`) -/

/-- the head of "the members `≥ c`" is `BSet.nextValue s c` — the cursor semantics `Driver/Iter.lean` checks Go against -/
theorem remFrom_toList_head (s : BSet) (hs : BSet.SInc s) (he : BSet.Even s) (c : Nat) :
    (remFrom (BSet.toList s) c).head? = BSet.nextValue s c := by
  have hsorted := BSet.toList_sorted s hs he
  cases hr : remFrom (BSet.toList s) c with
  | nil =>
    symm
    rw [List.head?_nil, BSet.nextValue_none s hs he]
    intro u hu
    cases hm : BSet.mem s u
    · rfl
    · exact absurd hr (remFrom_ne_nil ((BSet.mem_toList s hs he u).mpr hm) hu)
  | cons v t =>
    obtain ⟨h1, h2, h3⟩ := remFrom_head hsorted hr
    symm
    rw [List.head?_cons, BSet.nextValue_some s hs he]
    refine ⟨h2, (BSet.mem_toList s hs he v).mp h1, ?_⟩
    intro u hu huv
    cases hm : BSet.mem s u
    · rfl
    · have := h3 u ((BSet.mem_toList s hs he u).mpr hm) hu
      omega

theorem peek_eq_head? {b : Bool} {pk : Nat} {l : List Nat} (h1 : b = true ↔ l ≠ []) (h2 : ∀ v t, l = v :: t → pk = v) :
    (if b then some pk else none) = l.head? := by
  cases l with
  | nil => rw [if_neg fun hb => h1.mp hb rfl]; rfl
  | cons v t => rw [if_pos (h1.mpr (List.cons_ne_nil v t)), h2 v t rfl]; rfl

/-- `HasNext` / `PeekNext` of a state representing "the members `≥ c`" are the set-level answers -/
theorem IntIt.peek_eq_nextValue {ii : IntIt} (hi : ii.Inv) (r : Rep) (hr : r.wf = true) (c : Nat)
    (h : ii.rem = remFrom (BSet.toList r.toBSet) c) :
    (if ii.hasNext then some ii.peekNext else none) = BSet.nextValue r.toBSet c := by
  rw [← remFrom_toList_head _ (sinc_rep r) (even_rep r hr) c, ← h]
  exact peek_eq_head? (IntIt.hasNext_iff hi) fun _ _ => IntIt.peekNext_spec hi

end RModel.Impl.It
