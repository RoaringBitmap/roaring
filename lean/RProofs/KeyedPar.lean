import RProofs.Keyed
import RProofs.Util.List
/-!
A parallel union over a key-sorted store, for any reading `Keyed` of the elements (32-bit: slots, 64-bit: buckets).

The operands are cut to a key range (`keyCut`), a worker merges the cuts by union walks and finishes the chunk (`unionChunk`,
`chunk_spec`), `lKey` / `hKey` enclose all keys (`keys_between`), and chunks whose ranges ascend and cover `[lKey, hKey]` are
concatenated (`parOr_spec`).  The last step is an instance of the fact about pieces with ordered key regions (`pieces_sorted`,
`pieces_has` of `Keyed.lean`).  Nothing here mentions containers or the model.
-/
open RModel.Util
namespace RModel.Impl
open RModel RModel.BSet

namespace Keyed

section
variable {α : Type} (V : Keyed α)

/-- the part of a key-sorted list that `parNaiveStartAt` and the merge loops of the `…OnRange` functions look at -/
def keyCut (start last : Nat) (l : List α) : List α :=
  (l.dropWhile fun a => V.key a < start).takeWhile fun a => V.key a ≤ last

variable {V}

theorem keyCut_spec (start last : Nat) {I : α → Prop} {Q : Nat → Prop} {l : List α} (h : V.Fine I Q l) :
    V.Fine I (fun k => start ≤ k ∧ k ≤ last) (V.keyCut start last l) ∧
      ∀ q y, V.hasAt (V.keyCut start last l) q y = (V.hasAt l q y && (decide (start ≤ q) && decide (q ≤ last))) := by
  rw [keyCut, dropWhile_takeWhile_eq_filter V.key start last l h.1]
  refine ⟨⟨h.1.sublist List.filter_sublist, fun s hs => ?_⟩, fun q y => ?_⟩
  · exact ⟨(h.2 s (List.mem_filter.1 hs).1).1, by simpa using (List.mem_filter.1 hs).2⟩
  · simp only [Keyed.hasAt, List.any_filter, List.and_any_distrib_right]
    refine any_congr_mem fun s _ => ?_
    by_cases hk : V.key s = q
    · simp [hk, Bool.and_comm]
    · simp [beq_false_of_ne hk]

variable (V)

/-- the work of one `ParOr` worker: `or1` of the first two operands, `or2` with every further one, all cut to the keys
`[start, last]`, then the finishing pass `fin` -/
def unionChunk (or1 or2 : List α → List α → List α) (fin : List α → List α) (start last : Nat) (a b : List α)
    (t : List (List α)) : List α :=
  fin (t.foldl (fun acc c => or2 acc (V.keyCut start last c)) (or1 (V.keyCut start last a) (V.keyCut start last b)))

variable {V}

/-- **One chunk of a `ParOr`**: if `or1`, `or2` are union walks (`Pm` is what is asked of an element between the walks) and `fin`
keeps keys and members, the chunk is fine with keys in `[start, last]` and holds the members the operands hold under those
keys. -/
theorem chunk_spec {P Pm Pr : α → Prop} {L1 R1 R1' L2 R2 R2' : α → List α} {M1 M2 : α → α → List α}
    (W1 : MergeSpec V V V (· || ·) P P Pm L1 R1 R1' M1) (W2 : MergeSpec V V V (· || ·) Pm P Pm L2 R2 R2' M2)
    {or1 or2 : List α → List α → List α} (e1 : ∀ a b, or1 a b = mergeWalk V V L1 R1 R1' M1 a b)
    (e2 : ∀ a b, or2 a b = mergeWalk V V L2 R2 R2' M2 a b) {fin : List α → List α}
    (hfin : ∀ {l : List α} {Q : Nat → Prop}, V.Fine Pm Q l → V.Fine Pr Q (fin l) ∧ ∀ q y, V.hasAt (fin l) q y = V.hasAt l q y)
    (start last : Nat) {a b : List α} {t : List (List α)} {Q : Nat → Prop} (hl : ∀ c ∈ a :: b :: t, V.Fine P Q c) :
    V.Fine Pr (fun k => start ≤ k ∧ k ≤ last) (V.unionChunk or1 or2 fin start last a b t) ∧
      ∀ q y, V.hasAt (V.unionChunk or1 or2 fin start last a b t) q y =
        ((a :: b :: t).any (V.hasAt · q y) && (decide (start ≤ q) && decide (q ≤ last))) := by
  have cut := fun c hc => keyCut_spec start last (hl c hc)
  have h0 := W1.fine (cut a (by simp)).1 (cut b (by simp)).1
  have hf := fun y => foldl_inv_any (op := fun acc c => mergeWalk V V L2 R2 R2' M2 acc (V.keyCut start last c))
    (m := fun l q => V.hasAt l q y) (mb := fun c q => V.hasAt (V.keyCut start last c) q y)
    (fun x c hx hc => ⟨(W2.fine hx (cut c hc).1).1, fun q => (W2.fine hx (cut c hc).1).2 q y⟩) t _ h0.1
    fun c hc => List.mem_cons_of_mem _ (List.mem_cons_of_mem _ hc)
  obtain ⟨f1, f2⟩ := hfin (hf 0).1
  simp only [unionChunk, e1, e2]
  refine ⟨f1, fun q y => ?_⟩
  rw [f2, (hf y).2, h0.2, (cut a (by simp)).2, (cut b (by simp)).2, any_congr_mem fun c hc => (cut c (by simp [hc])).2 q y,
    ← List.and_any_distrib_right, ← Bool.and_or_distrib_right, ← Bool.and_or_distrib_right, List.any_cons, List.any_cons, Bool.or_assoc]

end

section
variable {α ρ : Type} (V : Keyed α)

theorem head_key_le {l : List α} (h : V.Sorted l) : ∀ s ∈ l, (l.head?.map V.key).getD 0 ≤ V.key s := by
  cases l with
  | nil => nofun
  | cons u v => exact V.key_first h u

theorem key_le_getLast {l : List α} (h : V.Sorted l) : ∀ s ∈ l, V.key s ≤ (l.getLast?.map V.key).getD 0 := fun s hs => by
  have := V.key_last h s s hs
  rw [List.getD_eq_getElem?_getD, ← List.getLast?_eq_getElem?] at this
  rwa [List.getLast?_eq_some_getLast (List.ne_nil_of_mem hs)] at this ⊢

theorem getLast_key_le {l : List α} {B : Nat} (h : ∀ s ∈ l, V.key s ≤ B) : (l.getLast?.map V.key).getD 0 ≤ B := by
  cases hl : l.getLast? with
  | none => exact Nat.zero_le _
  | some a => exact h a (List.mem_of_getLast? hl)

/-- `lKey`: the smallest first key of the operands, from the largest key `B`; `el` gives the list an operand stores -/
def lowKeyOf (el : ρ → List α) (B : Nat) (l : List ρ) : Nat := l.foldl (fun m r => min m (((el r).head?.map V.key).getD 0)) B
/-- `hKey`: the largest last key, from `0` -/
def highKeyOf (el : ρ → List α) (l : List ρ) : Nat := l.foldl (fun m r => max m (((el r).getLast?.map V.key).getD 0)) 0

theorem keys_between (el : ρ → List α) (B : Nat) (l : List ρ) (hl : ∀ r ∈ l, V.Sorted (el r) ∧ ∀ s ∈ el r, V.key s ≤ B) :
    V.highKeyOf el l ≤ B ∧ (∀ r ∈ l, ∀ s ∈ el r, V.lowKeyOf el B l ≤ V.key s ∧ V.key s ≤ V.highKeyOf el l) ∧
      ((∃ r ∈ l, el r ≠ []) → V.lowKeyOf el B l ≤ V.highKeyOf el l) := by
  have hk : ∀ r ∈ l, ∀ s ∈ el r, V.lowKeyOf el B l ≤ V.key s ∧ V.key s ≤ V.highKeyOf el l := fun r hr s hs =>
    ⟨Nat.le_trans ((foldl_min_le (fun r => ((el r).head?.map V.key).getD 0) l B).2 r hr) (V.head_key_le (hl r hr).1 s hs),
      Nat.le_trans (V.key_le_getLast (hl r hr).1 s hs)
        ((foldl_max_ge (fun r => ((el r).getLast?.map V.key).getD 0) l 0).2 r hr)⟩
  refine ⟨foldl_max_le _ l 0 B (Nat.zero_le _) fun r hr => V.getLast_key_le (hl r hr).2, hk, fun ⟨r, hr, hne⟩ => ?_⟩
  obtain ⟨s, hs⟩ := List.exists_mem_of_ne_nil _ hne
  exact Nat.le_trans (hk r hr s hs).1 (hk r hr s hs).2

end

/-- the operands `ParOr` keeps are those that store something: they are operands, none is empty, and no member is lost -/
theorem filter_nonempty {α ρ : Type} (V : Keyed α) (el : ρ → List α) (l : List ρ) :
    (∀ r ∈ l.filter (fun r => !(el r).isEmpty), r ∈ l ∧ el r ≠ []) ∧
      ∀ q y, (l.filter fun r => !(el r).isEmpty).any (fun r => V.hasAt (el r) q y) = l.any fun r => V.hasAt (el r) q y := by
  refine ⟨fun r hr => ⟨(List.mem_filter.1 hr).1, fun h0 => ?_⟩, fun q y => ?_⟩
  · simp [h0] at hr
  · rw [List.any_filter]
    refine any_congr_mem fun r _ => ?_
    cases el r <;> rfl

/-- **`ParOr` over any key-sorted store** (`el r`: the list operand `r` stores, keys up to `B`): two union walks, a finishing
pass, and a grid — `count lKey hKey` ranges `rng lKey hKey i` that ascend and cover `[lKey, hKey]`.  The chunks in grid order
form a sorted list holding exactly the members of the operands. -/
theorem parOr_spec {α ρ : Type} {V : Keyed α} (el : ρ → List α) {P Pm Pr : α → Prop}
    {L1 R1 R1' L2 R2 R2' : α → List α} {M1 M2 : α → α → List α}
    (W1 : MergeSpec V V V (· || ·) P P Pm L1 R1 R1' M1) (W2 : MergeSpec V V V (· || ·) Pm P Pm L2 R2 R2' M2)
    {or1 or2 : List α → List α → List α} (e1 : ∀ a b, or1 a b = mergeWalk V V L1 R1 R1' M1 a b)
    (e2 : ∀ a b, or2 a b = mergeWalk V V L2 R2 R2' M2 a b) {fin : List α → List α}
    (hfin : ∀ {l : List α} {Q : Nat → Prop}, V.Fine Pm Q l → V.Fine Pr Q (fin l) ∧ ∀ q y, V.hasAt (fin l) q y = V.hasAt l q y)
    (B : Nat) (a b : ρ) (t : List ρ) (hl : ∀ r ∈ a :: b :: t, V.Fine P (· ≤ B) (el r)) (hne : el a ≠ [])
    {count : Nat → Nat → Nat} {rng : Nat → Nat → Nat → Nat × Nat}
    (hgrid : ∀ lKey hKey, lKey ≤ hKey → hKey ≤ B →
      (∀ i j, i < j → j < count lKey hKey → (rng lKey hKey i).2 < (rng lKey hKey j).1) ∧
      ∀ k, lKey ≤ k → k ≤ hKey → ∃ i, i < count lKey hKey ∧ (rng lKey hKey i).1 ≤ k ∧ k ≤ (rng lKey hKey i).2) :
    let lKey := V.lowKeyOf el B (a :: b :: t)
    let hKey := V.highKeyOf el (a :: b :: t)
    let res := (List.range (count lKey hKey)).flatMap fun i =>
      V.unionChunk or1 or2 fin (rng lKey hKey i).1 (rng lKey hKey i).2 (el a) (el b) (t.map el)
    V.Sorted res ∧ (∀ s ∈ res, Pr s) ∧ ∀ q y, V.hasAt res q y = (a :: b :: t).any fun r => V.hasAt (el r) q y := by
  intro lKey hKey res
  obtain ⟨hh, hkeys, hlh⟩ := V.keys_between el B (a :: b :: t) fun r hr => ⟨(hl r hr).1, fun s hs => ((hl r hr).2 s hs).2⟩
  obtain ⟨hasc, hcov⟩ := hgrid lKey hKey (hlh ⟨a, by simp, hne⟩) hh
  have hc := fun start last => chunk_spec W1 W2 e1 e2 hfin start last (List.forall_mem_map (l := a :: b :: t).2 hl)
  -- the chunks are pieces; the region of chunk `i` is its range
  refine ⟨V.pieces_sorted _ _ (fun i k => i < count lKey hKey ∧ (rng lKey hKey i).1 ≤ k ∧ k ≤ (rng lKey hKey i).2)
      (List.pairwise_lt_range.imp fun {i j} hij k k' hk hk' => ?_) fun i hi => ⟨(hc _ _).1.1, fun s hs =>
        ⟨List.mem_range.1 hi, ((hc _ _).1.2 s hs).2⟩⟩,
    fun s hs => ?_, fun q y => V.pieces_has _ _
      (fun i => i < count lKey hKey ∧ (rng lKey hKey i).1 ≤ q ∧ q ≤ (rng lKey hKey i).2) _ q y (fun i hi => ?_) fun hx => ?_⟩
  · have := hasc i j hij hk'.1
    omega
  · obtain ⟨i, -, hsi⟩ := List.mem_flatMap.mp hs
    exact ((hc _ _).1.2 s hsi).1
  · rw [(hc _ _).2 q y, show (el a :: el b :: t.map el).any _ = _ from List.any_map (l := a :: b :: t)]
    simp only [Bool.and_eq_true, decide_eq_true_eq, List.mem_range.1 hi, true_and]
    rfl
  · obtain ⟨r, hr, hrx⟩ := List.any_eq_true.mp hx
    obtain ⟨s, hs, hsx⟩ := List.any_eq_true.mp hrx
    have hq := (beq_iff_eq.1 (Bool.and_eq_true_iff.1 hsx).1) ▸ hkeys r hr s hs
    obtain ⟨i, hi, h⟩ := hcov q hq.1 hq.2
    exact ⟨i, List.mem_range.2 hi, hi, h⟩

end Keyed

end RModel.Impl
