import RProofs.ContQueryArr
import RProofs.IterBase
import RProofs.ContQueryRun
import RModel.Impl.Iter2
import RProofs.ContQueryBmpScan
/-!
Unset iterators, part 1: the three container-level unset iterators and the interface field `UCIt`.

Every iterator kind has a membership predicate `mem` (of the container it walks) and a cursor `cur ≤ 65536`:
the invariant says that `cur` is ABSENT (or is 65536: exhausted) and positions the auxiliary index (`pos` / `curIndex`).
What is still to be delivered is `absR mem cur 65536`.

Each kind has one lemma about its loop or search (`skip_spec`; `inv_after` and `advLoop_spec`; `seek_spec`): started at a
value `c`, the state it ends in satisfies the invariant, its cursor is `≥ c`, and every value from `c` up to the cursor is
present.  The constructor (`c = 0`), `next` (`c = cur + 1`) and `advanceIfNeeded` (`c = minval`) are instances; for the
interface field this reads `UCIt.At it mem c`, and what such an iterator has left is `absR mem c 65536` (`At.rem`).
-/
open RModel.Util
namespace RModel.Impl.It
open RModel RModel.Impl RModel.Impl.ContOps RModel.Impl.ContQuery RModel.Impl.RunQ

def absOfCont (c : Cont) : List Nat := (List.range 65536).filter (fun x => !c.has x)

theorem absOfCont_eq (c : Cont) : absOfCont c = absR c.has 0 65536 := by
  unfold absOfCont absR
  rw [List.range_eq_range']

/-- the exit `!hasNext() || peekNext() >= minval` of `advanceIfNeeded` (array and run iterators, cursor `nv ≤ 65536`) says
that the cursor already is at or beyond `minval` -/
theorem stay_iff {nv m : Nat} (h : nv ≤ 65536) (hm : m < 65536) :
    (!decide (nv < 65536) || decide (nv % 65536 ≥ m)) = true ↔ m ≤ nv := by
  rw [Bool.or_eq_true, Bool.not_eq_true', decide_eq_false_iff_not, decide_eq_true_eq]
  omega

/-- a cursor that stays skips nothing -/
theorem skip_none {p : Nat → Prop} {c : Nat} : c ≤ c ∧ ∀ u, c ≤ u → u < c → p u :=
  ⟨Nat.le_refl _, fun _ h1 h2 => absurd h1 (Nat.not_le_of_lt h2)⟩

/-! ## array container -/

namespace ArrUnsetIt

structure Inv (it : ArrUnsetIt) : Prop where
  sorted : it.content.Pairwise (· < ·)
  bound : ∀ v ∈ it.content, v < 65536
  posLe : it.pos ≤ it.content.length
  curLe : it.nextVal ≤ 65536
  below : ∀ i, i < it.pos → it.content.getD i 0 < it.nextVal
  above : it.pos < it.content.length → it.nextVal < it.content.getD it.pos 0

/-- the `for` loop of the constructor / `next` / `advanceIfNeeded`, started at a value `nv` with `pos` members below it:
it stops on the least absent value `≥ nv` -/
theorem skip_spec {xs : List Nat} (hs : xs.Pairwise (· < ·)) (hb : ∀ v ∈ xs, v < 65536) (pos nv : Nat)
    (hpos : pos ≤ xs.length) (hnv : nv ≤ 65536) (hbelow : ∀ i, i < pos → xs.getD i 0 < nv)
    (habove : pos < xs.length → nv ≤ xs.getD pos 0) :
    ({ content := xs, pos := (skip xs pos nv).1, nextVal := (skip xs pos nv).2 } : ArrUnsetIt).Inv ∧
    nv ≤ (skip xs pos nv).2 ∧ ∀ u, nv ≤ u → u < (skip xs pos nv).2 → xs.contains u = true := by
  fun_induction skip xs pos nv with
  | case1 pos nv hc ih =>
    -- `nv` is the member at `pos`
    obtain ⟨hlt, hge⟩ := hc
    have h2 := hb _ (Util.getD_mem 0 hlt)
    rw [Nat.mod_eq_of_lt (Nat.lt_of_le_of_lt (habove hlt) h2)] at hge
    obtain rfl : xs.getD pos 0 = nv := Nat.le_antisymm hge (habove hlt)
    obtain ⟨a, b, c⟩ := ih hlt h2 (fun i hi => Nat.lt_succ_of_le (getD_le_of_sorted hs (Nat.le_of_lt_succ hi) hlt))
      (getD_lt_of_sorted hs (Nat.lt_succ_self pos))
    refine ⟨a, Nat.le_of_succ_le b, fun u hu1 hu2 => ?_⟩
    rcases Nat.eq_or_lt_of_le hu1 with rfl | h
    · exact contains_getD xs hlt
    · exact c u h hu2
  | case2 pos nv hc =>
    refine ⟨⟨hs, hb, hpos, hnv, hbelow, ?_⟩, skip_none⟩
    intro (hl : pos < xs.length)
    refine Nat.lt_of_not_le fun h => hc ⟨hl, ?_⟩
    rw [Nat.mod_eq_of_lt (Nat.lt_of_le_of_lt (habove hl) (hb _ (Util.getD_mem 0 hl)))]
    exact h

theorem cur_absent {it : ArrUnsetIt} (hi : it.Inv) : it.content.contains it.nextVal = false :=
  not_contains_gap hi.sorted hi.below hi.above

theorem next_spec {it : ArrUnsetIt} (hi : it.Inv) (hc : it.nextVal < 65536) :
    it.next.1 = it.nextVal ∧ it.next.2.Inv ∧ it.next.2.content = it.content ∧ it.nextVal < it.next.2.nextVal ∧
    ∀ u, it.nextVal < u → u < it.next.2.nextVal → it.content.contains u = true := by
  obtain ⟨a, b⟩ := skip_spec hi.sorted hi.bound it.pos (it.nextVal + 1) hi.posLe hc
    (fun i h => Nat.lt_succ_of_lt (hi.below i h)) hi.above
  exact ⟨Nat.mod_eq_of_lt hc, a, rfl, b⟩

theorem searchPos_spec {xs : List Nat} (hs : xs.Pairwise (· < ·)) (m : Nat) :
    searchPos xs m ≤ xs.length ∧ (∀ i, i < searchPos xs m → xs.getD i 0 < m) ∧
    (searchPos xs m < xs.length → m ≤ xs.getD (searchPos xs m) 0) := by
  unfold searchPos
  simp only []
  rcases binarySearch_spec hs m with ⟨h0, hl, he⟩ | ⟨h0, hl, hA, hB⟩
  · rw [if_neg (Int.not_lt.mpr h0)]
    exact ⟨Nat.le_of_lt hl, fun i hi => he ▸ getD_lt_of_sorted hs hi hl, fun _ => Nat.le_of_eq he.symm⟩
  · rw [if_pos h0]
    exact ⟨hl, hA, fun h => Nat.le_of_lt (hB _ (Nat.le_refl _) h)⟩

theorem advanceIfNeeded_spec {it : ArrUnsetIt} (hi : it.Inv) (m : Nat) (hm : m < 65536) :
    (it.advanceIfNeeded m).Inv ∧ (it.advanceIfNeeded m).content = it.content ∧
    max it.nextVal m ≤ (it.advanceIfNeeded m).nextVal ∧
    ∀ u, max it.nextVal m ≤ u → u < (it.advanceIfNeeded m).nextVal → it.content.contains u = true := by
  unfold advanceIfNeeded hasNext peekNext
  by_cases hc : m ≤ it.nextVal
  · rw [if_pos ((stay_iff hi.curLe hm).mpr hc), Nat.max_eq_left hc]
    exact ⟨hi, rfl, skip_none⟩
  · rw [if_neg (fun h => hc ((stay_iff hi.curLe hm).mp h)), Nat.max_eq_right (Nat.le_of_not_le hc)]
    obtain ⟨p1, p2, p3⟩ := searchPos_spec hi.sorted m
    obtain ⟨a, b⟩ := skip_spec hi.sorted hi.bound _ m p1 (Nat.le_of_lt hm) p2 p3
    exact ⟨a, rfl, b⟩

end ArrUnsetIt

/-! ## run container -/

namespace RunUnsetIt

structure Inv (it : RunUnsetIt) : Prop where
  sep : RunSep it.rs
  bound : ∀ p ∈ it.rs, p.1 + p.2 ≤ 65535
  idxLe : it.curIndex ≤ it.rs.length
  curLe : it.nextVal ≤ 65536
  below : ∀ i, i < it.curIndex → rEnd it.rs i < it.nextVal
  above : it.curIndex < it.rs.length → it.nextVal < rStart it.rs it.curIndex

theorem after_eq (rs : List (Nat × Nat)) (i : Nat) : after rs i = rEnd rs i + 1 := rfl

theorem cur_absent {it : RunUnsetIt} (hi : it.Inv) : inRuns it.rs it.nextVal = false :=
  inRuns_gap hi.sep hi.idxLe (fun h => hi.below _ (Nat.sub_lt h Nat.one_pos)) hi.above

/-- standing right behind run `i`, which contains `c` -/
theorem inv_after {rs : List (Nat × Nat)} (hs : RunSep rs) (hb : ∀ p ∈ rs, p.1 + p.2 ≤ 65535) {i c : Nat}
    (hi : i < rs.length) (h1 : rStart rs i ≤ c) (h2 : c ≤ rEnd rs i) :
    ({ rs := rs, curIndex := i + 1, nextVal := after rs i } : RunUnsetIt).Inv ∧ c ≤ after rs i ∧
    ∀ u, c ≤ u → u < after rs i → inRuns rs u = true := by
  refine ⟨⟨hs, hb, hi, Nat.succ_le_succ (rEnd_bound hb hi), ?_, sep_idx hs (Nat.lt_succ_self i)⟩,
    Nat.le_succ_of_le h2, fun u hu1 hu2 => (inRuns_idx rs u).mpr ⟨i, hi, Nat.le_trans h1 hu1, Nat.le_of_lt_succ hu2⟩⟩
  intro j hj
  rcases Nat.eq_or_lt_of_le (Nat.le_of_lt_succ hj) with rfl | h
  · exact Nat.lt_succ_self _
  · have := sep_idx hs h hi
    show rEnd rs j < rEnd rs i + 1
    omega

theorem init_spec {rs : List (Nat × Nat)} (hs : RunSep rs) (hb : ∀ p ∈ rs, p.1 + p.2 ≤ 65535) :
    (init rs).Inv ∧ (init rs).rs = rs ∧ ∀ u, u < (init rs).nextVal → inRuns rs u = true := by
  unfold init
  split <;> rename_i hc
  · obtain ⟨a, -, c⟩ := inv_after hs hb hc.1 (Nat.le_of_eq hc.2) (Nat.zero_le _)
    exact ⟨a, rfl, fun u => c u (Nat.zero_le _)⟩
  · refine ⟨⟨hs, hb, Nat.zero_le _, Nat.zero_le _, fun i hi => absurd hi (Nat.not_lt_zero _), fun h => ?_⟩, rfl,
      fun u hu => absurd hu (Nat.not_lt_zero _)⟩
    exact Nat.pos_of_ne_zero fun e => hc ⟨h, e⟩

theorem next_spec {it : RunUnsetIt} (hi : it.Inv) (hc : it.nextVal < 65536) :
    it.next.1 = it.nextVal ∧ it.next.2.Inv ∧ it.next.2.rs = it.rs ∧ it.nextVal < it.next.2.nextVal ∧
    ∀ u, it.nextVal < u → u < it.next.2.nextVal → inRuns it.rs u = true := by
  -- below a run the successor does not wrap
  have hmod : it.curIndex < it.rs.length → (it.nextVal + 1) % 65536 = it.nextVal + 1 := fun hl =>
    Nat.mod_eq_of_lt (Nat.lt_succ_of_le
      (Nat.le_trans (hi.above hl) (Nat.le_trans (rStart_le_rEnd _ _) (rEnd_bound hi.bound hl))))
  unfold next
  simp only []
  split <;> rename_i hg
  · -- the next value starts run `curIndex`: jump behind it
    obtain ⟨hl, hge⟩ := hg
    rw [hmod hl] at hge
    obtain ⟨a, b⟩ := inv_after hi.sep hi.bound hl hge (Nat.le_trans (hi.above hl) (rStart_le_rEnd _ _))
    exact ⟨Nat.mod_eq_of_lt hc, a, rfl, b⟩
  · refine ⟨Nat.mod_eq_of_lt hc, ⟨hi.sep, hi.bound, hi.idxLe, hc, fun i hil => Nat.lt_succ_of_lt (hi.below i hil), ?_⟩,
      rfl, skip_none⟩
    intro (hl : it.curIndex < it.rs.length)
    refine Nat.lt_of_not_le fun h => hg ⟨hl, ?_⟩
    rw [hmod hl]
    exact h

theorem advLoop_spec {rs : List (Nat × Nat)} (hs : RunSep rs) (hb : ∀ p ∈ rs, p.1 + p.2 ≤ 65535) (m ci : Nat)
    (hm : m < 65536) (hci : ci ≤ rs.length) (hbelow : ∀ i, i < ci → rEnd rs i < m) :
    ({ rs := rs, curIndex := (advLoop rs m ci m).1, nextVal := (advLoop rs m ci m).2 } : RunUnsetIt).Inv ∧
    m ≤ (advLoop rs m ci m).2 ∧ ∀ u, m ≤ u → u < (advLoop rs m ci m).2 → inRuns rs u = true := by
  fun_induction advLoop rs m ci m with
  | case1 ci hl hlt ih =>
    have e : add16 (rStart rs ci) (rLenF rs ci) = rEnd rs ci := add16_eq (rEnd_bound hb hl)
    rw [e] at hlt
    apply ih hl
    intro i hi
    by_cases e' : i = ci
    · subst e'; exact hlt
    · exact hbelow i (Nat.lt_of_le_of_ne (Nat.le_of_lt_succ hi) e')
  | case2 ci hl hnlt hle =>
    have e : add16 (rStart rs ci) (rLenF rs ci) = rEnd rs ci := add16_eq (rEnd_bound hb hl)
    rw [e] at hnlt
    exact inv_after hs hb hl hle (Nat.le_of_not_lt hnlt)
  | case3 ci hl hnlt hnle =>
    exact ⟨⟨hs, hb, hci, Nat.le_of_lt hm, hbelow, fun _ => Nat.lt_of_not_le hnle⟩, skip_none⟩
  | case4 ci hnl =>
    exact ⟨⟨hs, hb, hci, Nat.le_of_lt hm, hbelow, fun h => absurd h hnl⟩, skip_none⟩

theorem advanceIfNeeded_spec {it : RunUnsetIt} (hi : it.Inv) (m : Nat) (hm : m < 65536) :
    (it.advanceIfNeeded m).Inv ∧ (it.advanceIfNeeded m).rs = it.rs ∧
    max it.nextVal m ≤ (it.advanceIfNeeded m).nextVal ∧
    ∀ u, max it.nextVal m ≤ u → u < (it.advanceIfNeeded m).nextVal → inRuns it.rs u = true := by
  unfold advanceIfNeeded hasNext peekNext
  by_cases hc : m ≤ it.nextVal
  · rw [if_pos ((stay_iff hi.curLe hm).mpr hc), Nat.max_eq_left hc]
    exact ⟨hi, rfl, skip_none⟩
  · rw [if_neg (fun h => hc ((stay_iff hi.curLe hm).mp h)), Nat.max_eq_right (Nat.le_of_not_le hc)]
    obtain ⟨a, b⟩ := advLoop_spec hi.sep hi.bound m it.curIndex hm hi.idxLe
      (fun i h => Nat.lt_trans (hi.below i h) (Nat.lt_of_not_le hc))
    exact ⟨a, rfl, b⟩

end RunUnsetIt

/-! ## bitmap container -/

namespace BmpUnsetIt

structure Inv (it : BmpUnsetIt) : Prop where
  len : it.ws.length = 1024
  nonneg : 0 ≤ it.i
  curLe : it.i ≤ 65536
  absent : it.i < 65536 → testBit it.ws it.i.toNat = false

/-- `uint16(i)` of a cursor below 65536 -/
theorem low_eq {i : Int} (h0 : 0 ≤ i) (hc : i < 65536) : (i % 65536).toNat = i.toNat := by
  rw [Int.emod_eq_of_lt h0 hc]

/-- the state after `i = NextUnsetBit(x)`, `x ≤ 65536`: the cursor stands on the least absent value `≥ x`, which is
65536 when there is none below -/
theorem seek_spec {ws : List (BitVec 64)} (hl : ws.length = 1024) {x : Nat} (hx : x ≤ 65536) :
    ({ ws := ws, i := bmpNextUnsetBit ws x } : BmpUnsetIt).Inv ∧ x ≤ (bmpNextUnsetBit ws x).toNat ∧
    ∀ u, x ≤ u → u < (bmpNextUnsetBit ws x).toNat → testBit ws u = true := by
  have hout : testBit ws 65536 = false := testBit_of_ge ws 65536 (by omega)
  obtain ⟨v, hv, h1, h2, h3⟩ := bmpNextUnsetBit_spec ws x
  rw [hv]
  refine ⟨⟨hl, Int.natCast_nonneg v, Int.ofNat_le.mpr (Nat.le_of_not_lt fun hc => ?_), fun _ => h2⟩, h1, h3⟩
  rw [h3 65536 hx hc] at hout
  cases hout

theorem next_spec {it : BmpUnsetIt} (hi : it.Inv) (hc : it.i < 65536) :
    it.next.1 = it.i.toNat ∧ it.next.2.Inv ∧ it.next.2.ws = it.ws ∧ it.i.toNat < it.next.2.i.toNat ∧
    ∀ u, it.i.toNat < u → u < it.next.2.i.toNat → testBit it.ws u = true := by
  have h0 := hi.nonneg
  have hs : uintSucc it.i = it.i.toNat + 1 := by
    unfold uintSucc
    rw [Int.emod_eq_of_lt (by omega) (by omega), Int.toNat_add h0 (by decide)]
    rfl
  obtain ⟨a, b⟩ := seek_spec hi.len (x := it.i.toNat + 1) ((Int.toNat_lt h0).mpr hc)
  unfold next
  rw [hs]
  exact ⟨low_eq h0 hc, a, rfl, b⟩

/-- the condition `hasNext() && peekNext() < minval` of `advanceIfNeeded` says that the cursor is below `minval` -/
theorem go_iff {it : BmpUnsetIt} (hi : it.Inv) {m : Nat} (hm : m < 65536) :
    (it.hasNext && decide (it.peekNext < m)) = true ↔ it.i.toNat < m := by
  rw [hasNext, peekNext, Bool.and_eq_true, Bool.and_eq_true, decide_eq_true_iff, decide_eq_true_iff, decide_eq_true_iff]
  constructor
  · rintro ⟨⟨h0, hc⟩, h⟩
    rw [low_eq h0 hc] at h
    exact h
  · intro h
    have hc : it.i < 65536 := (Int.toNat_lt hi.nonneg).mp (Nat.lt_trans h hm)
    rw [low_eq hi.nonneg hc]
    exact ⟨⟨hi.nonneg, hc⟩, h⟩

theorem advanceIfNeeded_spec {it : BmpUnsetIt} (hi : it.Inv) (m : Nat) (hm : m < 65536) :
    (it.advanceIfNeeded m).Inv ∧ (it.advanceIfNeeded m).ws = it.ws ∧
    max it.i.toNat m ≤ (it.advanceIfNeeded m).i.toNat ∧
    ∀ u, max it.i.toNat m ≤ u → u < (it.advanceIfNeeded m).i.toNat → testBit it.ws u = true := by
  unfold advanceIfNeeded
  by_cases hc : it.i.toNat < m
  · rw [if_pos ((go_iff hi hm).mpr hc), Nat.max_eq_right (Nat.le_of_lt hc)]
    obtain ⟨a, b⟩ := seek_spec hi.len (Nat.le_of_lt hm)
    exact ⟨a, rfl, b⟩
  · rw [if_neg (fun h => hc ((go_iff hi hm).mp h)), Nat.max_eq_left (Nat.le_of_not_lt hc)]
    exact ⟨hi, rfl, skip_none⟩

end BmpUnsetIt

/-! ## the interface field `iter` -/

namespace UCIt

/-- membership predicate of the container the iterator walks (`none`: everything present, nothing to deliver) -/
def mem : UCIt → Nat → Bool
  | .none => fun _ => true
  | .arr a => a.content.contains
  | .run r => inRuns r.rs
  | .bmp b => testBit b.ws

/-- the cursor: the next absent value, or 65536 when exhausted -/
def cur : UCIt → Nat
  | .none => 65536
  | .arr a => a.nextVal
  | .run r => r.nextVal
  | .bmp b => b.i.toNat

def Inv : UCIt → Prop
  | .none => True
  | .arr a => a.Inv
  | .run r => r.Inv
  | .bmp b => b.Inv

def rem (it : UCIt) : List Nat := absR it.mem it.cur 65536

/-! ### cursor-level facts (used by the bitmap level) -/

theorem cur_le {it : UCIt} (hi : it.Inv) : it.cur ≤ 65536 := by
  cases it with
  | none => exact Nat.le_refl _
  | arr a => exact hi.curLe
  | run r => exact hi.curLe
  | bmp b => exact Int.toNat_le.mpr hi.curLe

theorem cur_absent {it : UCIt} (hi : it.Inv) (hc : it.cur < 65536) : it.mem it.cur = false := by
  cases it with
  | none => exact absurd hc (Nat.lt_irrefl _)
  | arr a => exact ArrUnsetIt.cur_absent hi
  | run r => exact RunUnsetIt.cur_absent hi
  | bmp b => exact hi.absent ((Int.toNat_lt hi.nonneg).mp hc)

theorem hasNext_eq {it : UCIt} (hi : it.Inv) : it.hasNext = decide (it.cur < 65536) := by
  cases it with
  | none => rfl
  | arr a => rfl
  | run r => rfl
  | bmp b =>
    show (decide (b.i ≥ 0) && decide (b.i < 65536)) = decide (b.i.toNat < 65536)
    rw [decide_eq_true hi.nonneg, Bool.true_and, decide_eq_decide]
    exact (Int.toNat_lt hi.nonneg).symm

theorem peekNext_eq {it : UCIt} (hi : it.Inv) (hc : it.cur < 65536) : it.peekNext = it.cur := by
  cases it with
  | none => exact absurd hc (Nat.lt_irrefl _)
  | arr a => exact Nat.mod_eq_of_lt hc
  | run r => exact Nat.mod_eq_of_lt hc
  | bmp b => exact BmpUnsetIt.low_eq hi.nonneg ((Int.toNat_lt hi.nonneg).mp hc)

theorem isNone_next {it : UCIt} : it.next.2.isNone = it.isNone := by
  cases it <;> rfl

theorem isNone_advanceIfNeeded {it : UCIt} (m : Nat) : (it.advanceIfNeeded m).isNone = it.isNone := by
  cases it <;> rfl

/-- `it` walks a container with members `p` and stands on its least absent value `≥ c` (on 65536 when there is none) -/
structure At (it : UCIt) (p : Nat → Bool) (c : Nat) : Prop where
  inv : it.Inv
  mem : it.mem = p
  le : c ≤ it.cur
  present : ∀ u, c ≤ u → u < it.cur → p u = true

theorem At.rem {it : UCIt} {p : Nat → Bool} {c : Nat} (h : it.At p c) : it.rem = absR p c 65536 := by
  rw [UCIt.rem, h.mem]
  exact (absR_skip h.le fun u h1 h2 _ => h.present u h1 h2).symm

theorem next_cur {it : UCIt} (hi : it.Inv) (hc : it.cur < 65536) :
    it.next.1 = it.cur ∧ it.next.2.At it.mem (it.cur + 1) := by
  cases it with
  | none => exact absurd hc (Nat.lt_irrefl _)
  | arr a =>
    obtain ⟨h1, h2, h3, h4, h5⟩ := ArrUnsetIt.next_spec hi hc
    exact ⟨h1, h2, congrArg List.contains h3, h4, h5⟩
  | run r =>
    obtain ⟨h1, h2, h3, h4, h5⟩ := RunUnsetIt.next_spec hi hc
    exact ⟨h1, h2, congrArg inRuns h3, h4, h5⟩
  | bmp b =>
    obtain ⟨h1, h2, h3, h4, h5⟩ := BmpUnsetIt.next_spec hi ((Int.toNat_lt hi.nonneg).mp hc)
    exact ⟨h1, h2, congrArg testBit h3, h4, h5⟩

theorem adv_cur {it : UCIt} (hi : it.Inv) (m : Nat) (hm : m < 65536) :
    (it.advanceIfNeeded m).At it.mem (max it.cur m) := by
  cases it with
  | none => exact ⟨trivial, rfl, Nat.max_le.mpr ⟨Nat.le_refl _, Nat.le_of_lt hm⟩, fun _ _ _ => rfl⟩
  | arr a =>
    obtain ⟨h1, h2, h3, h4⟩ := ArrUnsetIt.advanceIfNeeded_spec hi m hm
    exact ⟨h1, congrArg List.contains h2, h3, h4⟩
  | run r =>
    obtain ⟨h1, h2, h3, h4⟩ := RunUnsetIt.advanceIfNeeded_spec hi m hm
    exact ⟨h1, congrArg inRuns h2, h3, h4⟩
  | bmp b =>
    obtain ⟨h1, h2, h3, h4⟩ := BmpUnsetIt.advanceIfNeeded_spec hi m hm
    exact ⟨h1, congrArg testBit h2, h3, h4⟩

theorem ofCont_cur {c : Cont} (h : c.wf = true) : (ofCont c).At c.has 0 ∧ (ofCont c).isNone = false := by
  cases c with
  | arr xs =>
    obtain ⟨h1, h2, h3⟩ := ArrUnsetIt.skip_spec (wf_arr h).sorted (wf_arr h).bound 0 0 (Nat.zero_le _) (Nat.zero_le _)
      (fun i hi => absurd hi (Nat.not_lt_zero _)) (fun _ => Nat.zero_le _)
    exact ⟨⟨h1, rfl, h2, h3⟩, rfl⟩
  | bmp k ws =>
    obtain ⟨h1, h2, h3⟩ := BmpUnsetIt.seek_spec (wf_bmp h).1 (Nat.zero_le 65536)
    exact ⟨⟨h1, rfl, h2, h3⟩, rfl⟩
  | run rs =>
    obtain ⟨h1, h2, h3⟩ := RunUnsetIt.init_spec (wf_run h).sep (wf_run h).bound
    exact ⟨⟨h1, congrArg inRuns h2, Nat.zero_le _, fun u _ => h3 u⟩, rfl⟩

/-! ### list-level specification -/

theorem ofCont_spec {c : Cont} (h : c.wf = true) : (ofCont c).Inv ∧ (ofCont c).rem = absOfCont c :=
  ⟨(ofCont_cur h).1.inv, (ofCont_cur h).1.rem.trans (absOfCont_eq c).symm⟩

theorem hasNext_iff {it : UCIt} (hi : it.Inv) : it.hasNext = true ↔ it.rem ≠ [] := by
  rw [hasNext_eq hi, decide_eq_true_eq]
  exact ⟨fun hc => absR_ne_nil (Nat.le_refl _) hc (cur_absent hi hc),
    fun hne => Nat.lt_of_not_le fun hc => hne (absR_nil hc)⟩

theorem rem_cons {it : UCIt} (hi : it.Inv) {v : Nat} {t : List Nat} (h : it.rem = v :: t) :
    it.cur = v ∧ v < 65536 ∧ t = absR it.mem (v + 1) 65536 := by
  obtain ⟨h1, h2, -⟩ := mem_absR.mp (h ▸ List.mem_cons_self : v ∈ it.rem)
  have hc := Nat.lt_of_le_of_lt h1 h2
  rw [rem, absR_cons hc (cur_absent hi hc)] at h
  obtain ⟨rfl, rfl⟩ := List.cons.inj h
  exact ⟨rfl, hc, rfl⟩

theorem peekNext_spec {it : UCIt} (hi : it.Inv) {v : Nat} {t : List Nat} (h : it.rem = v :: t) : it.peekNext = v := by
  obtain ⟨rfl, h2, -⟩ := rem_cons hi h
  exact peekNext_eq hi h2

theorem next_spec {it : UCIt} (hi : it.Inv) {v : Nat} {t : List Nat} (h : it.rem = v :: t) :
    it.next.1 = v ∧ it.next.2.Inv ∧ it.next.2.rem = t := by
  obtain ⟨rfl, h2, rfl⟩ := rem_cons hi h
  obtain ⟨g1, g2⟩ := next_cur hi h2
  exact ⟨g1, g2.inv, g2.rem⟩

theorem advanceIfNeeded_spec {it : UCIt} (hi : it.Inv) (m : Nat) (hm : m < 65536) :
    (it.advanceIfNeeded m).Inv ∧ (it.advanceIfNeeded m).rem = it.rem.dropWhile (fun x => decide (x < m)) := by
  have g := adv_cur hi m hm
  exact ⟨g.inv, by rw [g.rem, rem, absR_dropWhile]⟩

theorem rem_lt {it : UCIt} {v : Nat} (hv : v ∈ it.rem) : v < 65536 := (mem_absR.mp hv).2.1

theorem rem_sorted (it : UCIt) : it.rem.Pairwise (· < ·) := sorted_absR _ _ _

theorem follows : Follows Inv rem hasNext next := ⟨hasNext_iff, next_spec⟩

theorem drain_spec (fuel : Nat) (it : UCIt) (hi : it.Inv) (hf : it.rem.length ≤ fuel) : it.drain fuel = it.rem :=
  drain_of_protocol follows (fun n it => it.drain n) (fun _ => rfl) (fun _ _ => rfl) fuel it hi hf

/-- draining a fresh unset iterator of a well-formed container yields its absent values in increasing order -/
theorem drain_ofCont {c : Cont} (h : c.wf = true) (fuel : Nat) (hf : (absOfCont c).length ≤ fuel) :
    (ofCont c).drain fuel = absOfCont c := by
  obtain ⟨hi, hr⟩ := ofCont_spec h
  exact (drain_spec fuel _ hi (hr ▸ hf)).trans hr

theorem drain_ofCont_full {c : Cont} (h : c.wf = true) : (ofCont c).drain 65536 = absOfCont c := by
  apply drain_ofCont h
  rw [absOfCont_eq]
  exact length_absR_le _ _ _

end UCIt

end RModel.Impl.It
