import RProofs.Rep64Range
/-!
The in-place operations of `roaring64` (`x.And(y)`, `x.Or(y)`, `x.Xor(y)`, `x.AndNot(y)`): each is a `mergeWalk` of the receiver's
buckets against the argument's (`iandBuckets_eq` …) whose steps meet a `MergeSpec` (`spec_iand64` …), and `MergeSpec.rep64` gives
well-formedness and the set of `Rep64.iand / ior / ixor / iandNot`; the argument afterwards (`Rep64.argAfter`) differs in flags
only.  `ixor` is concrete (it stores the static `roaring.Xor`, `Rep.xor2`); the other three are stated for every instance
`o : Ops32` whose in-place 32-bit functions are sound (`Ops32.SoundBin`).
-/
namespace RModel.Impl
open RModel RModel.BSet RModel.Driver ContOps RepOps R64Ops

/-- what the bucket-level theorems need from the in-place 32-bit `And / Or / AndNot` -/
structure Ops32.SoundBin (o : Ops32) : Prop where
  mem_iand : ∀ (a b : Rep) (y : Nat), a.wf = true → b.wf = true →
    mem (o.iand a b).toBSet y = (mem a.toBSet y && mem b.toBSet y)
  wf_iand : ∀ (a b : Rep), a.wf = true → b.wf = true → (o.iand a b).wf = true
  mem_ior : ∀ (a b : Rep) (y : Nat), a.wf = true → b.wf = true →
    mem (o.ior a b).toBSet y = (mem a.toBSet y || mem b.toBSet y)
  wf_ior : ∀ (a b : Rep), a.wf = true → b.wf = true → (o.ior a b).wf = true
  mem_iandNot : ∀ (a b : Rep) (y : Nat), a.wf = true → b.wf = true →
    mem (o.iandNot a b).toBSet y = (mem a.toBSet y && !mem b.toBSet y)
  wf_iandNot : ∀ (a b : Rep), a.wf = true → b.wf = true → (o.iandNot a b).wf = true

theorem isEmptyGo_ior {o : Ops32} (ho : o.SoundBin) (a b : Rep) (ha : a.wf = true) (hb : b.wf = true)
    (hne : a.isEmptyGo = false) : (o.ior a b).isEmptyGo = false := by
  cases hh : (o.ior a b).isEmptyGo with
  | false => rfl
  | true =>
    obtain ⟨y, hy⟩ := exists_mem_of_wf ha hne
    have h1 := mem_of_isEmptyGo hh y
    rw [ho.mem_ior a b y ha hb, hy] at h1
    cases h1

/-! ### the four in-place walks -/

theorem iandBuckets_eq (o : Ops32) (a b : List Bucket) : iandBuckets o a b = mergeWalk bucketV bucketV dropS dropS dropS
    (storeIf (fun sa sb => o.iand (writableBm sa) sb.bm) fun _ => false) a b := by
  fun_induction iandBuckets o a b <;> simp [mergeWalk, dropS, storeIf, consOpt_eq, *]

theorem iandNotBuckets_eq (o : Ops32) (a b : List Bucket) : iandNotBuckets o a b = mergeWalk bucketV bucketV keepS dropS dropS
    (storeIf (fun sa sb => o.iandNot (writableBm sa) sb.bm) fun _ => false) a b := by
  fun_induction iandNotBuckets o a b <;> simp [mergeWalk, keepS, dropS, storeIf, consOpt_eq, *]

theorem iorBuckets_eq (o : Ops32) (c : Bool) (a b : List Bucket) : iorBuckets o c a b = mergeWalk bucketV bucketV keepS
    (fun s => [insertClone s]) (fun s => [appendTail c s]) (store fun sa sb => o.ior (writableBm sa) sb.bm) a b := by
  fun_induction iorBuckets o c a b <;> simp [mergeWalk, keepS, store, List.map_eq_flatMap, *]

theorem ixorBuckets_eq (c : Bool) (a b : List Bucket) : ixorBuckets c a b = mergeWalk bucketV bucketV keepS
    (fun s => [insertClone s]) (fun s => [appendTail c s]) (storeIf (fun sa sb => sa.bm.xor2 sb.bm) (·.flag)) a b := by
  fun_induction ixorBuckets c a b <;> simp [mergeWalk, keepS, storeIf, consOpt_eq, List.map_eq_flatMap, *]

theorem spec_iand64 {o : Ops32} (ho : o.SoundBin) : MergeSpec bucketV bucketV bucketV (· && ·) BucketOk BucketOk BucketOk
    dropS dropS dropS (storeIf (fun sa sb => o.iand (writableBm sa) sb.bm) fun _ => false) :=
  ⟨rfl, fun _ _ => .nil (by simp), fun _ _ => .nil (by simp), fun _ _ => .nil (by simp),
    fun _ _ ha hb _ => piece_nonEmpty ha.1 (ho.wf_iand _ _ (wf_writableBm_of_ok ha) hb.2.1)
      (fun y => by rw [ho.mem_iand _ _ _ (wf_writableBm_of_ok ha) hb.2.1, toBSet_writableBm])⟩

theorem spec_iandNot64 {o : Ops32} (ho : o.SoundBin) : MergeSpec bucketV bucketV bucketV (fun p q => p && !q) BucketOk
    BucketOk BucketOk keepS dropS dropS (storeIf (fun sa sb => o.iandNot (writableBm sa) sb.bm) fun _ => false) :=
  ⟨rfl, fun _ h => .single rfl h (by simp), fun _ _ => .nil (by simp), fun _ _ => .nil (by simp),
    fun _ _ ha hb _ => piece_nonEmpty ha.1 (ho.wf_iandNot _ _ (wf_writableBm_of_ok ha) hb.2.1)
      (fun y => by rw [ho.mem_iandNot _ _ _ (wf_writableBm_of_ok ha) hb.2.1, toBSet_writableBm])⟩

theorem spec_ior64 {o : Ops32} (ho : o.SoundBin) (c : Bool) : MergeSpec bucketV bucketV bucketV (· || ·) BucketOk BucketOk
    BucketOk keepS (fun s => [insertClone s]) (fun s => [appendTail c s])
    (store fun sa sb => o.ior (writableBm sa) sb.bm) :=
  ⟨rfl, fun _ h => .single rfl h (by simp), fun _ h => piece_cloneB h (by simp), fun _ h => piece_cloneB h (by simp),
    fun _ _ ha hb _ => .single rfl ⟨ha.1, ho.wf_ior _ _ (wf_writableBm_of_ok ha) hb.2.1,
        isEmptyGo_ior ho _ _ (wf_writableBm_of_ok ha) hb.2.1 ((isEmptyGo_writableBm _).trans ha.2.2)⟩
      (fun y => by simpa only [toBSet_writableBm] using ho.mem_ior _ _ y (wf_writableBm_of_ok ha) hb.2.1)⟩

theorem spec_ixor64 (c : Bool) : MergeSpec bucketV bucketV bucketV (· != ·) BucketOk BucketOk BucketOk keepS
    (fun s => [insertClone s]) (fun s => [appendTail c s]) (storeIf (fun sa sb => sa.bm.xor2 sb.bm) (·.flag)) :=
  ⟨rfl, fun _ h => .single rfl h (by simp), fun _ h => piece_cloneB h (by simp), fun _ h => piece_cloneB h (by simp),
    fun _ _ ha hb _ => piece_nonEmpty ha.1 (Rep.wf_xor2 _ _ ha.2.1 hb.2.1) (Rep.mem_xor2 _ _ ha.2.1 hb.2.1)⟩

theorem wf_iorBuckets {o : Ops32} (ho : o.SoundBin) (c : Bool) (a b : List Bucket) (ha : BucketsWf a) (hb : BucketsWf b) :
    BucketsWf (iorBuckets o c a b) :=
  iorBuckets_eq o c a b ▸ (spec_ior64 ho c).bucketsWf ha.ok ha.sorted hb

/-! ### well-formedness and set semantics -/

theorem Rep64.wf_iand {o : Ops32} (ho : o.SoundBin) (x y : Rep64) (hx : x.wf = true) (hy : y.wf = true) :
    (Rep64.iand o x y).wf = true :=
  ((spec_iand64 ho).rep64 (r := Rep64.iand o x y) (iandBuckets_eq _ _ _) hx hy).1
theorem Rep64.wf_ior {o : Ops32} (ho : o.SoundBin) (x y : Rep64) (hx : x.wf = true) (hy : y.wf = true) :
    (Rep64.ior o x y).wf = true :=
  ((spec_ior64 ho _).rep64 (r := Rep64.ior o x y) (iorBuckets_eq _ _ _ _) hx hy).1
theorem Rep64.wf_ixor (x y : Rep64) (hx : x.wf = true) (hy : y.wf = true) : (Rep64.ixor x y).wf = true :=
  ((spec_ixor64 _).rep64 (r := Rep64.ixor x y) (ixorBuckets_eq _ _ _) hx hy).1
theorem Rep64.wf_iandNot {o : Ops32} (ho : o.SoundBin) (x y : Rep64) (hx : x.wf = true) (hy : y.wf = true) :
    (Rep64.iandNot o x y).wf = true :=
  ((spec_iandNot64 ho).rep64 (r := Rep64.iandNot o x y) (iandNotBuckets_eq _ _ _) hx hy).1

/-- `x.And(y)`: the receiver afterwards denotes the intersection -/
theorem Rep64.toBSet_iand {o : Ops32} (ho : o.SoundBin) (x y : Rep64) (hx : x.wf = true) (hy : y.wf = true) :
    (Rep64.iand o x y).toBSet = BSet.inter x.toBSet y.toBSet :=
  ((spec_iand64 ho).rep64 (r := Rep64.iand o x y) (iandBuckets_eq _ _ _) hx hy).2

/-- `x.Or(y)`: the receiver afterwards denotes the union -/
theorem Rep64.toBSet_ior {o : Ops32} (ho : o.SoundBin) (x y : Rep64) (hx : x.wf = true) (hy : y.wf = true) :
    (Rep64.ior o x y).toBSet = BSet.union x.toBSet y.toBSet :=
  ((spec_ior64 ho _).rep64 (r := Rep64.ior o x y) (iorBuckets_eq _ _ _ _) hx hy).2

/-- `x.Xor(y)` (two different objects): the receiver afterwards denotes the symmetric difference -/
theorem Rep64.toBSet_ixor (x y : Rep64) (hx : x.wf = true) (hy : y.wf = true) :
    (Rep64.ixor x y).toBSet = BSet.xor x.toBSet y.toBSet :=
  ((spec_ixor64 _).rep64 (r := Rep64.ixor x y) (ixorBuckets_eq _ _ _) hx hy).2

/-- `x.AndNot(y)`: the receiver afterwards denotes the difference -/
theorem Rep64.toBSet_iandNot {o : Ops32} (ho : o.SoundBin) (x y : Rep64) (hx : x.wf = true) (hy : y.wf = true) :
    (Rep64.iandNot o x y).toBSet = BSet.diff x.toBSet y.toBSet :=
  ((spec_iandNot64 ho).rep64 (r := Rep64.iandNot o x y) (iandNotBuckets_eq _ _ _) hx hy).2

/-! ### the argument afterwards: same set, still well-formed (flags only) -/

theorem flagsOnly_argAfter (c : Bool) (xs : List Bucket) (b : Bucket) :
    FlagsOnly (if xs.any (·.high == b.high) then b
      else if xs.all (·.high < b.high) then ({ high := b.high, bm := b.bm.cloneSrcB, flag := c || b.flag } : Bucket)
      else { high := b.high, bm := b.bm.cloneSrcB, flag := b.flag }) b := by
  split
  · exact ⟨rfl, .inl rfl⟩
  · split <;> exact ⟨rfl, .inr (.inr rfl)⟩

theorem Rep64.argAfter_spec (x y : Rep64) (hy : y.wf = true) :
    (Rep64.argAfter x y).wf = true ∧ (Rep64.argAfter x y).toBSet = y.toBSet :=
  flagsOnly_map hy rfl (flagsOnly_argAfter (x.cow && y.cow) x.buckets)

theorem Rep64.wf_argAfter (x y : Rep64) (hy : y.wf = true) : (Rep64.argAfter x y).wf = true :=
  (Rep64.argAfter_spec x y hy).1

/-- an in-place operation leaves the set its argument denotes unchanged -/
theorem Rep64.toBSet_argAfter (x y : Rep64) (hy : y.wf = true) : (Rep64.argAfter x y).toBSet = y.toBSet :=
  (Rep64.argAfter_spec x y hy).2

end RModel.Impl
