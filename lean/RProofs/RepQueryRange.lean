import RProofs.IterAdv
import RProofs.RepQueryBase
/-!
`CardinalityInRange` and `IntersectsWithInterval` of `RModel/Impl/RepQuery.lean` compute the set-level answers of `BSet` on the
abstraction `r.toBSet`, for well-formed `r` and in-domain arguments.
-/
namespace RModel.Impl
open RModel RModel.BSet RModel.Driver ContOps ContQuery RepOps RepQuery It

/-! ### `IntersectsWithInterval` -/

/-- `IntersectsWithInterval(a, b)`: some member in `[a, b)` -/
theorem Rep.intersectsWithInterval_spec (r : Rep) (h : r.wf = true) (a b : Nat) (hb : b ≤ 4294967296) :
    r.intersectsWithInterval a b = (BSet.cardInRange r.toBSet a b != 0) := by
  obtain ⟨-, hs, he, -⟩ := rep_facts r h
  have hm := congrFun (Rep.mem_eq h)
  have hcr : BSet.cardInRange r.toBSet a b = cnt (slotV.mem 65536 r.slots) b - cnt (slotV.mem 65536 r.slots) a := by
    unfold BSet.cardInRange
    rw [rankLt_eq_cnt hs he hm, rankLt_eq_cnt hs he hm]
  rw [hcr]
  unfold Rep.intersectsWithInterval
  by_cases hab : a ≥ b
  · rw [if_pos hab]
    have := cnt_mono (slotV.mem 65536 r.slots) hab
    symm
    simp only [bne_eq_false_iff_eq]
    omega
  · rw [if_neg hab, if_neg (by omega)]
    simp only []
    obtain ⟨c1, c2⟩ := IntIt.create_spec r h
    have c3 := IntIt.create_from_cursor r h
    obtain ⟨hi, hrem⟩ := IntIt.advance_from_cursor c1 r h 0 a (by omega) c3
    rw [Nat.zero_max] at hrem
    have hhead := remFrom_toList_head r.toBSet hs he a
    rw [← hrem] at hhead
    generalize (IntIt.create r).advanceIfNeeded a = ii at hi hrem hhead
    cases hr : ii.rem with
    | nil =>
      have hn : ii.hasNext = false := by
        cases hh : ii.hasNext
        · rfl
        · exact absurd hr ((IntIt.hasNext_iff hi).mp hh)
      rw [hr, List.head?_nil] at hhead
      have hnone := (nextValue_none r.toBSet hs he a).mp hhead.symm
      have := cnt_eq_of_none (slotV.mem 65536 r.slots) (show a ≤ b by omega) (fun u hu _ => by rw [← hm]; exact hnone u hu)
      rw [hn]
      symm
      simp only [Bool.not_false, if_true, bne_eq_false_iff_eq]
      omega
    | cons v t =>
      have hh : ii.hasNext = true := (IntIt.hasNext_iff hi).mpr (by rw [hr]; simp)
      obtain ⟨n1, -, -, -⟩ := IntIt.next_spec hi hr
      rw [hr, List.head?_cons] at hhead
      obtain ⟨hav, hmem, hnone⟩ := (nextValue_some r.toBSet hs he a v).mp hhead.symm
      rw [hh, n1]
      simp only [Bool.not_true, Bool.false_eq_true, if_false]
      by_cases hvb : v ≥ b
      · rw [if_pos hvb]
        have := cnt_eq_of_none (slotV.mem 65536 r.slots) (show a ≤ b by omega)
          (fun u hu hub => by rw [← hm]; exact hnone u hu (by omega))
        symm
        simp only [bne_eq_false_iff_eq]
        omega
      · rw [if_neg hvb]
        have e1 := cnt_eq_of_none (slotV.mem 65536 r.slots) hav (fun u hu hub => by rw [← hm]; exact hnone u hu hub)
        have e2 := cnt_lt_of_mem (slotV.mem 65536 r.slots) (show v < b by omega) (by rw [← hm]; exact hmem)
        symm
        simp only [bne_iff_ne, ne_eq]
        omega

/-! ### `CardinalityInRange` -/

namespace RepQuery

theorem cardSum_append (x y : List Slot) : cardSum (x ++ y) = cardSum x + cardSum y := by
  induction x with
  | nil => simp [cardSum]
  | cons s t ih => rw [List.cons_append, cardSum, cardSum, ih]; omega

theorem cardSum_take_succ {l : List Slot} {i : Nat} (hi : i < l.length) :
    cardSum (l.take (i + 1)) = cardSum (l.take i) + (cAt l i).getCardinalityQ := by
  rw [List.take_succ_eq_append_getElem hi, cardSum_append, cAt, slotAt_eq hi, cardSum, cardSum, Int.add_zero]

theorem cardSum_take_drop (l : List Slot) {i j : Nat} (hij : i ≤ j) :
    cardSum (l.take j) = cardSum (l.take i) + cardSum ((l.take j).drop i) := by
  have := cardSum_append ((l.take j).take i) ((l.take j).drop i)
  rw [List.take_append_drop, List.take_take, Nat.min_eq_left hij] at this
  exact this

/-- the members below `n = k·2^16 + lo`: the slots before the position of `k` in full, and the part below `lo` of the slot
with key `k` when it is there -/
theorem cnt_keyPos {l : List Slot} (hw : SlotsWf l) {k i : Nat} (p : KeyPos l k i) {lo n : Nat} (hlo : lo ≤ 65536)
    (hn : n = k * 65536 + lo) :
    (cnt (slotV.mem 65536 l) n : Int) =
      cardSum (l.take i) + (if i < l.length ∧ kAt l i = k then (cnt (cAt l i).has lo : Int) else 0) := by
  subst hn
  obtain ⟨hi, hA, hB⟩ := p
  induction l generalizing i with
  | nil =>
    have : i = 0 := by simpa using hi
    subst this
    rw [Keyed.cnt_mem_below (V := slotV) (B := 65536) fun _ h => absurd h List.not_mem_nil]
    simp [cardSum]
  | cons s t ih =>
    cases i with
    | zero =>
      have hk : k ≤ s.key := hB 0 (Nat.le_refl _) (Nat.zero_lt_succ _)
      rw [List.take_zero, cardSum, Int.zero_add]
      by_cases hks : s.key = k
      · rw [if_pos ⟨Nat.zero_lt_succ _, hks⟩, Keyed.cnt_mem_in (V := slotV) hw.sorted hlo (by rw [← hks])]
        rfl
      · rw [if_neg (fun hc => hks hc.2), Keyed.cnt_mem_below (V := slotV) (B := 65536)]
        · rfl
        · intro s' hs'
          exact Keyed.lt_block (hw.gt_of_lt_head (Nat.lt_of_le_of_ne hk (Ne.symm hks)) s' hs') hlo
    | succ i =>
      have hk : s.key < k := hA 0 (Nat.zero_lt_succ i)
      have e1 : ∀ j, kAt (s :: t) (j + 1) = kAt t j := fun _ => rfl
      have e2 : cAt (s :: t) (i + 1) = cAt t i := rfl
      have hi' : i ≤ t.length := by simpa using hi
      have := ih hw.tail hi' (fun j hj => by rw [← e1]; exact hA (j + 1) (by omega))
        (fun j hj hjl => by rw [← e1]; exact hB (j + 1) (by omega) (by simpa using hjl))
      rw [Keyed.cnt_mem_above (V := slotV) hw.sorted (by decide)
        (Nat.le_trans (Keyed.lt_block hk (Nat.le_refl 65536)) (Nat.le_add_right _ lo)), Int.natCast_add, this,
        ← has_card s.c (wfQ_of_wf hw.head.2), List.take_succ_cons, cardSum, e1, e2, List.length_cons]
      have : (i + 1 < t.length + 1 ∧ kAt t i = k) ↔ (i < t.length ∧ kAt t i = k) := by omega
      simp only [this]
      omega

/-- the members of chunk `k` between `lo` and `hi`, as the container with key `k` counts them -/
theorem cnt_inChunk {l : List Slot} (hw : SlotsWf l) {k i : Nat} (p : KeyPos l k i) {lo hi a b : Nat} (hlh : lo ≤ hi)
    (hhi : hi ≤ 65536) (ha : a = k * 65536 + lo) (hb : b = k * 65536 + hi) :
    (cnt (slotV.mem 65536 l) b : Int) - cnt (slotV.mem 65536 l) a =
      if i < l.length ∧ kAt l i = k then (cAt l i).cardInRangeQ lo hi else 0 := by
  rw [cnt_keyPos hw p hhi hb, cnt_keyPos hw p (Nat.le_trans hlh hhi) ha]
  split
  · next hc =>
    have hr := has_cardInRange _ (wfQ_of_wf (slotAt_wf hw hc.1).2) lo hi (Nat.le_trans hlh hhi) hhi
    have hm := cnt_mono (cAt l i).has hlh
    unfold IsCardInRange at hr
    omega
  · omega

theorem cnt_chunkStart {l : List Slot} (hw : SlotsWf l) {k i : Nat} (p : KeyPos l k i) {n : Nat}
    (hn : n = k * 65536 + 0) : (cnt (slotV.mem 65536 l) n : Int) = cardSum (l.take i) := by
  rw [cnt_keyPos hw p (Nat.zero_le _) hn, cnt_zero, Int.natCast_zero, ite_self, Int.add_zero]

theorem cnt_chunkEnd {l : List Slot} (hw : SlotsWf l) {k i : Nat} (p : KeyPos l k i) {n : Nat}
    (hn : n = k * 65536 + 65536) :
    (cnt (slotV.mem 65536 l) n : Int) = cardSum (l.take (if i < l.length ∧ kAt l i = k then i + 1 else i)) := by
  rw [cnt_keyPos hw p (Nat.le_refl _) hn]
  split
  · next hc => rw [cardSum_take_succ hc.1, has_card _ (wfQ_of_wf (slotAt_wf hw hc.1).2)]
  · omega

/-- the members between `a = kS·2^16 + lo` and `b = kE·2^16 + hi` for `kS < kE`, chunk by chunk: the rest of chunk `kS`, the
slots with keys strictly between, the beginning of chunk `kE` -/
theorem cnt_between {l : List Slot} (hw : SlotsWf l) {kS kE iS iE : Nat} (hk : kS < kE) (pS : KeyPos l kS iS)
    (pE : KeyPos l kE iE) (hS : iS < l.length) {lo hi a b : Nat} (hlo : lo ≤ 65536) (hhi : hi ≤ 65536)
    (ha : a = kS * 65536 + lo) (hb : b = kE * 65536 + hi) :
    (cnt (slotV.mem 65536 l) b : Int) - cnt (slotV.mem 65536 l) a =
      (if kAt l iS = kS then (cAt l iS).cardInRangeQ lo 65536 else 0) +
        cardSum ((l.take iE).drop (if kAt l iS = kS then iS + 1 else iS)) +
        (if iE < l.length ∧ kAt l iE = kE then (cAt l iE).cardInRangeQ 0 hi else 0) := by
  obtain ⟨s, hs⟩ : ∃ s, s = kS * 65536 + 65536 := ⟨_, rfl⟩
  obtain ⟨e, he⟩ : ∃ e, e = kE * 65536 + 0 := ⟨_, rfl⟩
  have h1 := cnt_inChunk hw pS hlo (Nat.le_refl _) ha hs
  have h2 := cnt_chunkEnd hw pS hs
  have h3 := cnt_chunkStart hw pE he
  have h4 := cnt_inChunk hw pE (Nat.zero_le hi) hhi he hb
  simp only [hS, true_and] at h1 h2
  have hle : (if kAt l iS = kS then iS + 1 else iS) ≤ iE := by
    apply Nat.le_of_not_lt
    intro hc
    split at hc
    · next hp => have := pE.above iS (by omega) hS; omega
    · have := pS.below iE (by omega); have := pE.above iE (Nat.le_refl _) (by omega); omega
  have h5 := cardSum_take_drop l hle
  rw [← h4, ← h1]
  omega

end RepQuery

/-- `CardinalityInRange(a, b)`: number of members in `[a, b)`; domain `a ≤ 2^32`, `b ≤ 2^32` -/
theorem Rep.cardInRange_spec (r : Rep) (h : r.wf = true) (a b : Nat) (ha : a ≤ 4294967296) (hb : b ≤ 4294967296) :
    r.cardInRange a b = (BSet.cardInRange r.toBSet a b : Int) := by
  -- the bound on `a` plays no role: from `b` on both sides are `0`
  have _ := ha
  obtain ⟨hw, hs, he, -⟩ := rep_facts r h
  unfold BSet.cardInRange
  have hm' := congrFun (Rep.mem_eq h)
  rw [rankLt_eq_cnt hs he hm', rankLt_eq_cnt hs he hm', Rep.cardInRange]
  by_cases hab : a ≥ b
  · rw [if_pos hab]
    have := cnt_mono (slotV.mem 65536 r.slots) hab
    omega
  · have hlt : a < b := Nat.lt_of_not_le hab
    have hb1 : 1 ≤ b := Nat.succ_le_of_lt (Nat.lt_of_le_of_lt (Nat.zero_le a) hlt)
    rw [if_neg hab, Int.ofNat_sub (cnt_mono _ (Nat.le_of_lt hlt))]
    simp only []
    rw [if_neg (Nat.not_lt.mpr hb), Nat.mod_eq_of_lt (Nat.lt_of_lt_of_le hlt hb),
      Nat.mod_eq_of_lt (Nat.lt_of_lt_of_le (Nat.sub_lt hb1 Nat.one_pos) hb), keysOf_length]
    have hlo : a % 65536 ≤ 65536 := Nat.le_of_lt (Nat.mod_lt a (by decide))
    have hhi : (b - 1) % 65536 + 1 ≤ 65536 := Nat.mod_lt (b - 1) (by decide)
    have hkk : a / 65536 ≤ (b - 1) / 65536 := Nat.div_le_div_right (Nat.le_sub_one_of_lt hlt)
    have ea : a = a / 65536 * 65536 + a % 65536 := (Nat.div_add_mod' a 65536).symm
    have eb : b = (b - 1) / 65536 * 65536 + ((b - 1) % 65536 + 1) := by
      rw [← Nat.add_assoc, Nat.div_add_mod', Nat.sub_add_cancel hb1]
    have pS := (keyPos_of_bsPost hw (getIndex_spec (keysOf_sorted hw) (a / 65536))).1
    have kE := keyPos_of_bsPost hw (getIndex_spec (keysOf_sorted hw) ((b - 1) / 65536))
    generalize getIndex (keysOf r.slots) (a / 65536) = gS at *
    generalize getIndex (keysOf r.slots) ((b - 1) / 65536) = gE at *
    rw [show (if gS < 0 then (-gS - 1).toNat else gS.toNat) = giPos gS from rfl]
    by_cases hge : giPos gS ≥ r.slots.length
    · -- every key is below the chunk of `a`
      have pE : KeyPos r.slots ((b - 1) / 65536) (giPos gS) :=
        ⟨pS.le, fun j hj => Nat.lt_of_lt_of_le (pS.below j hj) hkk, fun j hj hjl => by omega⟩
      have h1 := cnt_keyPos hw pS hlo ea
      have h2 := cnt_keyPos hw pE hhi eb
      rw [if_neg (fun hc => by omega)] at h1 h2
      rw [if_pos hge, h1, h2, Int.sub_self]
    · rw [if_neg hge]
      have hlt : giPos gS < r.slots.length := Nat.lt_of_not_le hge
      by_cases hk : a / 65536 = (b - 1) / 65536
      · have h1 := cnt_inChunk hw pS (show a % 65536 ≤ (b - 1) % 65536 + 1 by omega) hhi ea (hk ▸ eb)
        simp only [hlt, true_and] at h1
        rw [if_pos hk, h1]
      · have h1 := cnt_between hw (Nat.lt_of_le_of_ne hkk hk) pS kE.1 hlt hlo hhi ea eb
        rw [if_neg hk, h1]
        simp only [beq_iff_eq, decide_eq_true_eq, ge_iff_le]
        by_cases hg : 0 ≤ gE
        · rw [if_pos hg, if_pos hg, if_pos (kE.2.mp hg), giPos_nonneg hg]
        · rw [if_neg hg, if_neg hg, if_neg (fun hc => hg (kE.2.mpr hc))]
          unfold giPos
          rw [if_pos (Int.lt_of_not_ge hg)]

end RModel.Impl
