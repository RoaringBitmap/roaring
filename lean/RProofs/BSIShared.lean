import RModel.Impl.BSI64Big
import RProofs.BSet
import RProofs.BSetQuery
import RProofs.Agg
import RProofs.Util.List
import RProofs.Util.Nat
/-!
What the proofs about the two bit-sliced indexes (`roaring64.BSI`: `RProofs/BSI.lean`, `BSI64Ops`, `BSI64Big`;
`BitSliceIndexing.BSI`: `RProofs/BSI32.lean`, `BSI32Ops`, `BSI32OpsPlanes`) share.  It is about plane lists and sets of columns, not
about an index: planes inside an existence set (`Sub`, `Inside`, over the canonical finite sets `Good` of
`RProofs/BSetQuery.lean`), the word of a column over a plane list (`col`, `encN`), plane lists rewritten plane by plane, the digit
steps of the bit-by-bit comparisons, `parallelExecutor`, stores of integers by column (`Store`: last write, counting), and the
match trie of `BatchEqual` with its pigeonhole.  The trie is the one of the 32-bit model, which reads nothing of its `Index` but
the planes; the 64-bit trie is the same function (`matchTrie_eq32`, `BSI64Ops`).
The namespace of a declaration (`RModel.BSI` or `RModel.BSI32`) does not say which index uses it.
-/

open RModel.Util
namespace RModel.BSI
open RModel.BSet

/-! ### the invariant carrier: canonical sets inside a bounding set -/

def Sub (E p : BSet) : Prop := Good p ∧ ∀ x, mem p x = true → mem E x = true

def Inside (E : BSet) (ps : List BSet) : Prop := ∀ p ∈ ps, Sub E p

theorem sub_nil (E : BSet) : Sub E [] := ⟨good_nil, by simp⟩

theorem sub_of_combine (f : Bool → Bool → Bool) (hf : f false false = false) (E a b : BSet) (ha : Good a) (hb : Good b)
    (h : ∀ x, f (mem a x) (mem b x) = true → mem E x = true) : Sub E (combine f a b false false) := by
  refine ⟨good_combine f hf a b ha hb, fun x hx => h x ?_⟩
  rw [mem_combine f a b false false ha.1 hb.1, hf] at hx
  simpa using hx

theorem sub_xor (E a b : BSet) (ha : Sub E a) (hb : Sub E b) : Sub E (xor a b) :=
  sub_of_combine _ rfl E a b ha.1 hb.1 fun x hx => by
    cases hm : mem a x
    · exact hb.2 x (by simpa [hm] using hx)
    · exact ha.2 x hm

theorem sub_inter (E a b : BSet) (ha : Sub E a) (hb : Good b) : Sub E (inter a b) :=
  sub_of_combine _ rfl E a b ha.1 hb fun x hx => ha.2 x (Bool.and_eq_true_iff.mp hx).1

theorem sub_inter_right (E a b : BSet) (ha : Good a) (hb : Sub E b) : Sub E (inter a b) :=
  sub_of_combine _ rfl E a b ha hb.1 fun x hx => hb.2 x (Bool.and_eq_true_iff.mp hx).2

theorem sub_diff (E a b : BSet) (ha : Sub E a) (hb : Good b) : Sub E (diff a b) :=
  sub_of_combine _ rfl E a b ha.1 hb fun x hx => ha.2 x (Bool.and_eq_true_iff.mp hx).1

theorem sub_union (E a b : BSet) (ha : Sub E a) (hb : Sub E b) : Sub E (union a b) :=
  sub_of_combine _ rfl E a b ha.1 hb.1 fun x hx => (Bool.or_eq_true_iff.mp hx).elim (ha.2 x) (hb.2 x)

/-- the existence set grows by a union (`SetMany`, `Add`, `Increment`, `ParOr`): what was inside either part is inside the union -/
theorem sub_left_union (E F p : BSet) (hE : SInc E) (hF : SInc F) (h : Sub E p) : Sub (union E F) p :=
  ⟨h.1, fun x hx => by rw [mem_union _ _ hE hF, h.2 x hx]; rfl⟩

theorem sub_right_union (E F p : BSet) (hE : SInc E) (hF : SInc F) (h : Sub F p) : Sub (union E F) p :=
  ⟨h.1, fun x hx => by rw [mem_union _ _ hE hF, h.2 x hx, Bool.or_true]⟩

theorem sub_refl (f : BSet) (hf : Good f) : Sub f f := ⟨hf, fun _ hx => hx⟩

theorem inside_cons (E p : BSet) (ps : List BSet) : Inside E (p :: ps) ↔ Sub E p ∧ Inside E ps := List.forall_mem_cons

theorem inside_append (E : BSet) (ps qs : List BSet) : Inside E (ps ++ qs) ↔ Inside E ps ∧ Inside E qs := List.forall_mem_append

theorem inside_replicate_nil (E : BSet) (k : Nat) : Inside E (List.replicate k []) :=
  fun _ hp => (List.mem_replicate.mp hp).2 ▸ sub_nil E

/-- padding with empty planes (auto-sizing, `ParOr`, `UnmarshalBinary`) -/
theorem inside_append_nil (E : BSet) (ps : List BSet) (k : Nat) (h : Inside E ps) : Inside E (ps ++ List.replicate k []) :=
  (inside_append E _ _).mpr ⟨h, inside_replicate_nil E k⟩

theorem inside_left_union (E F : BSet) (ps : List BSet) (hE : SInc E) (hF : SInc F) (h : Inside E ps) : Inside (union E F) ps :=
  fun p hp => sub_left_union E F p hE hF (h p hp)

theorem inside_right_union (E F : BSet) (ps : List BSet) (hE : SInc E) (hF : SInc F) (h : Inside F ps) : Inside (union E F) ps :=
  fun p hp => sub_right_union E F p hE hF (h p hp)

/-- `ClearValues`, `NewBSIRetainSet` sweep every plane `p ⊆ E` (truth table `f`) and `E` itself (`f'`) with the same argument `g`:
when `f a q` implies `f' a' q` for `a` implying `a'`, the new planes are inside the new `E` -/
theorem inside_sweep (f f' : Bool → Bool → Bool) (hf : f false false = false) (hf' : f' false false = false)
    (hm : ∀ a a' q, (a = true → a' = true) → f a q = true → f' a' q = true)
    (E g : BSet) (ps : List BSet) (hE : Good E) (hg : Good g) (h : Inside E ps) :
    Inside (combine f' E g false false) (ps.map fun p => combine f p g false false) := by
  intro r hr
  obtain ⟨p, hp, rfl⟩ := List.mem_map.mp hr
  refine sub_of_combine f hf _ p g (h p hp).1 hg fun x hx => ?_
  rw [mem_combine f' E g false false hE.1 hg.1, hf']
  simpa using hm _ _ _ ((h p hp).2 x) hx

/-- the set a query iterates (the found set; the existence set when nil) has what both have -/
theorem found_getD {P : BSet → Prop} (E : BSet) (hE : P E) (found : Option BSet) (hf : ∀ f, found = some f → P f) :
    P (found.getD E) := by
  cases found with
  | none => exact hE
  | some f => exact hf f rfl

/-! ### column words
`col ps c` lists the memberships of column `c` in plane 0, 1, …; `encN` reads a word as an unsigned number, LSB first. -/

def col (ps : List BSet) (c : Nat) : List Bool := ps.map (fun p => mem p c)

def encN : List Bool → Nat
  | [] => 0
  | b :: r => b.toNat + 2 * encN r

@[simp] theorem col_nil (c : Nat) : col [] c = [] := rfl

@[simp] theorem col_cons (p : BSet) (ps : List BSet) (c : Nat) : col (p :: ps) c = mem p c :: col ps c := rfl

@[simp] theorem col_length (ps : List BSet) (c : Nat) : (col ps c).length = ps.length := by simp [col]

theorem encN_lt : ∀ (l : List Bool), encN l < 2 ^ l.length
  | [] => by simp [encN]
  | b :: r => by
    have := encN_lt r
    simp only [encN, List.length_cons, Nat.pow_succ]
    cases b <;> simp <;> omega

theorem testBit_encN : ∀ (l : List Bool) (i : Nat), (encN l).testBit i = l.getD i false
  | [], i => by simp [encN]
  | b :: r, 0 => by
    simp only [encN, Nat.testBit_zero, List.getD_cons_zero]
    cases b <;> simp <;> omega
  | b :: r, i + 1 => by
    rw [Nat.testBit_add_one, List.getD_cons_succ, ← testBit_encN r i]
    congr 1
    simp only [encN]
    cases b <;> simp <;> omega

theorem getD_col (c : Nat) : ∀ (ps : List BSet) (i : Nat), (col ps c).getD i false = mem (ps.getD i []) c
  | [], i => by simp
  | p :: ps, 0 => by simp
  | p :: ps, i + 1 => by simp only [col_cons, List.getD_cons_succ, getD_col c ps i]

theorem mem_plane (ps : List BSet) (c i : Nat) : mem (ps.getD i []) c = (encN (col ps c)).testBit i := by
  rw [testBit_encN, getD_col]

/-- a column outside the bounding set has the all-false word, which either index reads as `0` -/
theorem col_absent (E : BSet) (ps : List BSet) (h : Inside E ps) (c : Nat) (hc : mem E c = false) :
    col ps c = List.replicate ps.length false := by
  rw [List.eq_replicate_iff]
  refine ⟨col_length ps c, fun x hx => ?_⟩
  obtain ⟨p, hp, rfl⟩ := List.mem_map.mp hx
  cases hm : mem p c
  · rfl
  · rw [(h p hp).2 c hm] at hc; cases hc

theorem encN_replicate_false : ∀ (n : Nat), encN (List.replicate n false) = 0
  | 0 => rfl
  | n + 1 => by rw [List.replicate_succ, encN, encN_replicate_false n]; rfl

end RModel.BSI

namespace RModel.BSI32
open RModel.BSet
open RModel.BSI (col encN)

/-- the unbounded word of a column (all planes) -/
def word (ps : List BSet) (c : Nat) : Nat := encN (col ps c)

end RModel.BSI32

namespace RModel.BSI
open RModel.BSet

/-! ### the plane list read and rewritten plane by plane -/

theorem getD_of_forall (ps : List BSet) (P : BSet → Prop) (h : ∀ p ∈ ps, P p) (h0 : P []) (i : Nat) : P (ps.getD i []) := by
  rw [List.getD_eq_getElem?_getD]
  cases hi : ps[i]? with
  | none => exact h0
  | some p => exact h p (List.mem_of_getElem? hi)

theorem sinc_getD (ps : List BSet) (h : ∀ p ∈ ps, SInc p) (i : Nat) : SInc (ps.getD i []) :=
  getD_of_forall ps SInc h List.Pairwise.nil i

theorem good_getD (ps : List BSet) (h : ∀ p ∈ ps, Good p) (i : Nat) : Good (ps.getD i []) :=
  getD_of_forall ps Good h good_nil i

/-- the upward plane loops (`for i := 0; i < len(bA); i++`: recursions over the plane list that carry the plane index) rewrite plane
`k` from itself and `k`: they are `List.mapIdx` -/
theorem mapIdx_of_rec {α β : Type} (F : List α → Nat → List β) (g : Nat → α → β) (h0 : ∀ i, F [] i = [])
    (h1 : ∀ p ps i, F (p :: ps) i = g i p :: F ps (i + 1)) : ∀ (ps : List α) (i : Nat), F ps i = ps.mapIdx (fun k p => g (i + k) p)
  | [], i => h0 i
  | p :: ps, i => by
    rw [h1, mapIdx_of_rec F g h0 h1 ps (i + 1), List.mapIdx_cons]
    simp only [Nat.add_zero, Nat.add_assoc, Nat.add_comm 1]

theorem getD_mapIdx (g : Nat → BSet → BSet) (ps : List BSet) (k : Nat) :
    (ps.mapIdx g).getD k [] = if k < ps.length then g k (ps.getD k []) else [] := by
  rw [List.getD_eq_getElem?_getD, List.getD_eq_getElem?_getD, List.getElem?_mapIdx]
  by_cases h : k < ps.length
  · rw [if_pos h, List.getElem?_eq_getElem h]; rfl
  · rw [if_neg h, List.getElem?_eq_none (by omega)]; rfl

theorem forall_mem_mapIdx (g : Nat → BSet → BSet) (ps : List BSet) (P Q : BSet → Prop) (h : ∀ p ∈ ps, Q p)
    (hg : ∀ k p, Q p → P (g k p)) : ∀ q ∈ ps.mapIdx g, P q := by
  intro q hq
  obtain ⟨k, hk, rfl⟩ := List.mem_mapIdx.mp hq
  exact hg k _ (h _ (List.getElem_mem hk))

/-- the write loop of `SetMany` on either index (`bit k` is bit `k` of the value): every plane gains or loses the columns of `f` -/
theorem inside_write (E f : BSet) (hf : Sub E f) (bit : Nat → Bool) (ps : List BSet) (h : Inside E ps) :
    Inside E (ps.mapIdx fun k p => if bit k then union p f else diff p f) :=
  forall_mem_mapIdx _ ps (Sub E) (Sub E) h fun k p hp => by
    split
    · exact sub_union _ _ _ hp hf
    · exact sub_diff _ _ _ hp hf.1

theorem col_map_of_mem_eq (g : BSet → BSet) (c : Nat) : ∀ (ps : List BSet), (∀ p ∈ ps, mem (g p) c = mem p c) →
    col (ps.map g) c = col ps c
  | [], _ => rfl
  | p :: ps, h => by
    simp only [List.map_cons, col_cons, h p (by simp),
      col_map_of_mem_eq g c ps (fun q hq => h q (by simp [hq]))]

/-- the partial map denoted by an existence set and planes (for ANY reading `rd` of a column word) after both were swept with
the same `g`, where on column `c` the sweep keeps a member iff `k`: the column keeps its value iff `k`, else it is gone -/
theorem view_map {α : Type} (rd : List Bool → α) (g : BSet → BSet) (e : BSet) (ps : List BSet) (c : Nat) (k : Bool)
    (he : mem (g e) c = (mem e c && k)) (hg : ∀ p ∈ ps, mem (g p) c = (mem p c && k)) :
    (if mem (g e) c = true then some (rd (col (ps.map g) c)) else none) =
      if k = true then (if mem e c = true then some (rd (col ps c)) else none) else none := by
  rw [he]
  cases k
  · simp
  · rw [col_map_of_mem_eq g c ps (fun p hp => by rw [hg p hp, Bool.and_true])]; simp

/-! ### one binary digit
Comparing two numbers bit by bit from the top is lexicographic: the parts above bit `i` compare as the parts above bit `i + 1`,
refined by bit `i` where those agree (`compare_div_pow_step`; `div_pow_eq_step`, `div_pow_lt_step` are its `=` and `<` cases);
from the bottom: the low `j + 1` bits are the low `j` bits and bit `j` (`mod_succ_testBit`, `RProofs/Util/Nat.lean`).
(`Ord.compare` is written out because `compare` is `BSI.compare`, the model of `CompareValue`, in this namespace.) -/

theorem div_pow_step (x i : Nat) : x / 2 ^ i = 2 * (x / 2 ^ (i + 1)) + (x.testBit i).toNat := by
  rw [Nat.toNat_testBit, Nat.pow_succ, ← Nat.div_div_eq_div_mul]
  omega

theorem compare_cases (x y : Nat) :
    (Ord.compare x y = .lt ∧ x < y) ∨ (Ord.compare x y = .eq ∧ x = y) ∨ (Ord.compare x y = .gt ∧ y < x) := by
  rcases Nat.lt_trichotomy x y with h | h | h
  · exact Or.inl ⟨Nat.compare_eq_lt.mpr h, h⟩
  · exact Or.inr (Or.inl ⟨Nat.compare_eq_eq.mpr h, h⟩)
  · exact Or.inr (Or.inr ⟨Nat.compare_eq_gt.mpr h, h⟩)

theorem compare_bool_eq (x y : Bool) : Ord.compare x y = .eq ↔ x = y := by cases x <;> cases y <;> decide

theorem compare_bool_lt (x y : Bool) : Ord.compare x y = .lt ↔ x = false ∧ y = true := by cases x <;> cases y <;> decide

theorem compare_div_pow_step (x y i : Nat) :
    Ord.compare (x / 2 ^ i) (y / 2 ^ i) =
      (Ord.compare (x / 2 ^ (i + 1)) (y / 2 ^ (i + 1))).then (Ord.compare (x.testBit i) (y.testBit i)) := by
  have hx := div_pow_step x i
  have hy := div_pow_step y i
  rcases compare_cases (x / 2 ^ (i + 1)) (y / 2 ^ (i + 1)) with ⟨e, h⟩ | ⟨e, h⟩ | ⟨e, h⟩ <;> rw [e]
  · exact Nat.compare_eq_lt.mpr (by have := Bool.toNat_le (x.testBit i); omega)
  · rw [hx, hy, h]
    cases x.testBit i <;> cases y.testBit i
    · exact Nat.compare_eq_eq.mpr rfl
    · exact Nat.compare_eq_lt.mpr (Nat.lt_succ_self _)
    · exact Nat.compare_eq_gt.mpr (Nat.lt_succ_self _)
    · exact Nat.compare_eq_eq.mpr rfl
  · exact Nat.compare_eq_gt.mpr (by have := Bool.toNat_le (y.testBit i); omega)

theorem div_pow_eq_step (x y i : Nat) :
    x / 2 ^ i = y / 2 ^ i ↔ x / 2 ^ (i + 1) = y / 2 ^ (i + 1) ∧ x.testBit i = y.testBit i := by
  rw [← Nat.compare_eq_eq, compare_div_pow_step, Ordering.then_eq_eq, Nat.compare_eq_eq, compare_bool_eq]

theorem div_pow_lt_step (x y i : Nat) :
    x / 2 ^ i < y / 2 ^ i ↔ x / 2 ^ (i + 1) < y / 2 ^ (i + 1) ∨
      (x / 2 ^ (i + 1) = y / 2 ^ (i + 1) ∧ x.testBit i = false ∧ y.testBit i = true) := by
  rw [← Nat.compare_eq_lt, compare_div_pow_step, Ordering.then_eq_lt, Nat.compare_eq_lt, Nat.compare_eq_eq, compare_bool_lt]

/-- once the parts above bit `i` differ, they order like the numbers -/
theorem compare_of_div_ne (x y i : Nat) (h : Ord.compare (x / 2 ^ i) (y / 2 ^ i) ≠ .eq) :
    Ord.compare x y = Ord.compare (x / 2 ^ i) (y / 2 ^ i) := by
  rcases compare_cases (x / 2 ^ i) (y / 2 ^ i) with ⟨e, h'⟩ | ⟨e, _⟩ | ⟨e, h'⟩
  · rw [e]; exact Nat.compare_eq_lt.mpr (Nat.lt_of_div_lt_div h')
  · exact absurd e h
  · rw [e]; exact Nat.compare_eq_gt.mpr (Nat.lt_of_div_lt_div h')

theorem div_lt_iff_of_ne (a b i : Nat) (h : a / 2 ^ i ≠ b / 2 ^ i) : a / 2 ^ i < b / 2 ^ i ↔ a < b := by
  rw [← Nat.compare_eq_lt, ← Nat.compare_eq_lt, compare_of_div_ne a b i (mt Nat.compare_eq_eq.mp h)]

/-! ### sums over columns -/

def isum (L : List Nat) (g : Nat → Int) : Int := (L.map g).sum

theorem isum_add (L : List Nat) (g h : Nat → Int) :
    isum L (fun c => g c + h c) = isum L g + isum L h := by
  induction L with
  | nil => simp [isum]
  | cons a t ih => simp only [isum, List.map_cons, List.sum_cons] at ih ⊢; omega

theorem isum_mul (L : List Nat) (k : Int) (g : Nat → Int) :
    isum L (fun c => k * g c) = k * isum L g := by
  induction L with
  | nil => simp [isum]
  | cons a t ih => simp only [isum, List.map_cons, List.sum_cons] at ih ⊢; rw [ih, Int.mul_add]

theorem isum_zero (L : List Nat) : isum L (fun _ => 0) = 0 :=
  (isum_mul L 0 (fun _ => 0)).trans (Int.zero_mul _)

theorem isum_ind (L : List Nat) (q : Nat → Bool) :
    isum L (fun c => if q c then 1 else 0) = (L.countP q : Int) := by
  induction L with
  | nil => simp [isum]
  | cons a t ih =>
    simp only [isum, List.map_cons, List.sum_cons, List.countP_cons] at ih ⊢
    rw [ih]; cases q a <;> simp <;> omega

theorem isum_congr (L : List Nat) (g h : Nat → Int) (e : ∀ c ∈ L, g c = h c) : isum L g = isum L h := by
  simp only [isum]; rw [List.map_congr_left e]

/-! ### folds over participants: widths -/

theorem foldl_max_ge {β : Type} (len : β → Nat) (bs : List β) : ∀ (m : Nat),
    m ≤ bs.foldl (fun m x => if len x > m then len x else m) m ∧
    ∀ x ∈ bs, len x ≤ bs.foldl (fun m x => if len x > m then len x else m) m := by
  -- Go's `if len(x) > m { m = len(x) }` is `max`
  have e : (fun m x => if len x > m then len x else m) = fun m x => max m (len x) :=
    funext fun m => funext fun x => by rw [Nat.max_def]; split <;> split <;> omega
  rw [e]
  exact Util.foldl_max_ge len bs

/-! ### `parallelExecutor`: the result does not depend on the number of workers -/

theorem batchesAux_flatten (x : Nat) : ∀ (k : Nat) (l : List Nat), (batchesAux x k l).flatten = l
  | 0, l => by simp [batchesAux]
  | k + 1, l => by
    simp only [batchesAux, List.flatten_cons, batchesAux_flatten x k]
    exact List.take_append_drop x l

theorem mem_batches (n : Nat) (l : List Nat) (c : Nat) : (∃ bt ∈ batches n l, c ∈ bt) ↔ c ∈ l := by
  have := batchesAux_flatten (l.length / n) (n - 1) l
  conv => rhs; rw [← this]
  simp [batches, List.mem_flatten]

theorem parExec_any (n : Nat) (worker : List Nat → BSet) (hg : ∀ bt, Good (worker bt)) (l : List Nat) :
    Good (parExec n worker l) ∧ ∀ x, mem (parExec n worker l) x = (batches n l).any (fun bt => mem (worker bt) x) := by
  have := foldl_union_any worker (batches n l) (fun bt _ => hg bt) [] good_nil
  rw [← List.foldl_map] at this
  exact ⟨this.1, fun x => by rw [parExec, this.2, mem_nil, Bool.false_or]⟩

theorem good_parExec (n : Nat) (worker : List Nat → BSet) (hg : ∀ bt, Good (worker bt)) (l : List Nat) :
    Good (parExec n worker l) := (parExec_any n worker hg l).1

/-- `parallelExecutor` with a worker whose result collects, for every column `c` of its batch, the members related to `c`:
the `ParOr` of the batch results collects them for every column of the iterated set, for every worker count -/
theorem mem_parExec (n : Nat) (worker : List Nat → BSet) (R : Nat → Nat → Prop) (hg : ∀ bt, Good (worker bt))
    (hm : ∀ bt x, mem (worker bt) x = true ↔ ∃ c ∈ bt, R c x) (l : List Nat) (x : Nat) :
    mem (parExec n worker l) x = true ↔ ∃ c ∈ l, R c x := by
  rw [(parExec_any n worker hg l).2, List.any_eq_true]
  constructor
  · rintro ⟨bt, hbt, h⟩
    obtain ⟨c, hc, hR⟩ := (hm bt x).mp h
    exact ⟨c, (mem_batches n l c).mp ⟨bt, hbt, hc⟩, hR⟩
  · rintro ⟨c, hc, hR⟩
    obtain ⟨bt, hbt, hcb⟩ := (mem_batches n l c).mpr hc
    exact ⟨bt, hbt, (hm bt x).mpr ⟨c, hcb, hR⟩⟩

theorem parExec_one_batch (n : Nat) (worker : List Nat → BSet) (R : Nat → Nat → Prop) (hg : ∀ bt, Good (worker bt))
    (hm : ∀ bt x, mem (worker bt) x = true ↔ ∃ c ∈ bt, R c x) (l : List Nat) :
    parExec n worker l = worker l :=
  sinc_ext _ _ (good_parExec n worker hg l).1 (hg l).1
    (fun x => (mem_parExec n worker R hg hm l x).trans (hm l x).symm)

theorem mem_ofList_filter (p : Nat → Bool) (l : List Nat) (x : Nat) :
    mem (ofList (l.filter p)) x = true ↔ x ∈ l ∧ p x = true := by
  rw [mem_ofList, List.mem_filter]

/-- a worker that collects what the columns of its batch yield: one batch holding every column gives the same set -/
theorem parExec_filterMap (n : Nat) (worker : List Nat → BSet) (f : Nat → Option Nat)
    (hw : ∀ bt, worker bt = ofList (bt.filterMap f)) (l : List Nat) : parExec n worker l = worker l :=
  parExec_one_batch n worker (fun c x => f c = some x) (fun bt => hw bt ▸ good_ofList _)
    (fun bt x => by rw [hw, mem_ofList, List.mem_filterMap]) l

/-- … in particular a worker that keeps the columns of its batch that pass a test -/
theorem parExec_filter (n : Nat) (worker : List Nat → BSet) (p : Nat → Bool) (hw : ∀ bt, worker bt = ofList (bt.filter p))
    (l : List Nat) : parExec n worker l = worker l :=
  parExec_filterMap n worker (Option.guard (p ·)) (fun bt => by rw [hw, List.filterMap_eq_filter]) l

/-! ### stores: the index as the finite map of its updates, histograms -/

def lastWrite (us : List (Nat × Int)) (c : Nat) (init : Option Int) : Option Int :=
  us.foldl (fun acc u => if u.1 = c then some u.2 else acc) init

/-- a histogram cell: absent when the count is `0` -/
def cell (n : Nat) : Option Int := if n = 0 then none else some (n : Int)

theorem getD_cell (n : Nat) : (cell n).getD 0 = (n : Int) := by
  simp only [cell]; split <;> simp_all

/-- integers stored by column: writes keep the invariant `I`, a written value of the admissible kind `P` is read back from its
column, the other columns are left alone.  Both indexes are stores (`BSI.store`, `BSI32.store`); what is proved of a store holds
of both. -/
structure Store (β : Type) where
  set : β → Nat → Int → β
  get : β → Nat → Option Int
  I : β → Prop
  P : Int → Prop
  inv : ∀ b c v, I b → I (set b c v)
  same : ∀ b c v, I b → P v → get (set b c v) c = some v
  other : ∀ b c c' v, I b → c' ≠ c → get (set b c v) c' = get b c'

namespace Store
variable {β : Type} (S : Store β)

/-- a store is the finite map of its update list -/
theorem foldl_lastWrite (us : List (Nat × Int)) (b : β) (h : S.I b) :
    S.I (us.foldl (fun b (c, v) => S.set b c v) b) ∧
    ((∀ u ∈ us, S.P u.2) → ∀ c, S.get (us.foldl (fun b (c, v) => S.set b c v) b) c = lastWrite us c (S.get b c)) := by
  -- the invariant holds whatever is written: `foldl_inv` with nothing asked of the updates and a trivial reading
  refine ⟨(foldl_inv (I := S.I) (P := fun _ => True) (den := fun _ => ()) (denb := fun _ => ()) (u := fun _ _ => ())
    (fun a u ha _ => ⟨S.inv a u.1 u.2 ha, rfl⟩) us b h (fun _ _ => trivial)).1, fun hus c => ?_⟩
  have := (foldl_inv (I := S.I) (P := fun u => S.P u.2) (den := fun a => S.get a c) (denb := id)
    (u := fun acc u => if u.1 = c then some u.2 else acc) (fun a u ha hu => ⟨S.inv a u.1 u.2 ha, by
      show _ = if u.1 = c then some u.2 else S.get a c
      by_cases e : u.1 = c
      · rw [if_pos e, ← e]; exact S.same a u.1 u.2 ha hu
      · rw [if_neg e]; exact S.other a u.1 c u.2 ha (fun e' => e e'.symm)⟩) us b h hus).2
  rwa [List.map_id] at this

def countStep {α : Type} (key : α → Option Nat) (res : β) (a : α) : β :=
  match key a with
  | none => res
  | some k => S.set res k ((S.get res k).getD 0 + 1)

theorem countStep_eq {α : Type} (key : α → Option Nat) (res : β) (a : α) :
    S.countStep key res a = res ∨ ∃ k v, S.countStep key res a = S.set res k v := by
  unfold countStep
  cases key a with
  | none => exact Or.inl rfl
  | some k => exact Or.inr ⟨k, _, rfl⟩

theorem inv_countStep {α : Type} (key : α → Option Nat) (res : β) (h : S.I res) (a : α) : S.I (S.countStep key res a) := by
  rcases S.countStep_eq key res a with e | ⟨k, v, e⟩ <;> rw [e]
  · exact h
  · exact S.inv _ _ _ h

theorem get_countStep {α : Type} (key : α → Option Nat) (res : β) (N : Nat → Nat) (h : S.I res)
    (hN : ∀ k, S.get res k = cell (N k)) (hP : ∀ k, S.P ((N k : Int) + 1)) (a : α) (k : Nat) :
    S.get (S.countStep key res a) k = cell (N k + (key a == some k).toNat) := by
  unfold countStep
  cases hk : key a with
  | none => simp [hN k]
  | some k0 =>
    simp only [hN k0, getD_cell]
    by_cases e : k = k0
    · subst e; rw [S.same _ _ _ h (hP k)]; simp [cell]
    · rw [S.other _ _ _ _ h e, hN k]
      have : (some k0 == some k) = false := by simp; exact fun h' => e h'.symm
      simp [this]

/-- counting into a store whose cells hold the counts `N` (absent = 0): afterwards they hold `N` plus the number of items with
that key.  A further property `J` of the running store that one increment preserves holds at the end.  (The admissibility
bound shrinks along the list, so this is an induction of its own and not `foldl_inv`.) -/
theorem foldl_count {α : Type} (key : α → Option Nat) (J : β → Prop)
    (hJ : ∀ (res : β) (N : Nat → Nat), S.I res → (∀ k, S.get res k = cell (N k)) → (∀ k, S.P ((N k : Int) + 1)) → J res →
      ∀ k0, J (S.set res k0 ((N k0 : Int) + 1))) :
    ∀ (l : List α) (res : β) (N : Nat → Nat), S.I res → (∀ k, S.get res k = cell (N k)) →
    (∀ k (n : Nat), n ≤ N k + l.length → S.P n) → J res →
    S.I (l.foldl (S.countStep key) res) ∧ J (l.foldl (S.countStep key) res) ∧
    ∀ k, S.get (l.foldl (S.countStep key) res) k = cell (N k + l.countP (fun a => key a == some k))
  | [], res, N, h, hN, _, hj => ⟨h, hj, fun k => by simp [hN k]⟩
  | a :: l, res, N, h, hN, hP, hj => by
    have hP1 : ∀ k, S.P ((N k : Int) + 1) := fun k => by
      have := hP k (N k + 1) (by simp); exact_mod_cast this
    have ih := foldl_count key J hJ l (S.countStep key res a) (fun k => N k + (key a == some k).toNat)
      (S.inv_countStep key res h a) (S.get_countStep key res N h hN hP1 a)
      (fun k n hn => hP k n (by
        have := Bool.toNat_le (key a == some k); simp only [List.length_cons]; omega))
      (by unfold countStep
          cases hk : key a with
          | none => exact hj
          | some k0 => simp only [hN k0, getD_cell]; exact hJ res N h hN hP1 hj k0)
    refine ⟨ih.1, ih.2.1, fun k => ?_⟩
    rw [List.foldl_cons, ih.2.2 k, List.countP_cons]
    congr 1
    cases (key a == some k) <;> simp <;> omega

end Store

end RModel.BSI

namespace RModel.BSI32
open RModel.BSet

/-! ### value lists and the match trie of `BatchEqual` -/

theorem insertU_spec (x : Nat) : ∀ (l : List Nat), l.Pairwise (· < ·) →
    (insertU x l).Pairwise (· < ·) ∧ ∀ z, z ∈ insertU x l ↔ z = x ∨ z ∈ l
  | [], _ => by simp [insertU]
  | y :: ys, h => by
    have hp := List.pairwise_cons.mp h
    have ih := insertU_spec x ys hp.2
    simp only [insertU]
    split
    · rename_i hlt
      exact ⟨List.pairwise_cons.mpr ⟨List.forall_mem_cons.mpr ⟨hlt, fun z hz => Nat.lt_trans hlt (hp.1 z hz)⟩, h⟩, by simp⟩
    · split
      · rename_i he
        subst he
        exact ⟨h, by intro z; simp⟩
      · rename_i hnlt hne
        refine ⟨List.pairwise_cons.mpr ⟨?_, ih.1⟩, ?_⟩
        · intro z hz
          rcases (ih.2 z).mp hz with rfl | hz
          · omega
          · exact hp.1 z hz
        · intro z
          rw [List.mem_cons, ih.2 z, List.mem_cons, or_left_comm]

theorem foldl_insertU : ∀ (xs acc : List Nat), acc.Pairwise (· < ·) →
    (xs.foldl (fun acc x => insertU x acc) acc).Pairwise (· < ·) ∧
      ∀ z, z ∈ xs.foldl (fun acc x => insertU x acc) acc ↔ z ∈ acc ∨ z ∈ xs
  | [], acc, h => ⟨h, fun z => by simp⟩
  | x :: xs, acc, h => by
    have hi := insertU_spec x acc h
    have ih := foldl_insertU xs (insertU x acc) hi.1
    refine ⟨ih.1, fun z => ?_⟩
    rw [List.foldl_cons, ih.2 z, hi.2 z, List.mem_cons, or_assoc, or_left_comm]

def DistinctMod (n : Nat) (vals : List Nat) : Prop := vals.Pairwise (fun v w => v % 2 ^ n ≠ w % 2 ^ n)

/-- a strictly increasing list below `2^n` (`batchVals` of either index) -/
theorem distinctMod_of_sorted (n : Nat) (vals : List Nat) (hs : vals.Pairwise (· < ·)) (hlt : ∀ z ∈ vals, z < 2 ^ n) :
    DistinctMod n vals := by
  apply List.Pairwise.imp_of_mem _ hs
  intro v w hv hw h
  rw [Nat.mod_eq_of_lt (hlt v hv), Nat.mod_eq_of_lt (hlt w hw)]
  omega

theorem distinct_filter (p : Nat) (t : Bool) (vals : List Nat) (h : DistinctMod (p + 1) vals) :
    DistinctMod p (vals.filter (fun v => v.testBit p == t)) := by
  apply List.Pairwise.imp_of_mem _ (List.Pairwise.filter _ h)
  intro v w hv hw hne e
  apply hne
  rw [mod_succ_testBit, mod_succ_testBit, beq_iff_eq.mp (List.mem_filter.mp hv).2,
    beq_iff_eq.mp (List.mem_filter.mp hw).2, e]

theorem filter_not_eq (p : Nat) (vals : List Nat) :
    vals.filter (fun v => !v.testBit p) = vals.filter (fun v => v.testBit p == false) := by
  congr 1; funext v; cases v.testBit p <;> rfl

theorem filter_pos_eq (p : Nat) (vals : List Nat) :
    vals.filter (fun v => v.testBit p) = vals.filter (fun v => v.testBit p == true) := by
  congr 1; funext v; cases v.testBit p <;> rfl

end RModel.BSI32

namespace RModel.BSI
open RModel.BSet
open RModel.BSI32 (DistinctMod distinct_filter filter_not_eq filter_pos_eq)

theorem popCount_succ (n M : Nat) : popCount (n + 1) M = popCount n M + (M.testBit n).toNat := by
  simp only [popCount, List.range_succ, List.filter_append, List.length_append]
  cases hm : M.testBit n <;> simp [hm]

/-- `v` carries the fixed pattern `pat` on the bits below `n` that are not variable (`M` = variable mask) -/
def Agree (n M pat v : Nat) : Prop := ∀ i, i < n → M.testBit i = false → v.testBit i = pat.testBit i

theorem agree_mono (n M pat v : Nat) (h : Agree (n + 1) M pat v) : Agree n M pat v :=
  fun i hi hm => h i (by omega) hm

theorem agree_mod (n M pat v : Nat) (h : Agree (n + 1) M pat v) : Agree n M pat (v % 2 ^ n) := by
  intro i hi hm
  rw [Nat.testBit_mod_two_pow, h i (by omega) hm]
  simp [hi]

/-- why `matchInt64Cube` may answer with the sub-cube as soon as `len(vals) = 1 << countBSI64Bits(variableMask)`: values with
distinct residues that all carry the fixed pattern are at most `2^(number of variable bits)`, and that many of them are the whole
sub-cube -/
theorem cube_pigeon : ∀ (n M pat : Nat) (vals : List Nat), DistinctMod n vals → (∀ v ∈ vals, Agree n M pat v) →
    vals.length ≤ 2 ^ popCount n M ∧
    (vals.length = 2 ^ popCount n M → ∀ r, r < 2 ^ n → Agree n M pat r → ∃ v ∈ vals, v % 2 ^ n = r)
  | 0, M, pat, [], _, _ => by simp [popCount]
  | 0, M, pat, [a], _, _ => by
    refine ⟨by simp [popCount], ?_⟩
    intro _ r hr _
    exact ⟨a, by simp, by simp at hr; simp [Nat.mod_one, hr]⟩
  | 0, M, pat, a :: b :: t, h, _ => by
    have := (List.pairwise_cons.mp h).1 b (by simp)
    simp [Nat.mod_one] at this
  | p + 1, M, pat, vals, h, ha => by
    have ih := fun (t : Bool) => cube_pigeon p M pat _ (distinct_filter p t vals h)
      (fun v hv => agree_mono _ _ _ _ (ha v (List.mem_filter.mp hv).1))
    have hpop := popCount_succ p M
    -- a member of the half with top bit `t` that agrees with `r` below the top bit, `r` having top bit `t`
    have hlift : ∀ (t : Bool) (r : Nat), r < 2 ^ (p + 1) → r.testBit p = t →
        (∃ v ∈ vals.filter (fun v => v.testBit p == t), v % 2 ^ p = r % 2 ^ p) → ∃ v ∈ vals, v % 2 ^ (p + 1) = r := by
      rintro t r hr hrt ⟨v, hv, e⟩
      have hv' := List.mem_filter.mp hv
      refine ⟨v, hv'.1, ?_⟩
      rw [mod_succ_testBit, beq_iff_eq.mp hv'.2, e, ← hrt, ← mod_succ_testBit, Nat.mod_eq_of_lt hr]
    cases hm : M.testBit p
    · -- a fixed top bit: every value carries it, the list is one of its halves
      have hall : vals.filter (fun v => v.testBit p == pat.testBit p) = vals :=
        List.filter_eq_self.mpr (fun v hv => by rw [ha v hv p (by omega) hm]; simp)
      have ih' := ih (pat.testBit p)
      rw [hall] at ih'
      rw [hpop, hm]
      refine ⟨ih'.1, fun he r hr hra => ?_⟩
      apply hlift (pat.testBit p) r hr (hra p (by omega) hm)
      rw [hall]
      exact ih'.2 he (r % 2 ^ p) (Nat.mod_lt _ (Nat.two_pow_pos p)) (agree_mod _ _ _ _ hra)
    · -- a variable top bit: two halves of at most `2^popCount p M` values each
      have hlen := length_filter_split vals (fun v => v.testBit p)
      rw [filter_not_eq, filter_pos_eq] at hlen
      have hp2 : 2 ^ (popCount p M + 1) = 2 ^ popCount p M + 2 ^ popCount p M := by rw [Nat.pow_succ]; omega
      have h0 := (ih false).1
      have h1 := (ih true).1
      rw [hpop, hm]
      refine ⟨by simp only [Bool.toNat_true]; omega, fun he r hr hra => ?_⟩
      simp only [Bool.toNat_true] at he
      apply hlift (r.testBit p) r hr rfl
      refine (ih (r.testBit p)).2 ?_ (r % 2 ^ p) (Nat.mod_lt _ (Nat.two_pow_pos p)) (agree_mod _ _ _ _ hra)
      cases r.testBit p <;> omega

theorem popCount_ones (M : Nat) : ∀ n, (∀ i, i < n → M.testBit i = true) → popCount n M = n
  | 0, _ => rfl
  | n + 1, h => by rw [popCount_succ, popCount_ones M n (fun i hi => h i (by omega)), h n (by omega)]; rfl

end RModel.BSI

namespace RModel.BSI32
open RModel.BSet
open RModel.BSI (Good good_nil good_union good_inter good_diff)

/-- the dense-range shortcut of the trie (`len(vals) = 1 << (p+1)`): `cube_pigeon` on the sub-cube with every bit variable -/
theorem pigeon (n : Nat) (vals : List Nat) (hd : DistinctMod n vals) :
    vals.length ≤ 2 ^ n ∧ (vals.length = 2 ^ n → ∀ r, r < 2 ^ n → ∃ v ∈ vals, v % 2 ^ n = r) := by
  have hM : ∀ i, i < n → (2 ^ n - 1).testBit i = true := fun i hi => by rw [Nat.testBit_two_pow_sub_one]; simp [hi]
  have hA : ∀ v, BSI.Agree n (2 ^ n - 1) 0 v := fun v i hi hm => by rw [hM i hi] at hm; cases hm
  have := BSI.cube_pigeon n (2 ^ n - 1) 0 vals hd (fun v _ => hA v)
  rw [BSI.popCount_ones _ n hM] at this
  exact ⟨this.1, fun he r hr => this.2 he r hr (hA r)⟩

theorem beq_mod_succ (v w p : Nat) :
    (v % 2 ^ (p + 1) == w % 2 ^ (p + 1)) = ((v.testBit p == w.testBit p) && (v % 2 ^ p == w % 2 ^ p)) := by
  rw [mod_succ_testBit v, mod_succ_testBit w]
  have h1 : v % 2 ^ p < 2 ^ p := Nat.mod_lt _ (Nat.two_pow_pos p)
  have h2 : w % 2 ^ p < 2 ^ p := Nat.mod_lt _ (Nat.two_pow_pos p)
  generalize v % 2 ^ p = a at *
  generalize w % 2 ^ p = a' at *
  generalize (2 : Nat) ^ p = P at *
  rw [Bool.eq_iff_iff]
  cases v.testBit p <;> cases w.testBit p <;> simp <;> omega

/-- a value matches `w` on the low `p + 1` bits iff it is on `w`'s side of the split at bit `p` and matches on the low `p` bits -/
theorem any_match_succ (vals : List Nat) (w p : Nat) :
    vals.any (fun v => v % 2 ^ (p + 1) == w % 2 ^ (p + 1)) =
      ((!w.testBit p && (vals.filter (fun v => !v.testBit p)).any (fun v => v % 2 ^ p == w % 2 ^ p)) ||
        (w.testBit p && (vals.filter (fun v => v.testBit p)).any (fun v => v % 2 ^ p == w % 2 ^ p))) := by
  simp only [List.any_filter, beq_mod_succ]
  cases w.testBit p <;> simp

/-- the match trie: the columns of `pre` whose low `n` bits (planes `0..n-1`) equal the low `n` bits of one of the
values -/
theorem matchTrie_spec (b : Index) (hb : ∀ p ∈ b.planes, Good p) (c : Nat) : ∀ (n : Nat) (vals : List Nat) (pre : BSet),
    vals ≠ [] → DistinctMod n vals → Good pre →
    Good (matchTrie b n vals pre) ∧
    mem (matchTrie b n vals pre) c = (mem pre c && vals.any (fun v => v % 2 ^ n == word b.planes c % 2 ^ n))
  | 0, vals, pre, hne, _, hg => by
    refine ⟨hg, ?_⟩
    have : vals.any (fun v => v % 2 ^ 0 == word b.planes c % 2 ^ 0) = true := by
      cases vals with
      | nil => exact absurd rfl hne
      | cons a t => simp [Nat.mod_one]
    simp [matchTrie, this]
  | p + 1, vals, pre, hne, hd, hg => by
    have hplane : Good (b.planes.getD p []) := BSI.good_getD _ hb p
    have hbit : mem (b.planes.getD p []) c = (word b.planes c).testBit p := RModel.BSI.mem_plane b.planes c p
    have hlo := filter_not_eq p vals ▸ distinct_filter p false vals hd
    have hhi := filter_pos_eq p vals ▸ distinct_filter p true vals hd
    have hany := any_match_succ vals (word b.planes c) p
    simp only [matchTrie]
    cases he : pre.isEmpty
    case true =>
      rw [if_pos rfl, mem_of_isEmpty pre he c]
      exact ⟨good_nil, rfl⟩
    rw [if_neg Bool.false_ne_true]
    cases hfull : (decide (p < 63) && vals.length == 2 ^ (p + 1))
    case true =>
      rw [if_pos rfl]
      refine ⟨hg, ?_⟩
      simp only [Bool.and_eq_true, decide_eq_true_eq, beq_iff_eq] at hfull
      obtain ⟨v, hv, e⟩ := (pigeon (p + 1) vals hd).2 hfull.2 (word b.planes c % 2 ^ (p + 1))
        (Nat.mod_lt _ (Nat.two_pow_pos _))
      rw [List.any_eq_true.mpr ⟨v, hv, by simp [e]⟩, Bool.and_true]
    rw [if_neg Bool.false_ne_true]
    -- the side without bit `p` continues in `pre \ plane`, the side with it in `pre ∩ plane`; an empty side is skipped and
    -- matches nothing
    have hmd : mem (diff pre (b.planes.getD p [])) c = (mem pre c && !(word b.planes c).testBit p) := by
      rw [mem_diff _ _ hg.1 hplane.1, hbit]
    have hmi : mem (inter pre (b.planes.getD p [])) c = (mem pre c && (word b.planes c).testBit p) := by
      rw [mem_inter _ _ hg.1 hplane.1, hbit]
    have ihlo := fun hne' => matchTrie_spec b hb c p _ _ hne' hlo (good_diff _ _ hg hplane)
    have ihhi := fun hne' => matchTrie_spec b hb c p _ _ hne' hhi (good_inter _ _ hg hplane)
    cases hhe : (vals.filter (fun v => v.testBit p)).isEmpty
    case true =>
      have hhi0 := List.isEmpty_iff.mp hhe
      have ih := ihlo (fun e => hne (List.eq_nil_of_length_eq_zero (by
        rw [length_filter_split vals (fun v => v.testBit p), e, hhi0]; rfl)))
      rw [if_pos rfl, ih.2, hmd, hany, hhi0]
      exact ⟨ih.1, by simp only [List.any_nil, Bool.and_false, Bool.or_false, Bool.and_assoc]⟩
    have ih2 := ihhi (fun e => by rw [e] at hhe; cases hhe)
    rw [if_neg Bool.false_ne_true]
    cases hle : (vals.filter (fun v => !v.testBit p)).isEmpty
    case true =>
      rw [if_pos rfl, ih2.2, hmi, hany, List.isEmpty_iff.mp hle]
      exact ⟨ih2.1, by simp only [List.any_nil, Bool.and_false, Bool.false_or, Bool.and_assoc]⟩
    have ih1 := ihlo (fun e => by rw [e] at hle; cases hle)
    rw [if_neg Bool.false_ne_true, mem_union _ _ ih1.1.1 ih2.1.1, ih1.2, ih2.2, hmd, hmi, hany]
    exact ⟨good_union _ _ ih1.1 ih2.1, by simp only [Bool.and_assoc, Bool.and_or_distrib_left]⟩

end RModel.BSI32
