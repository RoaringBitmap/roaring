import RProofs.Rep64InPlace
import RProofs.RepMut
import RProofs.RepQueryBase
import RModel.Impl.Rep64Mut
import RProofs.RepBulk
/-!
The point mutators of `roaring64.Bitmap` (`Add`, `CheckedAdd`, `AddInt`, `Remove`, `CheckedRemove`, `AddMany`, `Clear`), which
`RModel/Impl/Rep64Mut.lean` models as the Go code runs them: edits of the bucket array at the index `getIndex` returns.  On a
well-formed array the search cuts the list around the key (`Split` of `Rep64.lean`, `split_of_wf`), so the edit is a splice (`alterAt_eq`).  The
frame and sharing facts are read off the splice (`alterAt_frame`, `alterAt_find`, `add_flagged` …: every bucket with another key is
kept verbatim, flag included; the bucket that is written is the 32-bit mutator applied to the `Clone()` of a flagged bucket, and its
flag is cleared).  Sets, returned Booleans and well-formedness come from reading the splice as the key loop of the range mutators
run over the one key (`alterAt_eq_walk`), with one `MergeSpec` per mutator as for `Flip` or `AddRange`.  Receivers are well formed
(`Rep64.wf`), arguments `uint64`.
-/
namespace RModel.Impl
open RModel RModel.BSet RModel.Driver ContOps ContQuery RepOps RepQuery R64Ops R64Q

namespace R64Q

/-! ### the key search of the mutators: `getIndex`; the edit by index is a splice -/

/-- the three parts for the search the mutators use: `getIndex` -/
def preOf (l : List Bucket) (hb : Nat) : List Bucket := preG l (getIndex (keys64 l) hb)
def midOf (l : List Bucket) (hb : Nat) : Option Bucket := midG l (getIndex (keys64 l) hb)
def postOf (l : List Bucket) (hb : Nat) : List Bucket := postG l (getIndex (keys64 l) hb)

theorem midOf_pos {l : List Bucket} {hb : Nat} (h : 0 ≤ getIndex (keys64 l) hb) :
    midOf l hb = some (bAt l (getIndex (keys64 l) hb).toNat) := by
  unfold midOf midG; rw [if_pos h]

theorem midOf_neg {l : List Bucket} {hb : Nat} (h : ¬ 0 ≤ getIndex (keys64 l) hb) : midOf l hb = none := by
  unfold midOf midG; rw [if_neg h]

/-- the edit by index is a splice (no hypothesis) -/
theorem alterAt_eq (l : List Bucket) (hb : Nat) (f : Option Bucket → Option Bucket) :
    alterAt l hb f = preOf l hb ++ ((f (midOf l hb)).toList ++ postOf l hb) := by
  unfold alterAt preOf midOf postOf preG midG postG
  simp only []
  split
  · cases f (some (bAt l (getIndex (keys64 l) hb).toNat)) <;> simp [setAt, removeAt]
  · cases f none <;> simp [insertAt]

/-- **the key search of the mutators**: on a well-formed bucket array `getIndex` finds the bucket of the key or its insertion point -/
theorem split_of_wf {l : List Bucket} (hw : BucketsWf l) (hb : Nat) : Split l hb (preOf l hb) (midOf l hb) (postOf l hb) :=
  split_of_post hw (getIndex_spec (keys64_sorted hw) hb)

theorem midOf_eq_find {l : List Bucket} (hw : BucketsWf l) (hb : Nat) : midOf l hb = l.find? (·.high == hb) :=
  midG_eq_find hw (getIndex_spec (keys64_sorted hw) hb)

/-- **the bucket the key search finds**: `midOf` is the bucket stored under `hb` (or `none`), and it alone decides the chunk of `hb` -/
theorem midOf_spec {l : List Bucket} (hw : BucketsWf l) (hb : Nat) :
    (∀ b, midOf l hb = some b → BucketOk b ∧ b.high = hb) ∧
    (∀ x, x / 4294967296 = hb → bucketsHas l x = optMem (midOf l hb) (x % 4294967296)) := by
  rw [midOf_eq_find hw]
  refine ⟨fun b e => ⟨hw.ok b (List.mem_of_find?_eq_some e), by simpa using List.find?_some e⟩, fun x hx => ?_⟩
  refine (bucketV.hasAt_eq_find hw.sorted _ _).trans ?_
  rw [hx]
  cases l.find? _ <;> rfl

/-! ### the edit by index is the walk against the one key it visits

The model edits the bucket array by index, as the Go code does; on a well-formed array that is the key loop of the range
mutators (`rangeWalk`) run over the single key `hb`, so a point mutator is specified like `Flip` or `AddRange`: one `MergeSpec`
saying what it stores for a present and for a missing bucket. -/

theorem rangeWalk_nil (pres : Nat → Bucket → Option Bucket) (abs : Nat → Option Bucket) (l : List Bucket) :
    rangeWalk pres abs id [] l = l := by
  rw [rangeWalk]; exact List.map_id l

theorem Split.walk {l : List Bucket} {hb : Nat} {pre post : List Bucket} {mid : Option Bucket}
    (h : Split l hb pre mid post) (f : Option Bucket → Option Bucket) :
    rangeWalk (fun _ b => f (some b)) (fun _ => f none) id [hb] l = pre ++ ((f mid).toList ++ post) := by
  obtain ⟨e, hlt, hgt, hkey⟩ := h
  subst e
  induction pre with
  | cons b pre ih =>
    have := List.forall_mem_cons.mp hlt
    rw [List.cons_append, rangeWalk, if_pos this.1, ih this.2]; rfl
  | nil =>
    rw [List.nil_append, List.nil_append]
    cases mid with
    | some b =>
      have hk := hkey b rfl
      rw [Option.toList_some, List.singleton_append, rangeWalk, if_neg (by omega), if_neg (by omega), rangeWalk_nil,
        consOpt_eq]
    | none =>
      rw [Option.toList_none, List.nil_append]
      cases post with
      | nil => rw [rangeWalk, rangeWalk_nil, consOpt_eq]
      | cons b post =>
        have := hgt b (by simp)
        rw [rangeWalk, if_neg (by omega), if_pos this, rangeWalk_nil, consOpt_eq]

theorem alterAt_eq_walk {l : List Bucket} (hw : BucketsWf l) (hb : Nat) (f : Option Bucket → Option Bucket) :
    alterAt l hb f = rangeWalk (fun _ b => f (some b)) (fun _ => f none) id (keyRange hb hb) l := by
  rw [alterAt_eq, show keyRange hb hb = [hb] by simp [keyRange], (split_of_wf hw hb).walk f]

/-- the key test of `keyRange hb hb` -/
theorem one_key (hb q : Nat) : (decide (hb ≤ q) && decide (q ≤ hb)) = (hb == q) := by
  rw [Bool.eq_iff_iff]; simp only [Bool.and_eq_true, decide_eq_true_eq, beq_iff_eq]; omega

end R64Q

/-! ### a batch of values with the same high bits goes into one bucket (`AddMany`; `Add` is the batch of one) -/

/-- the batch applied inside one bucket is the exact model of the 32-bit `AddMany` (`Impl/RepBulk.lean`: cached container, bypassed gate) -/
theorem Rep.addManyF_eq (r : Rep) (l : List Nat) : r.addManyF l = r.addMany l := by
  rw [Rep.addMany_eq_foldl]; rfl

namespace R64Q

/-- a batch of positions goes into bucket `hb` -/
theorem spec_addBatch64 (hb : Nat) (batch : List Nat) (hl : ∀ v ∈ batch, v < 4294967296) (hne : batch ≠ []) :
    MergeSpec (keysV fun _ y => batch.contains y) bucketV bucketV (fun p q => q || p) (· = hb ∧ hb < 4294967296) BucketOk
      BucketOk (fun _ => (addBatchF hb batch none).toList) (fun b => [id b]) (fun b => [id b])
      (fun _ b => (addBatchF hb batch (some b)).toList) := by
  -- the bucket afterwards, from the bitmap `c` the batch went into: not empty because the batch is not
  have key : ∀ {k : Nat} {c : Rep} {m : Nat → Bool}, k < 4294967296 → c.wf = true → (∀ y, mem c.toBSet y = m y) →
      Piece bucketV BucketOk k (fun y => m y || batch.contains y) [{ high := k, bm := c.addManyF batch, flag := false }] := by
    intro k c m hk hc hm
    obtain ⟨a, ha⟩ := List.exists_mem_of_ne_nil _ hne
    have hmem : ∀ y, mem (c.addManyF batch).toBSet y = (m y || batch.contains y) := fun y => by
      rw [Rep.addManyF_eq, Rep.mem_addMany _ hc batch hl, hm]
    exact .single rfl ⟨hk, (Rep.addManyF_eq c batch).symm ▸ Rep.wf_addMany _ hc batch hl,
      isEmptyGo_of_mem ((hmem a).trans (by rw [List.contains_iff_mem.mpr ha, Bool.or_true]))⟩ hmem
  exact ⟨rfl, fun k hk => by obtain ⟨rfl, hk⟩ := hk; exact key hk wf_emptyRep mem_emptyRep,
    fun _ h => .single rfl h fun _ => (Bool.or_false _).symm, fun _ h => .single rfl h fun _ => (Bool.or_false _).symm,
    fun k b hk hb' e => e ▸ key hb'.1 (wf_writableBm_of_ok hb') fun y => congrArg (mem · y) (toBSet_writableBm b)⟩

theorem addBatch_spec {l : List Bucket} (hw : BucketsWf l) (hb : Nat) (hhb : hb < 4294967296) (vs : List Nat)
    (hvs : ∀ v ∈ vs, v / 4294967296 = hb) (hne : vs ≠ []) :
    BucketsWf (alterAt l hb (addBatchF hb (vs.map (· % 4294967296)))) ∧
    ∀ x, bucketsHas (alterAt l hb (addBatchF hb (vs.map (· % 4294967296)))) x = (bucketsHas l x || vs.contains x) := by
  have hl : ∀ v ∈ vs.map (· % 4294967296), v < 4294967296 := fun v hv => by
    obtain ⟨w, _, rfl⟩ := List.mem_map.mp hv
    exact Nat.mod_lt _ (by omega)
  rw [alterAt_eq_walk hw]
  obtain ⟨h1, h2⟩ := rangeWalk_spec (spec_addBatch64 hb _ hl (by simpa using hne)) (ka := hb) (kb := hb)
    (fun k hk => ⟨by have := mem_keyRange hk; omega, hhb⟩) hw
  refine ⟨h1, fun x => ?_⟩
  rw [h2 x, one_key]
  congr 1
  -- the positions of the batch in bucket `hb` are the values of the batch
  rw [Bool.eq_iff_iff, Bool.and_eq_true, beq_iff_eq, List.contains_iff_mem, List.contains_iff_mem, List.mem_map]
  constructor
  · rintro ⟨hk, w, hw1, hw2⟩
    have := hvs w hw1
    rwa [show x = w by omega]
  · exact fun hx => ⟨(hvs x hx).symm, x, hx, rfl⟩

theorem addF_eq (hb lb : Nat) : addF hb lb = addBatchF hb [lb] := by
  funext o; cases o <;> rfl

/-- `Add` is the batch of one value -/
theorem add_spec {l : List Bucket} (hw : BucketsWf l) (x : Nat) (hx : x < 18446744073709551616) :
    BucketsWf (alterAt l (x / 4294967296) (addF (x / 4294967296) (x % 4294967296))) ∧
    ∀ v, bucketsHas (alterAt l (x / 4294967296) (addF (x / 4294967296) (x % 4294967296))) v =
      (bucketsHas l v || decide (v = x)) := by
  rw [addF_eq]
  have := addBatch_spec hw (x / 4294967296) (by omega) [x] (by simp) (by simp)
  simpa [Bool.beq_eq_decide_eq] using this

end R64Q

/-! ### `Add` -/

theorem Rep64.wf_add (r : Rep64) (hr : r.wf = true) (x : Nat) (hx : x < 18446744073709551616) : (r.add x).wf = true :=
  (bucketsWf_iff _).mpr (add_spec ((bucketsWf_iff r).mp hr) x hx).1

theorem Rep64.mem_add (r : Rep64) (hr : r.wf = true) (x : Nat) (hx : x < 18446744073709551616) (v : Nat) :
    mem (r.add x).toBSet v = (mem r.toBSet v || decide (v = x)) := by
  have hw := (bucketsWf_iff r).mp hr
  obtain ⟨h1, h2⟩ := add_spec hw x hx
  rw [mem_rep64_buckets _ h1.bounded, mem_rep64_buckets r hw.bounded]
  exact h2 v

theorem Rep64.toBSet_add (r : Rep64) (hr : r.wf = true) (x : Nat) (hx : x < 18446744073709551616) :
    (r.add x).toBSet = BSet.add r.toBSet x :=
  canon_ext_sinc _ _ (sinc_rep64 _) (sinc_add _ (sinc_rep64 r) x)
    (fun v => by rw [Rep64.mem_add r hr x hx, BSet.mem_add _ (sinc_rep64 r)])

-- `Add` of a value in a missing bucket (key 1): inserted between the keys 0 and 3, flag off; the others verbatim
example : (exA.add 4294967303).toBSet = BSet.add exA.toBSet 4294967303 := Rep64.toBSet_add exA wf_exA _ (by decide)
example : (exA.add 4294967303).wf = true := Rep64.wf_add exA wf_exA _ (by decide)
example : (exA.add 4294967303).buckets.map (fun b => (b.high, b.flag)) = [(0, true), (1, false), (3, false)] := by decide +kernel

/-! ### `CheckedAdd`, `AddInt` -/

theorem Rep64.checkedAdd_fst (r : Rep64) (x : Nat) : (r.checkedAdd x).1 = r.add x := rfl

/-- the Boolean of a checked mutator: the answer `g` of the 32-bit method on the bucket `getIndex` finds, made writable, and `d`
when there is none; `F` says how the 32-bit answer depends on the presence of the value -/
theorem R64Q.checked_snd {l : List Bucket} (hw : BucketsWf l) (x : Nat) {g : Rep → Bool} {d : Bool} {F : Bool → Bool}
    (hg : ∀ c : Rep, c.wf = true → g c = F (mem c.toBSet (x % 4294967296))) (hd : d = F false) :
    (if 0 ≤ getIndex (keys64 l) (x / 4294967296)
      then g (writableBm (bAt l (getIndex (keys64 l) (x / 4294967296)).toNat)) else d) = F (bucketsHas l x) := by
  obtain ⟨hm, hself⟩ := midOf_spec hw (x / 4294967296)
  rw [hself x rfl]
  split <;> rename_i hi
  · rw [midOf_pos hi] at hm ⊢
    rw [hg _ (wf_writableBm_of_ok (hm _ rfl).1), toBSet_writableBm]
    rfl
  · rw [midOf_neg hi]; exact hd

/-- `CheckedAdd` answers "was absent" -/
theorem Rep64.checkedAdd_snd (r : Rep64) (hr : r.wf = true) (x : Nat) : (r.checkedAdd x).2 = !mem r.toBSet x := by
  have hw := (bucketsWf_iff r).mp hr
  rw [mem_rep64_buckets r hw.bounded]
  exact checked_snd hw x (F := (!·)) (fun c hc => Rep.checkedAdd_snd c hc _) rfl

example : (exA.checkedAdd 5).2 = !mem exA.toBSet 5 := Rep64.checkedAdd_snd exA wf_exA 5
example : (exA.checkedAdd 5).2 = false ∧ (exA.checkedAdd 6).2 = true ∧ (exA.checkedAdd 8589934592).2 = true := by decide +kernel

/-- `AddInt(v)` adds the two's complement of `v` -/
theorem Rep64.toBSet_addInt (r : Rep64) (hr : r.wf = true) (v : Int) :
    (r.addInt v).toBSet = BSet.add r.toBSet (v % 18446744073709551616).toNat :=
  Rep64.toBSet_add r hr _ (by omega)

theorem Rep64.wf_addInt (r : Rep64) (hr : r.wf = true) (v : Int) : (r.addInt v).wf = true :=
  Rep64.wf_add r hr _ (by omega)

-- `AddInt(-1)` adds `2^64 - 1`
example : (exA.addInt (-1)).toBSet = BSet.add exA.toBSet 18446744073709551615 := Rep64.toBSet_addInt exA wf_exA (-1)
example : (exA.addInt (-1)).buckets.map (·.high) = [0, 3, 4294967295] := by decide +kernel

/-! ### `Remove`, `CheckedRemove` -/

namespace R64Q

/-- a position leaves the bucket of its key; an emptied bucket goes -/
theorem spec_remove64 (lb : Nat) (hlb : lb < 4294967296) :
    MergeSpec (keysV fun _ y => decide (y = lb)) bucketV bucketV (fun p q => q && !p) (fun _ => True) BucketOk BucketOk
      (fun _ => (removeF lb none).toList) (fun b => [id b]) (fun b => [id b]) (fun _ b => (removeF lb (some b)).toList) :=
  ⟨rfl, fun _ _ => .nil fun _ => rfl, fun _ h => .single rfl h fun _ => (Bool.and_true _).symm,
    fun _ h => .single rfl h fun _ => (Bool.and_true _).symm,
    fun k b _ hb' e => e ▸ piece_nonEmpty hb'.1 (Rep.wf_remove _ (wf_writableBm_of_ok hb') lb hlb) fun y => by
      rw [Rep.mem_remove _ (wf_writableBm_of_ok hb') lb hlb, toBSet_writableBm]⟩

theorem remove_spec {l : List Bucket} (hw : BucketsWf l) (x : Nat) :
    BucketsWf (alterAt l (x / 4294967296) (removeF (x % 4294967296))) ∧
    ∀ v, bucketsHas (alterAt l (x / 4294967296) (removeF (x % 4294967296))) v = (bucketsHas l v && !decide (v = x)) := by
  rw [alterAt_eq_walk hw]
  obtain ⟨h1, h2⟩ := rangeWalk_spec (spec_remove64 (x % 4294967296) (Nat.mod_lt _ (by omega)))
    (ka := x / 4294967296) (kb := x / 4294967296) (fun _ _ => trivial) hw
  refine ⟨h1, fun v => ?_⟩
  rw [h2 v, one_key, Bool.beq_eq_decide_eq, ← Bool.decide_and]
  congr 2
  exact decide_eq_decide.mpr (by omega)

/-- on a stored (well-formed, non-empty) bucket `CheckedRemove` keeps or drops the bucket exactly as `Remove` does -/
theorem checkedRemoveF_eq (lb : Nat) (hlb : lb < 4294967296) (o : Option Bucket) (ho : ∀ b, o = some b → BucketOk b) :
    checkedRemoveF lb o = removeF lb o := by
  cases o with
  | none => rfl
  | some b =>
    have hb := ho b rfl
    have hw := wf_writableBm_of_ok hb
    -- the two differ in the test, `removed && empty` against `empty`: an emptied bucket had a member, and it was `lb`
    have hs : ((writableBm b).remove lb).isEmptyGo = true → ((writableBm b).checkedRemove lb).2 = true := by
      intro he
      obtain ⟨y, hy⟩ := exists_mem_of_wf hb.2.1 hb.2.2
      have := mem_of_isEmptyGo he y
      rw [Rep.mem_remove _ hw lb hlb, toBSet_writableBm, hy, Bool.true_and] at this
      have hyl : y = lb := by simpa using this
      rw [Rep.checkedRemove_snd _ hw, toBSet_writableBm, ← hyl, hy]
    show (if (((writableBm b).checkedRemove lb).2 && ((writableBm b).remove lb).isEmptyGo) = true then none else _) =
      (if ((writableBm b).remove lb).isEmptyGo = true then none else _)
    cases he : ((writableBm b).remove lb).isEmptyGo
    · rw [Bool.and_false]; rfl
    · rw [hs he]; rfl

end R64Q

theorem Rep64.wf_remove (r : Rep64) (hr : r.wf = true) (x : Nat) : (r.remove x).wf = true :=
  (bucketsWf_iff _).mpr (remove_spec ((bucketsWf_iff r).mp hr) x).1

theorem Rep64.mem_remove (r : Rep64) (hr : r.wf = true) (x : Nat) (v : Nat) :
    mem (r.remove x).toBSet v = (mem r.toBSet v && !decide (v = x)) := by
  have hw := (bucketsWf_iff r).mp hr
  obtain ⟨h1, h2⟩ := remove_spec hw x
  rw [mem_rep64_buckets _ h1.bounded, mem_rep64_buckets r hw.bounded]
  exact h2 v

theorem Rep64.toBSet_remove (r : Rep64) (hr : r.wf = true) (x : Nat) : (r.remove x).toBSet = BSet.remove r.toBSet x :=
  canon_ext_sinc _ _ (sinc_rep64 _) (sinc_remove _ (sinc_rep64 r) x)
    (fun v => by rw [Rep64.mem_remove r hr x, BSet.mem_remove _ (sinc_rep64 r)])

-- `Remove` of the last value of bucket 3: the bucket disappears
example : (exA.remove 17179869183).toBSet = BSet.remove exA.toBSet 17179869183 := Rep64.toBSet_remove exA wf_exA _
example : (exA.remove 17179869183).wf = true := Rep64.wf_remove exA wf_exA _
example : (exA.remove 17179869183).buckets.map (·.high) = [0] := by decide +kernel
-- `Remove` of an ABSENT value in the flagged bucket: same set, but the gate cloned the bucket and cleared the flag
example : (exA.remove 2).toBSet = exA.toBSet ∧ (exA.remove 2).buckets.map (·.flag) = [false, false] := by decide +kernel

/-- `CheckedRemove` mutates like `Remove` (the bucket goes exactly when it came out empty) -/
theorem Rep64.checkedRemove_fst (r : Rep64) (hr : r.wf = true) (x : Nat) : (r.checkedRemove x).1 = r.remove x := by
  have hw := (bucketsWf_iff r).mp hr
  simp only [Rep64.checkedRemove, Rep64.remove]
  rw [alterAt_eq, alterAt_eq,
    checkedRemoveF_eq _ (Nat.mod_lt _ (by omega)) _ (fun b e => ((midOf_spec hw (x / 4294967296)).1 b e).1)]

/-- `CheckedRemove` answers "was present" -/
theorem Rep64.checkedRemove_snd (r : Rep64) (hr : r.wf = true) (x : Nat) : (r.checkedRemove x).2 = mem r.toBSet x := by
  have hw := (bucketsWf_iff r).mp hr
  rw [mem_rep64_buckets r hw.bounded]
  exact checked_snd hw x (F := id) (fun c hc => Rep.checkedRemove_snd c hc _) rfl

theorem Rep64.toBSet_checkedRemove (r : Rep64) (hr : r.wf = true) (x : Nat) :
    (r.checkedRemove x).1.toBSet = BSet.remove r.toBSet x := by
  rw [Rep64.checkedRemove_fst r hr, Rep64.toBSet_remove r hr]

theorem Rep64.wf_checkedRemove (r : Rep64) (hr : r.wf = true) (x : Nat) : (r.checkedRemove x).1.wf = true := by
  rw [Rep64.checkedRemove_fst r hr]; exact Rep64.wf_remove r hr x

example : (exA.checkedRemove 5).2 = mem exA.toBSet 5 := Rep64.checkedRemove_snd exA wf_exA 5
example : (exA.checkedRemove 5).1 = exA.remove 5 := Rep64.checkedRemove_fst exA wf_exA 5
example : (exA.checkedRemove 5).2 = true ∧ (exA.checkedRemove 2).2 = false ∧ (exA.checkedRemove 4294967296).2 = false := by
  decide +kernel

/-! ### `AddMany` -/

namespace R64Q

theorem addManyLoop_spec (l : List Bucket) (dat : List Nat) (hw : BucketsWf l) (hd : ∀ v ∈ dat, v < 18446744073709551616) :
    BucketsWf (addManyLoop l dat) ∧ ∀ x, bucketsHas (addManyLoop l dat) x = (bucketsHas l x || dat.contains x) := by
  fun_induction addManyLoop l dat with
  | case1 bs => exact ⟨hw, fun x => by simp⟩
  | case2 bs v t ih =>
    have hv := hd v (by simp)
    obtain ⟨b1, b2⟩ := addBatch_spec hw (v / 4294967296) (by omega)
      (v :: t.takeWhile (fun w => w / 4294967296 == v / 4294967296))
      (by
        intro w hw'
        rcases List.mem_cons.mp hw' with rfl | h'
        · rfl
        · simpa using List.all_eq_true.mp List.all_takeWhile w h')
      (List.cons_ne_nil _ _)
    obtain ⟨i1, i2⟩ := ih b1 (fun w hw' => hd w (List.mem_cons_of_mem _ (List.dropWhile_subset _ hw')))
    refine ⟨i1, fun x => ?_⟩
    -- the batch and the rest of the loop make up `v :: t` again
    rw [i2 x, b2 x, Bool.or_assoc, ← List.contains_append, List.cons_append, List.takeWhile_append_dropWhile]

end R64Q

theorem Rep64.wf_addMany (r : Rep64) (hr : r.wf = true) (dat : List Nat) (hd : ∀ v ∈ dat, v < 18446744073709551616) :
    (r.addMany dat).wf = true :=
  (bucketsWf_iff _).mpr (addManyLoop_spec _ dat ((bucketsWf_iff r).mp hr) hd).1

theorem Rep64.mem_addMany (r : Rep64) (hr : r.wf = true) (dat : List Nat) (hd : ∀ v ∈ dat, v < 18446744073709551616) (x : Nat) :
    mem (r.addMany dat).toBSet x = (mem r.toBSet x || dat.contains x) := by
  have hw := (bucketsWf_iff r).mp hr
  obtain ⟨h1, h2⟩ := addManyLoop_spec _ dat hw hd
  rw [mem_rep64_buckets _ h1.bounded, mem_rep64_buckets r hw.bounded]
  exact h2 x

/-- `AddMany(dat)` on a well-formed 64-bit bitmap is the fold of `BSet.add` over `dat` (whatever the order / repetitions / the
way the batches fall) -/
theorem Rep64.toBSet_addMany (r : Rep64) (hr : r.wf = true) (dat : List Nat) (hd : ∀ v ∈ dat, v < 18446744073709551616) :
    (r.addMany dat).toBSet = dat.foldl BSet.add r.toBSet := by
  obtain ⟨h1, h2⟩ := mem_foldl_add r.toBSet (sinc_rep64 r) dat
  exact canon_ext_sinc _ _ (sinc_rep64 _) h1 (fun x => by rw [Rep64.mem_addMany r hr dat hd, h2 x])

-- `AddMany`: alternating buckets (every element its own batch), a new bucket in the middle and one at the end
example : (exA.addMany [8589934592, 3, 8589934593, 21474836480]).toBSet =
    [8589934592, 3, 8589934593, 21474836480].foldl BSet.add exA.toBSet :=
  Rep64.toBSet_addMany exA wf_exA _ (by decide)
example : (exA.addMany [8589934592, 3, 8589934593, 21474836480]).wf = true := Rep64.wf_addMany exA wf_exA _ (by decide)
example : (exA.addMany [8589934592, 3, 8589934593, 21474836480]).buckets.map (fun b => (b.high, b.flag)) =
    [(0, false), (2, false), (3, false), (5, false)] := by decide +kernel

/-! ### frame and sharing: what a point mutator leaves alone, and what it writes -/

namespace R64Q

/-- a mutator function keeps the key: what it stores under `hb` has key `hb` -/
def KeyOk64 (hb : Nat) (f : Option Bucket → Option Bucket) : Prop :=
  ∀ o, (∀ b, o = some b → b.high = hb) → ∀ b', f o = some b' → b'.high = hb

theorem keyOk_addF (hb lb : Nat) : KeyOk64 hb (addF hb lb) := by
  intro o ho b' e
  cases o with
  | none => cases e; rfl
  | some b => cases e; exact ho b rfl

theorem keyOk_removeF (hb lb : Nat) : KeyOk64 hb (removeF lb) := by
  intro o ho b' e
  cases o with
  | none => cases e
  | some b =>
    rw [(nonEmpty_some e).1]
    exact ho b rfl

theorem filter_ne_self {l : List Bucket} {hb : Nat} (h : ∀ b ∈ l, b.high ≠ hb) : l.filter (·.high != hb) = l := by
  rw [List.filter_eq_self]
  intro b hb'
  simpa only [bne_iff_ne] using h b hb'

theorem filter_ne_opt {o : Option Bucket} {hb : Nat} (h : ∀ b, o = some b → b.high = hb) :
    o.toList.filter (·.high != hb) = [] := by
  cases o with
  | none => rfl
  | some b => simp [h b rfl]

theorem Split.filter {l : List Bucket} {hb : Nat} {pre post : List Bucket} {mid : Option Bucket} (h : Split l hb pre mid post)
    (o : Option Bucket) (ho : ∀ b, o = some b → b.high = hb) :
    (pre ++ (o.toList ++ post)).filter (·.high != hb) = pre ++ post := by
  rw [List.filter_append, List.filter_append, filter_ne_self (fun b hb' => Nat.ne_of_lt (h.lt b hb')),
    filter_ne_self (fun b hb' => Nat.ne_of_gt (h.gt b hb')), filter_ne_opt ho, List.nil_append]

/-- **frame**: an edit at key `hb` keeps every bucket with another key verbatim (payload AND flag), in order -/
theorem alterAt_frame {l : List Bucket} (hw : BucketsWf l) (hb : Nat) (f : Option Bucket → Option Bucket) (hf : KeyOk64 hb f) :
    (alterAt l hb f).filter (·.high != hb) = l.filter (·.high != hb) := by
  have hs := split_of_wf hw hb
  rw [alterAt_eq, hs.filter _ (hf _ hs.key)]
  conv => rhs; rw [hs.eq]
  rw [hs.filter _ hs.key]

/-- **the written bucket**: what is stored under `hb` afterwards is `f` of what was stored there -/
theorem alterAt_find {l : List Bucket} (hw : BucketsWf l) (hb : Nat) (f : Option Bucket → Option Bucket) (hf : KeyOk64 hb f) :
    (alterAt l hb f).find? (·.high == hb) = f (l.find? (·.high == hb)) := by
  have hs := split_of_wf hw hb
  rw [alterAt_eq, hs.find _ (hf _ hs.key), midOf_eq_find hw]

end R64Q

def Rep64.bucketAt (r : Rep64) (k : Nat) : Option Bucket := r.buckets.find? (·.high == k)

/-- `Add` leaves every other bucket alone: same payload, same flag, same order; the switch is unchanged -/
theorem Rep64.add_frame (r : Rep64) (hr : r.wf = true) (x : Nat) :
    (r.add x).cow = r.cow ∧
    (r.add x).buckets.filter (·.high != x / 4294967296) = r.buckets.filter (·.high != x / 4294967296) :=
  ⟨rfl, alterAt_frame ((bucketsWf_iff r).mp hr) _ _ (keyOk_addF _ _)⟩

/-- **sharing** (`Add`): the bucket of `x` afterwards is the 32-bit `Add` applied to the bucket itself when it is not flagged, to
its `Clone()` when it is flagged (the shared bitmap is never written), to a fresh empty bitmap when there was none — and its flag is
off in every case -/
theorem Rep64.add_bucket (r : Rep64) (hr : r.wf = true) (x : Nat) :
    (r.add x).bucketAt (x / 4294967296) =
      some (match r.bucketAt (x / 4294967296) with
        | some b => { high := b.high, bm := (if b.flag then b.bm.cloneB else b.bm).add (x % 4294967296), flag := false }
        | none => { high := x / 4294967296, bm := ({} : Rep).add (x % 4294967296), flag := false }) := by
  unfold Rep64.bucketAt
  rw [show (r.add x).buckets = alterAt r.buckets (x / 4294967296) (R64Q.addF (x / 4294967296) (x % 4294967296)) from rfl,
    alterAt_find ((bucketsWf_iff r).mp hr) _ _ (keyOk_addF _ _)]
  cases r.buckets.find? (·.high == x / 4294967296) <;> rfl

theorem Rep64.add_flagged (r : Rep64) (hr : r.wf = true) (x : Nat) (b : Bucket)
    (hb : r.bucketAt (x / 4294967296) = some b) (hf : b.flag = true) :
    (r.add x).bucketAt (x / 4294967296) = some { high := b.high, bm := b.bm.cloneB.add (x % 4294967296), flag := false } := by
  rw [Rep64.add_bucket r hr x, hb]
  simp only [hf, if_true]

-- `Add` into the FLAGGED bucket 0: the bucket afterwards is the 32-bit `Add` on the `Clone()`, flag off (the shared bitmap is not written)
example : (exA.add 7).bucketAt 0 = some { high := 0, bm := exA0.bm.cloneB.add 7, flag := false } :=
  Rep64.add_flagged exA wf_exA 7 exA0 rfl rfl
example : (exA.add 7).buckets.filter (·.high != 0) = exA.buckets.filter (·.high != 0) := (Rep64.add_frame exA wf_exA 7).2

theorem Rep64.remove_frame (r : Rep64) (hr : r.wf = true) (x : Nat) :
    (r.remove x).cow = r.cow ∧
    (r.remove x).buckets.filter (·.high != x / 4294967296) = r.buckets.filter (·.high != x / 4294967296) :=
  ⟨rfl, alterAt_frame ((bucketsWf_iff r).mp hr) _ _ (keyOk_removeF _ _)⟩

/-- **sharing** (`Remove`): a missing bucket stays missing; a present one is replaced by the 32-bit `Remove` of (the `Clone()` of, when
flagged) its bitmap with the flag off — whether or not `x` was there —, or disappears when that bitmap came out empty -/
theorem Rep64.remove_bucket (r : Rep64) (hr : r.wf = true) (x : Nat) :
    (r.remove x).bucketAt (x / 4294967296) =
      (match r.bucketAt (x / 4294967296) with
        | some b =>
          let bm := (if b.flag then b.bm.cloneB else b.bm).remove (x % 4294967296)
          if bm.isEmptyGo then none else some { high := b.high, bm := bm, flag := false }
        | none => none) := by
  unfold Rep64.bucketAt
  rw [show (r.remove x).buckets = alterAt r.buckets (x / 4294967296) (R64Q.removeF (x % 4294967296)) from rfl,
    alterAt_find ((bucketsWf_iff r).mp hr) _ _ (keyOk_removeF _ _)]
  cases r.buckets.find? (·.high == x / 4294967296) <;> rfl

theorem Rep64.cow_addMany (r : Rep64) (dat : List Nat) : (r.addMany dat).cow = r.cow := rfl

/-! ### `Clear` -/

theorem Rep64.wf_cleared : Rep64.cleared.wf = true := rfl
theorem Rep64.toBSet_cleared : Rep64.cleared.toBSet = [] := rfl
theorem Rep64.cow_cleared : Rep64.cleared.cow = false := rfl
example : Rep64.cleared.cow = false ∧ Rep64.cleared.toBSet = [] := ⟨rfl, rfl⟩

end RModel.Impl
