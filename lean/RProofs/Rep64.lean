import RProofs.RepOps
import RProofs.BSetQuery
import RProofs.ContQueryArr
import RModel.Impl.Rep64Mut
/-!
The 64-bit bitmap as stored (`roaringArray64`).  `bucketV` reads a bucket as its high key and the members of its 32-bit bitmap,
so a bucket list is a key-sorted list of chunks of `2^32` values in the sense of `RProofs/Keyed.lean`: `mem_rep64` rests on
`Keyed.mem_blocks`, `BucketsWf` is `Rep64.wf` as a proposition, and each of the static `roaring64.And / Or / Xor / AndNot` is a
`mergeWalk` (`andBuckets_eq` …) whose steps meet a `MergeSpec` (`spec_and` …) by the 32-bit theorems of `RProofs/RepOps.lean`;
`MergeSpec.rep64` turns such a pair into well-formedness and `toBSet = BSet.combine f`.  What the in-place, range and point
operations of the other `Rep64*` modules share is here too: the copy-on-write gate, optional buckets, `FlagsOnly`; so is what a key
search does to a well-formed bucket array (`R64Q.Split`, `split_of_post`), which the queries and the point mutators both read, and, at
the end, the running examples of the `Rep64*` modules.
-/
namespace RModel.Impl
open RModel RModel.BSet RModel.Driver ContOps RepOps R64Ops

/-! ### membership in the abstraction -/

theorem sinc_shifted_buckets (r : Rep64) :
    ∀ s ∈ r.buckets.map (fun b => BSet.shiftUp b.bm.toBSet (b.high * 4294967296)), SInc s := by
  intro s hs
  obtain ⟨b, _, rfl⟩ := List.mem_map.mp hs
  exact sinc_shiftUp _ (sinc_rep _) _

theorem sinc_rep64 (r : Rep64) : SInc r.toBSet :=
  sinc_unionAll _ (sinc_shifted_buckets r)

/-- the checker's fast abstraction is the abstraction, provided the 32-bit fast abstraction is (bucket by bucket) -/
theorem Rep64.toBSetFast_eq (r : Rep64) (h : ∀ b ∈ r.buckets, b.bm.toBSetFast = b.bm.toBSet) :
    r.toBSetFast = r.toBSet := by
  unfold Rep64.toBSetFast Rep64.toBSet
  congr 1
  exact List.map_congr_left (fun b hb => by rw [h b hb])

def Rep.Bounded32 (r : Rep) : Prop := ∀ y, mem r.toBSet y = true → y < 4294967296

theorem bounded32_of_wf {r : Rep} (h : r.wf = true) : r.Bounded32 :=
  mem_lt_of_canon _ _ (canon_rep r h)

/-- the buckets of a 64-bit bitmap: chunks of `2^32` values -/
abbrev bucketV : Keyed Bucket := ⟨(·.high), fun b => mem b.bm.toBSet⟩

/-- `bucketV.hasAt l (x / 2^32) (x % 2^32)`, written out -/
def bucketsHas (l : List Bucket) (x : Nat) : Bool :=
  l.any (fun b => b.high == x / 4294967296 && mem b.bm.toBSet (x % 4294967296))

theorem mem_rep64_buckets (r : Rep64) (hb : ∀ b ∈ r.buckets, b.bm.Bounded32) (x : Nat) :
    mem r.toBSet x = bucketsHas r.buckets x :=
  bucketV.mem_blocks 4294967296 _ r.buckets (fun _ _ => sinc_shiftUp _ (sinc_rep _) _) (fun _ _ _ => mem_shiftUp _ _ _) hb x

/-! ### well-formed bucket lists -/

/-- `Bucket.wf` as a proposition -/
def BucketOk (b : Bucket) : Prop := b.high < 4294967296 ∧ b.bm.wf = true ∧ b.bm.isEmptyGo = false

/-- `Rep64.wf` as a proposition about the bucket list (`ok`: `BucketOk` of every bucket, spelt out) -/
structure BucketsWf (l : List Bucket) : Prop where
  sorted : l.Pairwise (fun s t => s.high < t.high)
  ok : ∀ b ∈ l, b.high < 4294967296 ∧ b.bm.wf = true ∧ b.bm.isEmptyGo = false

theorem bucketsWf_iff (r : Rep64) : r.wf = true ↔ BucketsWf r.buckets := by
  simp only [Rep64.wf, Bucket.wf, Bool.and_eq_true, List.all_eq_true, decide_eq_true_eq, Bool.not_eq_true']
  constructor
  · rintro ⟨h1, h2⟩
    exact ⟨List.pairwise_map.mp (pairwise_of_strictInc _ h1), fun b hb => ⟨(h2 b hb).1.1, (h2 b hb).1.2, (h2 b hb).2⟩⟩
  · rintro ⟨h1, h2⟩
    exact ⟨strictInc_of_pairwise _ (List.pairwise_map.mpr h1), fun b hb => ⟨⟨(h2 b hb).1, (h2 b hb).2.1⟩, (h2 b hb).2.2⟩⟩

theorem BucketsWf.nil : BucketsWf [] := ⟨List.Pairwise.nil, fun _ h => by cases h⟩

theorem BucketsWf.tail {s : Bucket} {t : List Bucket} (h : BucketsWf (s :: t)) : BucketsWf t :=
  ⟨(List.pairwise_cons.mp h.sorted).2, fun s' hs' => h.ok s' (by simp [hs'])⟩

theorem BucketsWf.head {s : Bucket} {t : List Bucket} (h : BucketsWf (s :: t)) : BucketOk s :=
  h.ok s (by simp)

theorem BucketsWf.head_lt {s : Bucket} {t : List Bucket} (h : BucketsWf (s :: t)) : ∀ s' ∈ t, s.high < s'.high :=
  (List.pairwise_cons.mp h.sorted).1

theorem BucketsWf.cons {s : Bucket} {t : List Bucket} (hs : BucketOk s) (ht : BucketsWf t)
    (hlt : ∀ s' ∈ t, s.high < s'.high) : BucketsWf (s :: t) :=
  ⟨List.pairwise_cons.mpr ⟨hlt, ht.sorted⟩, fun s' hs' => by
    rcases List.mem_cons.mp hs' with rfl | h'
    · exact hs
    · exact ht.ok s' h'⟩

theorem BucketsWf.bounded {l : List Bucket} (h : BucketsWf l) : ∀ b ∈ l, b.bm.Bounded32 :=
  fun b hb => bounded32_of_wf (h.ok b hb).2.1

/-! ### bucket-wise membership -/

theorem bucketsHas_nil (x : Nat) : bucketsHas [] x = false := rfl

theorem bucketsHas_cons (s : Bucket) (t : List Bucket) (x : Nat) :
    bucketsHas (s :: t) x = ((s.high == x / 4294967296 && mem s.bm.toBSet (x % 4294967296)) || bucketsHas t x) := rfl

namespace R64Q

theorem bucketsHas_append (a b : List Bucket) (x : Nat) : bucketsHas (a ++ b) x = (bucketsHas a x || bucketsHas b x) := by
  simp [bucketsHas, List.any_append]

theorem bucketsHas_ne {l : List Bucket} {x : Nat} (h : ∀ s ∈ l, s.high ≠ x / 4294967296) : bucketsHas l x = false := by
  induction l with
  | nil => rfl
  | cons s t ih =>
    rw [bucketsHas_cons, ih (fun s' hs' => h s' (by simp [hs'])), beq_false_of_ne (h s (by simp))]
    rfl

end R64Q

theorem has_eq_bucketsHas (r : Rep64) (h : BucketsWf r.buckets) (x : Nat) : r.has x = bucketsHas r.buckets x := by
  refine Eq.trans ?_ (bucketV.hasAt_eq_find h.sorted _ _).symm
  unfold Rep64.has Rep64.find
  cases hf : r.buckets.find? _ with
  | none => rfl
  | some b => exact (mem_rep b.bm (h.ok b (List.mem_of_find?_eq_some hf)).2.1 _).symm

/-- **`mem_rep64`**: `x` is in the set a well-formed stored 64-bit bitmap denotes iff the bucket stored under key
`x / 2^32` exists and its 32-bit bitmap contains `x % 2^32` (`Rep.has`: container `(x % 2^32) / 65536` exists and contains
`x % 65536`) -/
theorem mem_rep64 (r : Rep64) (h : r.wf = true) (x : Nat) : mem r.toBSet x = r.has x := by
  have hw := (bucketsWf_iff r).mp h
  rw [mem_rep64_buckets r hw.bounded, has_eq_bucketsHas r hw]

theorem mem_rep64_iff (r : Rep64) (h : r.wf = true) (x : Nat) :
    mem r.toBSet x = true ↔ ∃ b ∈ r.buckets, b.high = x / 4294967296 ∧ b.bm.has (x % 4294967296) = true := by
  have hw := (bucketsWf_iff r).mp h
  rw [mem_rep64_buckets r hw.bounded, bucketsHas, List.any_eq_true]
  exact exists_congr fun b => and_congr_right fun hb => by
    rw [Bool.and_eq_true, beq_iff_eq, mem_rep b.bm (hw.ok b hb).2.1]

theorem canon_rep64 (r : Rep64) (h : r.wf = true) : Canon 18446744073709551616 r.toBSet := by
  have hw := (bucketsWf_iff r).mp h
  refine canon_of_bounded _ _ (sinc_rep64 r) fun x hx => ?_
  rw [mem_rep64_buckets r hw.bounded]
  exact R64Q.bucketsHas_ne fun b hb e => by have := (hw.ok b hb).1; omega

theorem even_rep64 (r : Rep64) (h : r.wf = true) : Even r.toBSet := (canon_rep64 r h).2.2

/-! ### the bucket array around a key

A key search (`binarySearch`, `getIndex`) returns an index into the key array; on a well-formed bucket array its postcondition
`BsPost` cuts the list into the buckets below the key, the bucket with the key if there is one, and those above (`split_of_post`).
The queries read the answer off the middle part, the point mutators splice it. -/

namespace R64Q

theorem keys64_length (l : List Bucket) : (keys64 l).length = l.length := by simp [keys64]

theorem keys64_getD {l : List Bucket} {i : Nat} (hi : i < l.length) : (keys64 l).getD i 0 = (bAt l i).high := by
  simp [keys64, bAt, List.getD_eq_getElem?_getD, hi]

theorem keys64_sorted {l : List Bucket} (h : BucketsWf l) : (keys64 l).Pairwise (· < ·) :=
  List.pairwise_map.mpr h.sorted

theorem bAt_eq {l : List Bucket} {i : Nat} (hi : i < l.length) : bAt l i = l[i] := by
  simp [bAt, List.getD_eq_getElem?_getD, hi]

theorem bAt_mem {l : List Bucket} {i : Nat} (hi : i < l.length) : bAt l i ∈ l :=
  Util.getD_mem _ hi

theorem split_at {l : List Bucket} {i : Nat} (hi : i < l.length) : l = l.take i ++ bAt l i :: l.drop (i + 1) :=
  (List.take_append_drop i l).symm.trans (congrArg _ (Util.drop_getD _ hi))

/-- the three parts of a bucket list around key `hb`: the buckets below, the bucket with that key if there is one, those above -/
structure Split (l : List Bucket) (hb : Nat) (pre : List Bucket) (mid : Option Bucket) (post : List Bucket) : Prop where
  eq : l = pre ++ (mid.toList ++ post)
  lt : ∀ b ∈ pre, b.high < hb
  gt : ∀ b ∈ post, hb < b.high
  key : ∀ b, mid = some b → b.high = hb

theorem mem_take_lt {l : List Bucket} (hw : BucketsWf l) {i : Nat} (hi : i < l.length) :
    ∀ b ∈ l.take i, b.high < (bAt l i).high := by
  have hs := hw.sorted
  rw [split_at hi] at hs
  exact fun b hb => (List.pairwise_append.mp hs).2.2 b hb _ List.mem_cons_self

theorem mem_drop_gt {l : List Bucket} (hw : BucketsWf l) {i : Nat} (hi : i < l.length) :
    ∀ b ∈ l.drop (i + 1), (bAt l i).high < b.high := by
  have hs := hw.sorted
  rw [split_at hi] at hs
  exact (List.pairwise_cons.mp (List.pairwise_append.mp hs).2.1).1

/-- the buckets before the index a key search returned (`g`: the index, or `-(insertion point) - 1`) -/
def preG (l : List Bucket) (g : Int) : List Bucket := if 0 ≤ g then l.take g.toNat else l.take (-g - 1).toNat

def midG (l : List Bucket) (g : Int) : Option Bucket := if 0 ≤ g then some (bAt l g.toNat) else none

def postG (l : List Bucket) (g : Int) : List Bucket := if 0 ≤ g then l.drop (g.toNat + 1) else l.drop (-g - 1).toNat

/-- a key search that meets the postcondition of `binarySearch` cuts a well-formed bucket array around the key -/
theorem split_of_post {l : List Bucket} (hw : BucketsWf l) {hb : Nat} {g : Int} (hp : BsPost (keys64 l) hb g) :
    Split l hb (preG l g) (midG l g) (postG l g) := by
  unfold preG midG postG
  rcases hp with ⟨h0, hl, he⟩ | ⟨h0, hl, hA, hB⟩
  · rw [keys64_length] at hl
    rw [keys64_getD hl] at he
    simp only [h0, if_true]
    exact ⟨split_at hl, he ▸ mem_take_lt hw hl, he ▸ mem_drop_gt hw hl, fun b e => Option.some.inj e ▸ he⟩
  · rw [keys64_length] at hl
    simp only [show ¬ (0 ≤ g) by omega, if_false]
    refine ⟨by simp, ?_, ?_, fun b e => by cases e⟩
    · intro b hb'
      obtain ⟨j, hj, rfl⟩ := List.mem_take_iff_getElem.mp hb'
      have := hA j (by omega)
      rwa [keys64_getD (by omega), bAt_eq (by omega)] at this
    · intro b hb'
      obtain ⟨j, hj, rfl⟩ := List.mem_drop_iff_getElem.mp hb'
      have := hB ((-g - 1).toNat + j) (by omega) (by rw [keys64_length]; omega)
      rwa [keys64_getD (by omega), bAt_eq (by omega)] at this

theorem Split.find {l : List Bucket} {hb : Nat} {pre post : List Bucket} {mid : Option Bucket} (h : Split l hb pre mid post)
    (o : Option Bucket) (ho : ∀ b, o = some b → b.high = hb) :
    (pre ++ (o.toList ++ post)).find? (·.high == hb) = o := by
  have h1 : pre.find? (·.high == hb) = none :=
    List.find?_eq_none.mpr fun b hb' => by simpa using Nat.ne_of_lt (h.lt b hb')
  have h2 : post.find? (·.high == hb) = none :=
    List.find?_eq_none.mpr fun b hb' => by simpa using Nat.ne_of_gt (h.gt b hb')
  rw [List.find?_append, h1, Option.none_or]
  cases o with
  | none => simpa using h2
  | some b => simp [ho b rfl]

/-- so the middle part is the bucket stored under the key, whichever search found it -/
theorem midG_eq_find {l : List Bucket} (hw : BucketsWf l) {hb : Nat} {g : Int} (hp : BsPost (keys64 l) hb g) :
    midG l g = l.find? (·.high == hb) := by
  have hs := split_of_post hw hp
  conv => rhs; rw [hs.eq]
  rw [hs.find _ hs.key]

end R64Q

/-! ### `Clone()` of a 32-bit bitmap: same keys and containers, only flags differ -/

theorem Rep.toBSet_cloneB (r : Rep) : r.cloneB.toBSet = r.toBSet := by
  simp [Rep.cloneB, Rep.toBSet, List.map_map, Function.comp_def]

theorem Rep.wf_cloneB (r : Rep) : r.cloneB.wf = r.wf := by
  simp [Rep.cloneB, Rep.wf, List.map_map, Function.comp_def, List.all_map]

theorem Rep.isEmptyGo_cloneB (r : Rep) : r.cloneB.isEmptyGo = r.isEmptyGo := by
  simp [Rep.cloneB, Rep.isEmptyGo]

theorem Rep.toBSet_cloneSrcB (r : Rep) : r.cloneSrcB.toBSet = r.toBSet := by
  unfold Rep.cloneSrcB
  split
  · simp [Rep.toBSet, List.map_map, Function.comp_def]
  · rfl

theorem Rep.wf_cloneSrcB (r : Rep) : r.cloneSrcB.wf = r.wf := by
  unfold Rep.cloneSrcB
  split
  · simp [Rep.wf, List.map_map, Function.comp_def, List.all_map]
  · rfl

theorem Rep.isEmptyGo_cloneSrcB (r : Rep) : r.cloneSrcB.isEmptyGo = r.isEmptyGo := by
  unfold Rep.cloneSrcB
  split
  · simp [Rep.isEmptyGo]
  · rfl

/-! ### `IsEmpty()` of a 32-bit bitmap -/

theorem mem_of_isEmptyGo {c : Rep} (h : c.isEmptyGo = true) (y : Nat) : mem c.toBSet y = false := by
  have : c.slots = [] := by simpa [Rep.isEmptyGo] using h
  simp [Rep.toBSet, this, unionAll, unionAllFuel]

theorem exists_mem_of_wf {c : Rep} (hw : c.wf = true) (hne : c.isEmptyGo = false) : ∃ y, mem c.toBSet y = true := by
  have hs := (slotsWf_iff c).mp hw
  obtain ⟨s, hsm⟩ := List.exists_mem_of_ne_nil c.slots (by simpa [Rep.isEmptyGo] using hne)
  obtain ⟨y, hy⟩ := wf_has_member _ (hs.ok s hsm).2
  exact ⟨s.key * 65536 + y, (mem_rep_slots c hs.bounded _).trans
    ((slotV.mem_block hs.sorted hsm (has_lt (hs.ok s hsm).2 hy)).trans hy)⟩

theorem R64Q.isEmptyGo_of_mem {c : Rep} {y : Nat} (h : mem c.toBSet y = true) : c.isEmptyGo = false := by
  cases he : c.isEmptyGo
  · rfl
  · rw [mem_of_isEmptyGo he] at h; cases h

theorem isEmptyGo_or2 {a b : Rep} (ha : a.isEmptyGo = false) : (Rep.or2 a b).isEmptyGo = false := by
  have hne : a.slots ≠ [] := by simpa [Rep.isEmptyGo] using ha
  have := orSlots_ne_nil (b := b.slots) hne
  simpa [Rep.isEmptyGo, Rep.or2] using this

/-! ### the copy-on-write gate, new and emptied buckets -/

theorem toBSet_writableBm (b : Bucket) : (writableBm b).toBSet = b.bm.toBSet := by
  unfold writableBm; split
  · exact Rep.toBSet_cloneB _
  · rfl

theorem wf_writableBm (b : Bucket) : (writableBm b).wf = b.bm.wf := by
  unfold writableBm; split
  · exact Rep.wf_cloneB _
  · rfl

theorem wf_writableBm_of_ok {b : Bucket} (hb : BucketOk b) : (writableBm b).wf = true := by rw [wf_writableBm]; exact hb.2.1

theorem wf_emptyRep : ({} : Rep).wf = true := by decide

theorem mem_emptyRep (y : Nat) : mem ({} : Rep).toBSet y = false := mem_of_isEmptyGo rfl y

theorem isEmptyGo_writableBm (b : Bucket) : (writableBm b).isEmptyGo = b.bm.isEmptyGo := by
  unfold writableBm; split
  · exact Rep.isEmptyGo_cloneB _
  · rfl

/-! ### optional buckets -/

def optMem (ob : Option Bucket) (y : Nat) : Bool :=
  match ob with
  | none => false
  | some b => mem b.bm.toBSet y

theorem nonEmpty_some {b b' : Bucket} (h : nonEmpty b = some b') : b' = b ∧ b.bm.isEmptyGo = false := by
  unfold nonEmpty at h
  split at h
  · cases h
  · rename_i he
    cases h
    exact ⟨rfl, by simpa using he⟩

theorem wf_consOpt {ob : Option Bucket} {rest : List Bucket} {k : Nat}
    (hob : ∀ b', ob = some b' → BucketOk b' ∧ b'.high = k) (hr : BucketsWf rest) (hlt : ∀ s ∈ rest, k < s.high) :
    BucketsWf (consOpt ob rest) := by
  cases ob with
  | none => exact hr
  | some b =>
    obtain ⟨hok, hk⟩ := hob b rfl
    exact BucketsWf.cons hok hr (by rw [hk]; exact hlt)

theorem wf_map_out {out : Bucket → Bucket} (h1 : ∀ b, (out b).high = b.high)
    (h2 : ∀ b, BucketOk b → BucketOk (out b)) (l : List Bucket) (hl : BucketsWf l) : BucketsWf (l.map out) :=
  ⟨List.pairwise_map.mpr (hl.sorted.imp fun h => by rw [h1, h1]; exact h), fun b hb => by
    obtain ⟨a, ha, rfl⟩ := List.mem_map.mp hb
    exact h2 a (hl.ok a ha)⟩

namespace R64Ops

/-- `b'` is `b` up to flags: the same key, and `b`'s bitmap or one of its two clones (which differ from it in flags only) -/
def FlagsOnly (b' b : Bucket) : Prop :=
  b'.high = b.high ∧ (b'.bm = b.bm ∨ b'.bm = b.bm.cloneB ∨ b'.bm = b.bm.cloneSrcB)

theorem FlagsOnly.set {b' b : Bucket} (h : FlagsOnly b' b) : b'.bm.toBSet = b.bm.toBSet := by
  rcases h.2 with e | e | e <;> rw [e]
  · exact Rep.toBSet_cloneB _
  · exact Rep.toBSet_cloneSrcB _

theorem FlagsOnly.ok {b' b : Bucket} (h : FlagsOnly b' b) (hb : BucketOk b) : BucketOk b' := by
  unfold BucketOk
  rw [h.1]
  rcases h.2 with e | e | e <;> rw [e]
  · exact hb
  · rw [Rep.wf_cloneB, Rep.isEmptyGo_cloneB]; exact hb
  · rw [Rep.wf_cloneSrcB, Rep.isEmptyGo_cloneSrcB]; exact hb

theorem flagsOnly_map {r r' : Rep64} {f : Bucket → Bucket} (hr : r.wf = true) (e : r'.buckets = r.buckets.map f)
    (h : ∀ b, FlagsOnly (f b) b) : r'.wf = true ∧ r'.toBSet = r.toBSet := by
  have hw := (bucketsWf_iff r).mp hr
  obtain ⟨h1, h2, h3⟩ := map_spec (Va := bucketV) (Vc := bucketV) (P := BucketOk) (Po := BucketOk)
    (fun b hb => ⟨(h b).1, (h b).ok hb, fun y => congrArg (mem · y) (h b).set⟩) hw.sorted hw.ok
  have hw' : BucketsWf r'.buckets := e ▸ ⟨h1, h2⟩
  refine ⟨(bucketsWf_iff _).mpr hw', canon_ext_sinc _ _ (sinc_rep64 _) (sinc_rep64 _) (fun x => ?_)⟩
  rw [mem_rep64_buckets _ hw'.bounded, mem_rep64_buckets r hw.bounded, e]
  exact h3 _ _

/-! ### the bucket walks are two-pointer walks -/

theorem consOpt_eq (ob : Option Bucket) (rest : List Bucket) : consOpt ob rest = ob.toList ++ rest := by
  cases ob <;> rfl

theorem keep64_eq (k : Nat) (c : Rep) (rest : List Bucket) :
    R64Ops.keep k c rest = (nonEmpty { high := k, bm := c, flag := false }).toList ++ rest := by
  unfold R64Ops.keep R64Ops.nonEmpty; split <;> rfl

/-- how a step treats two buckets with the same key: the 32-bit result `g sa sb` under the first one's key, with flag `fl sa`,
stored only if not empty (`storeIf`) or in any case (`store`, flag off) -/
def storeIf (g : Bucket → Bucket → Rep) (fl : Bucket → Bool) (sa sb : Bucket) : List Bucket :=
  (nonEmpty { high := sa.high, bm := g sa sb, flag := fl sa }).toList
def store (g : Bucket → Bucket → Rep) (sa sb : Bucket) : List Bucket := [{ high := sa.high, bm := g sa sb, flag := false }]

theorem piece_nonEmpty {k : Nat} {c : Rep} {fl : Bool} {m : Nat → Bool} (hk : k < 4294967296) (hw : c.wf = true)
    (hm : ∀ y, mem c.toBSet y = m y) : Piece bucketV BucketOk k m (nonEmpty { high := k, bm := c, flag := fl }).toList := by
  unfold R64Ops.nonEmpty
  cases he : c.isEmptyGo with
  | false => exact .single rfl ⟨hk, hw, he⟩ hm
  | true => exact .nil (fun y => by rw [← hm, mem_of_isEmptyGo he])

theorem ok_cloneB {b : Bucket} {f : Bool} (hb : BucketOk b) :
    BucketOk ({ high := b.high, bm := b.bm.cloneB, flag := f } : Bucket) := by
  simpa only [BucketOk, Rep.wf_cloneB, Rep.isEmptyGo_cloneB] using hb

theorem piece_cloneB {b : Bucket} {f : Bool} {m : Nat → Bool} (hb : BucketOk b) (hm : ∀ y, mem b.bm.toBSet y = m y) :
    Piece bucketV BucketOk b.high m [{ high := b.high, bm := b.bm.cloneB, flag := f }] :=
  .single rfl (ok_cloneB hb) (fun y => (congrArg (mem · y) (Rep.toBSet_cloneB _)).trans (hm y))

theorem _root_.RModel.Impl.MergeSpec.bucketsWf {α : Type} {Va : Keyed α} {f : Bool → Bool → Bool} {Pa : α → Prop}
    {L : α → List Bucket} {R R' : Bucket → List Bucket} {M : α → Bucket → List Bucket}
    (W : MergeSpec Va bucketV bucketV f Pa BucketOk BucketOk L R R' M) {a : List α} {b : List Bucket} (ha : ∀ s ∈ a, Pa s)
    (hsa : Va.Sorted a) (hb : BucketsWf b) : BucketsWf (mergeWalk Va bucketV L R R' M a b) :=
  ⟨W.sorted ha hb.ok hsa hb.sorted, W.ok ha hb.ok⟩

theorem _root_.RModel.Impl.MergeSpec.bucketsHas {α : Type} {Va : Keyed α} {f : Bool → Bool → Bool} {Pa : α → Prop}
    {L : α → List Bucket} {R R' : Bucket → List Bucket} {M : α → Bucket → List Bucket}
    (W : MergeSpec Va bucketV bucketV f Pa BucketOk BucketOk L R R' M) {a : List α} {b : List Bucket} (ha : ∀ s ∈ a, Pa s)
    (hsa : Va.Sorted a) (hb : BucketsWf b) (x : Nat) : bucketsHas (mergeWalk Va bucketV L R R' M a b) x =
      f (Va.hasAt a (x / 4294967296) (x % 4294967296)) (bucketsHas b x) :=
  W.has ha hb.ok hsa hb.sorted _ _

theorem andBuckets_eq (a b : List Bucket) : andBuckets a b = mergeWalk bucketV bucketV dropS dropS dropS
    (storeIf (fun sa sb => sa.bm.and2 sb.bm) fun _ => false) a b := by
  fun_induction andBuckets a b <;> simp [mergeWalk, dropS, storeIf, keep64_eq, *]

theorem orBuckets_eq (a b : List Bucket) : orBuckets a b = mergeWalk bucketV bucketV (fun s => [copyBucket s])
    (fun s => [copyBucket s]) (fun s => [copyBucket s]) (store fun sa sb => sa.bm.or2 sb.bm) a b := by
  fun_induction orBuckets a b <;> simp [mergeWalk, store, List.map_eq_flatMap, *]

theorem xorBuckets_eq (a b : List Bucket) : xorBuckets a b = mergeWalk bucketV bucketV (fun s => [copyBucket s])
    (fun s => [copyBucket s]) (fun s => [copyBucket s]) (storeIf (fun sa sb => sa.bm.xor2 sb.bm) fun _ => false) a b := by
  fun_induction xorBuckets a b <;> simp [mergeWalk, storeIf, keep64_eq, List.map_eq_flatMap, *]

theorem andNotBuckets_eq (a b : List Bucket) : andNotBuckets a b = mergeWalk bucketV bucketV (fun s => [copyBucket s])
    dropS dropS (storeIf (fun sa sb => sa.bm.andNot2 sb.bm) fun _ => false) a b := by
  fun_induction andNotBuckets a b <;> simp [mergeWalk, dropS, storeIf, keep64_eq, List.map_eq_flatMap, *]

theorem spec_and : MergeSpec bucketV bucketV bucketV (· && ·) BucketOk BucketOk BucketOk dropS dropS dropS
    (storeIf (fun sa sb => sa.bm.and2 sb.bm) fun _ => false) :=
  ⟨rfl, fun _ _ => .nil (by simp), fun _ _ => .nil (by simp), fun _ _ => .nil (by simp),
    fun _ _ ha hb _ => piece_nonEmpty ha.1 (Rep.wf_and2 _ _ ha.2.1 hb.2.1) (Rep.mem_and2 _ _ ha.2.1 hb.2.1)⟩

theorem spec_or : MergeSpec bucketV bucketV bucketV (· || ·) BucketOk BucketOk BucketOk (fun s => [copyBucket s])
    (fun s => [copyBucket s]) (fun s => [copyBucket s]) (store fun sa sb => sa.bm.or2 sb.bm) :=
  ⟨rfl, fun _ h => piece_cloneB h (by simp), fun _ h => piece_cloneB h (by simp), fun _ h => piece_cloneB h (by simp),
    fun _ _ ha hb _ => .single rfl ⟨ha.1, Rep.wf_or2 _ _ ha.2.1 hb.2.1, isEmptyGo_or2 ha.2.2⟩
      (Rep.mem_or2 _ _ ha.2.1 hb.2.1)⟩

theorem spec_xor : MergeSpec bucketV bucketV bucketV (· != ·) BucketOk BucketOk BucketOk (fun s => [copyBucket s])
    (fun s => [copyBucket s]) (fun s => [copyBucket s]) (storeIf (fun sa sb => sa.bm.xor2 sb.bm) fun _ => false) :=
  ⟨rfl, fun _ h => piece_cloneB h (by simp), fun _ h => piece_cloneB h (by simp), fun _ h => piece_cloneB h (by simp),
    fun _ _ ha hb _ => piece_nonEmpty ha.1 (Rep.wf_xor2 _ _ ha.2.1 hb.2.1) (Rep.mem_xor2 _ _ ha.2.1 hb.2.1)⟩

theorem spec_andNot : MergeSpec bucketV bucketV bucketV (fun p q => p && !q) BucketOk BucketOk BucketOk
    (fun s => [copyBucket s]) dropS dropS (storeIf (fun sa sb => sa.bm.andNot2 sb.bm) fun _ => false) :=
  ⟨rfl, fun _ h => piece_cloneB h (by simp), fun _ _ => .nil (by simp), fun _ _ => .nil (by simp),
    fun _ _ ha hb _ => piece_nonEmpty ha.1 (Rep.wf_andNot2 _ _ ha.2.1 hb.2.1) (Rep.mem_andNot2 _ _ ha.2.1 hb.2.1)⟩

theorem _root_.RModel.Impl.wf_orBuckets (a b : List Bucket) (ha : BucketsWf a) (hb : BucketsWf b) : BucketsWf (orBuckets a b) :=
  orBuckets_eq a b ▸ spec_or.bucketsWf ha.ok ha.sorted hb

end R64Ops

theorem MergeSpec.rep64 {f : Bool → Bool → Bool} {L R R' : Bucket → List Bucket} {M : Bucket → Bucket → List Bucket}
    (W : MergeSpec bucketV bucketV bucketV f BucketOk BucketOk BucketOk L R R' M) {r a b : Rep64}
    (hr : r.buckets = mergeWalk bucketV bucketV L R R' M a.buckets b.buckets) (ha : a.wf = true) (hb : b.wf = true) :
    r.wf = true ∧ r.toBSet = BSet.combine f a.toBSet b.toBSet false false := by
  have hwa := (bucketsWf_iff a).mp ha
  have hwb := (bucketsWf_iff b).mp hb
  have hw : BucketsWf r.buckets := hr ▸ W.bucketsWf hwa.ok hwa.sorted hwb
  refine ⟨(bucketsWf_iff r).mpr hw,
    canon_ext_sinc _ _ (sinc_rep64 _) (sinc_combine _ _ _ _ _ (sinc_rep64 a) (sinc_rep64 b)) (fun x => ?_)⟩
  rw [mem_combine _ _ _ _ _ (sinc_rep64 a) (sinc_rep64 b), mem_rep64_buckets r hw.bounded, mem_rep64_buckets a hwa.bounded,
    mem_rep64_buckets b hwb.bounded, W.zero, Bool.false_bne, Bool.false_bne, Bool.bne_false, hr]
  exact W.bucketsHas hwa.ok hwa.sorted hwb x

/-- the static 64-bit operations return well-formed bitmaps (keys strictly increasing and `< 2^32`, no empty bucket, every
bucket a well-formed 32-bit bitmap) on well-formed operands -/
theorem Rep64.wf_and2 (a b : Rep64) (ha : a.wf = true) (hb : b.wf = true) : (Rep64.and2 a b).wf = true :=
  (spec_and.rep64 (r := Rep64.and2 a b) (andBuckets_eq _ _) ha hb).1
theorem Rep64.wf_or2 (a b : Rep64) (ha : a.wf = true) (hb : b.wf = true) : (Rep64.or2 a b).wf = true :=
  (spec_or.rep64 (r := Rep64.or2 a b) (orBuckets_eq _ _) ha hb).1
theorem Rep64.wf_xor2 (a b : Rep64) (ha : a.wf = true) (hb : b.wf = true) : (Rep64.xor2 a b).wf = true :=
  (spec_xor.rep64 (r := Rep64.xor2 a b) (xorBuckets_eq _ _) ha hb).1
theorem Rep64.wf_andNot2 (a b : Rep64) (ha : a.wf = true) (hb : b.wf = true) : (Rep64.andNot2 a b).wf = true :=
  (spec_andNot.rep64 (r := Rep64.andNot2 a b) (andNotBuckets_eq _ _) ha hb).1

/-! ### set semantics -/

/-- `roaring64.And` of two well-formed bitmaps denotes the intersection (equality of canonical boundary lists) -/
theorem Rep64.toBSet_and2 (a b : Rep64) (ha : a.wf = true) (hb : b.wf = true) :
    (Rep64.and2 a b).toBSet = BSet.inter a.toBSet b.toBSet :=
  (spec_and.rep64 (r := Rep64.and2 a b) (andBuckets_eq _ _) ha hb).2

theorem Rep64.toBSet_or2 (a b : Rep64) (ha : a.wf = true) (hb : b.wf = true) :
    (Rep64.or2 a b).toBSet = BSet.union a.toBSet b.toBSet :=
  (spec_or.rep64 (r := Rep64.or2 a b) (orBuckets_eq _ _) ha hb).2

theorem Rep64.toBSet_xor2 (a b : Rep64) (ha : a.wf = true) (hb : b.wf = true) :
    (Rep64.xor2 a b).toBSet = BSet.xor a.toBSet b.toBSet :=
  (spec_xor.rep64 (r := Rep64.xor2 a b) (xorBuckets_eq _ _) ha hb).2

theorem Rep64.toBSet_andNot2 (a b : Rep64) (ha : a.wf = true) (hb : b.wf = true) :
    (Rep64.andNot2 a b).toBSet = BSet.diff a.toBSet b.toBSet :=
  (spec_andNot.rep64 (r := Rep64.andNot2 a b) (andNotBuckets_eq _ _) ha hb).2

theorem Rep64.mem_and2 (a b : Rep64) (ha : a.wf = true) (hb : b.wf = true) (x : Nat) :
    mem (Rep64.and2 a b).toBSet x = (mem a.toBSet x && mem b.toBSet x) := by
  rw [Rep64.toBSet_and2 a b ha hb, mem_inter _ _ (sinc_rep64 a) (sinc_rep64 b)]

theorem Rep64.mem_or2 (a b : Rep64) (ha : a.wf = true) (hb : b.wf = true) (x : Nat) :
    mem (Rep64.or2 a b).toBSet x = (mem a.toBSet x || mem b.toBSet x) := by
  rw [Rep64.toBSet_or2 a b ha hb, mem_union _ _ (sinc_rep64 a) (sinc_rep64 b)]

theorem Rep64.mem_xor2 (a b : Rep64) (ha : a.wf = true) (hb : b.wf = true) (x : Nat) :
    mem (Rep64.xor2 a b).toBSet x = (mem a.toBSet x != mem b.toBSet x) := by
  rw [Rep64.toBSet_xor2 a b ha hb, mem_xor _ _ (sinc_rep64 a) (sinc_rep64 b)]

theorem Rep64.mem_andNot2 (a b : Rep64) (ha : a.wf = true) (hb : b.wf = true) (x : Nat) :
    mem (Rep64.andNot2 a b).toBSet x = (mem a.toBSet x && !mem b.toBSet x) := by
  rw [Rep64.toBSet_andNot2 a b ha hb, mem_diff _ _ (sinc_rep64 a) (sinc_rep64 b)]

/-! ### the operands afterwards: same set, still well-formed (only inner flags may change) -/

theorem Rep64.clone_spec (r : Rep64) (hr : r.wf = true) : r.clone.wf = true ∧ r.clone.toBSet = r.toBSet := by
  unfold Rep64.clone
  split
  · exact flagsOnly_map hr rfl (fun _ => ⟨rfl, .inl rfl⟩)
  · exact flagsOnly_map hr rfl (fun _ => ⟨rfl, .inr (.inl rfl)⟩)

theorem Rep64.wf_clone (r : Rep64) (hr : r.wf = true) : r.clone.wf = true := (Rep64.clone_spec r hr).1

theorem Rep64.toBSet_clone (r : Rep64) (hr : r.wf = true) : r.clone.toBSet = r.toBSet := (Rep64.clone_spec r hr).2

theorem flagsOnly_afterLone (other : List Bucket) (b : Bucket) :
    FlagsOnly (if other.any (·.high == b.high) then b else { high := b.high, bm := b.bm.cloneSrcB, flag := b.flag }) b := by
  split
  · exact ⟨rfl, .inl rfl⟩
  · exact ⟨rfl, .inr (.inr rfl)⟩

theorem Rep64.afterStatic_spec (cl : Bool) (a other : Rep64) (ha : a.wf = true) :
    (Rep64.afterStatic cl a other).wf = true ∧ (Rep64.afterStatic cl a other).toBSet = a.toBSet := by
  cases cl with
  | false => exact ⟨ha, rfl⟩
  | true => exact flagsOnly_map ha rfl (flagsOnly_afterLone other.buckets)

theorem Rep64.wf_afterStatic (cl : Bool) (a other : Rep64) (ha : a.wf = true) : (Rep64.afterStatic cl a other).wf = true :=
  (Rep64.afterStatic_spec cl a other ha).1

/-- a static operation leaves the set each operand denotes unchanged -/
theorem Rep64.toBSet_afterStatic (cl : Bool) (a other : Rep64) (ha : a.wf = true) :
    (Rep64.afterStatic cl a other).toBSet = a.toBSet :=
  (Rep64.afterStatic_spec cl a other ha).2

/-- the answer of a static operation never has copy-on-write switched on -/
theorem Rep64.cow_ops (a b : Rep64) :
    (Rep64.and2 a b).cow = false ∧ (Rep64.or2 a b).cow = false ∧ (Rep64.xor2 a b).cow = false ∧
      (Rep64.andNot2 a b).cow = false :=
  ⟨rfl, rfl, rfl, rfl⟩

/-! ### the running examples of the `Rep64*` modules (their `example`s show the hypotheses of the main theorems satisfiable) -/

/-- switch on; bucket 0 flagged (shared with a clone): `{1, 5} ∪ [131082, 131086]`; bucket 3: `{3·2^32 + 4294967295}` -/
def exA0 : Bucket :=
  { high := 0, bm := { cow := false, slots := [ { key := 0, c := .arr [1, 5] }, { key := 2, c := .run [(10, 4)] } ] }, flag := true }

def exA : Rep64 := { cow := true, buckets := [
  exA0,
  { high := 3, bm := { cow := false, slots := [ { key := 65535, c := .arr [65535] } ] }, flag := false } ] }

def exB : Rep64 := { cow := false, buckets := [
  { high := 0, bm := { cow := false, slots := [ { key := 0, c := .arr [5, 6] } ] }, flag := false },
  { high := 2, bm := { cow := false, slots := [ { key := 1, c := .arr [0] } ] }, flag := false },
  { high := 3, bm := { cow := false, slots := [ { key := 65535, c := .run [(65530, 5)] } ] }, flag := true } ] }

/-- the set of `exA`, held with the switch off, other flags, and the run as an array -/
def exC : Rep64 := { cow := false, buckets := [
  { high := 0, bm := { cow := false, slots := [ { key := 0, c := .arr [1, 5] }, { key := 2, c := .arr [10, 11, 12, 13, 14] } ] }, flag := false },
  { high := 3, bm := { cow := false, slots := [ { key := 65535, c := .arr [65535] } ] }, flag := true } ] }

theorem wf_exA : exA.wf = true := by decide
theorem wf_exB : exB.wf = true := by decide
theorem wf_exC : exC.wf = true := by decide

example : exA.toBSet = [1, 2, 5, 6, 131082, 131087, 17179869183, 17179869184] := by decide +kernel

end RModel.Impl
