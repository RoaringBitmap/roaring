import RProofs.IterBase
import RProofs.IterRun
import RProofs.IterBmp
/-!
Iteration protocols: the interface field `iter` (`CIt`) uniformly over the three container kinds.  It follows the pattern of
the container iterators: an invariant `Inv`, the list `rem` of values still to be delivered, and what `hasNext`, `peekNext`,
`next`, `advanceIfNeeded` and initialisation do to `rem`; draining a fresh iterator yields `valsOfCont c`.
-/
namespace RModel.Impl.It
open RModel RModel.Impl RModel.Impl.ContOps RModel.Impl.ContQuery

/-! ### the sorted member list of a container -/

theorem mem_valsOfCont (c : Cont) (x : Nat) : x ∈ valsOfCont c ↔ c.has x = true := by
  cases c with
  | arr xs => simp [valsOfCont, Cont.has]
  | bmp k ws => simp only [valsOfCont, Cont.has]; exact mem_valsOfWords ws x
  | run rs => simp only [valsOfCont, Cont.has]; exact mem_expandRuns rs x

theorem sorted_valsOfCont {c : Cont} (h : c.wf = true) : (valsOfCont c).Pairwise (· < ·) := by
  cases c with
  | arr xs => exact (wf_arr h).sorted
  | bmp k ws => exact sorted_valsOfWords ws
  | run rs => exact sorted_expandRuns rs (wf_run h).sep

theorem valsOfCont_lt {c : Cont} (h : c.wf = true) {x : Nat} (hx : x ∈ valsOfCont c) : x < 65536 :=
  has_lt h ((mem_valsOfCont c x).mp hx)

theorem length_valsOfCont_le {c : Cont} (h : c.wf = true) : (valsOfCont c).length ≤ 65536 :=
  Util.sorted_length_le (valsOfCont c) 0 65536 (sorted_valsOfCont h) fun _ hx => ⟨Nat.zero_le _, valsOfCont_lt h hx⟩

theorem valsOfCont_ne_nil {c : Cont} (h : c.wf = true) : valsOfCont c ≠ [] := by
  obtain ⟨y, hy⟩ := wf_has_member _ h
  intro e
  have := (mem_valsOfCont c y).mpr hy
  rw [e] at this
  cases this

/-! ## the interface field `iter` -/

namespace CIt

def Inv : CIt → Prop
  | .none => True
  | .arr a => a.Inv ∧ ∀ v ∈ a.slice, v < 65536
  | .run r => r.Inv
  | .bmp b => b.Inv

def rem : CIt → List Nat
  | .none => []
  | .arr a => a.rem
  | .run r => r.rem
  | .bmp b => b.rem

/-- the array iterators only move `loc`: what `Inv` says about the slice carries over -/
theorem arrInv_of_slice {a b : ArrIt} (h : b.slice = a.slice) (hi : a.Inv ∧ ∀ v ∈ a.slice, v < 65536) :
    b.Inv ∧ ∀ v ∈ b.slice, v < 65536 := by
  unfold ArrIt.Inv at *
  rwa [h]

theorem hasNext_iff {it : CIt} (hi : it.Inv) : it.hasNext = true ↔ it.rem ≠ [] := by
  cases it with
  | none => simp [hasNext, rem]
  | arr a => exact ArrIt.hasNext_iff a
  | run r => exact RunIt.hasNext_iff hi
  | bmp b => exact BmpIt.hasNext_iff hi

theorem peekNext_spec {it : CIt} (hi : it.Inv) {v : Nat} {t : List Nat} (h : it.rem = v :: t) : it.peekNext = v := by
  cases it with
  | none => cases h
  | arr a => exact ArrIt.peekNext_spec h
  | run r => exact RunIt.peekNext_spec hi h
  | bmp b => exact BmpIt.peekNext_spec hi h

theorem next_spec {it : CIt} (hi : it.Inv) {v : Nat} {t : List Nat} (h : it.rem = v :: t) :
    it.next.1 = v ∧ it.next.2.Inv ∧ it.next.2.rem = t := by
  cases it with
  | none => cases h
  | arr a =>
    obtain ⟨h1, h2, h3⟩ := ArrIt.next_spec h
    exact ⟨h1, arrInv_of_slice h3 hi, h2⟩
  | run r =>
    obtain ⟨h1, h2, h3, -⟩ := RunIt.next_spec hi h
    exact ⟨h1, h2, h3⟩
  | bmp b =>
    obtain ⟨h1, h2, h3, -⟩ := BmpIt.next_spec hi h
    exact ⟨h1, h2, h3⟩

theorem advanceIfNeeded_spec {it : CIt} (hi : it.Inv) (m : Nat) (hm : m < 65536) :
    (it.advanceIfNeeded m).Inv ∧ (it.advanceIfNeeded m).rem = it.rem.dropWhile (fun x => decide (x < m)) := by
  cases it with
  | none => exact ⟨trivial, rfl⟩
  | arr a =>
    obtain ⟨h1, h2⟩ := ArrIt.advanceIfNeeded_spec hi.1 m
    exact ⟨arrInv_of_slice h2 hi, h1⟩
  | run r =>
    obtain ⟨h1, h2, -⟩ := RunIt.advanceIfNeeded_spec hi m hm
    exact ⟨h1, h2⟩
  | bmp b =>
    obtain ⟨h1, h2, -⟩ := BmpIt.advanceIfNeeded_spec hi m hm
    exact ⟨h1, h2⟩

theorem ofCont_spec {c : Cont} (h : c.wf = true) : (ofCont c).Inv ∧ (ofCont c).rem = valsOfCont c := by
  cases c with
  | arr xs =>
    have hw := wf_arr h
    exact ⟨⟨hw.sorted, hw.bound⟩, rfl⟩
  | run rs =>
    have hw := wf_run h
    exact RunIt.init_spec rs hw.sep hw.bound
  | bmp k ws =>
    obtain ⟨hl, -, -⟩ := wf_bmp h
    obtain ⟨h1, h2, -⟩ := BmpIt.init_spec ws hl
    exact ⟨h1, h2⟩

theorem rem_lt {it : CIt} (hi : it.Inv) {v : Nat} (hv : v ∈ it.rem) : v < 65536 := by
  cases it with
  | none => cases hv
  | arr a => exact hi.2 v (List.mem_of_mem_drop hv)
  | run r => exact RunIt.mem_lt hi (mem_remFrom.mp hv).1
  | bmp b => exact valsOfWords_lt hi.1 (mem_remFrom.mp hv).1

theorem rem_sorted {it : CIt} (hi : it.Inv) : it.rem.Pairwise (· < ·) := by
  cases it with
  | none => exact List.Pairwise.nil
  | arr a => exact List.Pairwise.sublist (List.drop_sublist _ _) hi.1
  | run r => exact sorted_remFrom (sorted_expandRuns _ hi.1) _
  | bmp b => exact sorted_remFrom (sorted_valsOfWords _) _

theorem follows : Follows Inv rem hasNext next := ⟨hasNext_iff, next_spec⟩

theorem drain_spec : ∀ (fuel : Nat) (it : CIt), it.Inv → it.rem.length ≤ fuel → it.drain fuel = it.rem :=
  drain_of_protocol follows drain (fun _ => rfl) (fun _ _ => rfl)

/-- C04 at the container level: draining a fresh container iterator yields exactly the sorted member list, for every
container kind -/
theorem drain_ofCont {c : Cont} (h : c.wf = true) (fuel : Nat) (hf : (valsOfCont c).length ≤ fuel) :
    (ofCont c).drain fuel = valsOfCont c := by
  obtain ⟨h1, h2⟩ := ofCont_spec h
  rw [drain_spec fuel _ h1 (by rw [h2]; exact hf), h2]

end CIt

/-! ### `slotAt`, for the bitmap-level iterators and the walks of `RepQuery` -/

theorem slotAt_eq {slots : List Slot} {i : Nat} (h : i < slots.length) : slotAt slots i = slots[i] := by
  simp [slotAt, List.getD_eq_getElem?_getD, h]

theorem slotAt_mem {slots : List Slot} {i : Nat} (h : i < slots.length) : slotAt slots i ∈ slots :=
  Util.getD_mem _ h

theorem drop_slots {slots : List Slot} {i : Nat} (h : i < slots.length) :
    slots.drop i = slotAt slots i :: slots.drop (i + 1) :=
  Util.drop_getD _ h

end RModel.Impl.It
