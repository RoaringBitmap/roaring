import RProofs.FastEq
import RProofs.Rep64Witness
import RModel.Driver.L2R64
/-!
The checker's instance `Ops32.viaSet` (`Driver/L2R64.lean`) of the un-modelled 32-bit range / in-place functions rebuilds a
bucket from the L1 result with `Rep.ofBSet`.  Here: `Rep.ofBSet` is a right inverse of the abstraction
(`Rep.toBSet_ofBSet`, for every boundary list: strictly increasing, even length), hence `viaSet` has the SET semantics the
bucket-level theorems ask of an `Ops32` instance (the `mem_…` fields of `Ops32.Sound` / `Ops32.SoundBin`).
The `wf_…` fields are FALSE for `viaSet` (it stores run containers only, e.g. `{5}` as `run [(5,0)]`, which is not
`runMinimal`): the checker only compares such buckets as sets.
-/
namespace RModel.Impl
open RModel RModel.BSet RModel.Driver ContOps RepOps R64Ops

/-- membership in a piece `(key, start, length-1)`: the values `65536·key + start … 65536·key + start + (length-1)` -/
def pieceHas (p : Nat × Nat × Nat) (x : Nat) : Bool :=
  decide (p.1 * 65536 + p.2.1 ≤ x) && decide (x ≤ p.1 * 65536 + p.2.1 + p.2.2)

def piecesHas (ps : List (Nat × Nat × Nat)) (x : Nat) : Bool := ps.any (fun p => pieceHas p x)

def slotsAny (l : List Slot) (x : Nat) : Bool :=
  l.any (fun s => decide (s.key * 65536 ≤ x) && s.c.has (x - s.key * 65536))

theorem slotsAny_cons (s : Slot) (t : List Slot) (x : Nat) :
    slotsAny (s :: t) x = ((decide (s.key * 65536 ≤ x) && s.c.has (x - s.key * 65536)) || slotsAny t x) := by
  simp [slotsAny]

theorem run_piece (k s l x : Nat) (rs : List (Nat × Nat)) :
    (decide (k * 65536 ≤ x) && inRuns ((s, l) :: rs) (x - k * 65536)) =
      (pieceHas (k, s, l) x || (decide (k * 65536 ≤ x) && inRuns rs (x - k * 65536))) := by
  rw [inRuns_cons, Bool.eq_iff_iff]
  simp only [pieceHas, Bool.and_eq_true, Bool.or_eq_true, decide_eq_true_eq]
  constructor
  · rintro ⟨h1, h2 | h2⟩
    · left; omega
    · right; exact ⟨h1, h2⟩
  · rintro (h | ⟨h1, h2⟩)
    · exact ⟨by omega, Or.inl (by omega)⟩
    · exact ⟨h1, Or.inr h2⟩

theorem slotsAny_groupPieces : ∀ (ps : List (Nat × Nat × Nat)) (x : Nat),
    slotsAny (groupPieces ps) x = piecesHas ps x
  | [], _ => rfl
  | (k, s, l) :: t, x => by
    have ih := slotsAny_groupPieces t x
    have hp : piecesHas ((k, s, l) :: t) x = (pieceHas (k, s, l) x || piecesHas t x) := by simp [piecesHas]
    rw [hp, ← ih]
    simp only [groupPieces]
    split
    · rename_i k' rs f rest heq
      rw [heq]
      split
      · rename_i hk
        have hk' : k' = k := by simpa using hk
        subst hk'
        rw [slotsAny_cons, slotsAny_cons]
        simp only [has_run]
        rw [run_piece, Bool.or_assoc]
      · rw [slotsAny_cons, slotsAny_cons, slotsAny_cons]
        simp only [has_run]
        rw [run_piece]
        simp [inRuns]
    · rw [slotsAny_cons]
      simp only [has_run]
      rw [run_piece]
      simp [inRuns]

theorem pieceHas_iff {k s e : Nat} (hs : k * 65536 ≤ s) (hse : s < e) (x : Nat) :
    pieceHas (k, s - k * 65536, e - s - 1) x = true ↔ s ≤ x ∧ x < e := by
  simp only [pieceHas, Bool.and_eq_true, decide_eq_true_eq]
  omega

/-- chunk `k` of `[lo, hi)`, for a chunk the interval meets: `[max lo (65536 k), min hi (65536 (k + 1)))` -/
theorem pieceHas_piecesOf {lo hi k : Nat} (hlt : lo < hi) (h1 : lo / 65536 ≤ k) (h2 : k ≤ (hi - 1) / 65536) (x : Nat) :
    pieceHas (k, max lo (k * 65536) - k * 65536, min hi ((k + 1) * 65536) - max lo (k * 65536) - 1) x = true ↔
      (lo ≤ x ∧ x < hi) ∧ x / 65536 = k := by
  rw [pieceHas_iff (Nat.le_max_right ..)
      (Nat.max_lt.mpr ⟨Nat.lt_min.mpr ⟨hlt, by omega⟩, Nat.lt_min.mpr ⟨by omega, by omega⟩⟩),
    Nat.max_le, Nat.lt_min]
  omega

-- through `List.mem_map`, not `List.any_map`: that leaves `(pieceHas · x) ∘ f`, which the kernel is very slow to identify
-- with `pieceHas (f k) x` (it unfolds `pieceHas` and its `k * 65536` first)
theorem piecesHas_piecesOf (lo hi x : Nat) :
    piecesHas (piecesOf lo hi) x = (decide (lo ≤ x) && decide (x < hi)) := by
  rw [Bool.eq_iff_iff, Bool.and_eq_true, decide_eq_true_eq, decide_eq_true_eq, piecesHas, List.any_eq_true]
  by_cases hlt : lo < hi
  · rw [piecesOf, if_pos hlt]
    constructor
    · rintro ⟨_, hp, h⟩
      obtain ⟨k, hk, rfl⟩ := List.mem_map.mp hp
      exact ((pieceHas_piecesOf hlt (mem_keyRange hk).1 (mem_keyRange hk).2 x).mp h).1
    · intro h
      have h1 : lo / 65536 ≤ x / 65536 := Nat.div_le_div_right h.1
      have h2 : x / 65536 ≤ (hi - 1) / 65536 := Nat.div_le_div_right (by omega)
      refine ⟨_, List.mem_map.mpr ⟨x / 65536, ?_, rfl⟩, (pieceHas_piecesOf hlt h1 h2 x).mpr ⟨h, rfl⟩⟩
      simp only [keyRange, List.mem_range'_1]; omega
  · rw [piecesOf, if_neg hlt]
    constructor
    · rintro ⟨_, hp, _⟩; cases hp
    · omega

theorem allPieces_eq : ∀ (s : BSet), allPieces s = (It.pairsOf s).flatMap fun p => piecesOf p.1 p.2
  | [] => rfl
  | [_] => rfl
  | lo :: hi :: t => congrArg (piecesOf lo hi ++ ·) (allPieces_eq t)

theorem piecesHas_allPieces (s : BSet) (hs : SInc s) (he : s.length % 2 = 0) (x : Nat) :
    piecesHas (allPieces s) x = mem s x := by
  rw [allPieces_eq, piecesHas, List.any_flatMap, ← It.memPairs_pairsOf s hs he]
  exact List.any_congr rfl fun p => piecesHas_piecesOf p.1 p.2 x

/-- **`Rep.ofBSet` is a right inverse of the abstraction**, for every boundary list (no bound needed) -/
theorem Rep.toBSet_ofBSet (s : BSet) (hs : SInc s) (he : s.length % 2 = 0) : (Rep.ofBSet s).toBSet = s := by
  refine canon_ext_sinc _ _ (sinc_rep _) hs (fun x => ?_)
  rw [mem_rep_any]
  exact (slotsAny_groupPieces (allPieces s) x).trans (piecesHas_allPieces s hs he x)

theorem Rep.toBSetFast_ofBSet (s : BSet) (hs : SInc s) (he : s.length % 2 = 0) : (Rep.ofBSet s).toBSetFast = s := by
  rw [Rep.toBSetFast_eq, Rep.toBSet_ofBSet s hs he]

/-! ### which rebuilt buckets are empty (decides which buckets the bucket-level walks drop) -/

theorem groupPieces_ne_nil (p : Nat × Nat × Nat) (t : List (Nat × Nat × Nat)) : groupPieces (p :: t) ≠ [] := by
  obtain ⟨k, s, l⟩ := p
  simp only [groupPieces]
  split
  · split <;> simp
  · simp

theorem piecesOf_ne_nil {lo hi : Nat} (h : lo < hi) : piecesOf lo hi ≠ [] := by
  rw [piecesOf, if_pos h, Ne, List.map_eq_nil_iff, keyRange, List.range'_eq_nil_iff]
  have : lo / 65536 ≤ (hi - 1) / 65536 := Nat.div_le_div_right (by omega)
  omega

/-- `IsEmpty()` of the rebuilt bucket: no container iff the set is empty -/
theorem Rep.isEmptyGo_ofBSet (s : BSet) (hs : SInc s) (he : s.length % 2 = 0) :
    (Rep.ofBSet s).isEmptyGo = s.isEmpty := by
  induction s, hs, he using even_induction with
  | nil => rfl
  | step lo hi t hlh _ _ _ _ _ _ =>
    have h1 : allPieces (lo :: hi :: t) ≠ [] := fun hn => piecesOf_ne_nil hlh (List.append_eq_nil_iff.mp hn).1
    unfold Rep.ofBSet Rep.isEmptyGo
    cases hps : allPieces (lo :: hi :: t) with
    | nil => exact absurd hps h1
    | cons p ps =>
      have := groupPieces_ne_nil p ps
      cases hg : groupPieces (p :: ps) with
      | nil => exact absurd hg this
      | cons _ _ => rfl

/-! ### the set semantics of the checker's `Ops32` instance -/

/-- every operation of `viaSet` is one sweep of the fast abstraction with a canonical second operand, rebuilt -/
theorem Rep.toBSet_ofBSet_combine (f : Bool → Bool → Bool) (hf : f false false = false) (r : Rep) (hr : r.wf = true)
    {k : BSet} (hk : Canon 4294967296 k) :
    (Rep.ofBSet (combine f r.toBSetFast k false false)).toBSet = combine f r.toBSet k false false := by
  rw [Rep.toBSetFast_eq]
  have hc := canon_combine _ f hf _ _ (canon_rep r hr) hk
  exact Rep.toBSet_ofBSet _ hc.1 hc.2.2

/-- the `mem_…` fields of `Ops32.Sound` and `Ops32.SoundBin` hold for the checker's instance -/
theorem Ops32.viaSet_mem :
    (∀ (r : Rep) (s e y : Nat), r.wf = true → s < e → e ≤ 4294967296 →
      mem (Ops32.viaSet.flip r s e).toBSet y = (mem r.toBSet y != (decide (s ≤ y) && decide (y < e)))) ∧
    (∀ (r : Rep) (s e y : Nat), r.wf = true → s < e → e ≤ 4294967296 →
      mem (Ops32.viaSet.addRange r s e).toBSet y = (mem r.toBSet y || (decide (s ≤ y) && decide (y < e)))) ∧
    (∀ (r : Rep) (s e y : Nat), r.wf = true → s < e → e ≤ 4294967296 →
      mem (Ops32.viaSet.removeRange r s e).toBSet y = (mem r.toBSet y && !(decide (s ≤ y) && decide (y < e)))) ∧
    (∀ (a b : Rep) (y : Nat), a.wf = true → b.wf = true →
      mem (Ops32.viaSet.iand a b).toBSet y = (mem a.toBSet y && mem b.toBSet y)) ∧
    (∀ (a b : Rep) (y : Nat), a.wf = true → b.wf = true →
      mem (Ops32.viaSet.ior a b).toBSet y = (mem a.toBSet y || mem b.toBSet y)) ∧
    (∀ (a b : Rep) (y : Nat), a.wf = true → b.wf = true →
      mem (Ops32.viaSet.iandNot a b).toBSet y = (mem a.toBSet y && !mem b.toBSet y)) := by
  have hb : ∀ (b : Rep), b.wf = true → Canon 4294967296 b.toBSetFast := fun b hb => by
    rw [Rep.toBSetFast_eq]; exact canon_rep b hb
  refine ⟨?_, ?_, ?_, ?_, ?_, ?_⟩
  · intro r s e y hr _ he
    exact (congrArg (mem · y) (Rep.toBSet_ofBSet_combine _ rfl r hr (canon_range _ s e he))).trans
      (mem_flipRange _ (sinc_rep r) s e y)
  · intro r s e y hr _ he
    exact (congrArg (mem · y) (Rep.toBSet_ofBSet_combine _ rfl r hr (canon_range _ s e he))).trans
      (mem_addRange _ (sinc_rep r) s e y)
  · intro r s e y hr _ he
    exact (congrArg (mem · y) (Rep.toBSet_ofBSet_combine _ rfl r hr (canon_range _ s e he))).trans
      (mem_removeRange _ (sinc_rep r) s e y)
  · intro a b y ha hb'
    exact (congrArg (mem · y) (Rep.toBSet_ofBSet_combine _ rfl a ha (hb b hb'))).trans
      (by rw [Rep.toBSetFast_eq]; exact mem_inter _ _ (sinc_rep a) (sinc_rep b) y)
  · intro a b y ha hb'
    exact (congrArg (mem · y) (Rep.toBSet_ofBSet_combine _ rfl a ha (hb b hb'))).trans
      (by rw [Rep.toBSetFast_eq]; exact mem_union _ _ (sinc_rep a) (sinc_rep b) y)
  · intro a b y ha hb'
    exact (congrArg (mem · y) (Rep.toBSet_ofBSet_combine _ rfl a ha (hb b hb'))).trans
      (by rw [Rep.toBSetFast_eq]; exact mem_diff _ _ (sinc_rep a) (sinc_rep b) y)

/-- … but not the `wf_…` fields: the rebuilt bucket holds run containers only (here `{5}` as `run [(5, 0)]`, which is not
`runMinimal`), so `Ops32.viaSet.Sound` is false and the theorems of `Rep64Range.lean` / `Rep64InPlace.lean` do not apply to
the checker's instance as they stand -/
theorem Ops32.viaSet_not_wf : (Ops32.viaSet.addRange {} 5 6).wf = false := by
  have h : BSet.addRange ({} : Rep).toBSetFast 5 6 = [5, 6] := by
    show BSet.addRange [] 5 6 = _
    simp [BSet.addRange, BSet.union, BSet.combine, BSet.range, BSet.emit]
  show (Rep.ofBSet (BSet.addRange ({} : Rep).toBSetFast 5 6)).wf = false
  rw [h]; decide

end RModel.Impl
