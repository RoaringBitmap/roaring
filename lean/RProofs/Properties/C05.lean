import RProofs.ByteInputDecode
/-!
Property C05 — the portable serialization round-trips exactly, with exact byte accounting — as theorems about the
L2 serializer/deserializer model (`Impl/Serial.lean`, which mirrors `roaringArray.writeTo` / `readFrom`; the model
is tied to the Go bytes by the `ser` / `dec` correspondence lines, byte for byte).
-/
namespace RModel.Impl

/-- the representation a reader builds: same containers, every slot flagged iff the reader is zero-copy, cow off.  The
reader takes the cached cardinality of a bitmap container from the descriptive header, which holds it when the container is
well formed (`card_hdr`) -/
def Rep.asDecoded (r : Rep) (flag : Bool) : Rep :=
  { cow := false, slots := r.slots.map fun s => { s with flag := flag } }

/-- bytes written = `serializedSize` (what `GetSerializedSizeInBytes` and the `n` returned by `WriteTo` report) -/
theorem encode_length (r : Rep) (hwf : r.wf = true) :
    (r.encode specParams).length = r.serializedSize specParams := by
  have _ := hwf  -- not needed: the byte count is exact for every representation, well formed or not
  have hp := payloads_length r.slots
  simp only [List.length_flatMap] at hp
  simp only [Rep.encode, Rep.serializedSize, Rep.headerSize, specParams]
  -- both sides add up the same members (cookie, descriptive header, offsets, payloads); which of them are present depends on
  -- the cookie kind and, with the run cookie, on whether there are at least 4 containers
  cases hr : r.hasRun <;> by_cases h : 4 ≤ r.slots.length
  all_goals
    simp [sum_const4, hp, h, Nat.not_lt.mpr, Nat.lt_of_not_le]
    omega

/-- `decode (encode r ++ tail)` gives back exactly `r` and consumes exactly `(encode r).length` bytes:
round trip, exact consumption, and nothing after the stream is looked at. -/
theorem decode_encode (r : Rep) (hwf : r.wf = true) (flag : Bool) (tail : Bytes) :
    decode specParams flag (r.encode specParams ++ tail) = .ok (r.asDecoded flag, (r.encode specParams).length) := by
  obtain ⟨hn, hkeys, hcwf⟩ := wf_slots r hwf
  have hlen : (r.encode specParams ++ tail).length - tail.length = (r.encode specParams).length := by simp
  rw [decode_eq, ← hlen]
  generalize (r.encode specParams ++ tail).length = len
  cases hr : r.hasRun
  · -- no run container: cookie 12346, explicit size
    rw [encode_norun r hr]
    simp only [List.append_assoc]
    rw [rd32_le32 12346 (by omega)]
    simp only [decodeHdr, specParams_serialCookie, specParams_serialCookieNoRun]
    rw [rd32_le32 _ (by omega)]
    simp only [Nat.reduceMod, Nat.reduceBEq, Bool.false_eq_true, if_false, beq_self_eq_true, if_true, Option.map_some]
    rw [decodeTail_encode flag len none r.slots _ tail hn hkeys hcwf
      (fun j hj => by simp [runBitAt, isRun_false_of_hasRun_false r hr]) (by simp)]
    rfl
  · -- at least one run container: cookie 12347 + (n-1) << 16, run-flag bitmap
    have hpos := hasRun_pos hr
    have hc1 : (12347 + 65536 * ((r.slots.length - 1) % 65536)) % 65536 = 12347 := by omega
    have hc2 : (12347 + 65536 * ((r.slots.length - 1) % 65536)) / 65536 + 1 = r.slots.length := by omega
    have hfl : (runFlagBytes (r.slots.map (·.c.isRun))).length = (r.slots.length + 7) / 8 := by simp
    rw [encode_run r hr]
    simp only [List.append_assoc]
    rw [rd32_le16_le16 12347 _ (by omega) (by omega)]
    simp only [decodeHdr, specParams_serialCookie, hc1, hc2, beq_self_eq_true, if_true]
    rw [takeN_append _ _ _ hfl]
    simp only [Option.map_some]
    rw [decodeTail_encode flag len (some (runFlagBytes (r.slots.map (·.c.isRun)))) r.slots _ tail hn hkeys hcwf
      (fun j hj => by
        have := runFlag_bit (r.slots.map (·.c.isRun)) j (by simpa using hj)
        simpa [runBitAt] using this) (by split <;> simp <;> omega)]
    rfl

/-- the decoder is total: it never reaches an unchecked index (the `panic` outcome) on any input -/
theorem decode_no_panic (P : SerParams) (flag : Bool) (bs : Bytes) : decode P flag bs ≠ .panic := by
  -- the decoder is a client run on a byte list, which ends in a result or in `none`; `report` makes a panic of neither
  rw [← ByteIn.decodeProg_runList]
  cases (ByteIn.decodeProg P flag).runList bs <;> nofun

/-- every proper prefix of a valid stream is rejected with an error (never accepted, never a panic) -/
theorem prefix_rejected (r : Rep) (hwf : r.wf = true) (flag : Bool) (k : Nat) (hk : k < (r.encode specParams).length) :
    decode specParams flag ((r.encode specParams).take k) = .err :=
  proper_prefix_err (decode_no_panic _ _) decode_ext decode_count_le
    (by simpa using decode_encode r hwf flag []) hk

theorem roundtrip_wf (r : Rep) (hwf : r.wf = true) (flag : Bool) : (r.asDecoded flag).wf = true := by
  simpa [Rep.wf, Rep.asDecoded, List.map_map, List.all_map, Function.comp_def] using hwf

theorem Rep.toBSet_asDecoded (r : Rep) (flag : Bool) : (r.asDecoded flag).toBSet = r.toBSet := by
  simp only [Rep.asDecoded, Rep.toBSet, List.map_map]; rfl

/-- non-vacuity: the hypotheses are met by a concrete array/run/array representation, and the conclusions of
`decode_encode` / `prefix_rejected` are observed on it by evaluation -/
example :
    let r : Rep := ⟨false, [⟨0, .arr [1, 5, 9], false⟩, ⟨3, .run [(10, 99)], false⟩, ⟨7, .arr [65535], true⟩]⟩
    r.wf = true ∧ (r.encode specParams).length = 31 ∧
      (decode specParams true (r.encode specParams ++ [7, 7]) == .ok (r.asDecoded true, 31)) = true ∧
      (decode specParams true ((r.encode specParams).take 30) == .err) = true := by
  decide

end RModel.Impl
