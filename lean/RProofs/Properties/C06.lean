import RModel.Spec.FormatSpec
import RProofs.Properties.C05
import RProofs.Properties.C14
/-!
Property C06 — the portable serialization conforms to the published format specification — as theorems relating
the L2 serializer/deserializer model (`Impl/Serial.lean`, tied byte for byte to the Go writer/reader by the `ser` /
`dec` correspondence lines) to the independent reading of the specification (`Spec/FormatSpec.lean`).

* `encode_conforms` (write direction): the bytes written for a well-formed bitmap decode, under the independent
  reading, to exactly the bitmap's elements, consuming the whole stream.
* `conformant_decodes` (read direction): every stream accepted by the independent reading is accepted by the reader
  and read as exactly the set it encodes, consuming the same number of bytes.

The two readings meet on list cursors: the independent one indexes an `Array UInt8`, the model consumes a list, and reading at
byte `i` of the array is reading at the head of `b.toList.drop i` (`u16_eq` … `bytes8_eq`; of an accepted read `u16_some` …
`bytes8_some` also say where the cursor stands afterwards).  What the independent reading accepts is unfolded once
(`specTail_some_iff`, `specDecode_some`).
-/
open RModel.Util
namespace RModel.FormatSpec
open RModel RModel.Impl

/-! ### index accessors as list cursors -/

theorem u8_eq (b : Bytes) (i : Nat) : u8 b i = (b.toList.drop i).head?.map (·.toNat) := by
  simp [u8, List.head?_drop]

theorem u16_eq (b : Bytes) (i : Nat) : u16 b i = (rd16 (b.toList.drop i)).map (·.1) := by
  rw [rd16_eq, rdLE_add_at 1 1, rdLE_one, rdLE_one, ← u8_eq, ← u8_eq]; rfl

theorem u32_eq (b : Bytes) (i : Nat) : u32 b i = (rd32 (b.toList.drop i)).map (·.1) := by
  rw [rd32_eq, rdLE_add_at 2 2, ← rd16_eq, ← rd16_eq, ← u16_eq, ← u16_eq]; rfl

theorem words16_eq (b : Bytes) (i n : Nat) :
    words16 b i n = (takeN (2 * n) (b.toList.drop i)).map fun p => bytesTo16s p.1 := by
  induction n generalizing i with
  | zero => simp [words16, takeN, bytesTo16s]
  | succ n ih =>
    have h1 : b.toList.drop (i + 2) = (b.toList.drop i).drop 2 := by simp [List.drop_drop]
    simp only [words16, u16_eq, ih, h1]
    rcases b.toList.drop i with _ | ⟨x, _ | ⟨y, t⟩⟩
    · simp [rd16, takeN]
    · simp [rd16, takeN]; omega
    · have e : 2 * (n + 1) = 2 * n + 1 + 1 := by omega
      simp only [rd16, takeN, e, List.drop_succ_cons, List.drop_zero, List.length_cons, List.take_succ_cons]
      by_cases h : 2 * n ≤ t.length
      · simp [h, bytesTo16s]
      · simp [h]

theorem bytes8_eq (b : Bytes) (i n : Nat) :
    bytes8 b i n = (takeN n (b.toList.drop i)).map fun p => p.1.map (·.toNat) := by
  induction n generalizing i with
  | zero => simp [bytes8, takeN]
  | succ n ih =>
    have h1 : b.toList.drop (i + 1) = (b.toList.drop i).drop 1 := by simp [List.drop_drop]
    simp only [bytes8, u8_eq, ih, h1]
    rcases b.toList.drop i with _ | ⟨x, t⟩
    · simp [takeN]
    · simp only [takeN, List.drop_succ_cons, List.drop_zero, List.length_cons, List.take_succ_cons, List.head?_cons]
      by_cases h : n ≤ t.length
      · simp [h]
      · simp [h]

/-! The spec's helper functions are the model's (independently written, same equations). -/

theorem pairUp_eq (l : List Nat) : pairUp l = pairs16 l := by
  fun_induction pairUp l <;> simp_all [pairs16]

theorem strictlyIncreasing_eq (l : List Nat) : strictlyIncreasing l = strictInc l := by
  fun_induction strictlyIncreasing l <;> simp_all [strictInc]

theorem edges_eq (pos : Nat) (prev : Bool) (l : List Bool) : edges pos prev l = boundsOfBits pos prev l := by
  fun_induction edges pos prev l <;> simp_all [boundsOfBits]

theorem bits_leVal (l : Impl.Bytes) :
    (l.map (·.toNat)).flatMap byteBits = (List.range (8 * l.length)).map (leVal l).testBit := by
  induction l with
  | nil => rfl
  | cons b t ih =>
    have hb : b.toNat < 2 ^ 8 := b.toNat_lt
    rw [List.map_cons, List.flatMap_cons, ih, List.length_cons, Nat.mul_succ, Nat.add_comm, List.range_add, List.map_append,
      List.map_map, byteBits]
    congr 1 <;> apply List.map_congr_left <;> intro j hj <;> rw [List.mem_range] at hj
    · rw [testBit_eq_beq, leVal, Nat.add_comm, show 256 = 2 ^ 8 from rfl, Nat.testBit_two_pow_mul_add _ hb, if_pos hj]
    · rw [Function.comp, leVal, Nat.add_comm b.toNat, show 256 = 2 ^ 8 from rfl, Nat.testBit_two_pow_mul_add _ hb,
        if_neg (by omega), Nat.add_sub_cancel_left]

theorem word_bits (w : BitVec 64) : ((le64 w.toNat).map (·.toNat)).flatMap byteBits = wordBits w := by
  rw [bits_leVal, leVal_le64, Nat.mod_eq_of_lt w.isLt]; rfl

theorem words_bits (ws : List (BitVec 64)) :
    ((ws.flatMap fun w => le64 w.toNat).map (·.toNat)).flatMap byteBits = ws.flatMap wordBits := by
  induction ws with
  | nil => rfl
  | cons w t ih => simp only [List.flatMap_cons, List.map_append, List.flatMap_append, ih, word_bits]

theorem wordBits_count (w : BitVec 64) : (wordBits w).count true = popcount w := by
  simp [wordBits, popcount, List.count_eq_countP, List.countP_eq_length_filter, List.filter_map, Function.comp_def]

theorem wordsBits_count (ws : List (BitVec 64)) : (ws.flatMap wordBits).count true = (ws.map popcount).sum := by
  induction ws with
  | nil => rfl
  | cons w t ih => simp [List.flatMap_cons, List.count_append, ih, wordBits_count]

/-! ### what the independent reading accepts -/

/-- `specDecode` after the cookie header -/
def specTail (b : Bytes) (n : Nat) (runBits : Option Nat) (pos : Nat) : Option Decoded :=
  if n > 65536 then none else
  match words16 b pos (2 * n) with
  | none => none
  | some hdr =>
    let desc := pairUp hdr
    if !strictlyIncreasing (desc.map (·.1)) then none else
    let pos := pos + 4 * n
    let hasOffsets := runBits.isNone || n ≥ 4
    let offs := if hasOffsets then some pos else none
    let p := if hasOffsets then pos + 4 * n else pos
    match containers b runBits offs 0 (desc.map fun (k, c) => (k, c + 1)) p with
    | none => none
    | some (sets, q) => some { set := Driver.unionAll sets, consumed := q }

theorem specDecode_eq (b : Bytes) :
    specDecode b = match cookieHeader b with
      | none => none
      | some (n, runBits, pos) => specTail b n runBits pos := rfl

/-- acceptance after the cookie header, field by field: at most 65536 containers, a descriptive header with strictly increasing
keys, and the containers (with the offset header when there is one) ending at `d.consumed` -/
theorem specTail_some_iff {b : Bytes} {n pos : Nat} {runBits : Option Nat} {d : Decoded} :
    specTail b n runBits pos = some d ↔
    n ≤ 65536 ∧ ∃ hdr sets,
      words16 b pos (2 * n) = some hdr ∧ strictlyIncreasing ((pairUp hdr).map (·.1)) = true ∧
      containers b runBits (if runBits.isNone || n ≥ 4 then some (pos + 4 * n) else none) 0
        ((pairUp hdr).map fun (k, c) => (k, c + 1))
        (if runBits.isNone || n ≥ 4 then pos + 4 * n + 4 * n else pos + 4 * n) = some (sets, d.consumed) ∧
      d.set = Driver.unionAll sets := by
  constructor
  · intro h
    unfold specTail at h
    split at h
    · cases h
    rename_i hn
    split at h
    · cases h
    rename_i hdr hw
    dsimp only at h
    split at h
    · cases h
    rename_i hinc
    split at h
    · cases h
    rename_i sets q hc
    cases h
    exact ⟨Nat.le_of_not_gt hn, hdr, sets, hw, by simpa using hinc, hc, rfl⟩
  · rintro ⟨hn, hdr, sets, hw, hinc, hc, hs⟩
    unfold specTail
    rw [if_neg (Nat.not_lt_of_le hn), hw]
    simp only [hinc, Bool.not_true, Bool.false_eq_true, if_false, hc, ← hs]

theorem specDecode_some {b : Bytes} {d : Decoded} (h : specDecode b = some d) :
    ∃ n runBits pos, cookieHeader b = some (n, runBits, pos) ∧ specTail b n runBits pos = some d := by
  rw [specDecode_eq] at h
  split at h
  · cases h
  · exact ⟨_, _, _, ‹_›, h⟩

/-! ### write direction -/

theorem runsSorted_of_runsOk (runs : List (Nat × Nat)) (h : runsOk runs = true) : runsSorted runs = true := by
  fun_induction runsOk runs with
  | case1 s l => simpa [runsSorted] using h
  | case2 s l s' l' t ih =>
    simp only [Bool.and_eq_true, decide_eq_true_eq] at h
    simp only [runsSorted, Bool.and_eq_true, decide_eq_true_eq]
    exact ⟨by omega, ih h.2⟩
  | case3 => rfl

theorem container_payload (b : Bytes) (c : Cont) (key p : Nat) (t : List UInt8) (hwf : c.wf = true)
    (hp : b.toList.drop p = c.payload ++ t) :
    container b c.isRun key c.card p = some (c.toBSet (key * 65536), p + c.payload.length) := by
  rw [payload_length]
  cases c with
  | arr vals =>
    simp only [Cont.wf, Bool.and_eq_true, decide_eq_true_eq, List.all_eq_true] at hwf
    obtain ⟨⟨⟨h0, h1⟩, hinc⟩, hv⟩ := hwf
    have hl : (vals.flatMap le16).length = 2 * vals.length := flatMap_length_const le16 2 le16_length vals
    simp only [Cont.payload] at hp
    simp only [container, Cont.isRun, Cont.card, Cont.toBSet, words16_eq, hp, takeN_append _ _ _ hl,
      strictlyIncreasing_eq]
    simp [h1, BSet.single, bytesTo16s_le16 vals hv, hinc, Cont.serSize]
  | bmp card words =>
    simp only [Cont.wf, Bool.and_eq_true, decide_eq_true_eq, beq_iff_eq] at hwf
    obtain ⟨⟨hlen, hc⟩, hgt⟩ := hwf
    have hl : (words.flatMap fun w => le64 w.toNat).length = 8192 := by
      rw [flatMap_length_const (fun w : BitVec 64 => le64 w.toNat) 8 (fun _ => rfl)]; omega
    have hgt' : ¬ (words.map popcount).sum ≤ 4096 := by omega
    simp only [Cont.payload] at hp
    simp only [container, Cont.isRun, Cont.card, Cont.toBSet, bitsetBounds, bytes8_eq, hp,
      takeN_append _ _ _ hl, Option.map_some, words_bits, wordsBits_count, edges_eq]
    simp [hgt', Cont.serSize, hlen]
  | run runs =>
    simp only [Cont.wf, Bool.and_eq_true, decide_eq_true_eq, runMinimal, Bool.not_eq_true', List.isEmpty_eq_false_iff] at hwf
    obtain ⟨⟨hne, hok⟩, hmin⟩ := hwf
    have hb := runsOk_all_le runs hok
    have hlen : runs.length < 65536 := by omega
    have hl : (runs.flatMap fun (p : Nat × Nat) => le16 p.1 ++ le16 p.2).length = 2 * (2 * runs.length) := by
      rw [flatMap_length_const (fun p : Nat × Nat => le16 p.1 ++ le16 p.2) 4 (fun _ => rfl)]; omega
    have hpairs := pairs16_le16 Prod.fst Prod.snd runs (fun p hp => by have := hb p hp; omega)
    have hp2 : b.toList.drop (p + 2) = (runs.flatMap fun (p : Nat × Nat) => le16 p.1 ++ le16 p.2) ++ t := by
      rw [← List.drop_drop, hp]; simp [Cont.payload, le16]
    simp only [Cont.payload, List.append_assoc] at hp
    simp only [container, Cont.isRun, Cont.card, Cont.toBSet, u16_eq, words16_eq, hp, hp2,
      rd16_le16 _ hlen, takeN_append _ _ _ hl, Option.map_some, pairUp_eq, hpairs, Cont.serSize]
    have hne' : runs.length ≠ 0 := by simpa using hne
    simp [hne', runsSorted_of_runsOk runs hok]
    omega

theorem offsetSize_eq (c : Cont) (hwf : c.wf = true) : c.offsetSize specParams = c.serSize := by
  cases c with
  | arr vals =>
    simp only [Cont.wf, Bool.and_eq_true, decide_eq_true_eq] at hwf
    have h : ¬ ((vals.length : Int) > (4096 : Nat)) := by omega
    simp only [Cont.offsetSize, Cont.goCard, Cont.serSize, specParams_arrayMax, h, if_false]; omega
  | bmp card words =>
    simp only [Cont.wf, Bool.and_eq_true, decide_eq_true_eq, beq_iff_eq] at hwf
    have h : card > (4096 : Nat) := by omega
    simp only [Cont.offsetSize, Cont.goCard, Cont.serSize, specParams_arrayMax, h, if_true]; omega
  | run runs => rfl

theorem containers_encode (b : Bytes) (runBits offs : Option Nat) (T : List UInt8) (rest : List Slot) :
    ∀ (i p : Nat) (tail : List UInt8),
    (∀ s ∈ rest, s.c.wf = true) →
    (∀ j (h : j < rest.length), runFlag b runBits (i + j) = some rest[j].c.isRun) →
    (∀ o, offs = some o → b.toList.drop (o + 4 * i) = offsets specParams p (rest.map (·.c)) ++ T) →
    b.toList.drop p = rest.flatMap (·.c.payload) ++ tail →
    p + (rest.flatMap (·.c.payload)).length < 4294967296 →
    containers b runBits offs i (rest.map fun s => (s.key, s.c.card)) p =
      some (rest.map fun s => s.c.toBSet (s.key * 65536), p + (rest.flatMap (·.c.payload)).length) := by
  induction rest with
  | nil => intro i p tail _ _ _ _ _; simp [containers]
  | cons s t ih =>
    intro i p tail hwf hflag hoff hp hE
    have hswf := hwf s (by simp)
    have hf0 := hflag 0 (by simp)
    simp only [Nat.add_zero, List.getElem_cons_zero] at hf0
    simp only [List.flatMap_cons, List.append_assoc, List.length_append] at hp hE
    have hcont := container_payload b s.c s.key p _ hswf hp
    have hp' := drop_app hp
    -- the offset word of this container is its position, which fits in 32 bits
    have hok : ∀ o, offs = some o → u32 b (o + 4 * i) = some p := by
      intro o ho
      have := hoff o ho
      simp only [List.map_cons, offsets, List.append_assoc] at this
      simp [u32_eq, this, rd32_le32 p (by omega)]
    have hrec := ih (i + 1) (p + s.c.payload.length) tail (fun s hs => hwf s (List.mem_cons_of_mem _ hs))
      (fun j hj => by
        have := hflag (j + 1) (by simp; omega)
        simpa [Nat.add_assoc, Nat.add_comm 1 j] using this)
      (fun o ho => by
        have := hoff o ho
        simp only [List.map_cons, offsets, List.append_assoc] at this
        have := drop_app this
        simp only [le32_length] at this
        rw [offsetSize_eq s.c hswf, ← payload_length] at this
        rw [← this]; congr 1)
      hp' (by omega)
    simp only [List.map_cons, containers, hf0, hcont, hrec, List.flatMap_cons, List.length_append]
    cases offs with
    | none => simp [Nat.add_assoc]
    | some o => simp [Nat.add_assoc, hok o rfl]

theorem u8_of_drop {b : Bytes} {p : Nat} {A X : List UInt8} (h : b.toList.drop p = A ++ X) (k : Nat) (hk : k < A.length) :
    u8 b (p + k) = some A[k].toNat := by
  rw [u8_eq, ← List.drop_drop, h]
  simp [List.head?_drop, List.getElem?_append_left hk, List.getElem?_eq_getElem hk]

theorem encode_size_lt (r : Rep) (hwf : r.wf = true) : (r.encode specParams).length < 4294967296 := by
  obtain ⟨hn, _, hcwf⟩ := wf_slots r hwf
  have h1 := headerSize_le r
  have h2 := (slots_size r.slots hcwf).2.1
  rw [encode_length r hwf, Rep.serializedSize]
  split at h1 <;> omega

theorem desc_pairs (slots : List Slot) (hkeys : ∀ s ∈ slots, s.key < 65536) (hwf : ∀ s ∈ slots, s.c.wf = true) :
    (pairUp (bytesTo16s (descBytes slots))).map (fun (k, c) => (k, c + 1)) = slots.map fun s => (s.key, s.c.card) := by
  rw [pairUp_eq, desc_read slots hkeys, List.map_map]
  apply List.map_congr_left
  intro s hs
  simp [card_hdr s.c (hwf s hs)]

theorem desc_keys (slots : List Slot) (hkeys : ∀ s ∈ slots, s.key < 65536) :
    (pairUp (bytesTo16s (descBytes slots))).map (·.1) = slots.map (·.key) := by
  rw [pairUp_eq, desc_read slots hkeys, List.map_map]
  rfl

/-- the stream after the cookie header: descriptive header, offset header (if any), containers; whatever follows (`tail`)
is not looked at -/
theorem specTail_encode (b : Bytes) (runBits : Option Nat) (slots : List Slot) (pos : Nat) (offs tail : List UInt8)
    (hn : slots.length ≤ 65536) (hkeys : ∀ s ∈ slots, s.key < 65536) (hwf : ∀ s ∈ slots, s.c.wf = true)
    (hinc : strictInc (slots.map (·.key)) = true)
    (hflag : ∀ j (h : j < slots.length), runFlag b runBits (0 + j) = some slots[j].c.isRun)
    (hoffs : offs = if runBits.isNone || decide (slots.length ≥ 4) then
      offsets specParams (pos + 4 * slots.length + 4 * slots.length) (slots.map (·.c)) else [])
    (hd : b.toList.drop pos = descBytes slots ++ (offs ++ (slots.flatMap (·.c.payload) ++ tail)))
    (hE : pos + 4 * slots.length + offs.length + (slots.flatMap (·.c.payload)).length < 4294967296) :
    specTail b slots.length runBits pos =
      some ⟨Driver.unionAll (slots.map fun s => s.c.toBSet (s.key * 65536)),
        pos + 4 * slots.length + offs.length + (slots.flatMap (·.c.payload)).length⟩ := by
  have hdl : (descBytes slots).length = 2 * (2 * slots.length) := by rw [desc_length]; omega
  have dO := drop_app hd
  have dP := drop_app dO
  rw [desc_length] at dO dP
  unfold specTail
  rw [if_neg (by omega)]
  simp only [words16_eq, hd, takeN_append _ _ _ hdl, Option.map_some, desc_keys slots hkeys, desc_pairs slots hkeys hwf,
    strictlyIncreasing_eq, hinc, Bool.not_true, Bool.false_eq_true, if_false]
  by_cases h4 : (runBits.isNone || decide (slots.length ≥ 4)) = true
  · rw [if_pos h4] at hoffs; subst hoffs
    simp only [offsets_length, List.length_map] at dP hE ⊢
    have hcs := containers_encode b runBits (some (pos + 4 * slots.length)) _ slots 0
      (pos + 4 * slots.length + 4 * slots.length) tail hwf hflag
      (fun o ho => by cases ho; simpa using dO) dP (by omega)
    simp only [h4, if_true, hcs]
  · rw [if_neg h4] at hoffs; subst hoffs
    simp only [List.length_nil, Nat.add_zero, List.nil_append] at dO dP hE ⊢
    have hcs := containers_encode b runBits none [] slots 0 (pos + 4 * slots.length) tail hwf hflag
      (fun o ho => by cases ho) dO (by omega)
    simp only [h4, if_false, hcs, Bool.false_eq_true]

/-- the write direction with anything appended: the reading stops where the stream ends -/
theorem encode_conforms_append (r : Rep) (hwf : r.wf = true) (T : List UInt8) :
    specDecode (r.encode specParams ++ T).toArray = some ⟨r.toBSet, (r.encode specParams).length⟩ := by
  obtain ⟨hn, hkeys, hcwf⟩ := wf_slots r hwf
  have hsz := encode_size_lt r hwf
  have hinc : strictInc (r.slots.map (·.key)) = true := by
    simp only [Rep.wf, Bool.and_eq_true] at hwf; exact hwf.1
  generalize hb : (r.encode specParams ++ T).toArray = b
  have hL : b.toList.drop 0 = r.encode specParams ++ T := by rw [← hb]; rfl
  rw [specDecode_eq]
  cases hr : r.hasRun
  · -- cookie 12346
    rw [encode_norun r hr] at hL hsz
    simp only [List.append_assoc] at hL
    have d4 := drop_app hL
    have d8 := drop_app d4
    simp only [le32_length, Nat.zero_add, Nat.reduceAdd, List.length_append, offsets_length, List.length_map] at d4 d8 hsz
    rw [desc_length] at hsz
    have hck : cookieHeader b = some (r.slots.length, none, 8) := by
      simp [cookieHeader, u32_eq, hL, d4, rd32_le32 12346 (by omega), rd32_le32 r.slots.length (by omega)]
    have htail := specTail_encode b none r.slots 8
      (offsets specParams (8 + 4 * r.slots.length + 4 * r.slots.length) (r.slots.map (·.c))) T hn hkeys hcwf hinc
      (fun j hj => by simp [runFlag, isRun_false_of_hasRun_false r hr]) (by simp) d8
      (by rw [offsets_length, List.length_map]; omega)
    rw [hck]
    simp only [htail, Rep.toBSet, encode_norun r hr, List.length_append, le32_length, offsets_length, List.length_map,
      desc_length]
    congr 2
    omega
  · -- cookie 12347, run-flag bitset
    have hpos := hasRun_pos hr
    have hc0 : ¬ (12347 + 65536 * ((r.slots.length - 1) % 65536) = 12346) := by omega
    have hc1 : (12347 + 65536 * ((r.slots.length - 1) % 65536)) % 65536 = 12347 := by omega
    have hc2 : (12347 + 65536 * ((r.slots.length - 1) % 65536)) / 65536 + 1 = r.slots.length := by omega
    rw [encode_run r hr] at hL hsz
    simp only [List.append_assoc] at hL
    have d2 := drop_app hL
    have d4 := drop_app d2
    have dD := drop_app d4
    simp only [le16_length, Nat.zero_add, Nat.reduceAdd, runFlagBytes_length, List.length_map, List.length_append] at d2 d4 dD hsz
    rw [desc_length] at hsz
    have hck : cookieHeader b = some (r.slots.length, some 4, 4 + (r.slots.length + 7) / 8) := by
      simp [cookieHeader, u32_eq, hL, rd32_le16_le16 12347 _ (by omega) (by omega : (r.slots.length - 1) % 65536 < 65536), hc0, hc1, hc2]
    have hflag : ∀ j (h : j < r.slots.length), runFlag b (some 4) (0 + j) = some r.slots[j].c.isRun := by
      intro j hj
      have hk : j / 8 < (runFlagBytes (r.slots.map (·.c.isRun))).length := by simp; omega
      have hbit := runFlag_bit (r.slots.map (·.c.isRun)) j (by simpa using hj)
      simp only [List.getD_eq_getElem?_getD, List.getElem?_eq_getElem hk, Option.getD_some, List.getElem_map] at hbit
      simp [runFlag, u8_of_drop d4 (j / 8) hk, hbit]
    have htail := specTail_encode b (some 4) r.slots _ _ T hn hkeys hcwf hinc hflag (by simp [Nat.add_assoc]) dD (by omega)
    rw [hck]
    simp only [htail, Rep.toBSet, encode_run r hr, List.length_append, le16_length, runFlagBytes_length, List.length_map,
      desc_length]
    congr 2
    omega

/-- **C06, write direction.**  The bytes written by the library for a well-formed bitmap decode, under the independent
reading of the format specification, to exactly the bitmap's elements, consuming the whole stream. -/
theorem encode_conforms (r : Rep) (hwf : r.wf = true) :
    specDecode (r.encode specParams).toArray = some ⟨r.toBSet, (r.encode specParams).length⟩ := by
  have := encode_conforms_append r hwf []
  rwa [List.append_nil] at this

/-! ### read direction -/

theorem u8_some {b : Bytes} {i v : Nat} (h : u8 b i = some v) :
    ∃ x : UInt8, b.toList[i]? = some x ∧ x.toNat = v ∧ i + 1 ≤ b.toList.length := by
  simp only [u8, Option.map_eq_some_iff] at h
  obtain ⟨x, hx, rfl⟩ := h
  refine ⟨x, by simpa using hx, rfl, ?_⟩
  have := (Array.getElem?_eq_some_iff.mp hx).1
  simp only [Array.length_toList]; omega

theorem u16_some {b : Bytes} {i v : Nat} (h : u16 b i = some v) :
    rd16 (b.toList.drop i) = some (v, b.toList.drop (i + 2)) ∧ i + 2 ≤ b.toList.length := by
  rw [u16_eq, rd16_eq] at h
  exact rd16_eq _ ▸ rdLE_at_some (by decide) h

theorem u32_some {b : Bytes} {i v : Nat} (h : u32 b i = some v) :
    rd32 (b.toList.drop i) = some (v, b.toList.drop (i + 4)) ∧ i + 4 ≤ b.toList.length := by
  rw [u32_eq, rd32_eq] at h
  exact rd32_eq _ ▸ rdLE_at_some (by decide) h

theorem words16_some {b : Bytes} {i n : Nat} {ws : List Nat} (h : words16 b i n = some ws) :
    ∃ x, takeN (2 * n) (b.toList.drop i) = some (x, b.toList.drop (i + 2 * n)) ∧ bytesTo16s x = ws ∧
      (0 < n → i + 2 * n ≤ b.toList.length) := by
  rw [words16_eq] at h
  obtain ⟨⟨x, t⟩, ht, rfl⟩ := Option.map_eq_some_iff.mp h
  obtain ⟨_, h2, h3⟩ := takeN_some ht
  exact ⟨x, by rw [ht, h2, List.drop_drop], rfl, fun hn => drop_len h3 (by omega)⟩

theorem bytes8_some {b : Bytes} {i n : Nat} {ws : List Nat} (h : bytes8 b i n = some ws) :
    ∃ x, takeN n (b.toList.drop i) = some (x, b.toList.drop (i + n)) ∧ x.map (·.toNat) = ws ∧
      (0 < n → i + n ≤ b.toList.length) := by
  rw [bytes8_eq] at h
  obtain ⟨⟨x, t⟩, ht, rfl⟩ := Option.map_eq_some_iff.mp h
  obtain ⟨_, h2, h3⟩ := takeN_some ht
  exact ⟨x, by rw [ht, h2, List.drop_drop], rfl, fun hn => drop_len h3 hn⟩

theorem container_decodes {b : Bytes} {isRun : Bool} {key cm1 p : Nat} {s : BSet} {p' : Nat}
    (h : container b isRun key (cm1 + 1) p = some (s, p')) :
    ∃ c, readOne specParams isRun cm1 (b.toList.drop p) = some (c, b.toList.drop p') ∧
      c.toBSet (key * 65536) = s ∧ p' ≤ b.toList.length ∧ p ≤ p' := by
  unfold container at h
  dsimp only at h
  split at h
  · -- run container
    rename_i hR; subst hR
    split at h
    · cases h
    rename_i nr h16
    obtain ⟨hrd, hlen⟩ := u16_some h16
    split at h
    · cases h
    rename_i ws hw
    obtain ⟨x, htk, rfl, hle⟩ := words16_some hw
    simp only [Option.ite_none_left_eq_some, beq_iff_eq] at h
    obtain ⟨-, -, hnr, h⟩ := h
    cases h
    refine ⟨.run (pairs16 (bytesTo16s x)), ?_, by rw [pairUp_eq]; rfl, by have := hle (by omega); omega, by omega⟩
    simp only [readOne, if_true, hrd, show nr * 4 = 2 * (2 * nr) by omega, htk, Option.map_some]
    congr 3; omega
  rename_i hR
  have hR' : isRun = false := by simpa using hR
  subst hR'
  split at h
  · -- array container
    rename_i hc
    split at h
    · cases h
    rename_i vs hw
    obtain ⟨x, htk, rfl, hle⟩ := words16_some hw
    split at h
    · cases h
    cases h
    refine ⟨.arr (bytesTo16s x), ?_, rfl, by have := hle (by omega); omega, by omega⟩
    have hc' : ¬ (cm1 + 1 > specParams.arrayMax) := by simp; omega
    simp only [readOne, Bool.false_eq_true, if_false, hc', show (cm1 + 1) * 2 = 2 * (cm1 + 1) by omega, htk, Option.map_some]
  · -- bitset container
    rename_i hc
    split at h
    · cases h
    rename_i s' cnt hbb
    split at h
    · cases h
    cases h
    unfold bitsetBounds at hbb
    split at hbb
    · cases hbb
    rename_i bytes h8
    obtain ⟨x, htk, rfl, hle⟩ := bytes8_some h8
    cases hbb
    have hxl : x.length = 8 * 1024 := (takeN_eq_some_iff.mp htk).2
    refine ⟨.bmp ((cm1 + 1 : Nat) : Int) (bytesToWords x), ?_, ?_, by have := hle (by omega); omega, by omega⟩
    · have hc' : cm1 + 1 > 4096 := by omega
      simp only [readOne, Bool.false_eq_true, if_false, specParams_arrayMax, Nat.reduceMul, htk,
        Option.map_some, hc', if_true]
    · rw [edges_eq]
      simp only [Cont.toBSet]
      rw [← words_bits, le64_bytesToWords 1024 x hxl]

theorem containers_decodes (b : Bytes) (flag : Bool) (runBits offs : Option Nat) (isRun : Option Impl.Bytes)
    (desc : List (Nat × Nat)) :
    ∀ (i p : Nat) (sets : List BSet) (q : Nat),
      (∀ j, i ≤ j → j < i + desc.length → ∀ x, runFlag b runBits j = some x → runBitAt isRun j = x) →
      containers b runBits offs i (desc.map fun (k, c) => (k, c + 1)) p = some (sets, q) →
      (desc = [] → p ≤ b.toList.length) →
      ∃ slots, readContainers specParams flag isRun i desc (b.toList.drop p) = some (slots, b.toList.drop q) ∧
        slots.map (fun s => s.c.toBSet (s.key * 65536)) = sets ∧ q ≤ b.toList.length ∧ p ≤ q := by
  induction desc with
  | nil =>
    intro i p sets q _ h hp
    cases h
    exact ⟨[], readContainers_nil .., rfl, hp rfl, Nat.le_refl _⟩
  | cons d desc ih =>
    intro i p sets q hbits h hp
    obtain ⟨key, cm1⟩ := d
    simp only [List.map_cons, containers] at h
    split at h
    · cases h
    rename_i isR hrf
    replace h := (Option.ite_none_left_eq_some.mp h).2
    split at h
    · cases h
    rename_i s p' hcont
    split at h
    · cases h
    rename_i ss q' hrest
    cases h
    obtain ⟨c, hro, hset, hp', hpp'⟩ := container_decodes hcont
    obtain ⟨slots, hrc, hsets, hq, hpq⟩ := ih (i + 1) p' ss _
      (fun j h1 h2 => hbits j (by omega) (by simp only [List.length_cons]; omega)) hrest (fun _ => hp')
    refine ⟨{ key := key, c := c, flag := flag } :: slots, ?_, by simp [hset, hsets], hq, by omega⟩
    rw [readContainers_cons, hbits i (Nat.le_refl _) (by simp) isR hrf, hro]
    simp only [hrc]

theorem tail_decodes (b : Bytes) (flag : Bool) (n pos : Nat) (runBits : Option Nat) (isRun : Option Impl.Bytes)
    (d : Decoded)
    (hbits : ∀ j, j < n → ∀ x, runFlag b runBits j = some x → runBitAt isRun j = x)
    (hiso : isRun.isNone = runBits.isNone) (hpos : pos ≤ b.toList.length)
    (h : specTail b n runBits pos = some d) :
    ∃ r, decodeTail specParams flag b.toList.length n isRun (b.toList.drop pos) = .ok (r, d.consumed) ∧
      r.toBSet = d.set := by
  obtain ⟨hn, hdr, sets, hw, -, hcs, hs⟩ := specTail_some_iff.mp h
  obtain ⟨kc, htk, rfl, hle⟩ := words16_some hw
  rw [pairUp_eq] at hcs
  have hdl : (pairs16 (bytesTo16s kc)).length = n :=
    pairs16_length n _ (bytesTo16s_length (2 * n) kc (takeN_eq_some_iff.mp htk).2)
  obtain ⟨slots, hrc, hsets, hq, hpq⟩ := containers_decodes b flag runBits _ isRun _ 0 _ sets d.consumed
    (fun j _ hj => hbits j (by omega)) hcs (fun hnil => by
      have : n = 0 := by rw [← hdl, hnil]; rfl
      subst this; split <;> omega)
  refine ⟨{ cow := false, slots := slots }, ?_, by simp [Rep.toBSet, hsets, hs]⟩
  have hsk : decodeSkip specParams n isRun (b.toList.drop (pos + 2 * (2 * n))) =
      some (b.toList.drop (if (runBits.isNone || decide (n ≥ 4)) = true then pos + 4 * n + 4 * n else pos + 4 * n)) := by
    unfold decodeSkip
    rw [hiso, specParams_noOffsetThreshold]
    by_cases hc : (runBits.isNone || decide (n ≥ 4)) = true <;> simp only [hc, if_true, if_false, Bool.false_eq_true] at hpq ⊢
    · rw [takeN_drop (by omega)]
      simp only [Option.map_some]; congr 2; omega
    · congr 2; omega
  unfold decodeTail
  rw [if_neg (Nat.not_lt_of_le hn), show 4 * n = 2 * (2 * n) by omega, htk]
  simp only [hsk, hrc, List.length_drop]
  congr 2
  split at hpq <;> omega

theorem specTail_some_words {b : Bytes} {n pos : Nat} {rb : Option Nat} {d : Decoded}
    (h : specTail b n rb pos = some d) (hn : 0 < n) : pos + 4 * n ≤ b.toList.length := by
  obtain ⟨-, hdr, -, hw, -⟩ := specTail_some_iff.mp h
  obtain ⟨_, _, _, hle⟩ := words16_some hw
  have := hle (by omega); omega

/-- **C06, read direction.**  Every stream the independent reading of the specification accepts — whatever legal
choices its encoder made — is accepted by the reader (either entry point: `flag` = zero-copy or not) and read as
exactly the set it encodes, consuming exactly the bytes of the stream. -/
theorem conformant_decodes (flag : Bool) (bs : Bytes) (d : Decoded) (h : specDecode bs = some d) :
    ∃ r n, decode specParams flag bs.toList = .ok (r, n) ∧ r.toBSet = d.set ∧ n = d.consumed := by
  obtain ⟨n, runBits, pos, hck, h⟩ := specDecode_some h
  unfold cookieHeader at hck
  split at hck
  · cases hck
  rename_i cookie hc
  obtain ⟨hrd, hl4⟩ := u32_some hc
  rw [List.drop_zero, Nat.zero_add] at hrd
  rw [decode_eq, hrd]
  dsimp only
  split at hck
  · -- cookie 12346: explicit container count, no run containers
    rename_i c1
    obtain rfl : cookie = 12346 := eq_of_beq c1
    split at hck
    · cases hck
    rename_i hsz
    cases hck
    obtain ⟨hrd2, hl8⟩ := u32_some hsz
    obtain ⟨r, hr, hset⟩ := tail_decodes bs flag n 8 none none d
      (fun j _ x hx => by cases hx; rfl) rfl hl8 h
    refine ⟨r, _, ?_, hset, rfl⟩
    simpa [decodeHdr, hrd2] using hr
  · split at hck
    · -- cookie 12347: run-flag bitset
      rename_i c2
      cases hck
      generalize hn : cookie / 65536 + 1 = n at h
      have hw := specTail_some_words h (by omega)
      obtain ⟨r, hr, hset⟩ := tail_decodes bs flag n _ (some 4) (some ((bs.toList.drop 4).take ((n + 7) / 8))) d
        (fun j hj x hx => by
          simp only [runFlag] at hx
          split at hx
          · cases hx
          rename_i h8
          cases hx
          obtain ⟨y, hy, rfl, _⟩ := u8_some h8
          simp only [runBitAt, List.getD_eq_getElem?_getD, List.getElem?_take_of_lt (show j / 8 < (n + 7) / 8 by omega),
            List.getElem?_drop, hy, Option.getD_some])
        rfl (by omega) h
      refine ⟨r, _, ?_, hset, rfl⟩
      simpa [decodeHdr, c2, hn, takeN_drop (show 4 + (n + 7) / 8 ≤ bs.toList.length by omega)] using hr
    · cases hck

/-- non-vacuity: the hypothesis of `conformant_decodes` is met (by the encoding of a concrete well-formed
array/run/array representation, through `encode_conforms`), so both directions have instances -/
example : ∃ bs d, specDecode bs = some d ∧ d.consumed = 31 :=
  let r : Rep := ⟨false, [⟨0, .arr [1, 5, 9], false⟩, ⟨3, .run [(10, 99)], false⟩, ⟨7, .arr [65535], true⟩]⟩
  ⟨_, _, encode_conforms r (by decide), by decide⟩

end RModel.FormatSpec
