import RModel.Spec.FrozenSpec
import RProofs.Properties.C06
import RProofs.Properties.C13
/-!
Property C13, layout conformance: the bytes written by `FreezeTo` (model `Rep.freeze`, tied byte for byte to the Go
writer by the `frz` correspondence lines) are, under the independent reading of the CRoaring layout description
(`Spec/FrozenSpec.lean`), a conformant stream that encodes exactly the bitmap's elements: `frozenSpec_freeze`.
-/
open RModel.Util
namespace RModel.FrozenSpec
open RModel RModel.Impl

/-! The layout reading's accessors are those of the portable-format reading (independently written, same equations). -/

theorem u8_eq_formatSpec (b : Bytes) (i : Nat) : u8 b i = FormatSpec.u8 b i := rfl
theorem u16_eq_formatSpec (b : Bytes) (i : Nat) : u16 b i = FormatSpec.u16 b i := rfl

theorem words16_eq_formatSpec (b : Bytes) (pos cnt : Nat) : words16 b pos cnt = FormatSpec.words16 b pos cnt := by
  induction cnt generalizing pos with
  | zero => rfl
  | succ n ih =>
    simp only [words16, FormatSpec.words16, ih, u16_eq_formatSpec]
    cases FormatSpec.u16 b pos <;> cases FormatSpec.words16 b (pos + 2) n <;> rfl

theorem bytes8_eq_formatSpec (b : Bytes) (pos cnt : Nat) : bytes8 b pos cnt = FormatSpec.bytes8 b pos cnt := by
  induction cnt generalizing pos with
  | zero => rfl
  | succ n ih =>
    simp only [bytes8, FormatSpec.bytes8, ih, u8_eq_formatSpec]
    cases FormatSpec.u8 b pos <;> cases FormatSpec.bytes8 b (pos + 1) n <;> rfl

theorem rlePairs_eq (l : List Nat) : rlePairs l = pairs16 l := by
  fun_induction rlePairs l <;> simp_all [pairs16]

theorem ascending_eq (l : List Nat) : ascending l = strictInc l := by
  fun_induction ascending l <;> simp_all [strictInc]

theorem boundaries_eq (pos : Nat) (prev : Bool) (l : List Bool) : boundaries pos prev l = boundsOfBits pos prev l := by
  fun_induction boundaries pos prev l <;> simp_all [boundsOfBits]

theorem bitsOfByte_eq : bitsOfByte = FormatSpec.byteBits := rfl

theorem runsDisjoint_eq (l : List (Nat × Nat)) : runsDisjoint l = FormatSpec.runsSorted l := by
  fun_induction runsDisjoint l <;> simp_all [FormatSpec.runsSorted]

theorem u8_head {b : Bytes} {p : Nat} {x : UInt8} {X : List UInt8} (h : b.toList.drop p = x :: X) : u8 b p = some x.toNat := by
  rw [u8_eq_formatSpec, FormatSpec.u8_eq, h]; rfl

theorem u16_head {b : Bytes} {p v : Nat} {X : List UInt8} (hv : v < 65536) (h : b.toList.drop p = le16 v ++ X) :
    u16 b p = some v := by
  rw [u16_eq_formatSpec, FormatSpec.u16_eq, h, rd16_le16 _ hv]; rfl

theorem u16_pair_of_u32 {b : Bytes} {i v : Nat} (h : FormatSpec.u32 b i = some v) :
    ∃ lo hi, u16 b i = some lo ∧ u16 b (i + 2) = some hi ∧ lo + 65536 * hi = v := by
  unfold FormatSpec.u32 at h
  split at h
  · exact ⟨_, _, ‹_›, ‹_›, Option.some.inj h⟩
  · cases h

theorem arenaSizes_freeze (b : Bytes) (tA cA : Nat) (rest : List Slot) :
    ∀ (i : Nat) (t : Tally) (X Y : List UInt8), b.toList.drop (tA + i) = typeBytes rest ++ X →
      b.toList.drop (cA + 2 * i) = countBytes rest ++ Y → (∀ s ∈ rest, s.c.wf = true) →
      arenaSizes b tA cA i rest.length t.nBitmap t.nRunEl t.nArrayEl =
        some ((tallyAdd t rest).nBitmap, (tallyAdd t rest).nRunEl, (tallyAdd t rest).nArrayEl) := by
  induction rest with
  | nil => intros; rfl
  | cons s rest ih =>
    intro i t X Y dT dC hwf
    simp only [List.map_cons, List.flatMap_cons, List.cons_append, List.append_assoc] at dT dC
    have hswf := hwf s (by simp)
    have hrec := ih (i + 1) (slotTally t s) X Y (drop_app (a := [_]) dT) (drop_app dC)
      (fun s hs => hwf s (List.mem_cons_of_mem _ hs))
    simp only [List.length_cons, arenaSizes, u8_head dT, u16_head (frozenCount_lt s.c) dC, frozenType_toNat, tallyAdd]
    obtain ⟨key, c, flag⟩ := s
    cases c with
    | arr vals => simpa [Cont.frozenType, slotTally, Nat.add_assoc, frozenCount_arr hswf] using hrec
    | bmp card ws => simpa [Cont.frozenType, slotTally] using hrec
    | run runs => simpa [Cont.frozenType, slotTally, frozenCount_run hswf] using hrec

theorem containerSets_freeze (b : Bytes) (tA cA kA : Nat) (rest : List Slot) :
    ∀ (i : Nat) (prevKey : Option Nat) (bAt rAt aAt : Nat) (X1 X2 X3 XT XC XK : List UInt8),
      b.toList.drop (tA + i) = typeBytes rest ++ XT → b.toList.drop (cA + 2 * i) = countBytes rest ++ XC →
      b.toList.drop (kA + 2 * i) = (rest.flatMap fun s => le16 s.key) ++ XK →
      (∀ s ∈ rest, s.key < 65536 ∧ s.c.wf = true) → strictInc (prevKey.toList ++ rest.map (·.key)) = true →
      b.toList.drop bAt = rest.flatMap (slotBits Driver.frozenParams) ++ X1 →
      b.toList.drop rAt = rest.flatMap slotRuns ++ X2 →
      b.toList.drop aAt = rest.flatMap slotArrs ++ X3 →
      containerSets b tA cA kA i rest.length prevKey bAt rAt aAt =
        some (rest.map fun s => s.c.toBSet (s.key * 65536)) := by
  induction rest with
  | nil => intros; rfl
  | cons s rest ih =>
    intro i prevKey bAt rAt aAt X1 X2 X3 XT XC XK dT dC dK hwf hinc dB dR dA
    simp only [List.map_cons, List.flatMap_cons, List.cons_append, List.append_assoc] at dT dC dK
    obtain ⟨⟨hkey, hswf⟩, hwf'⟩ := List.forall_mem_cons.mp hwf
    have h1 := (u8_head dT).trans (congrArg some (frozenType_toNat s.c))
    have h2 := u16_head (frozenCount_lt s.c) dC
    have h3 := u16_head hkey dK
    replace ih := fun prev bAt rAt aAt => ih (i + 1) prev bAt rAt aAt X1 X2 X3 XT XC XK (drop_app (a := [_]) dT) (drop_app dC)
      (drop_app dK) hwf'
    -- the key follows the previous one, and the keys from here on are increasing
    obtain ⟨hk, hinc'⟩ : keyAfter prevKey s.key = true ∧ strictInc (s.key :: rest.map (·.key)) = true := by
      cases prevKey with
      | none => exact ⟨rfl, hinc⟩
      | some p => simpa [keyAfter, strictInc] using hinc
    simp only [List.flatMap_cons, List.append_assoc] at dB dR dA
    simp only [List.length_cons, containerSets, h1, h2, h3, hk, Bool.not_true, Bool.false_eq_true, if_false, List.map_cons]
    cases hc : s.c with
    | arr vals =>
      rw [hc] at hswf
      have hsz := frozenCount_arr hswf
      simp only [Cont.wf, Bool.and_eq_true, decide_eq_true_eq, List.all_eq_true] at hswf
      obtain ⟨⟨⟨hv0, hv1⟩, hvinc⟩, hvlt⟩ := hswf
      have hl : (vals.flatMap le16).length = 2 * vals.length := flatMap_length_const le16 2 le16_length vals
      simp only [slotBits, slotRuns, slotArrs, hc, List.nil_append] at dB dR dA
      have hw : words16 b aAt vals.length = some vals := by
        rw [words16_eq_formatSpec, FormatSpec.words16_eq, dA, takeN_append _ _ _ hl]
        simp [bytesTo16s_le16 vals hvlt]
      have hrec := ih (some s.key) bAt rAt (aAt + 2 * vals.length) hinc'
        dB dR (by rw [← hl]; exact drop_app dA)
      simp only [Cont.frozenType, fp_typeArray, hsz, hw, ascending_eq, hvinc, hrec]
      simp [Cont.toBSet, BSet.single]
    | bmp card ws =>
      have hsb := slotBits_wf s hswf
      rw [hc] at hswf
      simp only [Cont.wf, Bool.and_eq_true, decide_eq_true_eq, beq_iff_eq] at hswf
      have hpc := sum_popcount_le ws
      have hcard : ((card - 1) % 65536).toNat + 1 = (ws.map popcount).sum := by omega
      have hlw : (ws.flatMap fun w => le64 w.toNat).length = 8192 := by
        rw [flatMap_length_const (fun w : BitVec 64 => le64 w.toNat) 8 (fun _ => rfl) ws]; omega
      simp only [hc] at hsb
      simp only [hsb, slotRuns, slotArrs, hc, List.nil_append] at dB dR dA
      have hbs : bitset b bAt (s.key * 65536) =
          some (boundsOfBits (s.key * 65536) false (ws.flatMap wordBits), (ws.map popcount).sum) := by
        simp only [bitset, bytes8_eq_formatSpec, FormatSpec.bytes8_eq, dB, takeN_append _ _ _ hlw, Option.map_some, bitsOfByte_eq,
          FormatSpec.words_bits, FormatSpec.wordsBits_count, boundaries_eq]
      have hrec := ih (some s.key) (bAt + 8192) rAt aAt hinc'
        (by rw [← hlw]; exact drop_app dB) dR dA
      simp only [Cont.frozenType, Cont.frozenCount, fp_typeBitmap, hbs, hcard, hrec]
      simp [Cont.toBSet]
    | run runs =>
      rw [hc] at hswf
      have hcnt := frozenCount_run hswf
      simp only [Cont.wf, Bool.and_eq_true, decide_eq_true_eq, runMinimal, Bool.not_eq_true', List.isEmpty_eq_false_iff] at hswf
      obtain ⟨⟨hne, hok⟩, hmin⟩ := hswf
      have hb := runsOk_all_le runs hok
      have hlr : (runs.flatMap fun (p : Nat × Nat) => le16 p.1 ++ le16 p.2).length = 2 * (2 * runs.length) := by
        rw [flatMap_length_const (fun p : Nat × Nat => le16 p.1 ++ le16 p.2) 4 (fun _ => rfl) runs]; omega
      simp only [slotBits, slotRuns, slotArrs, hc, List.nil_append] at dB dR dA
      have hpairs := pairs16_le16 Prod.fst Prod.snd runs (fun p hp => by have := hb p hp; omega)
      have hw : (words16 b rAt (2 * runs.length)).map rlePairs = some runs := by
        rw [words16_eq_formatSpec, FormatSpec.words16_eq, dR, takeN_append _ _ _ hlr]
        simp [rlePairs_eq, hpairs]
      cases hws : words16 b rAt (2 * runs.length) with
      | none => simp [hws] at hw
      | some wl =>
        simp only [hws, Option.map_some, Option.some.injEq] at hw
        have hrec := ih (some s.key) bAt (rAt + 4 * runs.length) aAt hinc'
          dB (by rw [show 4 * runs.length = (runs.flatMap fun (p : Nat × Nat) => le16 p.1 ++ le16 p.2).length by rw [hlr]; omega]
                 exact drop_app dR) dA
        have hne' : runs.length ≠ 0 := by simpa using hne
        simp only [Cont.frozenType, fp_typeRun, hcnt, hws, hw, runsDisjoint_eq, FormatSpec.runsSorted_of_runsOk runs hok, hrec]
        simp [Cont.toBSet, hne']

/-- **C13 layout conformance.**  The bytes `FreezeTo` writes for a well-formed bitmap are a conformant frozen stream under
the independent reading of the CRoaring layout description, and encode exactly the bitmap's elements. -/
theorem frozenSpec_freeze (r : Rep) (hwf : r.wf = true) :
    frozenSpecDecode (r.freeze Driver.frozenParams).toArray = some r.toBSet := by
  -- arithmetic of the positions, before the context fills up
  have t1 : ∀ a n : Nat, a + 5 * n - n = a + 4 * n := by intro a n; omega
  have t2 : ∀ a n : Nat, a + 4 * n - 2 * n = a + 2 * n := by intro a n; omega
  have t3 : ∀ a n : Nat, a + 2 * n - 2 * n = a := by intro a n; omega
  have e1 : ∀ n : Nat, (13766 + n * 32768) % 32768 = 13766 := by intro n; omega
  have e2 : ∀ n : Nat, (13766 + n * 32768) / 32768 = n := by intro n; omega
  obtain ⟨hn, hkeys, hcwf⟩ := wf_slots r hwf
  have hinc : strictInc (r.slots.map (·.key)) = true := by
    simp only [Rep.wf, Bool.and_eq_true] at hwf; exact hwf.1
  obtain ⟨T, rest, lay⟩ := freeze_layout r hn
  generalize r.freeze Driver.frozenParams = L at lay ⊢
  generalize hn' : r.slots.length = n at lay hn
  obtain ⟨_, hT, lb, lr, la, hrest, hlen, ⟨X1, dB⟩, ⟨X2, dR⟩, ⟨X3, dA⟩, ⟨_, dK⟩, ⟨_, dC⟩, ⟨_, dT⟩, dH⟩ := lay
  have hs : L.toArray.size = rest + 5 * n + 4 := hlen
  -- header: the two 16-bit halves the reading takes are those of the 32-bit word written there
  obtain ⟨lo, hi, hlo, hhi, e0⟩ := u16_pair_of_u32 (b := L.toArray) (i := rest + 5 * n) (v := 13766 + n * 32768) (by
    rw [FormatSpec.u32_eq, dH, rd32_le32 _ (by omega)]; rfl)
  have p4 : L.toArray.size - 4 = rest + 5 * n := by rw [hs, Nat.add_sub_cancel]
  have p2 : L.toArray.size - 2 = rest + 5 * n + 2 := by rw [hs]; rfl
  have hsizes := arenaSizes_freeze L.toArray (rest + 4 * n) (rest + 2 * n) r.slots 0 {} _ _ dT dC hcwf
  rw [hT, hn'] at hsizes
  have hsets := containerSets_freeze L.toArray (rest + 4 * n) (rest + 2 * n) rest r.slots 0 none 0 (8192 * T.nBitmap)
    (8192 * T.nBitmap + 4 * T.nRunEl) _ _ _ _ _ _ dT dC dK (fun s hs => ⟨hkeys s hs, hcwf s hs⟩) hinc (by simpa using dB)
    (by simpa using dR) (by simpa using dA)
  rw [hn'] at hsets
  unfold frozenSpecDecode
  simp only [p4, p2, hlo, hhi, e0, e1, e2, t1, t2, t3]
  rw [if_neg (by omega)]
  simp only [bne_self_eq_false, Bool.false_eq_true, if_false]
  rw [if_neg (by omega), if_neg (by omega)]
  simp only [hsizes, hsets, ← hrest, bne_self_eq_false, Bool.false_eq_true, if_false, Option.map_some]
  rfl

end RModel.FrozenSpec
