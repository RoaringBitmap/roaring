import RProofs.SerialLemmas
/-!
Properties C09 / C10(c): well-formedness versus the mirror of the Go `Validate`.

* `wf_implies_validate`: every well-formed representation passes (the model of) `Validate` — with the
  correspondence line `wf x` (Go's `Validate()` result equals the model's `validate` on the hooked representation,
  and `Rep.wf` holds on it) this is "library-made bitmaps always validate".
* `validate_implies_wf_of_decoded`: a representation produced by the decoder that passes `Validate` is well formed
  (a genuine set) — the converse direction needed by C10; the side conditions are exactly what the decoder
  guarantees by construction (`Rep.decodedShape`, proved of `decode` in `decode_shape`); the two together are
  `decoded_valid_is_wf`.
-/
namespace RModel.Impl

/-- what `decode` guarantees about the shape of what it builds, whatever the bytes were -/
def Cont.decodedShape : Cont → Bool
  | .arr vals => vals.all (· < 65536)
  | .bmp card words => words.length == 1024 && card > 4096
  | .run runs => runs.all fun (s, l) => s < 65536 && l < 65536

def Rep.decodedShape (r : Rep) : Bool := r.slots.all fun s => s.key < 65536 && s.c.decodedShape

/-! ### well formed = decoded shape and `Validate` -/

theorem runsOk_sep (t : List (Nat × Nat)) : ∀ (a : Nat × Nat), runsOk (a :: t) = true →
    ∀ b ∈ t, a.1 + a.2 + 1 < b.1 := by
  induction t with
  | nil => simp
  | cons b t ih =>
    intro a h
    obtain ⟨s, l⟩ := a
    obtain ⟨s', l'⟩ := b
    simp only [runsOk, Bool.and_eq_true, decide_eq_true_eq] at h
    have := ih (s', l') h.2
    intro c hc
    rcases List.mem_cons.1 hc with rfl | hc
    · exact h.1
    · have := this c hc
      simp only at this ⊢
      omega

theorem nonContigDisjoint_iff (a b : Nat × Nat) (ha : a.1 + a.2 ≤ 65535) (hb : b.1 + b.2 ≤ 65535) (hlt : a.1 < b.1) :
    nonContigDisjoint a b = true ↔ a.1 + a.2 + 1 < b.1 := by
  obtain ⟨as, al⟩ := a
  obtain ⟨bs, bl⟩ := b
  simp only at ha hb hlt ⊢
  -- in range `last16` does not wrap around; what is left of the test is a Boolean combination of comparisons
  simp only [nonContigDisjoint, last16, Nat.mod_eq_of_lt (Nat.lt_succ_of_le ha), Nat.mod_eq_of_lt (Nat.lt_succ_of_le hb),
    beq_iff_eq, Bool.or_eq_true, Bool.not_and, Bool.if_false_left, Bool.decide_or, Bool.not_or, Bool.and_eq_true,
    Bool.not_eq_eq_eq_not, Bool.not_true, decide_eq_false_iff_not, Nat.not_le]
  omega

/-- on in-range runs Go's test of all pairs is the test of neighbours -/
theorem runPairsOk_iff (runs : List (Nat × Nat)) (hle : ∀ p ∈ runs, p.1 + p.2 ≤ 65535) :
    runPairsOk runs = true ↔ runsOk runs = true := by
  induction runs with
  | nil => exact ⟨fun _ => rfl, fun _ => rfl⟩
  | cons a t ih =>
    rw [List.forall_mem_cons] at hle
    simp only [runPairsOk, Bool.and_eq_true, List.all_eq_true, ih hle.2]
    constructor
    · intro ⟨hall, hok⟩
      obtain ⟨s, l⟩ := a
      cases t with
      | nil => simpa [runsOk] using hle.1
      | cons b t =>
        obtain ⟨s', l'⟩ := b
        have hab := hall (s', l') (by simp)
        simp only [decide_eq_true_eq] at hab
        simp only [runsOk, Bool.and_eq_true, decide_eq_true_eq]
        exact ⟨(nonContigDisjoint_iff _ _ hle.1 (hle.2 _ (by simp)) hab.1.2).mp hab.2, hok⟩
    · intro h
      refine ⟨fun b hb => ?_, runsOk_tail _ _ h⟩
      have hsep := runsOk_sep t _ h b hb
      simp only [Bool.not_eq_true', beq_eq_false_iff_ne, ne_eq, decide_eq_true_eq]
      exact ⟨⟨by rintro rfl; omega, by omega⟩, (nonContigDisjoint_iff _ _ hle.1 (hle.2 b hb) (by omega)).mpr hsep⟩

theorem runs_card_pos (runs : List (Nat × Nat)) (h : runs ≠ []) :
    0 < (runs.map fun (_, l) => l + 1).sum := by
  cases runs with
  | nil => exact absurd rfl h
  | cons a t => simp only [List.map_cons, List.sum_cons]; omega

theorem Cont.wf_iff (c : Cont) : c.wf = true ↔ c.decodedShape = true ∧ c.validate = true := by
  cases c with
  | arr vals =>
    simp only [Cont.wf, Cont.validate, Cont.decodedShape, Bool.and_eq_true]
    exact And.comm
  | bmp card words =>
    have := sum_popcount_le words
    simp only [Cont.wf, Cont.validate, Cont.decodedShape, Bool.and_eq_true, Bool.not_eq_true', decide_eq_true_eq,
      decide_eq_false_iff_not, beq_iff_eq]
    omega
  | run runs =>
    have hin : ∀ p : Nat × Nat, (!decide (p.1 + p.2 > 65535)) = true ↔ p.1 + p.2 ≤ 65535 := by simp
    simp only [Cont.wf, Cont.validate, Cont.decodedShape, Bool.and_eq_true, bne_iff_ne, ne_eq, Bool.not_eq_true',
      List.isEmpty_eq_false_iff, runMinimal, decide_eq_true_eq, List.all_eq_true, hin]
    constructor
    · intro ⟨⟨hne, hok⟩, hmin⟩
      have hle := runsOk_all_le runs hok
      have hpos := runs_card_pos runs hne
      refine ⟨fun p hp => ?_, ⟨⟨by omega, hle⟩, (runPairsOk_iff runs hle).mpr hok⟩, ?_⟩
      · have := hle p hp; omega
      · rw [if_pos (by omega)]
    · intro ⟨_, ⟨⟨hcard, hle⟩, hpairs⟩, hsz⟩
      refine ⟨⟨?_, (runPairsOk_iff runs hle).mp hpairs⟩, ?_⟩
      · rintro rfl; exact hcard rfl
      · -- the size test of `Validate`, branch by branch
        split at hsz
        · omega
        · split at hsz
          · cases hsz
          · split at hsz
            · cases hsz
            · omega

theorem Cont.wf_implies_validate (c : Cont) (h : c.wf = true) : c.validate = true :=
  (c.wf_iff.mp h).2

theorem Cont.validate_implies_wf (c : Cont) (hs : c.decodedShape = true) (hv : c.validate = true) :
    c.wf = true :=
  c.wf_iff.mpr ⟨hs, hv⟩

theorem wf_implies_validate (r : Rep) (h : r.wf = true) : r.validate = true := by
  simp only [Rep.wf, Bool.and_eq_true, List.all_eq_true, decide_eq_true_eq] at h
  simp only [Rep.validate, Bool.and_eq_true, List.all_eq_true]
  exact ⟨h.1, fun s hs => Cont.wf_implies_validate s.c (h.2 s hs).2⟩

theorem validate_implies_wf_of_decoded (r : Rep) (hs : r.decodedShape = true) (hv : r.validate = true) :
    r.wf = true := by
  simp only [Rep.validate, Bool.and_eq_true, List.all_eq_true] at hv
  simp only [Rep.decodedShape, Bool.and_eq_true, List.all_eq_true, decide_eq_true_eq] at hs
  simp only [Rep.wf, Bool.and_eq_true, List.all_eq_true, decide_eq_true_eq]
  exact ⟨hv.1, fun s h => ⟨(hs s h).1, Cont.validate_implies_wf s.c (hs s h).2 (hv.2 s h)⟩⟩

/-! ### the decoder builds that shape -/

theorem readOne_shape {P : SerParams} (hP : P.arrayMax = 4096) {runBit : Bool} {cardm1 : Nat} {bs : Bytes} {c : Cont}
    {bs2 : Bytes} (h : readOne P runBit cardm1 bs = some (c, bs2)) : c.decodedShape = true := by
  unfold readOne at h
  dsimp only at h
  split at h
  · split at h
    · cases h
    · obtain ⟨⟨p, q⟩, _, hpq⟩ := Option.map_eq_some_iff.mp h
      cases hpq
      simp only [Cont.decodedShape, List.all_eq_true]
      intro pr hpr
      simpa using pairs16_bytes_lt p pr hpr
  · split at h
    · obtain ⟨⟨p, q⟩, htk, hpq⟩ := Option.map_eq_some_iff.mp h
      cases hpq
      have hl := (takeN_eq_some_iff.mp htk).2
      have := bytesToWords_length 1024 p (by omega)
      simp only [Cont.decodedShape, this, Bool.and_eq_true, decide_eq_true_eq, beq_self_eq_true, true_and]
      omega
    · obtain ⟨⟨p, q⟩, _, hpq⟩ := Option.map_eq_some_iff.mp h
      cases hpq
      simpa only [Cont.decodedShape, List.all_eq_true, decide_eq_true_eq] using bytesTo16s_lt p

theorem decode_shape (P : SerParams) (hP : P.arrayMax = 4096) (flag : Bool) (bs : Bytes) (r : Rep) (n : Nat)
    (h : decode P flag bs = .ok (r, n)) : r.decodedShape = true := by
  obtain ⟨-, _, kc, _, _, hrc⟩ := decode_ok h
  simp only [Rep.decodedShape, List.all_eq_true, Bool.and_eq_true, decide_eq_true_eq]
  intro s hs
  obtain ⟨-, kc', hkc', hk, _, _, _, hone⟩ := readContainers_mem hrc s hs
  exact ⟨hk ▸ (pairs16_bytes_lt kc kc' hkc').1, readOne_shape hP hone⟩

/-- C10(c): decoding succeeded and Validate()==nil ⇒ well-formed -/
theorem decoded_valid_is_wf (P : SerParams) (hP : P.arrayMax = 4096) (flag : Bool) (bs : Bytes) (r : Rep) (n : Nat)
    (h : decode P flag bs = .ok (r, n)) (hv : r.validate = true) : r.wf = true :=
  validate_implies_wf_of_decoded r (decode_shape P hP flag bs r n h) hv

end RModel.Impl
