import RProofs.SerialLemmas
import RProofs.RepQueryBase
/-!
Property C14 — the serialized size never exceeds the documented bound — as theorems about the L2
representation model: for every well-formed representation (`Rep.wf`, the invariant of property C09),
`serializedSize` (the mirror of `GetSerializedSizeInBytes`, tied to the Go bytes by the `ser` correspondence lines)
is bounded by the README formula and by the closed form of `BoundSerializedSizeInBytes`.  The bounds count with `Rep.card`
and the stored keys; `Rep.card_eq` and `Rep.keys_below` read both off the set the representation denotes.
-/
namespace RModel.Impl

def Rep.card (r : Rep) : Nat := (r.slots.map (·.c.card)).sum

theorem Cont.wf_size (c : Cont) (h : c.wf = true) :
    c.serSize ≤ 2 * c.card ∧ c.serSize ≤ 8224 ∧ 1 ≤ c.card := by
  cases c with
  | arr vals =>
    simp only [Cont.wf, Bool.and_eq_true, decide_eq_true_eq] at h
    simp only [Cont.serSize, Cont.card]
    omega
  | bmp card words =>
    simp only [Cont.wf, Bool.and_eq_true, decide_eq_true_eq, beq_iff_eq] at h
    simp only [Cont.serSize, Cont.card]
    omega
  | run runs =>
    simp only [Cont.wf, runMinimal, Bool.and_eq_true, decide_eq_true_eq] at h
    simp only [Cont.serSize, Cont.card]
    omega

theorem slots_size (ss : List Slot) (h : ∀ s ∈ ss, s.c.wf = true) :
    (ss.map (·.c.serSize)).sum ≤ 2 * (ss.map (·.c.card)).sum ∧
    (ss.map (·.c.serSize)).sum ≤ 8224 * ss.length ∧
    ss.length ≤ (ss.map (·.c.card)).sum := by
  induction ss with
  | nil => simp
  | cons s t ih =>
    have ht := ih (fun s' hs' => h s' (List.mem_cons_of_mem _ hs'))
    have hs := Cont.wf_size s.c (h s (by simp))
    simp only [List.map_cons, List.sum_cons, List.length_cons]
    omega

theorem wf_facts (r : Rep) (x : Nat) (hwf : r.wf = true) (hx : ∀ s ∈ r.slots, s.key * 65536 < x) :
    r.slots.length ≤ (x + 65535) / 65536 ∧ r.slots.length ≤ r.card ∧
    (r.slots.map (·.c.serSize)).sum ≤ 2 * r.card ∧
    (r.slots.map (·.c.serSize)).sum ≤ 8224 * r.slots.length := by
  simp only [Rep.wf, Bool.and_eq_true, List.all_eq_true, decide_eq_true_eq] at hwf
  obtain ⟨hinc, hall⟩ := hwf
  have hlen := strictInc_length_le (r.slots.map (·.key)) ((x + 65535) / 65536) hinc (by
    intro b hb
    simp only [List.mem_map] at hb
    obtain ⟨s, hs, rfl⟩ := hb
    have := hx s hs
    omega)
  simp only [List.length_map] at hlen
  have := slots_size r.slots (fun s hs => (hall s hs).2)
  simp only [Rep.card]
  omega

theorem headerSize_le (r : Rep) :
    r.headerSize specParams ≤ 8 + 8 * r.slots.length + (if r.slots.length < 4 then 0 else (r.slots.length + 7) / 8 - 4) := by
  simp only [Rep.headerSize, specParams]
  cases hr : r.hasRun with
  | false => simp only [Bool.false_eq_true, if_false]; split <;> omega
  | true =>
    have := hasRun_pos hr
    simp only [if_true]
    by_cases hn : r.slots.length < 4
    · simp only [hn, if_true]; omega
    · simp only [hn, if_false]; omega

/-- README bound: `8 + 9 * ceil(x / 65536) + 2 * N` for a bitmap holding `N` integers all smaller than `x`
(`∀ slot, key * 65536 < x` is implied by "all values < x" because no container is empty). -/
theorem readme_bound (r : Rep) (x : Nat) (hwf : r.wf = true) (hx : ∀ s ∈ r.slots, s.key * 65536 < x) :
    r.serializedSize specParams ≤ 8 + 9 * ((x + 65535) / 65536) + 2 * r.card := by
  obtain ⟨h1, h2, h3, h4⟩ := wf_facts r x hwf hx
  have h5 := headerSize_le r
  simp only [Rep.serializedSize]
  split at h5 <;> omega

/-- closed form of the Go function `BoundSerializedSizeInBytes(N, x)` (proved equal to the regenerated
translation in `RProofs/Facts/Bits.lean`, theorem `boundSerializedSizeInBytes_spec`) -/
def boundClosedForm (n u : Nat) : Nat :=
  let c := min ((u + 65535) / 65536) n
  min (2 * n) (c * 8224) + (8 * c + 4) + max 4 ((c + 7) / 8)

theorem bound_function (r : Rep) (x : Nat) (hwf : r.wf = true) (hx : ∀ s ∈ r.slots, s.key * 65536 < x) :
    r.serializedSize specParams ≤ boundClosedForm r.card x := by
  obtain ⟨h1, h2, h3, h4⟩ := wf_facts r x hwf hx
  have h5 := headerSize_le r
  -- only `slots.length ≤ c` is needed of the container bound `c`
  have hc : r.slots.length ≤ min ((x + 65535) / 65536) r.card := by omega
  simp only [Rep.serializedSize, boundClosedForm]
  generalize min ((x + 65535) / 65536) r.card = c at hc ⊢
  clear h1 h2
  split at h5 <;> omega

/-! ### the two hypotheses at set level -/

section
open RModel.BSet RepQuery

theorem Rep.card_eq (r : Rep) (h : r.wf = true) : r.card = BSet.card r.toBSet := by
  have hs : ∀ l : List Slot, (∀ s ∈ l, s.c.wf = true) → cardSum l = (((l.map (·.c.card)).sum : Nat) : Int) := by
    intro l hl
    induction l with
    | nil => rfl
    | cons s t ih =>
      simp only [cardSum, List.map_cons, List.sum_cons]
      rw [ih (fun s' hs' => hl s' (List.mem_cons_of_mem _ hs')), card_wf (hl s (by simp))]; omega
  have := Rep.card_spec r h
  rw [Rep.getCardinality, hs r.slots (fun s hs' => (((slotsWf_iff r).mp h).ok s hs').2)] at this
  simp only [Rep.card]; omega

/-- no chunk is empty: if all elements are `< x`, every stored key starts below `x` -/
theorem Rep.keys_below (r : Rep) (h : r.wf = true) (x : Nat) (hx : ∀ v, mem r.toBSet v = true → v < x) :
    ∀ s ∈ r.slots, s.key * 65536 < x := by
  intro s hs
  have hw := (slotsWf_iff r).mp h
  obtain ⟨y, hy, hh⟩ := Slot.Wf.nonempty (hw.ok s hs)
  refine Nat.lt_of_le_of_lt (Nat.le_add_right _ y) (hx _ ?_)
  rw [Rep.mem_eq h, Keyed.mem_block (V := slotV) hw.sorted hs hy]
  exact hh

end

/-- non-vacuity: a concrete well-formed three-container representation (array, run, array) meets the hypotheses -/
example : (⟨false, [⟨0, .arr [1, 5, 9], false⟩, ⟨3, .run [(10, 99)], false⟩, ⟨7, .arr [65535], true⟩]⟩ : Rep).wf = true := by
  decide

end RModel.Impl
