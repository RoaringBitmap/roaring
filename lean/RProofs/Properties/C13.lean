import RModel.Impl.Frozen
import RModel.Driver.Frozen
import RProofs.SerialLemmas
/-!
Property C13 — the CRoaring "frozen" format — as theorems about the L2 writer/reader model (`Impl/Frozen.lean`, tied
byte for byte to `FreezeTo` / `FrozenView` by the `frz` / `fdec` correspondence lines):

* `freeze_length`        the writer emits exactly `GetFrozenSizeInBytes()` bytes;
* `frozenView_no_panic`  the reader never reaches an out-of-range index / slice bound / misaligned cast / the
                         "we missed something" panic, on ANY input (the FrozenView part of C10);
* `frozenView_freeze`    reading back what was written gives the same keys and containers, all flagged copy-on-write.

The reader's stages are first brought into closed form (`frozenHeader_eq`, `tallyStep_eq`, `carveStep_eq`, `frozenArenas_eq`:
windows with their slice, cast and index tests resolved).  On every input the second pass takes from the arenas what the first
pass counted (`carveLoop_ok`), which is why no slice expression fails and the final consistency test passes.  On an image
`L = r.freeze` every cursor — the three arenas, and the type, count and key tables — is a suffix equation
`L.drop p = (what the containers still to come wrote) ++ X` (`FrozenLayout`; with the room the reader tests, `Win.holds`), and a
step moves it with `drop_app`.  What an accepted view is made of on any input (`frozenView_ok`, `carveLoop_mem`) is what the
flags clause of C08 needs of the zero-copy reader.
-/
open RModel.Util
namespace RModel.Impl
open RModel

/-! ### the writer -/

theorem frozenBitmapBytes_length (P : FrozenParams) (h8 : P.bitmapBytes % 8 = 0) (ws : List (BitVec 64)) :
    (frozenBitmapBytes P ws).length = P.bitmapBytes := by
  simp only [frozenBitmapBytes]
  rw [flatMap_length_const (fun w : BitVec 64 => le64 w.toNat) 8 (fun _ => rfl)]
  simp only [List.length_take, List.length_append, List.length_replicate]
  omega

/-- `FreezeTo` writes exactly `GetFrozenSizeInBytes()` bytes (for any parameters with a whole number of 64-bit words per
bitmap container; with the real `1 << 13` this holds) -/
theorem freeze_length (P : FrozenParams) (h8 : P.bitmapBytes % 8 = 0) (r : Rep) :
    (r.freeze P).length = r.frozenSize P := by
  simp only [Rep.freeze, Rep.frozenSize, List.length_append, le32_length]
  rw [flatMap_length_const (fun s : Slot => le16 s.key) 2 (fun _ => rfl),
      flatMap_length_const (fun c : Cont => le16 c.frozenCount) 2 (fun _ => rfl)]
  rw [show r.slots.length = (r.slots.map (·.c)).length by simp]
  generalize r.slots.map (·.c) = cs
  simp only [List.length_map]
  induction cs with
  | nil => simp
  | cons c t ih =>
    -- whatever its kind, a container adds its bytes to one arena and its count to the matching term of the size
    cases c
    all_goals
      simp only [List.flatMap_cons, List.length_append, List.filter_cons, List.map_cons, List.sum_cons, List.length_nil,
        flatMap_length_const le16 2 le16_length, frozenBitmapBytes_length P h8, Nat.add_mul,
        flatMap_length_const (fun p : Nat × Nat => le16 p.1 ++ le16 p.2) 4 (fun _ => rfl), ↓reduceIte, Bool.false_eq_true,
        List.length_cons] at ih ⊢
      omega

/-! ### outcomes and windows -/

@[simp] theorem Outcome.ok_bind {α β} (v : α) (f : α → Outcome β) : (Outcome.ok v >>= f) = f v := rfl
@[simp] theorem Outcome.err_bind {α β} (f : α → Outcome β) : (Outcome.err >>= f) = .err := rfl
@[simp] theorem Outcome.panic_bind {α β} (f : α → Outcome β) : (Outcome.panic >>= f) = .panic := rfl
@[simp] theorem Outcome.pure_eq {α} (v : α) : (pure v : Outcome α) = .ok v := rfl

theorem Outcome.bind_eq_ok {α β} {x : Outcome α} {f : α → Outcome β} {v : β} (h : (x >>= f) = .ok v) :
    ∃ u, x = .ok u ∧ f u = .ok v := by
  cases x with
  | ok u => exact ⟨u, rfl, h⟩
  | err => cases h
  | panic => cases h

theorem sliceFrom_nat (s : Win) (a : Nat) (h : a ≤ s.len) :
    s.sliceFrom (a : Int) = .ok { s with off := s.off + a * s.elem, len := s.len - a } := by
  simp [Win.sliceFrom, h]

theorem sliceTo_nat (s : Win) (a : Nat) (h : a ≤ s.len) :
    s.sliceTo (a : Int) = .ok { s with len := a } := by
  simp [Win.sliceTo, h]

theorem sliceFrom_add (off m k e : Nat) : (⟨off, m + k, e⟩ : Win).sliceFrom (m : Int) = .ok ⟨off + m * e, k, e⟩ := by
  rw [sliceFrom_nat _ _ (Nat.le_add_right m k)]; simp only [Nat.add_sub_cancel_left]

theorem sliceTo_add (off m k e : Nat) : (⟨off, m + k, e⟩ : Win).sliceTo (m : Int) = .ok ⟨off, m, e⟩ :=
  sliceTo_nat _ _ (Nat.le_add_right m k)

theorem cast_ok (s : Win) (e : Nat) (h1 : s.elem = 1) (h2 : s.len % e = 0) :
    s.cast e = .ok { off := s.off, len := s.len / e, elem := e } := by
  simp [Win.cast, h1, h2]

theorem cast_mul (off k e : Nat) (he : 0 < e) : (⟨off, e * k, 1⟩ : Win).cast e = .ok ⟨off, k, e⟩ := by
  rw [cast_ok _ e rfl (Nat.mul_mod_right e k)]; simp only [Nat.mul_div_cancel_left k he]

theorem idx_ok (b : Array UInt8) (s : Win) (i : Nat) (h : i < s.len) :
    s.idx b i = .ok (leAt b (s.off + i * s.elem) s.elem) := by
  simp [Win.idx, h]

theorem leAt_zero (b : Array UInt8) (off : Nat) : leAt b off 0 = 0 := rfl

theorem leAt_succ (b : Array UInt8) (off n : Nat) : leAt b off (n + 1) = byteAt b off + 256 * leAt b (off + 1) n := by
  simp only [leAt, List.range_succ_eq_map, List.foldr_cons, List.foldr_map, Nat.add_zero, Nat.add_assoc, Nat.add_comm 1]

theorem leAt_one (b : Array UInt8) (off : Nat) : leAt b off 1 = byteAt b off := by
  rw [leAt_succ, leAt_zero]; rfl

/-! ### the reader's stages in closed form -/

/-- what the header part returns for `n` containers and `rest` bytes of arenas: the type, count and key tables, laid back to
back behind the arenas, and the window of the arenas -/
abbrev hdrWins (n rest : Nat) : Win × Win × Win × Win :=
  (⟨rest + 4 * n, n, 1⟩, ⟨rest + 2 * n, n, 2⟩, ⟨rest, n, 2⟩, ⟨0, rest, 1⟩)

/-- the header part on a buffer of `s4 + 4` bytes: its checks in terms of the last four bytes, read big-endian and
little-endian, and the windows it returns -/
theorem frozenHeader_eq (P : FrozenParams) (b : Array UInt8) (s4 : Nat) (hs : b.size = s4 + 4) :
    frozenHeader P b =
      if (byteAt b (s4 + 3) + 256 * (byteAt b (s4 + 2) + 256 * (byteAt b (s4 + 1) + 256 * byteAt b s4))) % 32768
          == P.cookie then .err
      else if leAt b s4 4 % 32768 != P.cookie then .err
      else if leAt b s4 4 / 32768 > P.maxContainers then .err
      else if s4 < 5 * (leAt b s4 4 / 32768) then .err
      else .ok (hdrWins (leAt b s4 4 / 32768) (s4 - 5 * (leAt b s4 4 / 32768))) := by
  unfold frozenHeader
  have e4 : ((s4 + 4 : Nat) : Int) - 4 = (s4 : Int) := by omega
  have hW : leAt b s4 4 = byteAt b s4 + 256 * (byteAt b (s4 + 1) + 256 * (byteAt b (s4 + 2) + 256 * byteAt b (s4 + 3))) := by
    simp only [leAt_succ, leAt_zero, Nat.mul_zero, Nat.add_zero, Nat.add_assoc, Nat.reduceAdd]
  simp only [hs, e4, if_neg (Nat.not_lt.mpr (Nat.le_add_left 4 s4)), sliceFrom_add, sliceTo_add, Outcome.ok_bind,
    idx_ok b ⟨s4, 4, 1⟩ _ (by decide : 0 < 4), idx_ok b ⟨s4, 4, 1⟩ _ (by decide : 1 < 4),
    idx_ok b ⟨s4, 4, 1⟩ _ (by decide : 2 < 4), idx_ok b ⟨s4, 4, 1⟩ _ (by decide : 3 < 4), leAt_one, Nat.zero_add,
    Nat.mul_one, Nat.add_zero, ← hW]
  generalize leAt b s4 4 / 32768 = n
  refine ite_congr rfl (fun _ => rfl) fun _ => ite_congr rfl (fun _ => rfl) fun _ => ite_congr rfl (fun _ => rfl) fun _ =>
    ite_congr rfl (fun _ => rfl) fun hlen => ?_
  -- the buffer is `rest ++ keys ++ counts ++ types`, of `rest + 2n + 2n + n` bytes, cut from the end
  obtain ⟨rest, rfl⟩ : ∃ rest, s4 = rest + 2 * n + 2 * n + n := ⟨s4 - 5 * n, by omega⟩
  have e1 : ((rest + 2 * n + 2 * n + n : Nat) : Int) - (n : Int) = ((rest + 2 * n + 2 * n : Nat) : Int) := by omega
  have e2 : ((rest + 2 * n + 2 * n : Nat) : Int) - 2 * (n : Int) = ((rest + 2 * n : Nat) : Int) := by omega
  have e3 : ((rest + 2 * n : Nat) : Int) - 2 * (n : Int) = (rest : Int) := by omega
  have e5 : rest + 2 * n + 2 * n + n - 5 * n = rest := by omega
  simp only [e1, e2, e3, e5, sliceFrom_add, sliceTo_add, Outcome.ok_bind, Outcome.pure_eq,
    cast_mul _ _ 2 (by decide), Nat.zero_add, Nat.mul_one]
  rw [show rest + 2 * n + 2 * n = rest + 4 * n by omega]

/-- entry `i` of a table, of type codes or of counts: what `Win.idx` returns for an index in range -/
def codeAt (b : Array UInt8) (types : Win) (i : Nat) : Nat := leAt b (types.off + i * types.elem) types.elem

theorem tallyStep_eq (P : FrozenParams) (b : Array UInt8) (types counts : Win) (i : Nat) (t : Tally)
    (hi : i < types.len) (hc : i < counts.len) :
    tallyStep P b types counts i t =
      if codeAt b types i == P.typeBitmap then .ok { t with nBitmap := t.nBitmap + 1 }
      else if codeAt b types i == P.typeArray then
        .ok { t with nArray := t.nArray + 1, nArrayEl := t.nArrayEl + codeAt b counts i + 1 }
      else if codeAt b types i == P.typeRun then
        .ok { t with nRun := t.nRun + 1, nRunEl := t.nRunEl + codeAt b counts i }
      else .err := by
  simp only [tallyStep, idx_ok b types i hi, idx_ok b counts i hc, Outcome.ok_bind, Outcome.pure_eq, codeAt]
  rfl

/-- taking the first `m` elements of an arena and keeping the rest: the two slice expressions fail together -/
theorem cut_bind {β} (s : Win) (m : Nat) (k : Win → Win → Outcome β) :
    (s.sliceTo (Int.ofNat m) >>= fun w => s.sliceFrom (Int.ofNat m) >>= fun rest => k w rest) =
      if m ≤ s.len then k { s with len := m } { s with off := s.off + m * s.elem, len := s.len - m } else .panic := by
  by_cases h : m ≤ s.len
  · rw [Int.ofNat_eq_natCast, sliceTo_nat _ _ h, sliceFrom_nat _ _ h, if_pos h]; rfl
  · simp [Win.sliceTo, h]

theorem carveStep_eq {P : FrozenParams} {b : Array UInt8} {types counts : Win} {i : Nat} {a : Arenas}
    (hi : i < types.len) (hc : i < counts.len) :
    carveStep P b types counts i a =
      if codeAt b types i == P.typeBitmap then
        if P.bitmapBytes / 8 ≤ a.bitsets.len then .ok
          ({ a with bitsets := { a.bitsets with off := a.bitsets.off + P.bitmapBytes / 8 * a.bitsets.elem,
                                                 len := a.bitsets.len - P.bitmapBytes / 8 },
                    iBitset := a.iBitset + 1 },
           [{ key := 0, flag := true, c := .bmp ((codeAt b counts i : Int) + 1)
                ((List.range (P.bitmapBytes / 8)).map fun k => BitVec.ofNat 64 (leAt b (a.bitsets.off + 8 * k) 8)) }])
        else .panic
      else if codeAt b types i == P.typeArray then
        if codeAt b counts i + 1 ≤ a.arrays.len then .ok
          ({ a with arrays := { a.arrays with off := a.arrays.off + (codeAt b counts i + 1) * a.arrays.elem,
                                               len := a.arrays.len - (codeAt b counts i + 1) },
                    iArray := a.iArray + 1 },
           [{ key := 0, flag := true, c := .arr (Win.u16s b { a.arrays with len := codeAt b counts i + 1 }) }])
        else .panic
      else if codeAt b types i == P.typeRun then
        if codeAt b counts i ≤ a.runs.len then .ok
          ({ a with runs := { a.runs with off := a.runs.off + codeAt b counts i * a.runs.elem,
                                           len := a.runs.len - codeAt b counts i },
                    iRun := a.iRun + 1 },
           [{ key := 0, flag := true, c := .run ((List.range (codeAt b counts i)).map fun k =>
                (leAt b (a.runs.off + 4 * k) 2, leAt b (a.runs.off + 4 * k + 2) 2)) }])
        else .panic
      else .ok (a, []) := by
  simp only [carveStep, idx_ok b types i hi, idx_ok b counts i hc, Outcome.ok_bind, Outcome.pure_eq, cut_bind, codeAt]
  rfl

/-- the three arenas of the sizes the first pass counted, back to back from `off` on -/
def arenasOf (P : FrozenParams) (off : Nat) (t : Tally) : Arenas :=
  { bitsets := ⟨off, P.bitmapBytes / 8 * t.nBitmap, 8⟩, runs := ⟨off + P.bitmapBytes * t.nBitmap, t.nRunEl, 4⟩,
    arrays := ⟨off + P.bitmapBytes * t.nBitmap + 4 * t.nRunEl, t.nArrayEl, 2⟩ }

theorem frozenArenas_eq (P : FrozenParams) (h8 : P.bitmapBytes % 8 = 0) (buf : Win) (t : Tally) (he : buf.elem = 1) :
    frozenArenas P buf t =
      if buf.len < P.bitmapBytes * t.nBitmap + 4 * t.nRunEl + 2 * t.nArrayEl then .err
      else if buf.len != P.bitmapBytes * t.nBitmap + 4 * t.nRunEl + 2 * t.nArrayEl then .err
      else .ok (arenasOf P buf.off t) := by
  unfold frozenArenas arenasOf
  refine ite_congr rfl (fun _ => rfl) fun hlen => ?_
  have hB : P.bitmapBytes * t.nBitmap = 8 * (P.bitmapBytes / 8 * t.nBitmap) := by
    rw [← Nat.mul_assoc, Nat.mul_div_cancel' (Nat.dvd_of_mod_eq_zero h8)]
  rw [hB] at hlen ⊢
  generalize P.bitmapBytes / 8 * t.nBitmap = Y at *
  obtain ⟨off, len, elem⟩ := buf
  subst he
  -- the buffer is `bitsets ++ runs ++ arrays ++ z`, cut from the front; it is accepted iff `z` is empty
  obtain ⟨z, rfl⟩ : ∃ z, len = 8 * Y + (4 * t.nRunEl + (2 * t.nArrayEl + z)) :=
    ⟨len - (8 * Y + 4 * t.nRunEl + 2 * t.nArrayEl), by simp only at hlen; omega⟩
  simp only [Int.ofNat_eq_natCast, sliceTo_add, sliceFrom_add, Outcome.ok_bind, Outcome.pure_eq, Nat.mul_one,
    cast_mul _ _ _ (by decide : 0 < 8), cast_mul _ _ _ (by decide : 0 < 4), cast_mul _ _ _ (by decide : 0 < 2)]
  refine ite_congr ?_ (fun _ => rfl) (fun _ => rfl)
  simp only [bne_iff_ne, ne_eq, eq_iff_iff]; omega

/-! ### every input: the second pass takes what the first counted -/

theorem tallyLoop_mono (P : FrozenParams) (b : Array UInt8) (types counts : Win) (is : List Nat) :
    ∀ t t', (∀ i ∈ is, i < types.len ∧ i < counts.len) → tallyLoop P b types counts is t = .ok t' →
      t.nBitmap ≤ t'.nBitmap ∧ t.nArrayEl ≤ t'.nArrayEl ∧ t.nRunEl ≤ t'.nRunEl := by
  induction is with
  | nil =>
    intro t t' _ h
    cases h
    exact ⟨Nat.le_refl _, Nat.le_refl _, Nat.le_refl _⟩
  | cons i is ih =>
    intro t t' hidx h
    obtain ⟨hi, hrest⟩ := List.forall_mem_cons.mp hidx
    simp only [tallyLoop, tallyStep_eq P b types counts i t hi.1 hi.2] at h
    split at h
    · have := ih _ _ hrest h; simp at this; omega
    split at h
    · have := ih _ _ hrest h; simp at this; omega
    split at h
    · have := ih _ _ hrest h; simp at this; omega
    · simp at h

theorem tallyLoop_no_panic (P : FrozenParams) (b : Array UInt8) (types counts : Win) (is : List Nat) :
    ∀ t, (∀ i ∈ is, i < types.len ∧ i < counts.len) → tallyLoop P b types counts is t ≠ .panic := by
  induction is with
  | nil => intro t _; simp [tallyLoop]
  | cons i is ih =>
    intro t hidx
    obtain ⟨hi, hrest⟩ := List.forall_mem_cons.mp hidx
    simp only [tallyLoop, tallyStep_eq P b types counts i t hi.1 hi.2]
    -- with both indices in range the step is `.ok` (the loop goes on) or `.err`
    repeat' split
    all_goals first | exact ih _ hrest | simp

/-- a carve step takes from each arena what the tally step on the same entry counted, and bumps the three counters alike -/
theorem carveStep_ok {P : FrozenParams} {b : Array UInt8} {types counts : Win} {i : Nat} {t t1 : Tally} {a : Arenas}
    (hi : i < types.len) (hc : i < counts.len) (ht : tallyStep P b types counts i t = .ok t1)
    (h1 : P.bitmapBytes / 8 * t1.nBitmap ≤ a.bitsets.len + P.bitmapBytes / 8 * t.nBitmap)
    (h2 : t1.nArrayEl ≤ a.arrays.len + t.nArrayEl) (h3 : t1.nRunEl ≤ a.runs.len + t.nRunEl) :
    ∃ a1 s, carveStep P b types counts i a = .ok (a1, [s]) ∧
      a1.bitsets.len + P.bitmapBytes / 8 * t1.nBitmap = a.bitsets.len + P.bitmapBytes / 8 * t.nBitmap ∧
      a1.arrays.len + t1.nArrayEl = a.arrays.len + t.nArrayEl ∧ a1.runs.len + t1.nRunEl = a.runs.len + t.nRunEl ∧
      a1.iBitset + t.nBitmap = a.iBitset + t1.nBitmap ∧ a1.iArray + t.nArray = a.iArray + t1.nArray ∧
      a1.iRun + t.nRun = a.iRun + t1.nRun := by
  rw [tallyStep_eq P b types counts i t hi hc] at ht
  rw [carveStep_eq hi hc]
  split at ht
  · rename_i hB
    cases ht
    simp only [Nat.mul_succ] at h1 ⊢
    rw [if_pos hB, if_pos (by omega)]
    exact ⟨_, _, rfl, by simp only; omega, rfl, rfl, by simp only; omega, rfl, rfl⟩
  rename_i hB
  split at ht
  · rename_i hA
    cases ht
    simp only at h2
    rw [if_neg hB, if_pos hA, if_pos (by omega)]
    exact ⟨_, _, rfl, rfl, by simp only; omega, rfl, rfl, by simp only; omega, rfl⟩
  rename_i hA
  split at ht
  · rename_i hR
    cases ht
    simp only at h3
    rw [if_neg hB, if_neg hA, if_pos hR, if_pos (by omega)]
    exact ⟨_, _, rfl, rfl, rfl, by simp only; omega, rfl, rfl, by simp only; omega⟩
  · cases ht

/-- the second pass after the first, on any input: if the arenas have the sizes the first pass counted, the second pass runs
through, uses them up exactly and counts the same numbers of containers -/
theorem carveLoop_ok (P : FrozenParams) (b : Array UInt8) (types counts : Win) (is : List Nat) :
    ∀ (t t' : Tally) (a : Arenas), (∀ i ∈ is, i < types.len ∧ i < counts.len) →
      tallyLoop P b types counts is t = .ok t' →
      a.bitsets.len + P.bitmapBytes / 8 * t.nBitmap = P.bitmapBytes / 8 * t'.nBitmap →
      a.arrays.len + t.nArrayEl = t'.nArrayEl → a.runs.len + t.nRunEl = t'.nRunEl →
      ∃ a' ss, carveLoop P b types counts is a = .ok (a', ss) ∧
        a'.bitsets.len = 0 ∧ a'.arrays.len = 0 ∧ a'.runs.len = 0 ∧
        a'.iBitset + t.nBitmap = a.iBitset + t'.nBitmap ∧ a'.iArray + t.nArray = a.iArray + t'.nArray ∧
        a'.iRun + t.nRun = a.iRun + t'.nRun ∧ ss.length = is.length := by
  induction is with
  | nil =>
    intro t t' a _ h h1 h2 h3
    cases h
    exact ⟨a, [], rfl, by omega, by omega, by omega, rfl, rfl, rfl, rfl⟩
  | cons i is ih =>
    intro t t' a hidx h h1 h2 h3
    obtain ⟨hi, hrest⟩ := List.forall_mem_cons.mp hidx
    obtain ⟨t1, ht1, hl⟩ := Outcome.bind_eq_ok h
    -- the tally still to come (`tallyLoop_mono`) says the arenas have room for this container
    have hm := tallyLoop_mono P b types counts is t1 t' hrest hl
    have hmB := Nat.mul_le_mul_left (P.bitmapBytes / 8) hm.1
    obtain ⟨a1, s, hs, b1, b2, b3, c1, c2, c3⟩ := carveStep_ok (a := a) hi.1 hi.2 ht1 (by omega) (by omega) (by omega)
    obtain ⟨a', ss, he, r1, r2, r3, r4, r5, r6, r7⟩ := ih t1 t' a1 hrest hl (by omega) (by omega) (by omega)
    exact ⟨a', s :: ss, by rw [carveLoop, hs]; simp only [Outcome.ok_bind, he]; rfl, r1, r2, r3, by omega, by omega,
      by omega, by simp [r7]⟩

theorem frozenHeader_cases (P : FrozenParams) (b : Array UInt8) :
    frozenHeader P b = .err ∨ ∃ n rest, frozenHeader P b =
      .ok (hdrWins n rest) := by
  have guard : ∀ (c : Prop) [Decidable c] (x : Outcome (Win × Win × Win × Win)),
      (x = .err ∨ ∃ n rest, x = .ok (hdrWins n rest)) →
      ((if c then .err else x) = .err ∨ ∃ n rest, (if c then .err else x) =
        .ok (hdrWins n rest)) := by
    intro c _ x h; split
    · exact .inl rfl
    · exact h
  by_cases h4 : b.size < 4
  · left; unfold frozenHeader; rw [if_pos h4]
  rw [frozenHeader_eq P b (b.size - 4) (by omega)]
  exact guard _ _ (guard _ _ (guard _ _ (guard _ _ (.inr ⟨_, _, rfl⟩))))

/-- **C10 for FrozenView.**  The reader never panics: no out-of-range index or slice bound, no misaligned cast, and the
final "we missed something" consistency panic is unreachable — on any input whatsoever.  (The only hypothesis is on the
parameters: a bitmap container is a whole number of 64-bit words; the Go literal is `1 << 13`.) -/
theorem frozenView_no_panic (P : FrozenParams) (h8 : P.bitmapBytes % 8 = 0) (bs : Bytes) :
    frozenView P bs ≠ .panic := by
  unfold frozenView
  dsimp only
  generalize bs.toArray = b
  rcases frozenHeader_cases P b with h | ⟨n, rest, h⟩ <;> rw [h]
  · simp
  simp only [Outcome.ok_bind]
  have hidx : ∀ i ∈ List.range n, i < (⟨rest + 4 * n, n, 1⟩ : Win).len ∧ i < (⟨rest + 2 * n, n, 2⟩ : Win).len := by
    intro i hi; simpa using hi
  cases hT : tallyLoop P b ⟨rest + 4 * n, n, 1⟩ ⟨rest + 2 * n, n, 2⟩ (List.range n) {} with
  | panic => exact absurd hT (tallyLoop_no_panic P b _ _ _ _ hidx)
  | err => simp
  | ok t =>
    simp only [Outcome.ok_bind]
    rw [frozenArenas_eq P h8 _ t rfl]
    split
    · simp
    split
    · simp
    simp only [Outcome.ok_bind]
    -- the second pass consumes exactly what the first pass counted, so the final consistency check passes
    obtain ⟨a', ss, he, r1, r2, r3, r4, r5, r6, r7⟩ := carveLoop_ok P b _ _ (List.range n) {} t (arenasOf P 0 t) hidx hT
      (by simp [arenasOf]) (by simp [arenasOf]) (by simp [arenasOf])
    simp only [he, Outcome.ok_bind]
    simp only [arenasOf, Nat.add_zero, Nat.zero_add] at r4 r5 r6
    have hk : (Win.u16s b ⟨rest, n, 2⟩).length = ss.length := by simp [Win.u16s, r7]
    simp [r1, r2, r3, r4, r5, r6, hk]

/-! ### what an accepted view is made of -/

/-- three reads followed by `pure`: the value is the one built from what was read -/
theorem Outcome.bind3_ok {α β γ δ : Type} {x : Outcome α} {y : α → Outcome β} {z : α → β → Outcome γ} {g : α → β → γ → δ} {v : δ}
    (h : (x >>= fun c => y c >>= fun w => z c w >>= fun r => pure (g c w r)) = .ok v) : ∃ c w r, g c w r = v := by
  obtain ⟨c, -, h⟩ := Outcome.bind_eq_ok h
  obtain ⟨w, -, h⟩ := Outcome.bind_eq_ok h
  obtain ⟨r, -, h⟩ := Outcome.bind_eq_ok h
  exact ⟨c, w, r, Outcome.ok.inj h⟩

/-- on any input, whatever a carve step returns is freshly carved: key not yet set, flagged copy-on-write -/
theorem carveStep_mem {P : FrozenParams} {b : Array UInt8} {types counts : Win} {i : Nat} {a a' : Arenas} {ss : List Slot}
    (h : carveStep P b types counts i a = .ok (a', ss)) : ∀ s ∈ ss, s.key = 0 ∧ s.flag = true := by
  unfold carveStep at h
  obtain ⟨code, -, h⟩ := Outcome.bind_eq_ok h
  -- each known type code reads a count and two arena slices, then returns one flagged slot
  by_cases h1 : (code == P.typeBitmap) = true
  · rw [if_pos h1] at h
    obtain ⟨_, _, _, e⟩ := Outcome.bind3_ok h
    cases e; simp
  rw [if_neg h1] at h
  by_cases h2 : (code == P.typeArray) = true
  · rw [if_pos h2] at h
    obtain ⟨_, _, _, e⟩ := Outcome.bind3_ok h
    cases e; simp
  rw [if_neg h2] at h
  by_cases h3 : (code == P.typeRun) = true
  · rw [if_pos h3] at h
    obtain ⟨_, _, _, e⟩ := Outcome.bind3_ok h
    cases e; simp
  rw [if_neg h3] at h
  cases h; simp

theorem carveLoop_mem {P : FrozenParams} {b : Array UInt8} {types counts : Win} {is : List Nat} {a a' : Arenas} {ss : List Slot}
    (h : carveLoop P b types counts is a = .ok (a', ss)) : ∀ s ∈ ss, s.key = 0 ∧ s.flag = true := by
  induction is generalizing a ss with
  | nil => cases h; nofun
  | cons i is ih =>
    unfold carveLoop at h
    obtain ⟨⟨a1, s1⟩, h1, h⟩ := Outcome.bind_eq_ok h
    obtain ⟨⟨a2, s2⟩, h2, h⟩ := Outcome.bind_eq_ok h
    cases h
    exact List.forall_mem_append.mpr ⟨carveStep_mem h1, ih h2⟩

/-- what `frozenView … = .ok r` means: the switch is on and the slots are those the second pass carved, each given its key -/
theorem frozenView_ok {P : FrozenParams} {bs : Bytes} {r : Rep} (h : frozenView P bs = .ok r) :
    r.cow = true ∧ ∃ types counts is a0 a slots ks,
      carveLoop P bs.toArray types counts is a0 = .ok (a, slots) ∧
      r.slots = (slots.zip ks).map fun (s, k) => { s with key := k } := by
  unfold frozenView at h
  obtain ⟨⟨types, counts, keys, buf⟩, -, h⟩ := Outcome.bind_eq_ok h
  obtain ⟨t, -, h⟩ := Outcome.bind_eq_ok h
  obtain ⟨a0, -, h⟩ := Outcome.bind_eq_ok h
  obtain ⟨⟨a, slots⟩, hc, h⟩ := Outcome.bind_eq_ok h
  dsimp only at h
  split at h
  · cases h
  · split at h
    · cases h
    · cases h
      exact ⟨rfl, _, _, _, _, _, _, _, hc, rfl⟩

/-! ### the view of an image -/

/-- reading `n` bytes at `p` as a little-endian number is taking the value of the next `n` bytes of the list (absent bytes
count as zero on both sides) -/
theorem leAt_toArray (L : Bytes) (p n : Nat) : leAt L.toArray p n = leVal ((L.drop p).take n) := by
  induction n generalizing p with
  | zero => simp [leAt, leVal]
  | succ n ih =>
    rw [leAt_succ, ih]
    by_cases hp : p < L.length
    · rw [List.drop_eq_getElem_cons hp, List.take_succ_cons, leVal]; simp [byteAt, hp]
    · have h1 : L.drop p = [] := List.drop_eq_nil_of_le (by omega)
      have h2 : L.drop (p + 1) = [] := List.drop_eq_nil_of_le (by omega)
      simp [h1, h2, leVal, byteAt, hp]

theorem leAt_of_drop {L a t : Bytes} {p : Nat} (h : L.drop p = a ++ t) : leAt L.toArray p a.length = leVal a := by
  rw [leAt_toArray, h, List.take_left']; rfl

theorem leAt2_of_drop {L : List UInt8} {p v : Nat} {t : List UInt8} (h : L.drop p = le16 v ++ t) (hv : v < 65536) :
    leAt L.toArray p 2 = v := by
  have := leAt_of_drop h
  rwa [le16_length, leVal_le16, Nat.mod_eq_of_lt hv] at this

theorem leAt8_of_drop {L : List UInt8} {p : Nat} {w : BitVec 64} {t : List UInt8} (h : L.drop p = le64 w.toNat ++ t) :
    BitVec.ofNat 64 (leAt L.toArray p 8) = w := by
  have := leAt_of_drop h
  rw [le64_length, leVal_le64, Nat.mod_eq_of_lt w.isLt] at this
  rw [this, BitVec.ofNat_toNat, BitVec.setWidth_eq]

/-- reading `l.length` consecutive `c`-byte records at `off, off + c, …` gives back the records written there -/
theorem read_flatMap {α β} (L : List UInt8) (f : α → Bytes) (c : Nat) (hc : ∀ a, (f a).length = c) (g : Nat → β) (h : α → β)
    (l : List α) (hg : ∀ a ∈ l, ∀ off t, L.drop off = f a ++ t → g off = h a) :
    ∀ off t, L.drop off = l.flatMap f ++ t → (List.range l.length).map (fun k => g (off + c * k)) = l.map h := by
  induction l with
  | nil => intro off t _; rfl
  | cons a l ih =>
    intro off t hd
    simp only [List.flatMap_cons, List.append_assoc] at hd
    obtain ⟨hga, hgl⟩ := List.forall_mem_cons.mp hg
    have h0 := hga off _ hd
    have hd' : L.drop (off + c) = l.flatMap f ++ t := hc a ▸ drop_app hd
    have := ih hgl (off + c) t hd'
    simp only [List.length_cons, List.range_succ_eq_map, List.map_cons, List.map_map, Nat.mul_zero, Nat.add_zero, h0]
    congr 1
    rw [← this]
    apply List.map_congr_left
    intro k _
    simp only [Function.comp, Nat.mul_succ]
    congr 1; omega

def slotBits (P : FrozenParams) (s : Slot) : Bytes := match s.c with | .bmp _ ws => frozenBitmapBytes P ws | _ => []
def slotRuns (s : Slot) : Bytes := match s.c with | .run rs => rs.flatMap (fun (s, l) => le16 s ++ le16 l) | _ => []
def slotArrs (s : Slot) : Bytes := match s.c with | .arr vs => vs.flatMap le16 | _ => []

theorem freeze_eq (P : FrozenParams) (r : Rep) :
    r.freeze P = r.slots.flatMap (slotBits P) ++ (r.slots.flatMap slotRuns ++ (r.slots.flatMap slotArrs ++
      (r.slots.flatMap (fun s => le16 s.key) ++ (r.slots.flatMap (fun s => le16 s.c.frozenCount) ++
      (r.slots.map (fun s => UInt8.ofNat (s.c.frozenType P)) ++
        le32 ((P.cookie ||| (r.slots.length <<< 15)) % 4294967296)))))) := by
  simp only [Rep.freeze, List.flatMap_map, List.map_map, List.length_map, List.append_assoc]
  rfl

open RModel.Driver in
@[simp] theorem fp_typeBitmap : Driver.frozenParams.typeBitmap = 1 := rfl
@[simp] theorem fp_typeArray : Driver.frozenParams.typeArray = 2 := rfl
@[simp] theorem fp_typeRun : Driver.frozenParams.typeRun = 3 := rfl
@[simp] theorem fp_bitmapBytes : Driver.frozenParams.bitmapBytes = 8192 := rfl
@[simp] theorem fp_maxContainers : Driver.frozenParams.maxContainers = 65536 := rfl
@[simp] theorem fp_cookie : Driver.frozenParams.cookie = 13766 := by decide

def slotTally (t : Tally) (s : Slot) : Tally :=
  match s.c with
  | .bmp _ _ => { t with nBitmap := t.nBitmap + 1 }
  | .arr vs => { t with nArray := t.nArray + 1, nArrayEl := t.nArrayEl + vs.length }
  | .run rs => { t with nRun := t.nRun + 1, nRunEl := t.nRunEl + rs.length }

def tallyAdd (t : Tally) : List Slot → Tally
  | [] => t
  | s :: l => tallyAdd (slotTally t s) l

theorem frozenCount_lt (c : Cont) : c.frozenCount < 65536 := by
  cases c <;> simp only [Cont.frozenCount] <;> omega

/-- entry `i` of a table of bytes, and of a table of 16-bit words, from the bytes that stand there -/
theorem codeAt_byte {L X : Bytes} {off n i : Nat} {x : UInt8} (h : L.drop (off + i) = x :: X) :
    codeAt L.toArray ⟨off, n, 1⟩ i = x.toNat := by
  have := leAt_of_drop (a := [x]) h
  simpa [codeAt, leVal] using this

theorem codeAt_word {L X : Bytes} {off n i v : Nat} (hv : v < 65536) (h : L.drop (off + 2 * i) = le16 v ++ X) :
    codeAt L.toArray ⟨off, n, 2⟩ i = v := by
  rw [codeAt, Nat.mul_comm]; exact leAt2_of_drop h hv

/-- the 16-bit count a well-formed container stores is its cardinality minus one, or its number of runs -/
theorem frozenCount_arr {vals : List Nat} (h : (Cont.arr vals).wf = true) :
    (Cont.arr vals).frozenCount + 1 = vals.length := card_hdr _ h

theorem frozenCount_bmp {card : Int} {ws : List (BitVec 64)} (h : (Cont.bmp card ws).wf = true) :
    (((Cont.bmp card ws).frozenCount : Nat) : Int) + 1 = card := by
  have e : (Cont.bmp card ws).frozenCount + 1 = (ws.map popcount).sum := card_hdr _ h
  simp only [Cont.wf, Bool.and_eq_true, decide_eq_true_eq, beq_iff_eq] at h
  omega

theorem frozenCount_run {runs : List (Nat × Nat)} (h : (Cont.run runs).wf = true) :
    (Cont.run runs).frozenCount = runs.length := by
  simp only [Cont.wf, Bool.and_eq_true, decide_eq_true_eq, runMinimal] at h
  exact Nat.mod_eq_of_lt (by omega)

/-- the type codes and counts of the containers `rest`, as `FreezeTo` lays them down -/
abbrev typeBytes (rest : List Slot) : Bytes := rest.map fun s => UInt8.ofNat (s.c.frozenType Driver.frozenParams)
abbrev countBytes (rest : List Slot) : Bytes := rest.flatMap fun s => le16 s.c.frozenCount

theorem frozenType_toNat (c : Cont) : (UInt8.ofNat (c.frozenType Driver.frozenParams)).toNat = c.frozenType Driver.frozenParams := by
  cases c <;> rfl

theorem tally_freeze (L : Bytes) (tA cA n : Nat) (rest : List Slot) :
    ∀ (i : Nat) (t : Tally) (X Y : Bytes), L.drop (tA + i) = typeBytes rest ++ X → L.drop (cA + 2 * i) = countBytes rest ++ Y →
      (∀ s ∈ rest, s.c.wf = true) → i + rest.length ≤ n →
      tallyLoop Driver.frozenParams L.toArray ⟨tA, n, 1⟩ ⟨cA, n, 2⟩ (List.range' i rest.length) t = .ok (tallyAdd t rest) := by
  induction rest with
  | nil => intros; rfl
  | cons s rest ih =>
    intro i t X Y dT dC hwf hn
    simp only [List.map_cons, List.flatMap_cons, List.cons_append, List.append_assoc] at dT dC
    simp only [List.length_cons] at hn
    obtain ⟨hswf, hwf'⟩ := List.forall_mem_cons.mp hwf
    have hrec := fun t' => ih (i + 1) t' X Y (drop_app (a := [_]) dT) (drop_app dC) hwf' (by omega)
    simp only [List.length_cons, List.range'_succ, tallyLoop, tallyStep_eq _ _ ⟨tA, n, 1⟩ ⟨cA, n, 2⟩ i t (by simp only; omega) (by simp only; omega),
      codeAt_byte dT, codeAt_word (frozenCount_lt s.c) dC, frozenType_toNat, tallyAdd, slotTally]
    obtain ⟨key, c, flag⟩ := s
    cases c with
    | arr vals => simp [Cont.frozenType, hrec, Nat.add_assoc, frozenCount_arr hswf]
    | bmp card ws => simp [Cont.frozenType, hrec]
    | run runs => simp [Cont.frozenType, hrec, frozenCount_run hswf]

theorem slotBits_wf (s : Slot) (hwf : s.c.wf = true) :
    slotBits Driver.frozenParams s = match s.c with | .bmp _ ws => ws.flatMap (fun w => le64 w.toNat) | _ => [] := by
  cases hc : s.c with
  | arr vals => simp [slotBits, hc]
  | run runs => simp [slotBits, hc]
  | bmp card ws =>
    rw [hc] at hwf
    simp only [Cont.wf, Bool.and_eq_true, decide_eq_true_eq, beq_iff_eq] at hwf
    have : List.take 1024 ws = ws := by rw [← hwf.1.1]; exact List.take_length
    simp [slotBits, hc, frozenBitmapBytes, hwf.1.1, this]

theorem tallyAdd_lengths (rest : List Slot) : ∀ (t : Tally),
    8192 * t.nBitmap + (rest.flatMap (slotBits Driver.frozenParams)).length = 8192 * (tallyAdd t rest).nBitmap ∧
    4 * t.nRunEl + (rest.flatMap slotRuns).length = 4 * (tallyAdd t rest).nRunEl ∧
    2 * t.nArrayEl + (rest.flatMap slotArrs).length = 2 * (tallyAdd t rest).nArrayEl := by
  induction rest with
  | nil => intro t; simp [tallyAdd]
  | cons s rest ih =>
    intro t
    have := ih (slotTally t s)
    simp only [List.flatMap_cons, List.length_append, tallyAdd]
    cases hc : s.c
    all_goals
      simp only [slotTally, slotBits, slotRuns, slotArrs, hc, List.length_nil, flatMap_length_const le16 2 le16_length,
        frozenBitmapBytes_length Driver.frozenParams rfl, fp_bitmapBytes,
        flatMap_length_const (fun p : Nat × Nat => le16 p.1 ++ le16 p.2) 4 (fun _ => rfl)] at this ⊢
      omega

def readSlot (s : Slot) : Slot := { key := 0, c := s.c, flag := true }

/-- the window `w` of `e`-byte elements covers exactly the bytes `A` of the image `L` -/
def Win.holds (L : Bytes) (w : Win) (e : Nat) (A : Bytes) : Prop :=
  w.elem = e ∧ e * w.len = A.length ∧ ∃ X, L.drop w.off = A ++ X

/-- a window that starts with the `e`-byte records of `l` has room for them, reading them with `g` gives `l` back, and what is
left behind them covers the rest -/
theorem Win.holds.cut {α} {L : Bytes} {w : Win} {e : Nat} {f : α → Bytes} {l : List α} {B : Bytes}
    (h : w.holds L e (l.flatMap f ++ B)) (he : 0 < e) (hf : ∀ a, (f a).length = e) (g : Nat → α)
    (hg : ∀ a ∈ l, ∀ off t, L.drop off = f a ++ t → g off = a) :
    l.length ≤ w.len ∧ ({ w with off := w.off + l.length * w.elem, len := w.len - l.length } : Win).holds L e B ∧
      (List.range l.length).map (fun k => g (w.off + e * k)) = l := by
  obtain ⟨hel, hl, X, hd⟩ := h
  have hfl := flatMap_length_const f e hf l
  rw [List.length_append, hfl] at hl
  rw [List.append_assoc] at hd
  refine ⟨Nat.le_of_mul_le_mul_left (by omega) he, ⟨hel, ?_, X, ?_⟩, ?_⟩
  · simp only [Nat.mul_sub, hl]; omega
  · simp only [hel, Nat.mul_comm l.length, ← hfl]
    exact drop_app hd
  · simpa using read_flatMap L f e hf g id l hg w.off _ hd

/-- one step of the second pass on an image: entry `i` of the tables describes the container of `s`, whose bytes stand at the
front of the arenas; the step reads `s` back and leaves the arenas covering the containers still to come -/
theorem carveStep_freeze {L B R A : Bytes} {types counts : Win} {i : Nat} {a : Arenas} {s : Slot}
    (hi : i < types.len) (hi' : i < counts.len) (hty : codeAt L.toArray types i = s.c.frozenType Driver.frozenParams)
    (hcnt : codeAt L.toArray counts i = s.c.frozenCount) (hwf : s.c.wf = true)
    (hB : a.bitsets.holds L 8 (slotBits Driver.frozenParams s ++ B)) (hR : a.runs.holds L 4 (slotRuns s ++ R))
    (hA : a.arrays.holds L 2 (slotArrs s ++ A)) :
    ∃ a1, carveStep Driver.frozenParams L.toArray types counts i a = .ok (a1, [readSlot s]) ∧
      a1.bitsets.holds L 8 B ∧ a1.runs.holds L 4 R ∧ a1.arrays.holds L 2 A := by
  obtain ⟨key, c, flag⟩ := s
  rw [carveStep_eq hi hi', hty, hcnt]
  cases c with
  | arr vals =>
    rw [if_neg (by simp [Cont.frozenType]), if_pos (by simp [Cont.frozenType]), frozenCount_arr hwf]
    simp only [Cont.wf, Bool.and_eq_true, decide_eq_true_eq, List.all_eq_true] at hwf
    simp only [slotBits, slotRuns, slotArrs, List.nil_append] at hB hR hA
    obtain ⟨hw, hA', hvals⟩ := hA.cut (by decide) le16_length (fun off => leAt L.toArray off 2)
      fun v hv off t hd => leAt2_of_drop hd (hwf.2 v hv)
    simp only [if_pos hw, Win.u16s, hvals]
    exact ⟨_, rfl, hB, hR, hA'⟩
  | bmp card ws =>
    have hsb := slotBits_wf _ hwf
    rw [if_pos (by simp [Cont.frozenType]), frozenCount_bmp hwf]
    simp only [Cont.wf, Bool.and_eq_true, decide_eq_true_eq, beq_iff_eq] at hwf
    simp only [hsb, slotRuns, slotArrs, List.nil_append] at hB hR hA
    obtain ⟨hw, hB', hwords⟩ := hB.cut (by decide) (fun _ => rfl) (fun off => BitVec.ofNat 64 (leAt L.toArray off 8))
      fun w _ off t hd => leAt8_of_drop hd
    rw [hwf.1.1] at hw hB' hwords
    simp only [fp_bitmapBytes, Nat.reduceDiv, if_pos hw, hwords]
    exact ⟨_, rfl, hB', hR, hA⟩
  | run runs =>
    rw [if_neg (by simp [Cont.frozenType]), if_neg (by simp [Cont.frozenType]), if_pos (by simp [Cont.frozenType]),
      frozenCount_run hwf]
    simp only [Cont.wf, Bool.and_eq_true, decide_eq_true_eq, runMinimal] at hwf
    have hb := runsOk_all_le runs hwf.1.2
    simp only [slotBits, slotRuns, slotArrs, List.nil_append] at hB hR hA
    obtain ⟨hw, hR', hruns⟩ := hR.cut (by decide) (fun _ => rfl)
      (fun off => (leAt L.toArray off 2, leAt L.toArray (off + 2) 2)) fun p hp off t hd => by
        have hpb := hb p hp
        have hd1 : L.drop off = le16 p.1 ++ (le16 p.2 ++ t) := by simpa using hd
        have hd2 : L.drop (off + 2) = le16 p.2 ++ t := drop_app hd1
        rw [leAt2_of_drop hd1 (by omega), leAt2_of_drop hd2 (by omega)]
    rw [if_pos hw, hruns]
    exact ⟨_, rfl, hB, hR', hA⟩

theorem carve_freeze (L : Bytes) (tA cA n : Nat) (rest : List Slot) :
    ∀ (i : Nat) (a : Arenas) (X Y : Bytes), L.drop (tA + i) = typeBytes rest ++ X → L.drop (cA + 2 * i) = countBytes rest ++ Y →
      (∀ s ∈ rest, s.c.wf = true) → i + rest.length ≤ n →
      a.bitsets.holds L 8 (rest.flatMap (slotBits Driver.frozenParams)) → a.runs.holds L 4 (rest.flatMap slotRuns) →
      a.arrays.holds L 2 (rest.flatMap slotArrs) →
      ∃ a', carveLoop Driver.frozenParams L.toArray ⟨tA, n, 1⟩ ⟨cA, n, 2⟩ (List.range' i rest.length) a =
        .ok (a', rest.map readSlot) := by
  induction rest with
  | nil => intro i a; intros; exact ⟨a, rfl⟩
  | cons s rest ih =>
    intro i a X Y dT dC hwf hn hB hR hA
    simp only [List.map_cons, List.flatMap_cons, List.cons_append, List.append_assoc] at dT dC
    simp only [List.length_cons] at hn
    simp only [List.flatMap_cons] at hB hR hA
    obtain ⟨hswf, hwf'⟩ := List.forall_mem_cons.mp hwf
    obtain ⟨a1, hs, hB', hR', hA'⟩ := carveStep_freeze (types := ⟨tA, n, 1⟩) (counts := ⟨cA, n, 2⟩) (i := i) (by simp only; omega)
      (by simp only; omega) ((codeAt_byte dT).trans (frozenType_toNat s.c)) (codeAt_word (frozenCount_lt s.c) dC) hswf hB hR hA
    obtain ⟨a', he⟩ := ih (i + 1) a1 X Y (drop_app (a := [_]) dT) (drop_app dC) hwf' (by omega) hB' hR' hA'
    exact ⟨a', by simp only [List.length_cons, List.range'_succ, carveLoop, hs, Outcome.ok_bind, he, List.map_cons]; rfl⟩

theorem byteAt_of_drop_append {L A X : List UInt8} {p : Nat} (h : L.drop p = A ++ X) (j : Nat) (hj : j < A.length) :
    byteAt L.toArray (p + j) = A[j].toNat := by
  have h1 : L[p + j]? = some A[j] := by
    rw [← List.getElem?_drop, h, List.getElem?_append_left hj, List.getElem?_eq_getElem hj]
  obtain ⟨hp, hx⟩ := List.getElem?_eq_some_iff.mp h1
  simp [byteAt, Array.getD, hp, hx]

theorem rezip (slots : List Slot) :
    ((slots.map readSlot).zip (slots.map (·.key))).map (fun (s, k) => { s with key := k }) =
      slots.map fun s => { s with flag := true } := by
  induction slots with
  | nil => rfl
  | cons s t ih => simp only [List.map_cons, List.zip_cons_cons, ih]; rfl

theorem cookie_or (n : Nat) : 13766 ||| (n <<< 15) = 13766 + n * 32768 := by
  have := Nat.two_pow_add_eq_or_of_lt (i := 15) (b := 13766) (by omega) n
  rw [Nat.shiftLeft_eq, Nat.or_comm, Nat.mul_comm, ← this]; omega

/-- the reader's header checks on a buffer that ends with the header word `FreezeTo` writes.  Read big-endian the word
cannot carry the cookie: its low byte would have to be `0xC6`, but it is the top byte of a number below `2^31 + 2^15`. -/
theorem frozenHeader_freeze (L : Bytes) (rest n : Nat) (hn : n ≤ 65536) (hsz : L.length = rest + 5 * n + 4)
    (hd : L.drop (rest + 5 * n) = le32 (13766 + n * 32768) ++ []) :
    frozenHeader Driver.frozenParams L.toArray =
      .ok (hdrWins n rest) := by
  have hw : leAt L.toArray (rest + 5 * n) 4 = 13766 + n * 32768 := by
    have := leAt_of_drop hd
    rwa [le32_length, leVal_le32, Nat.mod_eq_of_lt (by omega)] at this
  have hb3 : byteAt L.toArray (rest + 5 * n + 3) ≤ 128 := by
    rw [byteAt_of_drop_append hd 3 (by rw [le32_length]; decide)]
    simp only [le32, le16, List.cons_append, List.nil_append, List.getElem_cons_succ, List.getElem_cons_zero,
      UInt8.toNat_ofNat']
    omega
  have e1 : (13766 + n * 32768) % 32768 = 13766 := by omega
  have e2 : (13766 + n * 32768) / 32768 = n := by omega
  rw [frozenHeader_eq _ L.toArray _ hsz, hw]
  simp only [fp_cookie, fp_maxContainers, e1, e2, Nat.add_sub_cancel]
  rw [if_neg (by simp only [beq_iff_eq]; omega), if_neg (by simp), if_neg (Nat.not_lt.mpr hn), if_neg (by omega)]

/-- where the seven members of the image `L` of `r` lie: the three arenas at the front, then keys, counts, type codes and
the header word; `T` is what the reader's first pass will count -/
structure FrozenLayout (r : Rep) (L : Bytes) (T : Tally) (n rest : Nat) : Prop where
  slots : r.slots.length = n
  tally : tallyAdd {} r.slots = T
  lb : (r.slots.flatMap (slotBits Driver.frozenParams)).length = 8192 * T.nBitmap
  lr : (r.slots.flatMap slotRuns).length = 4 * T.nRunEl
  la : (r.slots.flatMap slotArrs).length = 2 * T.nArrayEl
  rest_eq : rest = 8192 * T.nBitmap + 4 * T.nRunEl + 2 * T.nArrayEl
  length : L.length = rest + 5 * n + 4
  bits : ∃ X, L.drop 0 = r.slots.flatMap (slotBits Driver.frozenParams) ++ X
  runs : ∃ X, L.drop (8192 * T.nBitmap) = r.slots.flatMap slotRuns ++ X
  arrs : ∃ X, L.drop (8192 * T.nBitmap + 4 * T.nRunEl) = r.slots.flatMap slotArrs ++ X
  keys : ∃ X, L.drop rest = (r.slots.flatMap fun s => le16 s.key) ++ X
  counts : ∃ X, L.drop (rest + 2 * n) = (r.slots.flatMap fun s => le16 s.c.frozenCount) ++ X
  types : ∃ X, L.drop (rest + 4 * n) = (r.slots.map fun s => UInt8.ofNat (s.c.frozenType Driver.frozenParams)) ++ X
  header : L.drop (rest + 5 * n) = le32 (13766 + n * 32768) ++ []

theorem freeze_layout (r : Rep) (hn : r.slots.length ≤ 65536) :
    ∃ T rest, FrozenLayout r (r.freeze Driver.frozenParams) T r.slots.length rest := by
  generalize hLdef : r.freeze Driver.frozenParams = L
  have hL := hLdef.symm
  rw [freeze_eq, fp_cookie, cookie_or, Nat.mod_eq_of_lt (by omega)] at hL
  obtain ⟨lb, lr, la⟩ := tallyAdd_lengths r.slots {}
  simp only [Nat.mul_zero, Nat.zero_add] at lb lr la
  generalize hT : tallyAdd {} r.slots = T at lb lr la
  have lk : (r.slots.flatMap fun s => le16 s.key).length = 2 * r.slots.length :=
    flatMap_length_const (fun s : Slot => le16 s.key) 2 (fun _ => rfl) r.slots
  have lc : (r.slots.flatMap fun s => le16 s.c.frozenCount).length = 2 * r.slots.length :=
    flatMap_length_const (fun s : Slot => le16 s.c.frozenCount) 2 (fun _ => rfl) r.slots
  -- each member starts where the one before it ends
  have dB : L.drop 0 = _ := hL
  have dR := drop_app dB
  have dA := drop_app dR
  have dK := drop_app dA
  have dC := drop_app dK
  have dT := drop_app dC
  have dH := drop_app dT
  have hlen : L.length = 8192 * T.nBitmap + 4 * T.nRunEl + 2 * T.nArrayEl + 5 * r.slots.length + 4 := by
    rw [hL]; simp only [List.length_append, List.length_map, le32_length, lk, lc]; omega
  simp only [Nat.zero_add, List.length_map, lk, lc, lb, lr, la] at dR dA dK dC dT dH
  generalize hn' : r.slots.length = n at *
  refine ⟨T, _, hn', hT, lb, lr, la, rfl, hlen, ⟨_, dB⟩, ⟨_, dR⟩, ⟨_, dA⟩, ⟨_, dK⟩, ⟨_, dC⟩,
    ⟨le32 (13766 + n * 32768), ?_⟩, ?_⟩
  · rw [show _ + 4 * n = 8192 * T.nBitmap + 4 * T.nRunEl + 2 * T.nArrayEl + 2 * n + 2 * n by omega]; exact dT
  · rw [show _ + 5 * n = 8192 * T.nBitmap + 4 * T.nRunEl + 2 * T.nArrayEl + 2 * n + 2 * n + n by omega, dH, List.append_nil]

/-- **C13 round trip.**  `FrozenView(Freeze(x))` has exactly the keys and containers of `x`, every container flagged
copy-on-write and the copy-on-write switch on (`r.slots.length ≤ 65536` follows from well-formedness). -/
theorem frozenView_freeze (r : Rep) (hwf : r.wf = true) :
    frozenView Driver.frozenParams (r.freeze Driver.frozenParams) = .ok (Driver.frozenOf r) := by
  obtain ⟨hn, hkeys, hcwf⟩ := wf_slots r hwf
  obtain ⟨T, rest, lay⟩ := freeze_layout r hn
  generalize r.freeze Driver.frozenParams = L at lay ⊢
  generalize hn' : r.slots.length = n at lay hn
  obtain ⟨_, hT, lb, lr, la, hrest', hlen, ⟨X1, dB⟩, ⟨X2, dR⟩, ⟨X3, dA⟩, ⟨_, dK⟩, ⟨_, dC⟩, ⟨_, dT⟩, dH⟩ := lay
  have hdr := frozenHeader_freeze L rest n hn hlen dH
  have htally := tally_freeze L (rest + 4 * n) (rest + 2 * n) n r.slots 0 {} _ _ dT dC hcwf (by omega)
  rw [hT, hn', ← List.range_eq_range'] at htally
  have harena : frozenArenas Driver.frozenParams ⟨0, rest, 1⟩ T = .ok (arenasOf Driver.frozenParams 0 T) := by
    rw [frozenArenas_eq _ rfl _ _ rfl, if_neg (by simp only [fp_bitmapBytes]; omega)]
    simp [hrest']
  have hidx : ∀ i ∈ List.range n, i < (⟨rest + 4 * n, n, 1⟩ : Win).len ∧ i < (⟨rest + 2 * n, n, 2⟩ : Win).len := by
    intro i hi; simpa using hi
  obtain ⟨a1, hcarve⟩ := carve_freeze L (rest + 4 * n) (rest + 2 * n) n r.slots 0 (arenasOf Driver.frozenParams 0 T) _ _ dT dC hcwf (by omega)
    ⟨rfl, by simp only [arenasOf, fp_bitmapBytes]; omega, X1, dB⟩
    ⟨rfl, by simp only [arenasOf]; omega, X2, by simp only [arenasOf, fp_bitmapBytes, Nat.zero_add]; exact dR⟩
    ⟨rfl, by simp only [arenasOf]; omega, X3, by simp only [arenasOf, fp_bitmapBytes, Nat.zero_add]; exact dA⟩
  rw [hn', ← List.range_eq_range'] at hcarve
  obtain ⟨a2, ss, hc2, r1, r2, r3, r4, r5, r6, _⟩ := carveLoop_ok Driver.frozenParams L.toArray _ _ (List.range n) {} T
    (arenasOf Driver.frozenParams 0 T) hidx htally (by simp [arenasOf]) (by simp [arenasOf]) (by simp [arenasOf])
  rw [hcarve] at hc2
  simp only [Outcome.ok.injEq, Prod.mk.injEq] at hc2
  obtain ⟨rfl, rfl⟩ := hc2
  simp only [arenasOf, Nat.add_zero, Nat.zero_add] at r4 r5 r6
  have hks : Win.u16s L.toArray ⟨rest, n, 2⟩ = r.slots.map (·.key) := by
    have := read_flatMap L (fun s : Slot => le16 s.key) 2 (fun _ => rfl)
      (fun off => leAt L.toArray off 2) (fun s => s.key) r.slots
      (fun s hs off t hd => leAt2_of_drop hd (hkeys s hs)) rest _ dK
    simpa [Win.u16s, hn'] using this
  unfold frozenView
  simp only [hdr, Outcome.ok_bind, htally, harena, hcarve, hks, r1, r2, r3, r4, r5, r6, rezip, List.length_map]
  simp [Driver.frozenOf]

theorem toBSet_frozenOf (r : Rep) : (Driver.frozenOf r).toBSet = r.toBSet := by
  simp only [Driver.frozenOf, Rep.toBSet, List.map_map, Function.comp_def]

theorem wf_frozenOf (r : Rep) : (Driver.frozenOf r).wf = r.wf := by
  simp only [Driver.frozenOf, Rep.wf, List.map_map, List.all_map, Function.comp_def]

/-- non-vacuity: a concrete array/run/array representation is well formed and the three statements are observed on it;
and the hypothesis of `frozenView_no_panic` cannot be dropped (a parameter set with 12-byte "bitmap containers" makes the
cast to `[]uint64` panic) -/
example :
    let r : Rep := ⟨false, [⟨0, .arr [1, 5, 9], false⟩, ⟨3, .run [(10, 99)], false⟩, ⟨7, .arr [65535], true⟩]⟩
    r.wf = true ∧ (r.freeze Driver.frozenParams).length = r.frozenSize Driver.frozenParams ∧
      (frozenView Driver.frozenParams (r.freeze Driver.frozenParams) == .ok (Driver.frozenOf r)) = true ∧
      (frozenView { Driver.frozenParams with bitmapBytes := 12 }
        ([0,0,0,0,0,0,0,0,0,0,0,0, 0,0, 0,0, 1] ++ le32 (13766 + 32768)) == .panic) = true := by
  decide

end RModel.Impl
