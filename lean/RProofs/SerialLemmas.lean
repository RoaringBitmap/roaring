import RProofs.LittleEndian
import RProofs.ArrayC
import RProofs.Util.Nat
import RProofs.Util.List
import RProofs.Words
/-!
What the portable writer and reader of `Impl/Serial.lean` do to each other, below the properties that are stated about them
(C05, C06, C09, C14) and above the bytes (`LittleEndian.lean`).  The reader is rewritten one stage at a time (`decode_eq`,
`readContainers_cons`); what an accepted read yields is said once (`decode_ok`, `readContainers_mem`); a reader that does not
look behind a stream rejects the stream's proper prefixes (`proper_prefix_err`).
-/
open RModel.Util
namespace RModel.Impl

/-- the literal parameters of the format specification -/
def specParams : SerParams := { serialCookie := 12347, serialCookieNoRun := 12346, noOffsetThreshold := 4, arrayMax := 4096 }

@[simp] theorem specParams_serialCookie : specParams.serialCookie = 12347 := rfl
@[simp] theorem specParams_serialCookieNoRun : specParams.serialCookieNoRun = 12346 := rfl
@[simp] theorem specParams_noOffsetThreshold : specParams.noOffsetThreshold = 4 := rfl
@[simp] theorem specParams_arrayMax : specParams.arrayMax = 4096 := rfl

/-- the descriptive header: key and cardinality − 1 of every container, 16 bits each -/
def descBytes (slots : List Slot) : Bytes :=
  slots.flatMap fun s => le16 s.key ++ le16 ((s.c.goCard - 1) % 65536).toNat

/-! ### lengths of the written pieces -/

theorem payload_length (c : Cont) : c.payload.length = c.serSize := by
  cases c with
  | arr vals => simp [Cont.payload, Cont.serSize, flatMap_length_const le16 2 le16_length]
  | bmp card words =>
    simp [Cont.payload, Cont.serSize, flatMap_length_const (fun w : BitVec 64 => le64 w.toNat) 8 (fun _ => rfl)]
  | run runs =>
    simp [Cont.payload, Cont.serSize,
      flatMap_length_const (fun p : Nat × Nat => le16 p.1 ++ le16 p.2) 4 (fun _ => rfl)]

theorem payloads_length (l : List Slot) :
    (l.flatMap (·.c.payload)).length = (l.map (·.c.serSize)).sum := by
  induction l with
  | nil => simp
  | cons a t ih => simp [List.flatMap_cons, ih, payload_length]

@[simp] theorem runFlagBytes_length (flags : List Bool) : (runFlagBytes flags).length = (flags.length + 7) / 8 := by
  simp [runFlagBytes]

@[simp] theorem offsets_length (P : SerParams) (start : Nat) (l : List Cont) :
    (offsets P start l).length = 4 * l.length := by
  induction l generalizing start with
  | nil => simp [offsets]
  | cons a t ih => simp [offsets, ih]; omega

theorem desc_length (l : List Slot) : (descBytes l).length = 4 * l.length :=
  flatMap_length_const _ 4 (fun _ => rfl) l

/-! ### the run-flag bitmap -/

def runBitAt (isRun : Option Bytes) (i : Nat) : Bool :=
  match isRun with
  | some rb => (rb.getD (i / 8) 0).toNat / 2 ^ (i % 8) % 2 == 1
  | none => false

/-- the number whose bit `b` is `f b`, for `b < n`, as `runFlagBytes` accumulates it -/
abbrev flagSum (f : Nat → Bool) (n : Nat) : Nat :=
  (List.range n).foldl (fun acc b => if f b then acc + 2 ^ b else acc) 0

theorem flagSum_succ (f : Nat → Bool) (n : Nat) :
    flagSum f (n + 1) = if f n then flagSum f n + 2 ^ n else flagSum f n := by
  simp only [flagSum, List.range_succ, List.foldl_append, List.foldl_cons, List.foldl_nil]

theorem flagSum_lt (f : Nat → Bool) (n : Nat) : flagSum f n < 2 ^ n := by
  induction n with
  | zero => simp [flagSum]
  | succ n ih => rw [flagSum_succ, Nat.pow_succ]; split <;> omega

theorem flagSum_testBit (f : Nat → Bool) (n k : Nat) : (flagSum f n).testBit k = (decide (k < n) && f k) := by
  induction n with
  | zero => simp [flagSum]
  | succ n ih =>
    have hk : (if f n then flagSum f n + 2 ^ n else flagSum f n) = 2 ^ n * (f n).toNat + flagSum f n := by
      cases f n <;> simp [Nat.add_comm]
    rw [flagSum_succ, hk, Nat.testBit_two_pow_mul_add _ (flagSum_lt f n), ih]
    by_cases h1 : k < n
    · simp [h1, Nat.lt_succ_of_lt h1]
    · rw [if_neg h1]
      by_cases h2 : k = n
      · subst h2; cases f k <;> simp
      · have hlt : (f n).toNat < 2 ^ (k - n) :=
          Nat.lt_of_lt_of_le (Bool.toNat_lt (f n)) (Nat.pow_le_pow_right (by decide : 2 > 0) (by omega : 1 ≤ k - n))
        rw [Nat.testBit_lt_two_pow hlt]
        simp [show ¬ k < n + 1 by omega]

theorem runFlag_bit (flags : List Bool) (i : Nat) (hi : i < flags.length) :
    (((runFlagBytes flags).getD (i / 8) 0).toNat / 2 ^ (i % 8) % 2 == 1) = flags[i] := by
  have hj : i / 8 < (flags.length + 7) / 8 := by omega
  have e : 8 * (i / 8) + i % 8 = i := Nat.div_add_mod i 8
  rw [testBit_eq_beq, runFlagBytes, List.getD_eq_getElem?_getD, List.getElem?_map, List.getElem?_range hj, Option.map_some,
    Option.getD_some, UInt8.toNat_ofNat', Nat.mod_eq_of_lt (flagSum_lt _ 8), flagSum_testBit, e]
  simp [hi, Nat.mod_lt]

/-! ### what well-formedness gives the format -/

theorem runsOk_tail (a : Nat × Nat) (t : List (Nat × Nat)) (h : runsOk (a :: t) = true) : runsOk t = true := by
  obtain ⟨s, l⟩ := a
  cases t with
  | nil => rfl
  | cons b t =>
    obtain ⟨s', l'⟩ := b
    simp only [runsOk, Bool.and_eq_true] at h
    exact h.2

theorem runsOk_all_le (runs : List (Nat × Nat)) (h : runsOk runs = true) :
    ∀ p ∈ runs, p.1 + p.2 ≤ 65535 := by
  fun_induction runsOk runs with
  | case1 s l => simpa using h
  | case2 s l s' l' t ih =>
    simp only [Bool.and_eq_true, decide_eq_true_eq] at h
    have := ih h.2
    simp only [List.forall_mem_cons] at this ⊢
    exact ⟨by omega, this⟩
  | case3 => simp

theorem runsOk_sum (runs : List (Nat × Nat)) (h : runsOk runs = true) :
    (runs.head?.map (·.1)).getD 0 + (runs.map fun (_, l) => l + 1).sum ≤ 65536 := by
  fun_induction runsOk runs with
  | case1 s l => simp at h ⊢; omega
  | case2 s l s' l' t ih =>
    simp only [Bool.and_eq_true, decide_eq_true_eq] at h
    have := ih h.2
    simp at this ⊢; omega
  | case3 => simp

/-- for a well-formed container, the descriptive-header field (cardinality − 1, 16 bits) denotes the true cardinality -/
theorem card_hdr (c : Cont) (hwf : c.wf = true) : ((c.goCard - 1) % 65536).toNat + 1 = c.card := by
  cases c with
  | arr vals =>
    simp only [Cont.wf, Bool.and_eq_true, decide_eq_true_eq] at hwf
    simp only [Cont.goCard, Cont.card]; omega
  | bmp card words =>
    simp only [Cont.wf, Bool.and_eq_true, decide_eq_true_eq, beq_iff_eq] at hwf
    have := sum_popcount_le words
    simp only [Cont.goCard, Cont.card]; omega
  | run runs =>
    simp only [Cont.wf, Bool.and_eq_true, decide_eq_true_eq, runMinimal] at hwf
    have := runsOk_sum runs hwf.1.2
    have e : (runs.map fun x => x.2 + 1) = runs.map fun (_, l) => l + 1 := rfl
    simp only [Cont.goCard, Cont.card]
    simp only [e] at hwf this ⊢; omega

theorem strictInc_length_le (l : List Nat) (m : Nat) (hs : strictInc l = true) (hb : ∀ b ∈ l, b < m) :
    l.length ≤ m :=
  Util.sorted_length_le l 0 m (pairwise_of_strictInc l hs) fun x hx => ⟨Nat.zero_le _, hb x hx⟩

theorem wf_slots (r : Rep) (hwf : r.wf = true) :
    r.slots.length ≤ 65536 ∧ (∀ s ∈ r.slots, s.key < 65536) ∧ (∀ s ∈ r.slots, s.c.wf = true) := by
  simp only [Rep.wf, Bool.and_eq_true, List.all_eq_true, decide_eq_true_eq] at hwf
  obtain ⟨hinc, hall⟩ := hwf
  refine ⟨?_, fun s hs => (hall s hs).1, fun s hs => (hall s hs).2⟩
  have := strictInc_length_le (r.slots.map (·.key)) 65536 hinc (by
    intro k hk
    obtain ⟨s, hs, rfl⟩ := List.mem_map.mp hk
    exact (hall s hs).1)
  rwa [List.length_map] at this

/-! ### the reader, stage by stage

`decode` and the loop body of `readContainers` in named pieces (`decode_eq` and `readContainers_cons` hold by computation). -/

def decodeHdr (P : SerParams) (cookie : Nat) (bs1 : Bytes) : Option (Nat × Option Bytes × Bytes) :=
  if cookie % 65536 == P.serialCookie then
    let size := cookie / 65536 + 1
    (takeN ((size + 7) / 8) bs1).map fun (rb, bs2) => (size, some rb, bs2)
  else if cookie == P.serialCookieNoRun then
    (rd32 bs1).map fun (size, bs2) => (size, none, bs2)
  else none

def decodeSkip (P : SerParams) (size : Nat) (isRun : Option Bytes) (bs3 : Bytes) : Option Bytes :=
  if isRun.isNone || size ≥ P.noOffsetThreshold then (takeN (4 * size) bs3).map (·.2) else some bs3

def decodeTail (P : SerParams) (flag : Bool) (len size : Nat) (isRun : Option Bytes) (bs2 : Bytes) :
    Outcome (Rep × Nat) :=
  if size > 65536 then .err else
  match takeN (4 * size) bs2 with
  | none => .err
  | some (kc, bs3) =>
    match decodeSkip P size isRun bs3 with
    | none => .err
    | some bs4 =>
      match readContainers P flag isRun 0 (pairs16 (bytesTo16s kc)) bs4 with
      | none => .err
      | some (slots, rest) => .ok ({ cow := false, slots := slots }, len - rest.length)

theorem decode_eq (P : SerParams) (flag : Bool) (bs : Bytes) :
    decode P flag bs =
      match rd32 bs with
      | none => .err
      | some (cookie, bs1) =>
        match decodeHdr P cookie bs1 with
        | none => .err
        | some (size, isRun, bs2) => decodeTail P flag bs.length size isRun bs2 := rfl

def readOne (P : SerParams) (runBit : Bool) (cardm1 : Nat) (bs : Bytes) : Option (Cont × Bytes) :=
  let card := cardm1 + 1
  if runBit then
    match rd16 bs with
    | none => none
    | some (nr, bs1) => (takeN (nr * 4) bs1).map fun (p, bs2) => (.run (pairs16 (bytesTo16s p)), bs2)
  else if card > P.arrayMax then
    (takeN (P.arrayMax * 2) bs).map fun (p, bs2) => (.bmp card (bytesToWords p), bs2)
  else
    (takeN (card * 2) bs).map fun (p, bs2) => (.arr (bytesTo16s p), bs2)

theorem readContainers_nil (P : SerParams) (flag : Bool) (isRun : Option Bytes) (i : Nat) (bs : Bytes) :
    readContainers P flag isRun i [] bs = some ([], bs) := by
  simp [readContainers]

theorem readContainers_cons (P : SerParams) (flag : Bool) (isRun : Option Bytes) (i key cardm1 : Nat)
    (rest : List (Nat × Nat)) (bs : Bytes) :
    readContainers P flag isRun i ((key, cardm1) :: rest) bs =
      match readOne P (runBitAt isRun i) cardm1 bs with
      | none => none
      | some (c, bs2) =>
        match readContainers P flag isRun (i + 1) rest bs2 with
        | none => none
        | some (ss, bs3) => some ({ key := key, c := c, flag := flag } :: ss, bs3) := by
  cases isRun <;> rfl

theorem decode_ok {P : SerParams} {flag : Bool} {bs : Bytes} {r : Rep} {n : Nat} (h : decode P flag bs = .ok (r, n)) :
    r.cow = false ∧ ∃ isRun kc bs4 rest,
      readContainers P flag isRun 0 (pairs16 (bytesTo16s kc)) bs4 = some (r.slots, rest) := by
  rw [decode_eq] at h
  split at h
  · cases h
  split at h
  · cases h
  unfold decodeTail at h
  split at h
  · cases h
  split at h
  · cases h
  split at h
  · cases h
  split at h
  · cases h
  rename_i hrc
  cases h
  exact ⟨rfl, _, _, _, _, hrc⟩

theorem readContainers_mem {P : SerParams} {flag : Bool} {isRun : Option Bytes} {kcs : List (Nat × Nat)} {i : Nat} {bs : Bytes}
    {ss : List Slot} {rest : Bytes} (h : readContainers P flag isRun i kcs bs = some (ss, rest)) :
    ∀ s ∈ ss, s.flag = flag ∧ ∃ kc ∈ kcs, s.key = kc.1 ∧ ∃ rb bs1 bs2, readOne P rb kc.2 bs1 = some (s.c, bs2) := by
  induction kcs generalizing i bs ss with
  | nil => rw [readContainers_nil] at h; cases h; nofun
  | cons kc t ih =>
    obtain ⟨key, cardm1⟩ := kc
    rw [readContainers_cons] at h
    split at h
    · cases h
    rename_i hone
    split at h
    · cases h
    rename_i hrec
    cases h
    refine List.forall_mem_cons.mpr ⟨⟨rfl, _, List.mem_cons_self, rfl, _, _, _, hone⟩, fun s hs => ?_⟩
    obtain ⟨hf, kc, hkc, hrest⟩ := ih hrec s hs
    exact ⟨hf, kc, List.mem_cons_of_mem _ hkc, hrest⟩

/-- the portable reader, on ANY byte string: a successful read returns a bitmap with the switch off whose every chunk carries the
flag of the entry point (`true` for the zero-copy ones) -/
theorem decode_flags (P : SerParams) (flag : Bool) (bs : Bytes) (r : Rep) (n : Nat) (h : decode P flag bs = .ok (r, n)) :
    r.cow = false ∧ ∀ s ∈ r.slots, s.flag = flag :=
  let ⟨hc, _, _, _, _, hrc⟩ := decode_ok h
  ⟨hc, fun s hs => (readContainers_mem hrc s hs).1⟩

/-! ### the reader on what the writer wrote -/

theorem readOne_payload (c : Cont) (hwf : c.wf = true) (tail : Bytes) :
    readOne specParams c.isRun ((c.goCard - 1) % 65536).toNat (c.payload ++ tail) = some (c, tail) := by
  cases c with
  | arr vals =>
    simp only [Cont.wf, Bool.and_eq_true, decide_eq_true_eq, List.all_eq_true] at hwf
    obtain ⟨⟨⟨h0, h1⟩, _⟩, hv⟩ := hwf
    have hc : (((vals.length : Int) - 1) % 65536).toNat + 1 = vals.length := by omega
    have hl : (vals.flatMap le16).length = vals.length * 2 := by
      rw [flatMap_length_const le16 2 le16_length]; omega
    simp only [readOne, Cont.isRun, Cont.goCard, Cont.payload, hc, specParams]
    rw [takeN_append _ _ _ hl]
    simp [bytesTo16s_le16 vals hv]; omega
  | bmp card words =>
    simp only [Cont.wf, Bool.and_eq_true, decide_eq_true_eq, beq_iff_eq] at hwf
    obtain ⟨⟨hl, hc⟩, hgt⟩ := hwf
    have hs := sum_popcount_le words
    have hc' : (((card - 1) % 65536).toNat + 1 : Nat) = card := by omega
    have hl : (words.flatMap fun w => le64 w.toNat).length = 4096 * 2 := by
      rw [flatMap_length_const (fun w : BitVec 64 => le64 w.toNat) 8 (fun _ => rfl)]; omega
    have hgt' : ((card - 1) % 65536).toNat + 1 > 4096 := by omega
    simp only [readOne, Cont.isRun, Cont.goCard, Cont.payload, specParams]
    rw [takeN_append _ _ _ hl]
    simp [hgt', hc', bytesToWords_le64]
  | run runs =>
    simp only [Cont.wf, Bool.and_eq_true, decide_eq_true_eq, runMinimal] at hwf
    obtain ⟨⟨_, hok⟩, hmin⟩ := hwf
    have hb := runsOk_all_le runs hok
    have hlen : runs.length < 65536 := by omega
    have hl : (runs.flatMap fun (p : Nat × Nat) => le16 p.1 ++ le16 p.2).length = runs.length * 4 := by
      rw [flatMap_length_const (fun p : Nat × Nat => le16 p.1 ++ le16 p.2) 4 (fun _ => rfl)]; omega
    simp only [readOne, Cont.isRun, Cont.payload, List.append_assoc]
    rw [rd16_le16 _ hlen]
    simp only [if_true]
    rw [takeN_append _ _ _ hl]
    have := pairs16_le16 Prod.fst Prod.snd runs (fun p hp => by have := hb p hp; omega)
    simp [this]

theorem readContainers_encode (flag : Bool) (rb : Option Bytes) (slots : List Slot) (i : Nat) (tail : Bytes)
    (hwf : ∀ s ∈ slots, s.c.wf = true)
    (hbit : ∀ j (h : j < slots.length), runBitAt rb (i + j) = slots[j].c.isRun) :
    readContainers specParams flag rb i (slots.map fun s => (s.key, ((s.c.goCard - 1) % 65536).toNat))
      (slots.flatMap (·.c.payload) ++ tail) = some (slots.map fun s => { s with flag := flag }, tail) := by
  induction slots generalizing i with
  | nil => simp [readContainers_nil]
  | cons s t ih =>
    have h0 := hbit 0 (by simp)
    simp only [Nat.add_zero, List.getElem_cons_zero] at h0
    have iht := ih (i + 1) (fun s hs => hwf s (List.mem_cons_of_mem _ hs)) (fun j hj => by
      have := hbit (j + 1) (by simp; omega)
      simpa [Nat.add_assoc, Nat.add_comm 1 j] using this)
    simp only [List.map_cons, List.flatMap_cons, List.append_assoc, readContainers_cons, h0]
    rw [readOne_payload s.c (hwf s (by simp))]
    simp only [iht]

theorem desc_read (slots : List Slot) (hkeys : ∀ s ∈ slots, s.key < 65536) :
    pairs16 (bytesTo16s (descBytes slots)) = slots.map fun s => (s.key, ((s.c.goCard - 1) % 65536).toNat) :=
  pairs16_le16 (fun s : Slot => s.key) (fun s => ((s.c.goCard - 1) % 65536).toNat) slots
    fun s hs => ⟨hkeys s hs, by omega⟩

theorem decodeTail_encode (flag : Bool) (len : Nat) (rb : Option Bytes) (slots : List Slot) (off tail : Bytes)
    (hn : slots.length ≤ 65536) (hkeys : ∀ s ∈ slots, s.key < 65536) (hwf : ∀ s ∈ slots, s.c.wf = true)
    (hbit : ∀ j (h : j < slots.length), runBitAt rb j = slots[j].c.isRun)
    (hoff : off.length = if rb.isNone || decide (slots.length ≥ 4) then 4 * slots.length else 0) :
    decodeTail specParams flag len slots.length rb
        (descBytes slots ++ (off ++ (slots.flatMap (·.c.payload) ++ tail))) =
      .ok ({ cow := false, slots := slots.map fun s => { s with flag := flag } }, len - tail.length) := by
  have hdl := desc_length slots
  have hkc := desc_read slots hkeys
  have hskip : decodeSkip specParams slots.length rb (off ++ (slots.flatMap (·.c.payload) ++ tail)) =
      some (slots.flatMap (·.c.payload) ++ tail) := by
    unfold decodeSkip
    by_cases h : (rb.isNone || decide (slots.length ≥ specParams.noOffsetThreshold)) = true
    · have h' : (rb.isNone || decide (slots.length ≥ 4)) = true := h
      rw [if_pos h'] at hoff; rw [if_pos h, takeN_append _ _ _ hoff]; rfl
    · have h' : ¬ (rb.isNone || decide (slots.length ≥ 4)) = true := h
      rw [if_neg h'] at hoff; rw [if_neg h]
      have : off = [] := List.eq_nil_of_length_eq_zero hoff
      simp [this]
  unfold decodeTail
  rw [if_neg (by omega), takeN_append _ _ _ hdl]
  simp only [hskip, hkc]
  rw [readContainers_encode flag rb slots 0 tail hwf (by simpa using hbit)]

/-! ### the two layouts the writer produces -/

theorem sum_const4 (l : List Slot) : (l.map fun _ => 4).sum = 4 * l.length := by
  induction l <;> simp_all <;> omega

theorem encode_norun (r : Rep) (hr : r.hasRun = false) :
    r.encode specParams =
      le32 12346 ++ (le32 r.slots.length ++ (descBytes r.slots ++
        (offsets specParams (8 + 4 * r.slots.length + 4 * r.slots.length) (r.slots.map (·.c)) ++
          r.slots.flatMap (·.c.payload)))) := by
  simp [Rep.encode, hr, descBytes, sum_const4]

theorem encode_run (r : Rep) (hr : r.hasRun = true) :
    r.encode specParams =
      le16 12347 ++ (le16 ((r.slots.length - 1) % 65536) ++ (runFlagBytes (r.slots.map (·.c.isRun)) ++
        (descBytes r.slots ++
          ((if r.slots.length ≥ 4 then
              offsets specParams (4 + (r.slots.length + 7) / 8 + 4 * r.slots.length + 4 * r.slots.length) (r.slots.map (·.c))
            else []) ++
            r.slots.flatMap (·.c.payload))))) := by
  have e : 2 + (2 + (r.slots.length + 7) / 8) = 4 + (r.slots.length + 7) / 8 := by omega
  simp [Rep.encode, hr, descBytes, sum_const4, e]

theorem hasRun_pos {r : Rep} (h : r.hasRun = true) : 1 ≤ r.slots.length := by
  cases hs : r.slots with
  | nil => simp [Rep.hasRun, hs] at h
  | cons a t => simp

theorem isRun_false_of_hasRun_false (r : Rep) (h : r.hasRun = false) : ∀ s ∈ r.slots, s.c.isRun = false := by
  simpa [Rep.hasRun] using h

/-! ### proper prefixes of an accepted stream -/

theorem proper_prefix_err {α : Type} {dec : Bytes → Outcome (α × Nat)} {enc : Bytes} {v : α}
    (hnp : ∀ bs, dec bs ≠ .panic) (hext : ∀ {bs w}, dec bs = .ok w → ∀ t, dec (bs ++ t) = .ok w)
    (hle : ∀ {bs r c}, dec bs = .ok (r, c) → c ≤ bs.length) (hfull : dec enc = .ok (v, enc.length))
    {k : Nat} (hk : k < enc.length) : dec (enc.take k) = .err := by
  cases h : dec (enc.take k) with
  | err => rfl
  | panic => exact absurd h (hnp _)
  | ok w =>
    obtain ⟨r', c⟩ := w
    -- a successful read of the prefix consumes at most `k` bytes and stays the same read when the remaining bytes are
    -- appended, but the read of the whole stream consumes all of it
    have hc := hle h
    have hext := hext h (enc.drop k)
    rw [List.take_append_drop, hfull] at hext
    cases hext
    rw [List.length_take] at hc
    omega

end RModel.Impl
