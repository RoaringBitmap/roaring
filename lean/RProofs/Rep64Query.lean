import RProofs.Rep64
import RProofs.RepQueryBase
import RModel.Impl.Rep64Query
/-!
The read-only drivers of `roaring64.Bitmap` on one operand (`Contains`, `GetCardinality`, `IsEmpty`, `Minimum`, `Maximum`, `Rank`,
`Select`; those on two operands are in `Rep64QueryPair.lean`), modelled in `RModel/Impl/Rep64Query.lean` as the Go code runs them,
return the verified `BSet` query on `r.toBSet` for every well-formed `r`; the right-hand sides are literally the expressions the L1
commands `card64 empty64 has64 min64 max64 rank64 sel64` compare Go with.  The bucket list is a store of blocks of `2^32` values
(`Rep64.mem_eq`), so each loop is an instance of the theorem of `KeyedQuery.lean` for its query: the loop's equations hold by `rfl`,
the blocks answer by the characterisation proved for the 32-bit bitmap (`Rep.rank_is` …), the result is the same characterisation
one level up (`Rep64.rank_is` …), and `glue_*` turns it into the `BSet` equation.  `Minimum` / `Maximum` return `none` (the Go panic)
exactly on the empty bitmap, `Select` returns `none` (the error) exactly for an index `≥` cardinality.
-/
namespace RModel.Impl
open RModel RModel.BSet RModel.Driver ContOps ContQuery RepOps RepQuery R64Ops R64Q

/-! ### the members of a well-formed representation: blocks of `2^32` values -/

theorem Rep64.mem_eq {r : Rep64} (h : r.wf = true) : mem r.toBSet = bucketV.mem 4294967296 r.buckets :=
  funext (mem_rep64_buckets r ((bucketsWf_iff r).mp h).bounded)

/-! ### `GetCardinality`, `IsEmpty` -/

theorem Rep64.card_is (r : Rep64) (h : r.wf = true) :
    r.getCardinality = (cnt (mem r.toBSet) 18446744073709551616 : Int) :=
  have hw := (bucketsWf_iff r).mp h
  Rep64.mem_eq h ▸ (bucketV.card_blocks (by decide) rfl (fun _ _ => rfl) hw.sorted
    (fun b hb => Rep.card_is b.bm (hw.ok b hb).2.1) _).2 fun b hb => by
      have : bucketV.key b < 4294967296 := (hw.ok b hb).1; omega

theorem Rep64.card_spec (r : Rep64) (h : r.wf = true) : r.getCardinality = (BSet.card r.toBSet : Int) :=
  glue_card (canon_rep64 r h) (fun _ => rfl) (Rep64.card_is r h)

theorem BucketOk.nonempty {b : Bucket} (h : BucketOk b) : ∃ y, y < 4294967296 ∧ bucketV.has b y = true :=
  (exists_mem_of_wf h.2.1 h.2.2).imp fun y hy => ⟨bounded32_of_wf h.2.1 y hy, hy⟩

/-- so an optional answer that is `none` only on the empty set (`h`: the second half of `IsMinOpt` / `IsMaxOpt`) is `some` -/
theorem BucketOk.answer_some {b : Bucket} (hb : BucketOk b) {o : Option Int} (h : o = none → ∀ x, bucketV.has b x = false) :
    ∃ m, o = some m := by
  cases o with
  | some m => exact ⟨m, rfl⟩
  | none =>
    obtain ⟨y, -, hy⟩ := hb.nonempty
    rw [h rfl y] at hy; cases hy

theorem Rep64.isEmpty_spec (r : Rep64) (h : r.wf = true) : r.isEmptyQ = BSet.isEmpty r.toBSet :=
  have hw := (bucketsWf_iff r).mp h
  glue_isEmpty (sinc_rep64 r) (even_rep64 r h) (congrFun (Rep64.mem_eq h))
    (beq_iff_eq.trans (bucketV.isEmpty_blocks (fun _ => BucketOk.nonempty) hw.sorted hw.ok))

example : exA.getCardinality = (BSet.card exA.toBSet : Int) := Rep64.card_spec exA wf_exA
example : exA.isEmptyQ = BSet.isEmpty exA.toBSet := Rep64.isEmpty_spec exA wf_exA
example : exA.getCardinality = 8 ∧ exA.isEmptyQ = false := by decide +kernel

/-! ### `Contains` -/

namespace R64Q

/-- `getContainer` (binary search, no last-key shortcut) reaches the bucket stored under the key -/
theorem getContainer64_eq_find {l : List Bucket} (hw : BucketsWf l) (k : Nat) :
    getContainer64 l k = (l.find? (·.high == k)).map (·.bm) := by
  rw [← midG_eq_find hw (binarySearch_spec (keys64_sorted hw) k)]
  unfold getContainer64 midG
  simp only []
  by_cases hg : binarySearch (keys64 l) k < 0
  · rw [if_pos hg, if_neg (by omega)]; rfl
  · rw [if_neg hg, if_pos (by omega)]; rfl

end R64Q

theorem Rep64.contains_spec (r : Rep64) (h : r.wf = true) (x : Nat) : r.contains x = BSet.mem r.toBSet x := by
  have hw := (bucketsWf_iff r).mp h
  rw [mem_rep64 r h, Rep64.contains, getContainer64_eq_find hw, Rep64.has, Rep64.find]
  cases hf : r.buckets.find? (·.high == x / 4294967296) with
  | none => rfl
  | some b =>
    have hmem := List.mem_of_find?_eq_some hf
    simp only [Option.map_some]
    rw [Rep.contains_spec _ (hw.ok b hmem).2.1, mem_rep _ (hw.ok b hmem).2.1]

/-- `ContainsInt(v)` asks for the two's complement of `v` -/
theorem Rep64.containsInt_spec (r : Rep64) (h : r.wf = true) (v : Int) :
    r.containsInt v = BSet.mem r.toBSet (v % 18446744073709551616).toNat :=
  Rep64.contains_spec r h _

example : exA.contains 131086 = mem exA.toBSet 131086 := Rep64.contains_spec exA wf_exA _
example : exA.contains 131086 = true ∧ exA.contains 131087 = false ∧ exA.contains 4294967297 = false ∧
    exA.containsInt (-1) = false := by decide +kernel

/-! ### `Rank` -/

theorem Rep64.rank_is (r : Rep64) (h : r.wf = true) (x : Nat) : IsRank (mem r.toBSet) x (r.rank x) :=
  have hw := (bucketsWf_iff r).mp h
  Rep64.mem_eq h ▸ bucketV.rank_blocks (by decide) rfl (fun _ _ => rfl) hw.sorted
    (fun b hb => Rep.card_is b.bm (hw.ok b hb).2.1) (fun b hb => Rep.rank_is b.bm (hw.ok b hb).2.1 _)

/-- `Rank(x)` = number of members `≤ x` -/
theorem Rep64.rank_spec (r : Rep64) (h : r.wf = true) (x : Nat) : r.rank x = (BSet.rankLt r.toBSet (x + 1) : Int) :=
  glue_rank (sinc_rep64 r) (even_rep64 r h) (fun _ => rfl) (Rep64.rank_is r h x)

-- `Rank` across the empty buckets 1, 2
example : exA.rank 12884901888 = (BSet.rankLt exA.toBSet (12884901888 + 1) : Int) := Rep64.rank_spec exA wf_exA _
example : exA.rank 0 = 0 ∧ exA.rank 131084 = 5 ∧ exA.rank 12884901888 = 7 ∧ exA.rank 17179869183 = 8 ∧
    exA.rank 18446744073709551615 = 8 := by decide +kernel

/-! ### `Minimum`, `Maximum` -/

theorem Rep64.min_is (r : Rep64) (h : r.wf = true) : IsMinOpt (mem r.toBSet) r.minimum := by
  have hw := (bucketsWf_iff r).mp h
  rw [Rep64.mem_eq h]
  unfold Rep64.minimum
  split
  · next h0 => exact ⟨nofun, fun _ x => by rw [List.length_eq_zero_iff.mp h0]; rfl⟩
  · next h0 =>
    have hmem := bAt_mem (show 0 < r.buckets.length by omega)
    have hb := hw.ok _ hmem
    obtain ⟨h1, h2⟩ := Rep.min_is _ hb.2.1
    obtain ⟨m, e⟩ := BucketOk.answer_some hb h2
    rw [e]
    exact ⟨fun m' e' => Option.some.inj e' ▸ bucketV.min_blocks hw.sorted hmem (bucketV.key_first hw.sorted _)
      (bounded32_of_wf hb.2.1) (h1 m e), nofun⟩

theorem Rep64.max_is (r : Rep64) (h : r.wf = true) : IsMaxOpt (mem r.toBSet) r.maximum := by
  have hw := (bucketsWf_iff r).mp h
  rw [Rep64.mem_eq h]
  unfold Rep64.maximum
  split
  · next h0 => exact ⟨nofun, fun _ x => by rw [List.length_eq_zero_iff.mp h0]; rfl⟩
  · next h0 =>
    have hmem := bAt_mem (show r.buckets.length - 1 < r.buckets.length by omega)
    have hb := hw.ok _ hmem
    obtain ⟨h1, h2⟩ := Rep.max_is _ hb.2.1
    obtain ⟨m, e⟩ := BucketOk.answer_some hb h2
    simp only [e]
    exact ⟨fun m' e' => Option.some.inj e' ▸ bucketV.max_blocks hw.sorted hmem (bucketV.key_last hw.sorted _)
      (bounded32_of_wf hb.2.1) (h1 m e), nofun⟩

theorem Rep64.minimum_spec (r : Rep64) (h : r.wf = true) :
    r.minimum = (BSet.minimum r.toBSet).map (fun v => (v : Int)) :=
  glue_minOpt (sinc_rep64 r) (even_rep64 r h) (fun _ => rfl) (Rep64.min_is r h)

theorem Rep64.maximum_spec (r : Rep64) (h : r.wf = true) :
    r.maximum = (BSet.maximum r.toBSet).map (fun v => (v : Int)) :=
  glue_maxOpt (sinc_rep64 r) (even_rep64 r h) (fun _ => rfl) (Rep64.max_is r h)

example : exA.minimum = (BSet.minimum exA.toBSet).map (fun v => (v : Int)) := Rep64.minimum_spec exA wf_exA
example : exA.maximum = (BSet.maximum exA.toBSet).map (fun v => (v : Int)) := Rep64.maximum_spec exA wf_exA
example : exA.minimum = some 1 ∧ exA.maximum = some 17179869183 := by decide +kernel
-- the empty bitmap: the Go code panics
example : (Rep64.cleared).minimum = none ∧ (Rep64.cleared).maximum = none := by decide +kernel

/-! ### `Select` -/

theorem Rep64.select_is (r : Rep64) (h : r.wf = true) (i : Nat) : IsSelectOpt (mem r.toBSet) i (r.select i) := by
  have hw := (bucketsWf_iff r).mp h
  rw [Rep64.mem_eq h]
  have key := bucketV.select_blocks (P := BucketOk) (W := selectLoop64)
    (ans := fun b i => (b.bm.select (i % 4294967296)).map (combine64 b.high)) (by decide) (fun _ => rfl)
    (fun b t i hb => by
      rw [selectLoop64, Rep.card_is _ hb.2.1, Int.toNat_natCast]
      simp only [ge_iff_le, Int.ofNat_le])
    (fun b hb => bounded32_of_wf hb.2.1)
    (fun b hb i hi => by
      have hi : i < cnt (mem b.bm.toBSet) 4294967296 := hi
      have := cnt_le (mem b.bm.toBSet) 4294967296
      obtain ⟨h1, h2⟩ := Rep.select_is b.bm hb.2.1 i
      rw [Nat.mod_eq_of_lt (show i < 4294967296 by omega)]
      cases hsel : b.bm.select i with
      | none => exact absurd (h2 hsel 4294967296) (by omega)
      | some m => exact ⟨m, rfl, h1 m hsel⟩)
    hw.sorted hw.ok i
  unfold Rep64.select
  split
  · next hle =>
    -- `if cardinality <= x` in front of the loop: no count exceeds the cardinality
    exact ⟨nofun, fun _ n => by
      have := (bucketV.card_blocks (B := 4294967296) (W := cardSum64) (by decide) rfl (fun _ _ => rfl) hw.sorted
        (fun b hb => Rep.card_is _ (hw.ok b hb).2.1) n).1
      rw [Rep64.getCardinality] at hle
      omega⟩
  · exact key

/-- `Select(i)`: the `i`-th member (from 0), or the error result exactly when `i ≥` cardinality -/
theorem Rep64.select_spec (r : Rep64) (h : r.wf = true) (i : Nat) :
    r.select i = (BSet.select r.toBSet i).map (fun v => (v : Int)) :=
  glue_selectOpt (canon_rep64 r h) (fun _ => rfl) (Rep64.select_is r h i)

-- `Select` at cardinality − 1 and at cardinality
example : exA.select 7 = (BSet.select exA.toBSet 7).map (fun v => (v : Int)) := Rep64.select_spec exA wf_exA 7
example : exA.select 0 = some 1 ∧ exA.select 6 = some 131086 ∧ exA.select 7 = some 17179869183 ∧ exA.select 8 = none := by
  decide +kernel

end RModel.Impl
