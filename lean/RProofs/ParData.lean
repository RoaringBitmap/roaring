import RProofs.RepOps
import RProofs.Agg
import RProofs.LazyOps
import RModel.Impl.ParData
import RProofs.ParHeap
import RProofs.KeyedPar
/-!
The DATA model of the parallel aggregates (`RModel/Impl/ParData.lean`, tied to `/repo/parallel.go` by the `l2par` correspondence
check) computes the set-level folds and returns well-formed bitmaps for well-formed inputs and EVERY worker count `w ≥ 1`.

`ParOr`.  The chunk grid tiles the key interval `[lKey, hKey]` (`Tiles`; `chunk_partition` and the `chunkRange_*` facts are its
fields).  The arithmetic is done for the intervals `chunkIv` before the `uint16` conversions (`chunkIv_tiles`); `chunkRange_eq` shows
that the conversions never wrap — also at the top of the key space (`hKey = 65535`) and for `4·w` larger than the key span.  Between the lazy steps the
slots of a chunk are `ParSlot`s: container `ParOk` (a bitmap container with a deferred OR an exact cardinality of any size, as the
temporaries of `getFastContainerAtIndex` leave it); the function `repairAfterLazy` (`repairContPar`) restores well-formedness.  One chunk holds
the members of the operands with keys in its range, the chunks in order hold all of them (`parOrSlots_spec`), hence
`Rep.toBSet_parOr`, `Rep.wf_parOr`, `Rep.parOr_worker_independent` (the SET does not depend on `w`; the representation does:
whether a container copied from a later operand is shared-and-flagged or cloned depends on the chunk it falls in).

What is said about chunks does not depend on what a list element is; it is said in `RProofs/KeyedPar.lean` for any `Keyed` list
(`Keyed.parOr_spec`; the 64-bit `ParOr` of `RProofs/Rep64ParOr.lean` is the other instance).  A level supplies its two walks
(`mergeSpec_parOr`, `mergeSpec_parIor`), its finishing pass (`repairSlotsPar_spec`) and that its grid ascends and covers
`[lKey, hKey]` (`chunkRange_tiles`, `Tiles.grid`).

`ParHeapOr` / `ParAnd`.  By `RProofs/ParHeap.lean` the work items come with strictly increasing keys, each with the operands'
containers under its key as a multiset, and no key is lost; at the level of members the workers' reductions do not depend on
the order of the containers (`reduceOr_spec`, `reduceAnd_spec` of `RProofs/ContLazy.lean`).  `items_spec` (a work item contributes a `Piece` under its
key, `piece_item`; the items being sorted by key, the pieces concatenate as in a walk) turns any such per-key reduction into a
well-formed bitmap with the intended members; `Rep.toBSet_parHeapOr`, `Rep.toBSet_parAnd` (`= BSet.interL`, the empty list
included) and the two `wf_` theorems are its instances.  The worker count does not enter their data at all
(`Rep.parHeapOr_worker_independent`, `Rep.parAnd_worker_independent`).
-/
open RModel.Util
namespace RModel.Impl
open RModel RModel.BSet RModel.Driver ContOps RepOps LazyOps

namespace ParData

/-! ### the chunk grid -/

section
-- `hlh` is not needed (a chunk size other than 1 is taken only if `4·w ≤ keyRange`); it stands here as in the other grid lemmas
set_option linter.unusedVariables false

theorem chunkSize_pos (lKey hKey w : Nat) (hlh : lKey ≤ hKey) (hw : 1 ≤ w) : 0 < parOrChunkSize lKey hKey w := by
  unfold parOrChunkSize
  simp only []
  split
  · omega
  · rename_i h
    apply Nat.div_pos <;> omega

end

theorem ceil_div_bounds (a b : Nat) (hb : 0 < b) :
    a ≤ (a + b - 1) / b * b ∧ (a + b - 1) / b * b < a + b := by
  have h1 : (a + b - 1) / b * b ≤ a + b - 1 := Nat.div_mul_le_self _ _
  have h2 : a + b - 1 < ((a + b - 1) / b + 1) * b := by
    have := Nat.lt_div_mul_add (a := a + b - 1) hb
    rw [Nat.add_mul, Nat.one_mul]; exact this
  rw [Nat.add_mul, Nat.one_mul] at h2
  omega

/-- the invariant `ParOr` checks before it starts (`chunkCount * chunkSize >= keyRange`), and the grid overshoots the key range
by less than one chunk (so every chunk starts inside it, `chunk_start_le`) -/
theorem chunk_grid (lKey hKey w : Nat) (hlh : lKey ≤ hKey) (hw : 1 ≤ w) :
    hKey + 1 - lKey ≤ parOrChunkCount lKey hKey w * parOrChunkSize lKey hKey w ∧
      parOrChunkCount lKey hKey w * parOrChunkSize lKey hKey w < hKey + 1 - lKey + parOrChunkSize lKey hKey w := by
  have hpos := chunkSize_pos lKey hKey w hlh hw
  unfold parOrChunkCount
  simp only []
  split
  · rename_i h
    have : parOrChunkSize lKey hKey w = 1 := by unfold parOrChunkSize; simp only []; rw [if_pos h]
    rw [this]; omega
  · exact ceil_div_bounds _ _ hpos

theorem chunkCount_pos (lKey hKey w : Nat) (hlh : lKey ≤ hKey) (hw : 1 ≤ w) : 0 < parOrChunkCount lKey hKey w := by
  have h := (chunk_grid lKey hKey w hlh hw).1
  rcases Nat.eq_zero_or_pos (parOrChunkCount lKey hKey w) with h0 | h0
  · rw [h0] at h; omega
  · exact h0

theorem chunkCount_le (lKey hKey w : Nat) (hlh : lKey ≤ hKey) (hw : 1 ≤ w) :
    parOrChunkCount lKey hKey w ≤ hKey + 1 - lKey := by
  have hpos := chunkSize_pos lKey hKey w hlh hw
  have h := (chunk_grid lKey hKey w hlh hw).2
  have h2 : hKey + 1 - lKey ≤ (hKey + 1 - lKey) * parOrChunkSize lKey hKey w := Nat.le_mul_of_pos_right _ hpos
  exact Nat.le_of_lt_succ (Nat.lt_of_mul_lt_mul_right (a := parOrChunkSize lKey hKey w) (by rw [Nat.succ_mul]; omega))

/-- chunk `i` starts inside `[lKey, hKey]` — so `uint16(int(lKey) + i*chunkSize)` does not wrap -/
theorem chunk_start_le (lKey hKey w i : Nat) (hlh : lKey ≤ hKey) (hw : 1 ≤ w) (hi : i < parOrChunkCount lKey hKey w) :
    lKey + i * parOrChunkSize lKey hKey w ≤ hKey := by
  have h := (chunk_grid lKey hKey w hlh hw).2
  have hm : (i + 1) * parOrChunkSize lKey hKey w ≤ _ := Nat.mul_le_mul_right _ hi
  rw [Nat.add_mul, Nat.one_mul] at hm
  omega

/-- the key interval of chunk `i` before the `uint16` conversions -/
def chunkIv (lKey hKey w i : Nat) : Nat × Nat :=
  (lKey + i * parOrChunkSize lKey hKey w, min (lKey + (i + 1) * parOrChunkSize lKey hKey w - 1) hKey)

/-- the index of the chunk that holds key `k` -/
def chunkOf (lKey hKey w k : Nat) : Nat := (k - lKey) / parOrChunkSize lKey hKey w

/-- `n` non-empty key intervals `rng i` tile `[lKey, hKey]` from left to right, and key `k` lies in interval `idx k` -/
structure Tiles (lKey hKey n : Nat) (rng : Nat → Nat × Nat) (idx : Nat → Nat) : Prop where
  pos : 0 < n
  nonempty : ∀ i, i < n → (rng i).1 ≤ (rng i).2
  first : (rng 0).1 = lKey
  succ : ∀ i, i + 1 < n → (rng (i + 1)).1 = (rng i).2 + 1
  last : (rng (n - 1)).2 = hKey
  lt : ∀ i j, i < j → j < n → (rng i).2 < (rng j).1
  within : ∀ i, i < n → lKey ≤ (rng i).1 ∧ (rng i).2 ≤ hKey
  idx_lt : ∀ k, lKey ≤ k → k ≤ hKey → idx k < n
  partition : ∀ k i, lKey ≤ k → k ≤ hKey → i < n → (((rng i).1 ≤ k ∧ k ≤ (rng i).2) ↔ i = idx k)

/-- what a parallel union asks of its grid: the intervals ascend and cover `[lKey, hKey]` -/
theorem Tiles.grid {lKey hKey n : Nat} {rng : Nat → Nat × Nat} {idx : Nat → Nat} (T : Tiles lKey hKey n rng idx) :
    (∀ i j, i < j → j < n → (rng i).2 < (rng j).1) ∧
      ∀ k, lKey ≤ k → k ≤ hKey → ∃ i, i < n ∧ (rng i).1 ≤ k ∧ k ≤ (rng i).2 :=
  ⟨T.lt, fun k h1 h2 => ⟨_, T.idx_lt k h1 h2, (T.partition k _ h1 h2 (T.idx_lt k h1 h2)).2 rfl⟩⟩

theorem Tiles.congr {lKey hKey n : Nat} {rng rng' : Nat → Nat × Nat} {idx : Nat → Nat} (T : Tiles lKey hKey n rng idx)
    (h : ∀ i, i < n → rng' i = rng i) : Tiles lKey hKey n rng' idx where
  pos := T.pos
  nonempty i hi := h i hi ▸ T.nonempty i hi
  first := h 0 T.pos ▸ T.first
  succ i hi := by rw [h _ hi, h i (Nat.lt_of_succ_lt hi)]; exact T.succ i hi
  last := h _ (Nat.sub_one_lt (Nat.ne_of_gt T.pos)) ▸ T.last
  lt i j hij hj := by rw [h i (Nat.lt_trans hij hj), h j hj]; exact T.lt i j hij hj
  within i hi := h i hi ▸ T.within i hi
  idx_lt := T.idx_lt
  partition k i hk1 hk2 hi := h i hi ▸ T.partition k i hk1 hk2 hi

/-- **the chunk grid tiles `[lKey, hKey]`**, for every worker count `w ≥ 1` (whatever its size relative to the key span): all of it
follows from `chunk_grid`, a positive chunk size and every chunk starting inside the interval -/
theorem chunkIv_tiles (lKey hKey w : Nat) (hlh : lKey ≤ hKey) (hw : 1 ≤ w) :
    Tiles lKey hKey (parOrChunkCount lKey hKey w) (chunkIv lKey hKey w) (chunkOf lKey hKey w) := by
  have hpos := chunkSize_pos lKey hKey w hlh hw
  have hc := chunkCount_pos lKey hKey w hlh hw
  have hs := fun i => chunk_start_le lKey hKey w i hlh hw
  refine
    { pos := hc, nonempty := fun i hi => ?nonempty, first := by simp [chunkIv], succ := fun i hi => ?succ, last := ?last,
      lt := fun i j hij hj => ?lt, within := fun i _ => ?within, idx_lt := fun k hk1 hk2 => ?idx_lt,
      partition := fun k i hk1 hk2 _ => ?partition }
  case nonempty =>
    have := hs i hi
    simp only [chunkIv, Nat.add_mul, Nat.one_mul]
    omega
  case succ =>
    have := hs (i + 1) hi
    simp only [chunkIv, Nat.add_mul, Nat.one_mul] at this ⊢
    omega
  case last =>
    have hg := (chunk_grid lKey hKey w hlh hw).1
    simp only [chunkIv, Nat.sub_add_cancel hc]
    omega
  case lt =>
    have := hs j hj
    have hm : (i + 1) * parOrChunkSize lKey hKey w ≤ j * parOrChunkSize lKey hKey w := Nat.mul_le_mul_right _ hij
    simp only [chunkIv, Nat.add_mul, Nat.one_mul] at hm ⊢
    omega
  case within =>
    simp only [chunkIv]
    omega
  case idx_lt =>
    have hg := (chunk_grid lKey hKey w hlh hw).1
    unfold chunkOf
    rw [Nat.div_lt_iff_lt_mul hpos]
    omega
  case partition =>
    simp only [chunkIv, chunkOf, Nat.add_mul, Nat.one_mul]
    constructor
    · rintro ⟨h1, h2⟩
      symm
      rw [Nat.div_eq_iff hpos]
      omega
    · intro h
      have := (Nat.div_eq_iff hpos).mp h.symm
      omega

/-- the `uint16` conversions of `chunkRange` are the identity on the values that occur -/
theorem chunkRange_eq (lKey hKey w i : Nat) (hlh : lKey ≤ hKey) (hh : hKey ≤ 65535) (hw : 1 ≤ w)
    (hi : i < parOrChunkCount lKey hKey w) : chunkRange lKey hKey w i = chunkIv lKey hKey w i := by
  have hs := chunk_start_le lKey hKey w i hlh hw hi
  unfold chunkRange u16 chunkIv
  simp only []
  rw [Nat.mod_eq_of_lt (by omega), Nat.mod_eq_of_lt (by omega)]

/-- so the grid as `ParOr` computes it, in `uint16`, tiles `[lKey, hKey]` up to `hKey = 65535` -/
theorem chunkRange_tiles (lKey hKey w : Nat) (hlh : lKey ≤ hKey) (hh : hKey ≤ 65535) (hw : 1 ≤ w) :
    Tiles lKey hKey (parOrChunkCount lKey hKey w) (chunkRange lKey hKey w) (chunkOf lKey hKey w) :=
  (chunkIv_tiles lKey hKey w hlh hw).congr fun i hi => chunkRange_eq lKey hKey w i hlh hh hw hi

theorem chunkRange_nonempty (lKey hKey w i : Nat) (hlh : lKey ≤ hKey) (hh : hKey ≤ 65535) (hw : 1 ≤ w)
    (hi : i < parOrChunkCount lKey hKey w) : (chunkRange lKey hKey w i).1 ≤ (chunkRange lKey hKey w i).2 :=
  (chunkRange_tiles lKey hKey w hlh hh hw).nonempty i hi

theorem chunkRange_first (lKey hKey w : Nat) (hlh : lKey ≤ hKey) (hh : hKey ≤ 65535) (hw : 1 ≤ w) :
    (chunkRange lKey hKey w 0).1 = lKey :=
  (chunkRange_tiles lKey hKey w hlh hh hw).first

theorem chunkRange_succ (lKey hKey w i : Nat) (hlh : lKey ≤ hKey) (hh : hKey ≤ 65535) (hw : 1 ≤ w)
    (hi : i + 1 < parOrChunkCount lKey hKey w) :
    (chunkRange lKey hKey w (i + 1)).1 = (chunkRange lKey hKey w i).2 + 1 :=
  (chunkRange_tiles lKey hKey w hlh hh hw).succ i hi

theorem chunkRange_last (lKey hKey w : Nat) (hlh : lKey ≤ hKey) (hh : hKey ≤ 65535) (hw : 1 ≤ w) :
    (chunkRange lKey hKey w (parOrChunkCount lKey hKey w - 1)).2 = hKey :=
  (chunkRange_tiles lKey hKey w hlh hh hw).last

/-- **the chunk grid covers `[lKey, hKey]` exactly once**: for every worker count `w ≥ 1` (whatever its size relative to the key
span) and every key range (up to `hKey = 65535`), a key `k ∈ [lKey, hKey]` lies in the range of chunk `i < chunkCount` iff
`i = (k − lKey) / chunkSize`, and that index IS below `chunkCount` -/
theorem chunk_partition (lKey hKey w k : Nat) (hlh : lKey ≤ hKey) (hh : hKey ≤ 65535) (hw : 1 ≤ w)
    (hk1 : lKey ≤ k) (hk2 : k ≤ hKey) :
    chunkOf lKey hKey w k < parOrChunkCount lKey hKey w ∧
      ∀ i, i < parOrChunkCount lKey hKey w →
        (((chunkRange lKey hKey w i).1 ≤ k ∧ k ≤ (chunkRange lKey hKey w i).2) ↔ i = chunkOf lKey hKey w k) :=
  have T := chunkRange_tiles lKey hKey w hlh hh hw
  ⟨T.idx_lt k hk1 hk2, fun i hi => T.partition k i hk1 hk2 hi⟩

theorem chunkRange_within (lKey hKey w i : Nat) (hlh : lKey ≤ hKey) (hh : hKey ≤ 65535) (hw : 1 ≤ w)
    (hi : i < parOrChunkCount lKey hKey w) :
    lKey ≤ (chunkRange lKey hKey w i).1 ∧ (chunkRange lKey hKey w i).2 ≤ hKey :=
  (chunkRange_tiles lKey hKey w hlh hh hw).within i hi

/-! ### slot lists of one chunk -/

/-- the invariant of a chunk between the lazy steps -/
structure SlotsPar (l : List Slot) : Prop where
  sorted : l.Pairwise (fun s t => s.key < t.key)
  ok : ∀ s ∈ l, s.key < 65536 ∧ ParOk s.c

theorem SlotsPar.bounded {l : List Slot} (h : SlotsPar l) : ∀ s ∈ l, s.c.Bounded :=
  fun s hs => bounded_of_lazyRecv (lazyRecv_of_parOk (h.ok s hs).2)

/-- what `SlotsPar` asks of one slot -/
def ParSlot (s : Slot) : Prop := s.key < 65536 ∧ ParOk s.c

theorem parSlot_of_wf {s : Slot} (h : s.Wf) : ParSlot s := ⟨h.1, parOk_of_lazyOk (lazyOk_of_wf h.2)⟩

/-! #### `lazyOrOnRange`, `lazyIOrOnRange`: walks over two slot lists -/

theorem parLazyOrSlots_eq (a b : List Slot) :
    parLazyOrSlots a b =
      mergeWalk slotV slotV keepS keepS keepS (always fun sa cb => (toBitmapFast sa.c).lazyOR2 cb) a b := by
  fun_induction parLazyOrSlots a b <;> simp [mergeWalk, keepS, always, map_copySlot, copySlot_eq, *]

theorem parLazyIorSlots_eq (a b : List Slot) :
    parLazyIorSlots a b =
      mergeWalk slotV slotV keepS cloneS keepS (always fun sa cb => (toBitmapFast sa.c).lazyIOR2 cb) a b := by
  fun_induction parLazyIorSlots a b <;> simp [mergeWalk, keepS, cloneS, always, map_copySlot, *]

theorem mergeSpec_parOr : MergeSpec slotV slotV slotV (· || ·) Slot.Wf Slot.Wf ParSlot keepS keepS keepS
    (always fun sa cb => (toBitmapFast sa.c).lazyOR2 cb) :=
  ⟨rfl, fun _ h => .single rfl (parSlot_of_wf h) (by simp), fun _ h => .single rfl (parSlot_of_wf h) (by simp),
    fun _ h => .single rfl (parSlot_of_wf h) (by simp),
    fun _ _ ha hb _ =>
      have h := parOrStep_holds _ _ ha.2 hb.2
      .single rfl ⟨ha.1, h.ok_of_wf hb.2⟩ h.has⟩

theorem mergeSpec_parIor : MergeSpec slotV slotV slotV (· || ·) ParSlot Slot.Wf ParSlot keepS cloneS keepS
    (always fun sa cb => (toBitmapFast sa.c).lazyIOR2 cb) :=
  ⟨rfl, fun _ h => .single rfl h (by simp), fun _ h => .single rfl (parSlot_of_wf h) (by simp),
    fun _ h => .single rfl (parSlot_of_wf h) (by simp),
    fun _ _ ha hb _ =>
      have h := parIorStep_holds _ _ ha.2 hb.2
      .single rfl ⟨ha.1, parOk_of_lazyOk (h.ok_of_wf hb.2)⟩ h.has⟩

/-! #### the function `repairAfterLazy`, slot by slot -/

theorem repairSlotsPar_spec {l : List Slot} {Q : Nat → Prop} (h : slotV.Fine ParSlot Q l) :
    slotV.Fine Slot.Wf Q (l.map repairSlotPar) ∧ ∀ q y, slotV.hasAt (l.map repairSlotPar) q y = slotV.hasAt l q y :=
  have ⟨h1, h2, h3⟩ := map_spec (Va := slotV) (Vc := slotV) (P := fun s => ParSlot s ∧ Q s.key)
    (Po := fun s => s.Wf ∧ Q s.key) (h := repairSlotPar)
    (fun s hs =>
      have ⟨hw, hm⟩ := repairContPar_spec s.c hs.1.2
      ⟨rfl, ⟨⟨hs.1.1, hw⟩, hs.2⟩, hm⟩) h.1 h.2
  ⟨⟨h1, h2⟩, h3⟩

/-! ### assembling the chunks -/

/-- **the assembled result of `ParOr`** (at least two non-empty operands): well-formed, and it holds exactly the members of the
operands — for every worker count `w ≥ 1`.  The walks are the two lazy unions, the finishing pass is `repairAfterLazy`. -/
theorem parOrSlots_spec (w : Nat) (hw : 1 ≤ w) (a b : Rep) (t : List Rep) (hl : ∀ r ∈ a :: b :: t, SlotsWf r.slots)
    (hne : a.slots ≠ []) :
    SlotsWf (parOrSlots w a b t) ∧
      ∀ x, slotsHas (parOrSlots w a b t) x = (a :: b :: t).any (fun r => slotsHas r.slots x) := by
  have := Keyed.parOr_spec (V := slotV) Rep.slots mergeSpec_parOr mergeSpec_parIor parLazyOrSlots_eq parLazyIorSlots_eq
    (fin := List.map repairSlotPar) repairSlotsPar_spec 65535 a b t
    (fun r hr => ⟨(hl r hr).sorted, fun s hs => ⟨(hl r hr).ok s hs, Nat.le_of_lt_succ ((hl r hr).ok s hs).1⟩⟩) hne
    (count := fun l h => parOrChunkCount l h w) (rng := fun l h i => chunkRange l h w i)
    fun lKey hKey hlh hh => (chunkRange_tiles lKey hKey w hlh hh hw).grid
  exact ⟨⟨this.1, this.2.1⟩, fun x => this.2.2 _ _⟩

theorem any_mem_eq_any_slots (l : List Rep) (hl : ∀ r ∈ l, r.wf = true) (x : Nat) :
    l.any (fun r => mem r.toBSet x) = l.any (fun r => slotsHas r.slots x) :=
  any_congr_mem (fun r hr => mem_rep_slots r ((slotsWf_iff r).mp (hl r hr)).bounded x)

end ParData

open ParData

/-- `ParOr` on well-formed operands, for every effective worker count `w ≥ 1`: a well-formed result holding exactly the members
of the operands -/
theorem Rep.parOr_spec (w : Nat) (hw : 1 ≤ w) (l : List Rep) (hl : ∀ r ∈ l, r.wf = true) :
    (Rep.parOr w l).wf = true ∧ ∀ x, mem (Rep.parOr w l).toBSet x = l.any (fun r => mem r.toBSet x) := by
  obtain ⟨hsub, hfil⟩ := slotV.filter_nonempty Rep.slots l
  have hkey : ∀ x, l.any (fun r => mem r.toBSet x) =
      (l.filter (fun r => !r.slots.isEmpty)).any (fun r => slotsHas r.slots x) := fun x =>
    (any_mem_eq_any_slots l hl x).trans (hfil (x / 65536) (x % 65536)).symm
  unfold Rep.parOr
  generalize l.filter (fun r => !r.slots.isEmpty) = l' at hkey hsub
  match l', hkey, hsub with
  | [], hkey, _ => exact ⟨rfl, fun x => by rw [hkey x]; rfl⟩
  | [a], hkey, hsub =>
    have ha := hl a (hsub a (by simp)).1
    refine ⟨by simp only []; rw [Rep.wf_clone]; exact ha, fun x => ?_⟩
    simp only []
    rw [Rep.toBSet_clone, hkey x, List.any_cons, List.any_nil, Bool.or_false]
    exact mem_rep_slots a ((slotsWf_iff a).mp ha).bounded x
  | a :: b :: t, hkey, hsub =>
    have hwf : ∀ r ∈ a :: b :: t, r.wf = true := fun r hr => hl r (hsub r hr).1
    simp only []
    split
    · refine ⟨Rep.wf_fastOr _ hwf, fun x => ?_⟩
      rw [Rep.toBSet_fastOr _ hwf, mem_unionL_sinc _ (sinc_map_toBSet _), List.any_map, hkey x]
      exact any_mem_eq_any_slots _ hwf x
    · obtain ⟨h1, h2⟩ := parOrSlots_spec w hw a b t (fun r hr => (slotsWf_iff r).mp (hwf r hr)) (hsub a (by simp)).2
      refine ⟨(slotsWf_iff _).mpr h1, fun x => ?_⟩
      rw [mem_rep_slots _ h1.bounded, hkey x]
      exact h2 x

/-- **`ParOr` computes the union**, whatever the worker count: for well-formed inputs and every effective worker count `w ≥ 1` the
representation returned by the modelled `ParOr` (empty operands filtered out; `Clone` / `FastOr` shortcuts; the chunk grid built
from `w`; per chunk the lazy union on the key range with the temporaries of `getFastContainerAtIndex` and the function
`repairAfterLazy`; chunks concatenated in order) denotes `BSet.unionL` of the inputs' sets -/
theorem Rep.toBSet_parOr (w : Nat) (hw : 1 ≤ w) (l : List Rep) (hl : ∀ r ∈ l, r.wf = true) :
    (Rep.parOr w l).toBSet = BSet.unionL (l.map Rep.toBSet) :=
  Rep.toBSet_eq_unionL (Rep.parOr_spec w hw l hl).2

/-- **`ParOr` returns a well-formed bitmap** for every worker count: keys strictly increasing across the chunk boundaries, no
deferred cardinality and no mis-typed container survives the per-chunk repair -/
theorem Rep.wf_parOr (w : Nat) (hw : 1 ≤ w) (l : List Rep) (hl : ∀ r ∈ l, r.wf = true) : (Rep.parOr w l).wf = true :=
  (Rep.parOr_spec w hw l hl).1

/-- **the set computed by `ParOr` does not depend on the worker count** (nor, by the protocol theorems of `RProofs/Par.lean`, on
the schedule): any two worker counts give representations of the same set -/
theorem Rep.parOr_worker_independent (w w' : Nat) (hw : 1 ≤ w) (hw' : 1 ≤ w') (l : List Rep) (hl : ∀ r ∈ l, r.wf = true) :
    (Rep.parOr w l).toBSet = (Rep.parOr w' l).toBSet := by
  rw [Rep.toBSet_parOr w hw l hl, Rep.toBSet_parOr w' hw' l hl]

/-! ## `ParHeapOr` and `ParAnd` -/

namespace ParData

/-! ### the work items, seen from the operands -/

theorem keysSorted_of_wf {r : Rep} (h : r.wf = true) : KeysSorted r := ((slotsWf_iff r).mp h).sorted

theorem group_wf (l : List Rep) (hl : ∀ r ∈ l, r.wf = true) (g : Nat × List Cont) (hg : g ∈ workItems l) :
    g.2 ≠ [] ∧ (∀ c ∈ g.2, c.wf = true) ∧ g.1 < 65536 := by
  obtain ⟨hne, hp⟩ := workItems_perm l (fun r hr => keysSorted_of_wf (hl r hr)) g hg
  refine ⟨hne, fun c hc => wf_of_mem_filterMap (slotsWf_map_slots hl) c (hp.mem_iff.mp hc), ?_⟩
  obtain ⟨c, hc⟩ := List.exists_mem_of_ne_nil _ hne
  obtain ⟨b, hb, hfc⟩ := List.mem_filterMap.mp (hp.mem_iff.mp hc)
  obtain ⟨s, hf, -⟩ := Option.map_eq_some_iff.1 hfc
  have hk : s.key = g.1 := by simpa using List.find?_some hf
  exact hk ▸ ((slotsWf_map_slots hl b hb).ok s (List.mem_of_find?_eq_some hf)).1

theorem group_any (l : List Rep) (hl : ∀ r ∈ l, r.wf = true) (g : Nat × List Cont) (hg : g ∈ workItems l) (x : Nat)
    (hk : g.1 = x / 65536) : g.2.any (·.has (x % 65536)) = l.any (fun r => slotsHas r.slots x) := by
  obtain ⟨_, hp⟩ := workItems_perm l (fun r hr => keysSorted_of_wf (hl r hr)) g hg
  rw [hk] at hp
  rw [hp.any_eq, any_findCont _ (slotsWf_map_slots hl) x, List.any_map]
  rfl

/-- the containers found under the key of `x` are one per operand and all hold `x` exactly when every operand holds `x` -/
theorem all_findCont (bs : List (List Slot)) (hbs : ∀ b ∈ bs, SlotsWf b) (x : Nat) :
    ((bs.filterMap (findCont (x / 65536))).length == bs.length &&
      (bs.filterMap (findCont (x / 65536))).all (·.has (x % 65536))) = bs.all (slotsHas · x) := by
  induction bs with
  | nil => rfl
  | cons b t ih =>
    rw [List.all_cons, slotsHas_eq_findCont b (hbs b (by simp)) x, ← ih (fun b' hb' => hbs b' (by simp [hb'])),
      List.filterMap_cons]
    cases findCont (x / 65536) b with
    | none =>
      -- an operand without the key: fewer containers than operands are found, whatever the tail gives
      have := List.length_filterMap_le (findCont (x / 65536)) t
      simp only [List.length_cons, Bool.false_and, Bool.and_eq_false_imp, beq_iff_eq]
      omega
    | some c =>
      simp only [List.length_cons, List.all_cons, Nat.add_right_cancel_iff, Bool.and_left_comm, BEq.beq]

theorem group_all (l : List Rep) (hl : ∀ r ∈ l, r.wf = true) (g : Nat × List Cont) (hg : g ∈ workItems l) (x : Nat)
    (hk : g.1 = x / 65536) :
    (g.2.length == l.length && g.2.all (·.has (x % 65536))) = l.all (fun r => slotsHas r.slots x) := by
  obtain ⟨_, hp⟩ := workItems_perm l (fun r hr => keysSorted_of_wf (hl r hr)) g hg
  rw [hk] at hp
  have e : l.length = (l.map (·.slots)).length := (List.length_map ..).symm
  rw [hp.length_eq, hp.all_eq, e, all_findCont _ (slotsWf_map_slots hl) x, List.all_map]
  rfl

/-- every work item reduced to at most one container, stored under the item's key -/
def assemble (l : List Rep) (red : Nat × List Cont → Option Cont) : List Slot :=
  (workItems l).filterMap fun g => (red g).map fun c => { key := g.1, c := c, flag := false }

/-- what a work item contributes: its reduction, if there is one, under its key -/
theorem piece_item {k : Nat} (hk : k < 65536) {o : Option Cont} (ho : optWf o) :
    Piece slotV Slot.Wf k (optHas o) (o.map fun c => ({ key := k, c := c, flag := false } : Slot)).toList := by
  cases o with
  | none => exact .nil fun _ => rfl
  | some c => exact .wf hk (ho c rfl) fun _ => rfl

/-- **Assembly of per-key reductions** (`ParHeapOr`, `ParAnd`).  If a reduction that yields a container yields a well-formed
one holding exactly the values `T` selects for its key, a reduction that yields nothing means `T` selects nothing for the key,
and `T` selects only values some operand holds, then the assembled bitmap is well-formed and holds exactly what `T` selects. -/
theorem items_spec {l : List Rep} (hl : ∀ r ∈ l, r.wf = true) {r : Rep} {red : Nat × List Cont → Option Cont}
    (e : r.slots = assemble l red) (T : Nat → Bool)
    (hred : ∀ g ∈ workItems l, optWf (red g) ∧ ∀ x, g.1 = x / 65536 → optHas (red g) (x % 65536) = T x)
    (hT : ∀ x, T x = true → ∃ r ∈ l, slotsHas r.slots x = true) : r.wf = true ∧ ∀ x, mem r.toBSet x = T x := by
  have hks := fun r hr => keysSorted_of_wf (hl r hr)
  -- the work items are a key-sorted list, each contributing a piece under its key
  let V : Keyed (Nat × List Cont) := ⟨(·.1), fun g => optHas (red g)⟩
  have pc : ∀ g, g ∈ workItems l → Piece slotV Slot.Wf (V.key g) (V.has g) _ := fun g hg =>
    piece_item (group_wf l hl g hg).2.2 (hred g hg).1
  have key : SlotsWf r.slots ∧ ∀ x, slotsHas r.slots x = T x := by
    rw [e, assemble, filterMap_eq_flatMap]
    refine ⟨⟨sorted_flatMap (Va := V) pc (workItems_sorted l hks) fun _ h => h, ok_flatMap (Va := V) pc fun _ h => h⟩,
      fun x => slotV.pieces_has _ _ (fun g => g.1 = x / 65536) (T x) _ _ (fun g hg => ?_) fun hx => ?_⟩
    · rw [(pc g hg).has, Bool.and_eq_true, beq_iff_eq]
      exact ⟨fun h => ⟨(hred g hg).2 x h.1 ▸ h.2, h.1⟩, fun h => ⟨h.2, ((hred g hg).2 x h.2).trans h.1⟩⟩
    · obtain ⟨r, hr, hrx⟩ := hT x hx
      obtain ⟨s, hs, hsx⟩ := List.any_eq_true.mp (show r.slots.any _ = true from hrx)
      obtain ⟨g, hg, hgs⟩ := workItems_complete l hks r hr s hs
      exact ⟨g, hg, hgs.trans (beq_iff_eq.1 (Bool.and_eq_true_iff.1 hsx).1)⟩
  exact ⟨(slotsWf_iff _).mpr key.1, fun x => by rw [mem_rep_slots _ key.1.bounded, key.2]⟩

end ParData

open ParData

/-- `ParHeapOr` on well-formed operands: a well-formed result holding exactly the members of the operands -/
theorem Rep.parHeapOr_spec (w : Nat) (l : List Rep) (hl : ∀ r ∈ l, r.wf = true) :
    (Rep.parHeapOr w l).wf = true ∧ ∀ x, mem (Rep.parHeapOr w l).toBSet x = l.any (fun r => mem r.toBSet x) := by
  match l, hl with
  | [], _ => exact ⟨rfl, fun x => rfl⟩
  | [a], hl => exact ⟨(Rep.wf_clone a).trans (hl a (by simp)), fun x => by rw [Rep.parHeapOr, Rep.toBSet_clone]; simp⟩
  | a :: b :: t, hl =>
    refine (items_spec hl (r := Rep.parHeapOr w (a :: b :: t)) (red := fun g => some (reduceOr g.2))
      (by simp only [Rep.parHeapOr, assemble]; rw [← List.filterMap_eq_map]; rfl)
      (fun x => (a :: b :: t).any fun r => slotsHas r.slots x) (fun g hg => ?_)
      (fun x hx => List.any_eq_true.mp hx)).imp_right fun h2 x => (h2 x).trans (any_mem_eq_any_slots _ hl x).symm
    have ⟨hne, hw, _⟩ := group_wf _ hl g hg
    exact ⟨optWf_some (reduceOr_spec g.2 hne hw).1, fun x hk => by
      rw [← group_any _ hl g hg x hk]; exact (reduceOr_spec g.2 hne hw).2 _⟩

/-- **`ParHeapOr` computes the union** for well-formed inputs — whatever order the container heap hands the containers of a key
out in, and whatever the worker count -/
theorem Rep.toBSet_parHeapOr (w : Nat) (l : List Rep) (hl : ∀ r ∈ l, r.wf = true) :
    (Rep.parHeapOr w l).toBSet = BSet.unionL (l.map Rep.toBSet) :=
  Rep.toBSet_eq_unionL (Rep.parHeapOr_spec w l hl).2

theorem Rep.wf_parHeapOr (w : Nat) (l : List Rep) (hl : ∀ r ∈ l, r.wf = true) : (Rep.parHeapOr w l).wf = true :=
  (Rep.parHeapOr_spec w l hl).1

/-- the worker count does not even enter the DATA of `ParHeapOr`: the representation itself is the same -/
theorem Rep.parHeapOr_worker_independent (w w' : Nat) (l : List Rep) : Rep.parHeapOr w l = Rep.parHeapOr w' l := by
  match l with
  | [] => rfl
  | [_] => rfl
  | _ :: _ :: _ => rfl

/-- `ParAnd` on well-formed operands: a well-formed result holding exactly what every operand holds (nothing, if there is no
operand) -/
theorem Rep.parAnd_spec (w : Nat) (l : List Rep) (hl : ∀ r ∈ l, r.wf = true) :
    (Rep.parAnd w l).wf = true ∧
      ∀ x, mem (Rep.parAnd w l).toBSet x = (!l.isEmpty && l.all (fun r => mem r.toBSet x)) := by
  match l, hl with
  | [], _ => exact ⟨rfl, fun x => rfl⟩
  | [a], hl => exact ⟨(Rep.wf_clone a).trans (hl a (by simp)), fun x => by rw [Rep.parAnd, Rep.toBSet_clone]; simp⟩
  | a :: b :: t, hl =>
    refine (items_spec hl (r := Rep.parAnd w (a :: b :: t))
      (red := fun g => if g.2.length == (a :: b :: t).length then reduceAnd g.2 else none)
      (by simp only [Rep.parAnd, assemble]; congr 1; funext g; split <;> rfl)
      (fun x => (a :: b :: t).all fun r => slotsHas r.slots x) (fun g hg => ?_)
      (fun x hx => ⟨a, by simp, List.all_eq_true.mp hx a (by simp)⟩)).imp_right fun h2 x => (h2 x).trans ?_
    · -- an item that lacks a container of some operand is skipped, the others are reduced
      cases hlen : g.2.length == (a :: b :: t).length with
      | false => exact ⟨optWf_none, fun x hk => by rw [← group_all _ hl g hg x hk, hlen]; rfl⟩
      | true =>
        have hsp := reduceAnd_spec g.2 (by simp only [beq_iff_eq, List.length_cons] at hlen; omega) (group_wf _ hl g hg).2.1
        exact ⟨hsp.wf, fun x hk => by rw [← group_all _ hl g hg x hk, hlen]; exact hsp.has _⟩
    · simp only [List.isEmpty_cons, Bool.not_false, Bool.true_and]
      exact (all_congr_mem fun r hr => mem_rep_slots r ((slotsWf_iff r).mp (hl r hr)).bounded x).symm

/-- **`ParAnd` computes the intersection** for well-formed inputs (`BSet.interL`: the empty list gives the empty bitmap, which is
what `ParAnd(w)` returns) — whatever order the container heap hands the containers of a key out in, and whatever the worker
count -/
theorem Rep.toBSet_parAnd (w : Nat) (l : List Rep) (hl : ∀ r ∈ l, r.wf = true) :
    (Rep.parAnd w l).toBSet = BSet.interL (l.map Rep.toBSet) :=
  Rep.toBSet_eq_interL (Rep.parAnd_spec w l hl).2

theorem Rep.wf_parAnd (w : Nat) (l : List Rep) (hl : ∀ r ∈ l, r.wf = true) : (Rep.parAnd w l).wf = true :=
  (Rep.parAnd_spec w l hl).1

/-- the order of the operands does not enter the set -/
theorem Rep.toBSet_parAnd_perm (w : Nat) (l l' : List Rep) (p : l.Perm l') (hl : ∀ r ∈ l, r.wf = true) :
    (Rep.parAnd w l).toBSet = (Rep.parAnd w l').toBSet :=
  canon_ext_sinc _ _ (sinc_rep _) (sinc_rep _) fun v => by
    rw [(Rep.parAnd_spec w l hl).2 v, (Rep.parAnd_spec w l' fun r hr => hl r (p.mem_iff.mpr hr)).2 v, p.isEmpty_eq,
      p.all_eq]

/-- the worker count does not enter the DATA of `ParAnd` -/
theorem Rep.parAnd_worker_independent (w w' : Nat) (l : List Rep) : Rep.parAnd w l = Rep.parAnd w' l := by
  match l with
  | [] => rfl
  | [_] => rfl
  | _ :: _ :: _ => rfl

end RModel.Impl
