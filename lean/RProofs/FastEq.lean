import RProofs.RepMut
import RProofs.ContEfficient
import RProofs.Rep64
import RProofs.Agg
import RModel.Driver.R64
import RModel.Driver.L2Xform
import RModel.Driver.Iter
/-!
The FAST functions of the compiled checker are the verified reference functions.

The compiled checker (`rdriver`) evaluates the abstraction of a stored representation with the one-pass functions
`Cont.toBSetFast` / `Rep.toBSetFast` / `Rep64.toBSetFast` (`RModel/Impl/Repr.lean`, `RModel/Impl/Rep64.lean`); the theorems of
`RProofs` are about the reference functions `Cont.toBSet` / `Rep.toBSet` / `Rep64.toBSet`.  This file proves the two families
EQUAL — for every container, every base, every representation, well-formed or not (no side condition is needed) — so the
fast functions leave the trusted base (DESIGN.md §2.8).

Also here: the other fast / reference pairs of the checker
* `Driver.unionAll` (pairwise merging) = `BSet.unionL` (the left fold the C11 theorems are about) on canonical operands,
* `Driver.interAll` = `BSet.interL` (literally the same equations),
* `Driver.l2WordsSet` = the abstraction of a bitmap container,
* `sortedValsBounds 0 v none []` (used by `renderL2` / `renderMany` of `Driver/Iter.lean`) = `Driver.ofVals v` for strictly
  increasing `v`,
* `Cont.toBSetFast.strictIncFast` = `strictInc`.
-/
namespace RModel.Impl
open RModel RModel.BSet RModel.Driver ContOps RepMut

/-! ### the array container: one pass over strictly increasing values -/

/-- the local copy of `strictInc` inside `Cont.toBSetFast` is `strictInc` -/
theorem strictIncFast_eq : ∀ (l : List Nat), Cont.toBSetFast.strictIncFast l = strictInc l
  | [] => rfl
  | [_] => rfl
  | a :: b :: t => by
    simp only [Cont.toBSetFast.strictIncFast, strictInc]
    rw [strictIncFast_eq (b :: t)]

/-! ### the three container kinds -/

theorem Cont.toBSetFast_arr (base : Nat) (vals : List Nat) :
    (Cont.arr vals).toBSetFast base = (Cont.arr vals).toBSet base := by
  simp only [Cont.toBSetFast]
  split
  · rename_i h
    rw [strictIncFast_eq] at h
    exact sortedValsBounds_none base vals (pairwise_of_strictInc vals h)
  · rfl

theorem Cont.toBSetFast_bmp (base : Nat) (card : Int) (words : List (BitVec 64)) :
    (Cont.bmp card words).toBSetFast base = (Cont.bmp card words).toBSet base := by
  simp only [Cont.toBSetFast, Cont.toBSet, wordsBoundsFast_flatten]
  simp

theorem Cont.toBSetFast_run (base : Nat) (runs : List (Nat × Nat)) :
    (Cont.run runs).toBSetFast base = (Cont.run runs).toBSet base := rfl

/-- **The fast abstraction of a container is the abstraction**: every container (any length of the word list, values in any
order, any runs), every base.  No hypothesis. -/
theorem Cont.toBSetFast_eq (base : Nat) (c : Cont) : c.toBSetFast base = c.toBSet base := by
  cases c with
  | arr vals => exact Cont.toBSetFast_arr base vals
  | bmp card words => exact Cont.toBSetFast_bmp base card words
  | run runs => exact Cont.toBSetFast_run base runs

theorem Cont.toBSetFast_eq_fun : Cont.toBSetFast = Cont.toBSet := by
  funext base c; exact Cont.toBSetFast_eq base c

/-- the instance used by `Rep.toBSetFast` -/
theorem Cont.toBSetFast_eq_key (key : Nat) (c : Cont) : c.toBSetFast (key * 65536) = c.toBSet (key * 65536) :=
  Cont.toBSetFast_eq _ c

/-! ### 32-bit and 64-bit representations -/

/-- **The fast abstraction of a 32-bit representation is the abstraction.**  No hypothesis. -/
theorem Rep.toBSetFast_eq (r : Rep) : r.toBSetFast = r.toBSet := by
  unfold Rep.toBSetFast Rep.toBSet
  congr 1
  exact List.map_congr_left (fun s _ => Cont.toBSetFast_eq _ s.c)

theorem Rep.toBSetFast_eq_fun : Rep.toBSetFast = Rep.toBSet := funext Rep.toBSetFast_eq

/-- **The fast abstraction of a 64-bit representation is the abstraction** (closed form of `Rep64.toBSetFast_eq`).
No hypothesis. -/
theorem Rep64.toBSetFast_eq' (r : Rep64) : r.toBSetFast = r.toBSet :=
  Rep64.toBSetFast_eq r (fun b _ => Rep.toBSetFast_eq b.bm)

theorem Rep64.toBSetFast_eq_fun : Rep64.toBSetFast = Rep64.toBSet := funext Rep64.toBSetFast_eq'

/-! ### further uses of the fast functions in the checker -/

/-- `l2WordsSet` (`Driver/L2Xform.lean`, the set of a dense word list) is the abstraction of a bitmap container -/
theorem l2WordsSet_eq (c : Int) (ws : List (BitVec 64)) : l2WordsSet ws = (Cont.bmp c ws).toBSet 0 := by
  unfold l2WordsSet
  exact Cont.toBSetFast_bmp 0 c ws

theorem toBSet_arr_zero (vals : List Nat) : (Cont.arr vals).toBSet 0 = ofVals vals := by
  simp only [Cont.toBSet, ofVals, Nat.zero_add]

/-- the boundary list `renderL2` / `renderMany` (`Driver/Iter.lean`) digest is the set of the values -/
theorem svb_eq_ofVals (vals : List Nat) (h : Cont.toBSetFast.strictIncFast vals = true) :
    sortedValsBounds 0 vals none [] = ofVals vals := by
  rw [strictIncFast_eq] at h
  rw [sortedValsBounds_none 0 vals (pairwise_of_strictInc vals h), toBSet_arr_zero]

theorem renderMany_eq (vals : List Nat) :
    renderMany vals = if strictInc vals then countDigest vals.length (ofVals vals) else "unsorted" := by
  unfold renderMany
  rw [strictIncFast_eq]
  split
  · rename_i h; rw [svb_eq_ofVals vals (by rw [strictIncFast_eq]; exact h)]
  · rfl

theorem renderL2_eq (vals : List Nat) (desc : Bool) :
    renderL2 vals desc =
      (let v := if desc then vals.reverse else vals
       if strictInc v then countDigest v.length (ofVals v) else "unord " ++ toString v.length) := by
  unfold renderL2
  simp only [strictIncFast_eq]
  generalize (if desc = true then vals.reverse else vals) = v
  split
  · rename_i h; rw [svb_eq_ofVals _ (by rw [strictIncFast_eq]; exact h)]
  · rfl

end RModel.Impl

/-! ### the n-ary glue: pairwise merging = left fold -/
namespace RModel.Driver
open RModel RModel.BSet

/-- `unionAll` (balanced pairwise merging, what the checker runs for `fastor64`, `ofVals`, the abstraction functions) is the
left fold `unionL` (what the C11 theorems are about) when the operands are boundary lists (strictly increasing).
The hypothesis is needed: `union` of unsorted lists is not associative. -/
theorem unionAll_eq_unionL (l : List BSet) (hl : ∀ s ∈ l, SInc s) : unionAll l = unionL l := by
  have hnil : SInc ([] : BSet) := List.Pairwise.nil
  refine canon_ext_sinc _ _ (sinc_unionAll l hl) (sinc_foldl_union l [] hnil hl) (fun x => ?_)
  rw [mem_unionAll l hl x]
  unfold unionL
  rw [mem_foldl_union l [] hnil hl x]
  simp [mem]

/-- `interAll` (`Driver/R64.lean`) is `interL` -/
theorem interAll_eq_interL : ∀ (l : List BSet), interAll l = interL l
  | [] => rfl
  | _ :: _ => rfl

end RModel.Driver
