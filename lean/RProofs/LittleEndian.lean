import RModel.Impl.Serial64
/-!
Bytes as numbers: what the primitive writers (`le16`, `le32`, `le64`) and readers (`takeN`, `rd16`, `rd32`, `rd64`, `bytesTo16s`,
`bytesToWords`, `pairs16`) of `Impl/Serial.lean` (`rd64`: `Impl/Serial64.lean`) do, before any container or header is in
sight.

`leVal l` is the number a byte list denotes, least significant byte first; it is injective on lists of one length.  A writer of
width `k` writes the `k`-byte list of value `n % 256 ^ k`; every reader is `rdLE k` — take `k` bytes, return their value — for
`k = 2, 4, 8` (`rd16_eq`, `rd32_eq`, `rd64_eq`).  What a format file needs of a primitive read — it accepts exactly the lists
`l ++ r` with `l` of length `k`, ignores what follows, returns a value below `256 ^ k`, reads back what a writer wrote, and is two
narrower reads one after the other — is said once for `rdLE` (`rdLE_eq_some_iff`, `rdLE_ext`, `rdLE_lt`, `rdLE_writer`, `rdLE_add`).
-/
namespace RModel.Impl

/-! ### little-endian values -/

@[simp] theorem le16_length (n : Nat) : (le16 n).length = 2 := rfl
@[simp] theorem le32_length (n : Nat) : (le32 n).length = 4 := rfl
@[simp] theorem le64_length (n : Nat) : (le64 n).length = 8 := rfl

def leVal : Bytes → Nat
  | [] => 0
  | b :: t => b.toNat + 256 * leVal t

theorem leVal_append (a t : Bytes) : leVal (a ++ t) = leVal a + 256 ^ a.length * leVal t := by
  induction a with
  | nil => simp [leVal]
  | cons b a ih =>
    simp only [List.cons_append, leVal, ih, List.length_cons, Nat.pow_succ]
    generalize 256 ^ a.length = P
    rw [Nat.mul_add, ← Nat.mul_assoc, Nat.mul_comm 256 P, Nat.add_assoc]

theorem leVal_lt (l : Bytes) : leVal l < 256 ^ l.length := by
  induction l with
  | nil => simp [leVal]
  | cons b t ih => have := b.toNat_lt; simp only [leVal, List.length_cons, Nat.pow_succ]; omega

theorem leVal_le16 (n : Nat) : leVal (le16 n) = n % 65536 := by
  simp only [le16, leVal, UInt8.toNat_ofNat']; omega

theorem leVal_le32 (n : Nat) : leVal (le32 n) = n % 4294967296 := by
  rw [le32, leVal_append, leVal_le16, leVal_le16, le16_length]; omega

theorem leVal_le64 (n : Nat) : leVal (le64 n) = n % 18446744073709551616 := by
  rw [le64, leVal_append, leVal_le32, leVal_le32, le32_length]; omega

theorem leVal_inj : ∀ {l l' : Bytes}, l.length = l'.length → leVal l = leVal l' → l = l'
  | [], [], _, _ => rfl
  | a :: l, b :: l', hl, h => by
    have := a.toNat_lt; have := b.toNat_lt
    simp only [leVal] at h
    rw [UInt8.toNat_inj.mp (show a.toNat = b.toNat by omega),
      leVal_inj (Nat.succ.inj hl) (show leVal l = leVal l' by omega)]

theorem writer_leVal {wr : Nat → Bytes} {k : Nat} (hlen : ∀ n, (wr n).length = k) (hval : ∀ n, leVal (wr n) = n % 256 ^ k)
    (l : Bytes) (h : l.length = k) : wr (leVal l) = l :=
  leVal_inj ((hlen _).trans h.symm) (by rw [hval, Nat.mod_eq_of_lt (h ▸ leVal_lt l)])

theorem le16_leVal (l : Bytes) (h : l.length = 2) : le16 (leVal l) = l := writer_leVal le16_length leVal_le16 l h
theorem le32_leVal (l : Bytes) (h : l.length = 4) : le32 (leVal l) = l := writer_leVal le32_length leVal_le32 l h
theorem le64_leVal (l : Bytes) (h : l.length = 8) : le64 (leVal l) = l := writer_leVal le64_length leVal_le64 l h

/-! ### taking `k` bytes -/

theorem takeN_append (a t : Bytes) (k : Nat) (h : a.length = k) : takeN k (a ++ t) = some (a, t) := by
  subst h; simp [takeN]

theorem takeN_some {k : Nat} {l x t : Bytes} (h : takeN k l = some (x, t)) :
    x = l.take k ∧ t = l.drop k ∧ k ≤ l.length := by
  unfold takeN at h
  split at h
  · cases h; exact ⟨rfl, rfl, ‹_›⟩
  · cases h

theorem takeN_eq_some_iff {k : Nat} {l x t : Bytes} : takeN k l = some (x, t) ↔ l = x ++ t ∧ x.length = k := by
  constructor
  · intro h
    obtain ⟨rfl, rfl, hle⟩ := takeN_some h
    exact ⟨(List.take_append_drop k l).symm, List.length_take_of_le hle⟩
  · rintro ⟨rfl, h⟩
    exact takeN_append x t k h

theorem takeN_drop {L : Bytes} {p k : Nat} (h : p + k ≤ L.length) :
    takeN k (L.drop p) = some ((L.drop p).take k, L.drop (p + k)) := by
  unfold takeN
  rw [if_pos (by rw [List.length_drop]; omega), List.drop_drop]

theorem drop_len {L : Bytes} {p k : Nat} (h : k ≤ (L.drop p).length) (hk : 0 < k) : p + k ≤ L.length := by
  simp only [List.length_drop] at h; omega

theorem drop_app {L a t : Bytes} {p : Nat} (h : L.drop p = a ++ t) : L.drop (p + a.length) = t := by
  rw [← List.drop_drop, h, List.drop_left]

/-! ### reading `k` bytes as a number -/

def rdLE (k : Nat) (bs : Bytes) : Option (Nat × Bytes) := (takeN k bs).map fun (p, t) => (leVal p, t)

theorem rd16_eq : ∀ bs : Bytes, rd16 bs = rdLE 2 bs
  | [] | [_] => rfl
  | a :: b :: t => by simp [rd16, rdLE, takeN, leVal]

theorem rd32_eq : ∀ bs : Bytes, rd32 bs = rdLE 4 bs
  | [] | [_] | [_, _] | [_, _, _] => rfl
  | a :: b :: c :: d :: t => by simp [rd32, rdLE, takeN, leVal]; omega

theorem rdLE_eq_some_iff {k : Nat} {bs : Bytes} {v : Nat} {r : Bytes} :
    rdLE k bs = some (v, r) ↔ ∃ l, l.length = k ∧ bs = l ++ r ∧ v = leVal l := by
  simp only [rdLE, Option.map_eq_some_iff, Prod.exists, Prod.mk.injEq, takeN_eq_some_iff]
  exact ⟨fun ⟨l, _, ⟨hb, hl⟩, hv, ht⟩ => ⟨l, hl, ht ▸ hb, hv.symm⟩, fun ⟨l, hl, hb, hv⟩ => ⟨l, r, ⟨hb, hl⟩, hv.symm, rfl⟩⟩

theorem rdLE_append {k : Nat} {l : Bytes} (h : l.length = k) (t : Bytes) : rdLE k (l ++ t) = some (leVal l, t) :=
  rdLE_eq_some_iff.mpr ⟨l, h, rfl, rfl⟩

theorem rdLE_ext {k : Nat} {bs : Bytes} {v : Nat} {r : Bytes} (h : rdLE k bs = some (v, r)) (t : Bytes) :
    rdLE k (bs ++ t) = some (v, r ++ t) := by
  obtain ⟨l, hl, rfl, rfl⟩ := rdLE_eq_some_iff.mp h
  rw [List.append_assoc, rdLE_append hl]

theorem rdLE_lt {k : Nat} {bs : Bytes} {v : Nat} {r : Bytes} (h : rdLE k bs = some (v, r)) :
    v < 256 ^ k ∧ bs.length = r.length + k := by
  obtain ⟨l, rfl, rfl, rfl⟩ := rdLE_eq_some_iff.mp h
  exact ⟨leVal_lt l, by rw [List.length_append, Nat.add_comm]⟩

theorem rdLE_writer {wr : Nat → Bytes} {k : Nat} (hlen : ∀ n, (wr n).length = k) (hval : ∀ n, leVal (wr n) = n % 256 ^ k)
    (n : Nat) (h : n < 256 ^ k) (t : Bytes) : rdLE k (wr n ++ t) = some (n, t) := by
  rw [rdLE_append (hlen n), hval, Nat.mod_eq_of_lt h]

theorem rdLE_add (j k : Nat) (bs : Bytes) :
    rdLE (j + k) bs =
      match rdLE j bs with
      | none => none
      | some (lo, bs1) =>
        match rdLE k bs1 with
        | none => none
        | some (hi, bs2) => some (lo + 256 ^ j * hi, bs2) := by
  unfold rdLE takeN
  by_cases hj : j ≤ bs.length
  · rw [if_pos hj]
    by_cases hk : j + k ≤ bs.length
    · have e : (bs.take (j + k)) = bs.take j ++ (bs.drop j).take k := by rw [List.take_add]
      rw [if_pos hk]
      simp only [Option.map_some, List.length_drop, if_pos (show k ≤ bs.length - j by omega), e, leVal_append,
        List.length_take_of_le hj, List.drop_drop]
    · rw [if_neg hk]
      simp only [Option.map_some, List.length_drop, if_neg (show ¬ k ≤ bs.length - j by omega), Option.map_none]
  · rw [if_neg hj, if_neg (by omega)]; rfl

theorem rd64_eq (bs : Bytes) : rd64 bs = rdLE 8 bs := by
  rw [rdLE_add 4 4, rd64, rd32_eq]
  cases rdLE 4 bs with
  | none => rfl
  | some p => simp only [rd32_eq]; rfl

theorem rd16_le16 (n : Nat) (h : n < 65536) (t : Bytes) : rd16 (le16 n ++ t) = some (n, t) :=
  rd16_eq _ ▸ rdLE_writer le16_length leVal_le16 n h t

theorem rd32_le32 (n : Nat) (h : n < 4294967296) (t : Bytes) : rd32 (le32 n ++ t) = some (n, t) :=
  rd32_eq _ ▸ rdLE_writer le32_length leVal_le32 n h t

theorem rd64_le64 (n : Nat) (h : n < 18446744073709551616) (t : Bytes) : rd64 (le64 n ++ t) = some (n, t) :=
  rd64_eq _ ▸ rdLE_writer le64_length leVal_le64 n h t

theorem rd32_le16_le16 (a b : Nat) (ha : a < 65536) (hb : b < 65536) (t : Bytes) :
    rd32 (le16 a ++ (le16 b ++ t)) = some (a + 65536 * b, t) := by
  rw [rd32_eq, rdLE_add 2 2, ← rd16_eq, rd16_le16 a ha]
  simp only [← rd16_eq, rd16_le16 b hb]

/-! ### at a position of a byte string

The independent readings of the formats index a byte array; reading at byte `i` is reading at the head of what is left after
dropping `i` bytes. -/

theorem rdLE_one : ∀ l : Bytes, (rdLE 1 l).map (·.1) = l.head?.map (·.toNat)
  | [] => rfl
  | x :: t => by simp [rdLE, takeN, leVal]

/-- only the value of a read at position `i`: wider from narrower, as the accessors of a specification are written -/
theorem rdLE_add_at (j k : Nat) (L : Bytes) (i : Nat) :
    (rdLE (j + k) (L.drop i)).map (·.1) =
      match (rdLE j (L.drop i)).map (·.1), (rdLE k (L.drop (i + j))).map (·.1) with
      | some lo, some hi => some (lo + 256 ^ j * hi)
      | _, _ => none := by
  rw [rdLE_add]
  cases h : rdLE j (L.drop i) with
  | none => rfl
  | some p =>
    obtain ⟨lo, bs1⟩ := p
    obtain ⟨l, hl, hb, -⟩ := rdLE_eq_some_iff.mp h
    rw [← hl, drop_app hb]
    dsimp only
    cases rdLE k bs1 <;> rfl

theorem rdLE_at_some {k : Nat} {L : Bytes} {i v : Nat} (hk : 0 < k) (h : (rdLE k (L.drop i)).map (·.1) = some v) :
    rdLE k (L.drop i) = some (v, L.drop (i + k)) ∧ i + k ≤ L.length := by
  obtain ⟨⟨v', r⟩, hr, rfl⟩ := Option.map_eq_some_iff.mp h
  obtain ⟨l, rfl, hb, -⟩ := rdLE_eq_some_iff.mp hr
  have hle := congrArg List.length hb
  rw [List.length_drop, List.length_append] at hle
  exact ⟨by rw [hr, drop_app hb], by omega⟩

/-! ### lists of 16-bit words, of pairs of them, and of 64-bit words -/

theorem bytesTo16s_append : ∀ (l : Bytes), l.length = 2 → ∀ t, bytesTo16s (l ++ t) = leVal l :: bytesTo16s t
  | [_, _], _, _ => rfl

theorem bytesToWords_append : ∀ (l : Bytes), l.length = 8 → ∀ t,
    bytesToWords (l ++ t) = BitVec.ofNat 64 (leVal l) :: bytesToWords t
  | [_, _, _, _, _, _, _, _], _, _ => by
    simp only [List.cons_append, List.nil_append, bytesToWords, leVal, Nat.mul_zero, Nat.add_zero]

theorem bytesTo16s_le16 (vals : List Nat) (h : ∀ v ∈ vals, v < 65536) :
    bytesTo16s (vals.flatMap le16) = vals := by
  induction vals with
  | nil => rfl
  | cons a t ih =>
    rw [List.flatMap_cons, bytesTo16s_append _ rfl, leVal_le16, Nat.mod_eq_of_lt (h a (by simp)),
      ih fun v hv => h v (List.mem_cons_of_mem _ hv)]

theorem pairs16_le16 {α} (f g : α → Nat) (l : List α) (h : ∀ a ∈ l, f a < 65536 ∧ g a < 65536) :
    pairs16 (bytesTo16s (l.flatMap fun a => le16 (f a) ++ le16 (g a))) = l.map fun a => (f a, g a) := by
  induction l with
  | nil => rfl
  | cons a t ih =>
    have ha := h a (by simp)
    rw [List.flatMap_cons, List.append_assoc, bytesTo16s_append _ rfl, bytesTo16s_append _ rfl, leVal_le16, leVal_le16,
      Nat.mod_eq_of_lt ha.1, Nat.mod_eq_of_lt ha.2, pairs16, ih fun v hv => h v (List.mem_cons_of_mem _ hv), List.map_cons]

theorem word_of_bytes (w : BitVec 64) (t : Bytes) :
    bytesToWords (le64 w.toNat ++ t) = w :: bytesToWords t := by
  rw [bytesToWords_append _ rfl, leVal_le64, Nat.mod_eq_of_lt w.isLt, BitVec.ofNat_toNat, BitVec.setWidth_eq]

theorem bytesToWords_le64 (words : List (BitVec 64)) :
    bytesToWords (words.flatMap fun w => le64 w.toNat) = words := by
  induction words with
  | nil => rfl
  | cons a t ih => rw [List.flatMap_cons, word_of_bytes, ih]

theorem le64_bytesToWords : ∀ (n : Nat) (p : Bytes), p.length = 8 * n →
    (bytesToWords p).flatMap (fun w => le64 w.toNat) = p
  | 0, p, h => by
    have : p = [] := List.eq_nil_of_length_eq_zero (by omega)
    subst this; rfl
  | n + 1, p, h => by
    have l1 : (p.take 8).length = 8 := by rw [List.length_take]; omega
    have l2 : (p.drop 8).length = 8 * n := by rw [List.length_drop]; omega
    have hv := leVal_lt (p.take 8)
    rw [l1] at hv
    rw [← List.take_append_drop 8 p, bytesToWords_append _ l1, List.flatMap_cons, BitVec.toNat_ofNat, Nat.mod_eq_of_lt hv,
      le64_leVal _ l1, le64_bytesToWords n _ l2]

theorem bytesTo16s_length : ∀ (n : Nat) (l : Bytes), l.length = 2 * n → (bytesTo16s l).length = n
  | 0, l, h => by have : l = [] := List.eq_nil_of_length_eq_zero (by omega); subst this; rfl
  | n + 1, a :: b :: t, h => by
    have : t.length = 2 * n := by simp at h; omega
    simp [bytesTo16s, bytesTo16s_length n t this]

theorem pairs16_length : ∀ (n : Nat) (l : List Nat), l.length = 2 * n → (pairs16 l).length = n
  | 0, l, h => by have : l = [] := List.eq_nil_of_length_eq_zero (by omega); subst this; rfl
  | n + 1, a :: b :: t, h => by
    have : t.length = 2 * n := by simp at h; omega
    simp [pairs16, pairs16_length n t this]

theorem bytesToWords_length : ∀ (n : Nat) (bs : Bytes), bs.length = 8 * n → (bytesToWords bs).length = n
  | 0, bs, h => by
    have : bs = [] := List.eq_nil_of_length_eq_zero (by omega)
    subst this; rfl
  | n + 1, bs, h => by
    rw [← List.take_append_drop 8 bs, bytesToWords_append _ (by rw [List.length_take]; omega), List.length_cons,
      bytesToWords_length n _ (by rw [List.length_drop]; omega)]

theorem bytesTo16s_lt : ∀ (bs : Bytes), ∀ v ∈ bytesTo16s bs, v < 65536
  | [] => by simp [bytesTo16s]
  | [_] => by simp [bytesTo16s]
  | a :: b :: t => by
    intro v hv
    simp only [bytesTo16s, List.mem_cons] at hv
    rcases hv with rfl | hv
    · have := a.toNat_lt; have := b.toNat_lt; omega
    · exact bytesTo16s_lt t v hv

theorem pairs16_mem : ∀ (l : List Nat) (p : Nat × Nat), p ∈ pairs16 l → p.1 ∈ l ∧ p.2 ∈ l
  | [], p => by simp [pairs16]
  | [_], p => by simp [pairs16]
  | a :: b :: t, p => by
    intro hp
    simp only [pairs16, List.mem_cons] at hp
    rcases hp with rfl | hp
    · simp
    · have := pairs16_mem t p hp
      simp [this.1, this.2]

theorem pairs16_bytes_lt (bs : Bytes) (p : Nat × Nat) (hp : p ∈ pairs16 (bytesTo16s bs)) :
    p.1 < 65536 ∧ p.2 < 65536 :=
  have := pairs16_mem _ p hp
  ⟨bytesTo16s_lt bs _ this.1, bytesTo16s_lt bs _ this.2⟩

end RModel.Impl
