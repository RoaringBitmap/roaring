import RProofs.ContOps
import RProofs.Util.List
import RModel.Impl.LazyOps
import RModel.Impl.ParData
/-!
The container kernels of the many-way aggregates (`RModel/Impl/LazyOps.lean`): the lazy unions `lazyOR2` / `lazyIOR2` with their
deferred cached cardinality, the promotion of a run receiver, `repairCont`, the in-place `aggIand2` (Go's `iand`: on well-formed
operands it returns the container `and2` returns, `aggIand2_eq_and2`), and what `AndAny` builds per
key (`aggIor2` into a scratch container, `oredOf`, `andAnyFix`).

Between the lazy steps of `FastOr` a container need only be lazy (`Cont.lazyOk`: a bitmap container may carry the deferred
cardinality `-1`). Every well-formed container is lazy, `lazyOR2` of well-formed operands is, and `lazyIOR2` keeps a receiver
lazy even when it starts from a 1024-word non-empty bitmap container with a wrong cached cardinality (the doubled one of
`runToBitmapTemp`); each has the members of the union (`Cont.LazyHolds`). `repairCont` turns a lazy container into a well-formed
one with the same members. The scratch container of `AndAny` need only be `Cont.OrOk`.

The parallel aggregates (`RModel/Impl/ParData.lean`) run the same kernels on the temporaries of `getFastContainerAtIndex`
(`toBitmapFast`), the static `lazyOR2` included; there `bitmap.lazyOR(run)` may leave an exact cardinality of any size, so a
container of a chunk need only be `ParData.ParOk` (`Cont.ParHolds`) until the function `repairAfterLazy` (`repairContPar`) has
seen it. `reduceOr` is the worker of `ParHeapOr`, `reduceAnd` (with its loop `andLoop`) that of `ParAnd`.
-/
open RModel.Util
namespace RModel.Impl
open RModel RModel.BSet RModel.Driver ContOps RepOps LazyOps

/-! ### the lazy invariant -/

theorem lazyOk_arr {vs : List Nat} : (Cont.arr vs).lazyOk = (Cont.arr vs).wf := rfl

theorem lazyOk_run {rs : List (Nat × Nat)} : (Cont.run rs).lazyOk = (Cont.run rs).wf := rfl

theorem lazyOk_bmp_iff {c : Int} {ws : List (BitVec 64)} :
    (Cont.bmp c ws).lazyOk = true ↔
      ws.length = 1024 ∧ ((c = -1 ∧ 0 < wordsCard ws) ∨ (c = (wordsCard ws : Int) ∧ 4096 < wordsCard ws)) := by
  simp only [Cont.lazyOk, invalidCard, Bool.and_eq_true, Bool.or_eq_true, beq_iff_eq, decide_eq_true_eq]

theorem lazyOk_of_wf {c : Cont} (h : c.wf = true) : c.lazyOk = true := by
  cases c with
  | arr vs => exact h
  | run rs => exact h
  | bmp k ws =>
    obtain ⟨hl, hk, hgt⟩ := wf_bmp h
    exact lazyOk_bmp_iff.mpr ⟨hl, Or.inr ⟨hk, hgt⟩⟩

theorem lazyOk_deferred {ws : List (BitVec 64)} (hl : ws.length = 1024) {y : Nat} (hy : testBit ws y = true) :
    (Cont.bmp invalidCard ws).lazyOk = true :=
  lazyOk_bmp_iff.mpr ⟨hl, Or.inl ⟨rfl, wordsCard_pos hy⟩⟩

/-- what the in-place kernel accepts as a receiver: a lazy container, or a 1024-word non-empty bitmap container with ANY
cached cardinality (the temporary of `runContainer16.toBitmapContainer`) -/
def Cont.LazyRecv (c : Cont) : Prop :=
  c.lazyOk = true ∨ ∃ k ws, c = .bmp k ws ∧ ws.length = 1024 ∧ 0 < wordsCard ws

theorem lazyRecv_of_lazyOk {c : Cont} (h : c.lazyOk = true) : c.LazyRecv := Or.inl h

theorem lazyRecv_bmp {k : Int} {ws : List (BitVec 64)} (h : (Cont.bmp k ws).LazyRecv) :
    ws.length = 1024 ∧ 0 < wordsCard ws := by
  rcases h with h | ⟨k', ws', he, hl, hp⟩
  · obtain ⟨hl, h2⟩ := lazyOk_bmp_iff.mp h
    refine ⟨hl, ?_⟩
    rcases h2 with ⟨_, hp⟩ | ⟨_, hp⟩ <;> omega
  · cases he; exact ⟨hl, hp⟩

theorem lazyRecv_arr {vs : List Nat} (h : (Cont.arr vs).LazyRecv) : (Cont.arr vs).wf = true := by
  rcases h with h | ⟨k', ws', he, _, _⟩
  · exact h
  · cases he

theorem lazyRecv_run {rs : List (Nat × Nat)} (h : (Cont.run rs).LazyRecv) : (Cont.run rs).wf = true := by
  rcases h with h | ⟨k', ws', he, _, _⟩
  · exact h
  · cases he

theorem exists_has_of_lazyRecv {c : Cont} (h : c.LazyRecv) : ∃ y, c.has y = true := by
  cases c with
  | arr vs => exact wf_has_member _ (lazyRecv_arr h)
  | run rs => exact wf_has_member _ (lazyRecv_run h)
  | bmp k ws => exact exists_testBit_of_card_pos (lazyRecv_bmp h).2

theorem exists_has_of_lazyOk {c : Cont} (h : c.lazyOk = true) : ∃ y, c.has y = true :=
  exists_has_of_lazyRecv (lazyRecv_of_lazyOk h)

theorem bounded_of_lazyRecv {c : Cont} (h : c.LazyRecv) : c.Bounded := by
  cases c with
  | arr vs => exact bounded_of_wf (lazyRecv_arr h)
  | run rs => exact bounded_of_wf (lazyRecv_run h)
  | bmp k ws => intro y hy; exact testBit_lt (lazyRecv_bmp h).1 hy

theorem bounded_of_lazyOk {c : Cont} (h : c.lazyOk = true) : c.Bounded :=
  bounded_of_lazyRecv (lazyRecv_of_lazyOk h)

/-! ### `Cont.HoldsIf`: how the result of a lazy kernel is judged -/

/-- `r` has exactly the values satisfying `p`, and satisfies `I` as soon as there is such a value: what the result of a lazy
kernel is shown to be (its deferred cardinality says nothing, so that it is not empty is known from `p` only) -/
structure Cont.HoldsIf (I : Cont → Prop) (r : Cont) (p : Nat → Bool) : Prop where
  has : ∀ x, r.has x = p x
  ok : ∀ y, p y = true → I r

theorem Cont.HoldsIf.congr {I : Cont → Prop} {r : Cont} {p q : Nat → Bool} (h : r.HoldsIf I p) (e : ∀ x, p x = q x) :
    r.HoldsIf I q :=
  ⟨fun x => (h.has x).trans (e x), fun y hy => h.ok y ((e y).trans hy)⟩

theorem Cont.HoldsIf.mono {I J : Cont → Prop} {r : Cont} {p : Nat → Bool} (h : r.HoldsIf I p) (hIJ : ∀ {c}, I c → J c) :
    r.HoldsIf J p :=
  ⟨h.has, fun y hy => hIJ (h.ok y hy)⟩

/-- a union with a well-formed (hence non-empty) argument has a value -/
theorem Cont.HoldsIf.ok_of_wf {I : Cont → Prop} {r b : Cont} {q : Nat → Bool} (h : r.HoldsIf I fun x => q x || b.has x)
    (hb : b.wf = true) : I r :=
  have ⟨y, hy⟩ := wf_has_member _ hb
  h.ok y (by rw [hy, Bool.or_true])

abbrev Cont.LazyHolds : Cont → (Nat → Bool) → Prop := Cont.HoldsIf (·.lazyOk = true)

theorem Cont.Holds.lazy {r : Cont} {p : Nat → Bool} (h : r.Holds p) : r.LazyHolds p :=
  ⟨h.has, fun y hy => lazyOk_of_wf (h.nw.wf_of_has (y := y) (by rw [h.has, hy]))⟩

theorem lazyHolds_deferred {ws : List (BitVec 64)} {p : Nat → Bool} (h : WordsAre ws p) :
    (Cont.bmp invalidCard ws).LazyHolds p :=
  ⟨h.mem, fun y hy => lazyOk_deferred h.len (y := y) (by rw [h.mem, hy])⟩

/-! ### `lazyOR2` -/

theorem lazyOR2_run (rs : List (Nat × Nat)) (b : Cont) : (Cont.run rs).lazyOR2 b = (Cont.run rs).or2 b := by
  cases b <;> rfl

theorem holds_union2by2 {xs ys : List Nat} (hxs : ArrWf xs) (hys : ArrWf ys) (hlen : (ArrayC.union2by2 xs ys).length ≤ 4096) :
    (Cont.arr (ArrayC.union2by2 xs ys)).Holds fun x => xs.contains x || ys.contains x :=
  have ⟨hso, hbd, hm⟩ := union2by2_wf hxs hys
  .arr ⟨hlen, hso, hbd⟩ hm

theorem lazyOR2_holds (a b : Cont) (ha : a.wf = true) (hb : b.wf = true) :
    (a.lazyOR2 b).LazyHolds fun x => a.has x || b.has x := by
  cases a with
  | arr xs =>
    have hxs := wf_arr ha
    cases b with
    | arr ys =>
      have hys := wf_arr hb
      simp only [Cont.lazyOR2]
      split <;> rename_i hsum
      · exact lazyHolds_deferred (((wordsAre_ofArr hys.bound).setBits hxs.bound).congr fun x => Bool.or_comm _ _)
      · refine (holds_union2by2 hxs hys ?_).lazy
        have := ArrayC.length_union2by2_le xs ys
        simp only [lazyLowerBound] at hsum
        omega
    | bmp c ws =>
      exact lazyHolds_deferred (((wordsAre_of_wf hb).setBits hxs.bound).congr fun x => Bool.or_comm _ _)
    | run rs => exact (or2_holds _ _ ha hb).lazy
  | bmp c ws =>
    cases b with
    | arr ys =>
      exact lazyHolds_deferred ((wordsAre_of_wf ha).setBits (wf_arr hb).bound)
    | bmp c2 ws2 =>
      exact lazyHolds_deferred ((wordsAre_of_wf ha).or (wordsAre_of_wf hb))
    | run rs => exact (or2_holds _ _ ha hb).lazy
  | run rs => rw [lazyOR2_run]; exact (or2_holds _ _ ha hb).lazy

theorem has_lazyOR2 (a b : Cont) (ha : a.wf = true) (hb : b.wf = true) (x : Nat) :
    (a.lazyOR2 b).has x = (a.has x || b.has x) := (lazyOR2_holds a b ha hb).has x

theorem lazyOk_lazyOR2 (a b : Cont) (ha : a.wf = true) (hb : b.wf = true) : (a.lazyOR2 b).lazyOk = true :=
  (lazyOR2_holds a b ha hb).ok_of_wf hb

/-! ### `lazyIOR2` -/

theorem lazyIOR2_run (rs : List (Nat × Nat)) (b : Cont) : (Cont.run rs).lazyIOR2 b = (Cont.run rs).or2 b := by
  cases b <;> rfl

theorem holds_arrIorRun {xs : List Nat} {rs : List (Nat × Nat)} (ha : (Cont.arr xs).wf = true) (hb : (Cont.run rs).wf = true) :
    (arrIorRun xs rs).Holds fun x => xs.contains x || inRuns rs x := by
  have hxs := wf_arr ha
  have hrs := wf_run hb
  simp only [arrIorRun]
  split <;> rename_i hc
  · simp only [Bool.and_eq_true, decide_eq_true_eq] at hc
    refine .arr ⟨?_, ArrayC.sorted_union2by2 _ _ hxs.sorted (sorted_expandRuns rs hrs.sep),
      bound_union2by2 hxs.bound fun v h => lt_of_inRuns hrs.bound ((mem_expandRuns rs v).mp h)⟩ fun x => ?_
    · have := ArrayC.length_union2by2_le xs (expandRuns rs)
      rw [length_expandRuns] at this
      simp only [arrayMax] at hc
      omega
    · simp only [has_arr, List.contains_eq_mem, ArrayC.mem_union2by2, Bool.decide_or, mem_expandRuns]
      cases inRuns rs x <;> simp
  · exact (holds_runOrArr hrs hxs).congr fun x => Bool.or_comm _ _

/-- an array receiver leaves no deferred cardinality: `lazyIOR` counts what it builds from it -/
theorem lazyIOR2_arr_holds (xs : List Nat) (b : Cont) (ha : (Cont.arr xs).wf = true) (hb : b.wf = true) :
    ((Cont.arr xs).lazyIOR2 b).Holds fun x => xs.contains x || b.has x := by
  have hxs := wf_arr ha
  cases b with
  | arr ys =>
    have hys := wf_arr hb
    obtain ⟨hso, hbd, hm⟩ := union2by2_wf hxs hys
    simp only [Cont.lazyIOR2]
    split <;> rename_i hlen
    · have hcard := wordsCard_wordsOfArr_sorted _ hso hbd
      exact holds_bmp ((wordsAre_ofArr hbd).congr hm) (by rw [hcard]) (by rw [hcard]; simpa only [arrayMax] using hlen)
    · exact holds_union2by2 hxs hys (by simpa only [arrayMax, Nat.not_lt] using hlen)
  | bmp c ws =>
    have hws := wf_bmp hb
    have hor := (wordsAre_ofArr hxs.bound).or (wordsAre_self hws.1)
    exact holds_bmp hor rfl (Nat.lt_of_lt_of_le hws.2.2 (wordsCard_mono fun v hv => by rw [hor.mem, hv, Bool.or_true]))
  | run rs =>
    simp only [Cont.lazyIOR2]
    split <;> rename_i hf
    · exact holds_or_full (has_lt ha) hb hf
    · exact holds_arrIorRun ha hb

theorem lazyIOR2_holds (a b : Cont) (ha : a.LazyRecv) (hb : b.wf = true) :
    (a.lazyIOR2 b).LazyHolds fun x => a.has x || b.has x := by
  cases a with
  | arr xs => exact (lazyIOR2_arr_holds xs b (lazyRecv_arr ha) hb).lazy
  | bmp c ws =>
    obtain ⟨hl, _⟩ := lazyRecv_bmp ha
    cases b with
    | arr ys =>
      exact lazyHolds_deferred ((wordsAre_self hl).setBits (wf_arr hb).bound)
    | bmp c2 ws2 =>
      exact lazyHolds_deferred ((wordsAre_self hl).or (wordsAre_of_wf hb))
    | run rs =>
      simp only [Cont.lazyIOR2]
      split <;> rename_i hf
      · exact (holds_or_full (c := .bmp c ws) (testBit_lt hl) hb hf).lazy
      · exact lazyHolds_deferred (((wordsAre_ofRuns (wf_run hb).bound).or (wordsAre_self hl)).congr fun x => Bool.or_comm _ _)
  | run rs => rw [lazyIOR2_run]; exact (or2_holds _ _ (lazyRecv_run ha) hb).lazy

theorem has_lazyIOR2 (a b : Cont) (ha : a.LazyRecv) (hb : b.wf = true) (x : Nat) :
    (a.lazyIOR2 b).has x = (a.has x || b.has x) := (lazyIOR2_holds a b ha hb).has x

theorem wf_lazyIOR2_arr (xs : List Nat) (b : Cont) (ha : (Cont.arr xs).wf = true) (hb : b.wf = true) :
    ((Cont.arr xs).lazyIOR2 b).wf = true :=
  have ⟨y, hy⟩ := wf_has_member _ hb
  have h := lazyIOR2_arr_holds xs b ha hb
  h.nw.wf_of_has (y := y) (by rw [h.has, hy, Bool.or_true])

theorem lazyOk_lazyIOR2 (a b : Cont) (ha : a.LazyRecv) (hb : b.wf = true) : (a.lazyIOR2 b).lazyOk = true :=
  (lazyIOR2_holds a b ha hb).ok_of_wf hb

/-! ### the promotion of a non-full run receiver -/

theorem lazyRecv_of_words {k : Int} {ws : List (BitVec 64)} {p : Nat → Bool} (h : WordsAre ws p) (hp : ∃ y, p y = true) :
    (Cont.bmp k ws).LazyRecv ∧ ∀ x, (Cont.bmp k ws).has x = p x :=
  have ⟨y, hy⟩ := hp
  ⟨Or.inr ⟨k, ws, rfl, h.len, wordsCard_pos ((h.mem y).trans hy)⟩, h.mem⟩

/-- the promoted receiver is acceptable to `lazyIOR` (its doubled cached cardinality does not matter) and has the same members -/
theorem promoteRun_spec (c : Cont) (h : c.LazyRecv) : (promoteRun c).LazyRecv ∧ ∀ x, (promoteRun c).has x = c.has x := by
  cases c with
  | arr vs => exact ⟨h, fun _ => rfl⟩
  | bmp k ws => exact ⟨h, fun _ => rfl⟩
  | run rs =>
    simp only [promoteRun]
    split
    · exact ⟨h, fun _ => rfl⟩
    · exact lazyRecv_of_words (wordsAre_ofRuns (wf_run (lazyRecv_run h)).bound) (exists_has_of_lazyRecv h)

/-- one equal-key step of the in-place `lazyOR`: promotion, then `lazyIOR` -/
theorem lazyStep_holds (a b : Cont) (ha : a.lazyOk = true) (hb : b.wf = true) :
    ((promoteRun a).lazyIOR2 b).LazyHolds fun x => a.has x || b.has x :=
  have ⟨hr, hm⟩ := promoteRun_spec a (.inl ha)
  (lazyIOR2_holds _ b hr hb).congr fun x => by rw [hm]

theorem has_lazyStep (a b : Cont) (ha : a.lazyOk = true) (hb : b.wf = true) (x : Nat) :
    ((promoteRun a).lazyIOR2 b).has x = (a.has x || b.has x) := (lazyStep_holds a b ha hb).has x

theorem lazyOk_lazyStep (a b : Cont) (ha : a.lazyOk = true) (hb : b.wf = true) :
    ((promoteRun a).lazyIOR2 b).lazyOk = true :=
  (lazyStep_holds a b ha hb).ok_of_wf hb

/-! ### the containers denote the union (boundary lists) -/

theorem Cont.toBSet_lazyOR2 (a b : Cont) (ha : a.wf = true) (hb : b.wf = true) :
    (a.lazyOR2 b).toBSet 0 = BSet.union (a.toBSet 0) (b.toBSet 0) :=
  toBSet_combine _ rfl (has_lazyOR2 a b ha hb)

theorem Cont.toBSet_lazyIOR2 (a b : Cont) (ha : a.lazyOk = true) (hb : b.wf = true) :
    (a.lazyIOR2 b).toBSet 0 = BSet.union (a.toBSet 0) (b.toBSet 0) :=
  toBSet_combine _ rfl (has_lazyIOR2 a b (Or.inl ha) hb)

/-- the union also after the promotion of a non-full run receiver to a bitmap container with a wrong cached cardinality -/
theorem Cont.toBSet_lazyStep (a b : Cont) (ha : a.lazyOk = true) (hb : b.wf = true) :
    ((promoteRun a).lazyIOR2 b).toBSet 0 = BSet.union (a.toBSet 0) (b.toBSet 0) :=
  toBSet_combine _ rfl (has_lazyStep a b ha hb)

/-! ### `repairAfterLazy`, one container -/

/-- `repairAfterLazy` re-types a counted bitmap exactly as `xorBitmap` does -/
theorem repairWords_eq (ws : List (BitVec 64)) : repairWords ws = ofWordsXor ws := by
  simp only [repairWords, ofWordsXor]
  by_cases h : wordsCard ws ≤ arrayMax
  · rw [if_pos h, if_neg (Nat.not_lt.mpr h)]
  · rw [if_neg h, if_pos (Nat.lt_of_not_le h)]

theorem repairWords_spec (ws : List (BitVec 64)) (hl : ws.length = 1024) (hp : 0 < wordsCard ws) :
    (repairWords ws).wf = true ∧ ∀ x, (repairWords ws).has x = testBit ws x := by
  have h := holds_ofWordsXor (wordsAre_self hl)
  obtain ⟨y, hy⟩ := exists_testBit_of_card_pos hp
  rw [repairWords_eq]
  exact ⟨h.nw.wf_of_has ((h.has y).trans hy), h.has⟩

theorem wf_repairWords (ws : List (BitVec 64)) (hl : ws.length = 1024) (hp : 0 < wordsCard ws) :
    (repairWords ws).wf = true := (repairWords_spec ws hl hp).1

theorem repairCont_spec (c : Cont) (h : c.lazyOk = true) : (repairCont c).wf = true ∧ ∀ x, (repairCont c).has x = c.has x := by
  cases c with
  | arr vs => exact ⟨h, fun _ => rfl⟩
  | run rs => exact ⟨h, fun _ => rfl⟩
  | bmp k ws =>
    obtain ⟨hl, h2⟩ := lazyOk_bmp_iff.mp h
    simp only [repairCont]
    split <;> rename_i hk
    · exact repairWords_spec ws hl (by rcases h2 with ⟨_, hp⟩ | ⟨_, hp⟩ <;> omega)
    · rcases h2 with ⟨hk', _⟩ | ⟨hk', hgt⟩
      · exact absurd (by rw [hk']; rfl) hk
      · exact ⟨wf_bmp_mk hl hk' hgt, fun _ => rfl⟩

theorem has_repairCont (c : Cont) (h : c.lazyOk = true) (x : Nat) : (repairCont c).has x = c.has x :=
  (repairCont_spec c h).2 x

theorem wf_repairCont (c : Cont) (h : c.lazyOk = true) : (repairCont c).wf = true := (repairCont_spec c h).1

theorem Cont.toBSet_repairCont (c : Cont) (h : c.lazyOk = true) : (repairCont c).toBSet 0 = c.toBSet 0 :=
  canon_ext_sinc _ _ (sinc_toBSet _) (sinc_toBSet _) (fun x => by rw [mem_toBSet, mem_toBSet, has_repairCont c h])

/-! ### the in-place `iand` of the aggregates -/

theorem andW_comm (a b : List (BitVec 64)) : andW a b = andW b a :=
  List.zipWith_comm_of_comm BitVec.and_comm

/-- on well-formed operands the in-place `iand` returns the very container `and` returns -/
theorem aggIand2_eq_and2 (a b : Cont) (ha : a.wf = true) (hb : b.wf = true) : a.aggIand2 b = a.and2 b := by
  cases a with
  | arr xs => cases b <;> rfl
  | run rs => cases b <;> rfl
  | bmp c ws =>
    cases b with
    | bmp c2 ws2 => rfl
    | run rs => simp only [Cont.aggIand2, Cont.and2, andW_comm]
    | arr ys =>
      -- `iandBitmap` on the array as a bitmap: no more bits than the array has values, so an array again, with the same values
      have hys := wf_arr hb
      have hw := (wordsAre_self (wf_bmp ha).1).and (wordsAre_ofArr hys.bound)
      have hm : ∀ x, x ∈ valsOfWords (andW ws (wordsOfArr ys)) ↔ x ∈ ys.filter (testBit ws) := fun x => by
        rw [mem_valsOfWords, hw.mem, List.mem_filter, Bool.and_eq_true, List.contains_iff_mem, and_comm]
      have hs := hys.sorted.filter (testBit ws)
      have hle := List.length_filter_le (testBit ws) ys
      have hc := wordsCard_eq_length (nodup_of_sorted hs) fun x => (hm x).symm.trans (mem_valsOfWords _ x)
      show ofWordsAB _ = Cont.arr _
      rw [ofWordsAB, if_neg (by have := hys.le; simp only [arrayMax]; omega)]
      exact congrArg Cont.arr (sorted_ext _ _ (sorted_valsOfWords _) hs hm)

theorem aggIand2_holds (a b : Cont) (ha : a.wf = true) (hb : b.wf = true) :
    (a.aggIand2 b).Holds fun x => a.has x && b.has x :=
  aggIand2_eq_and2 a b ha hb ▸ and2_holds a b ha hb

theorem has_aggIand2 (a b : Cont) (ha : a.wf = true) (hb : b.wf = true) (x : Nat) :
    (a.aggIand2 b).has x = (a.has x && b.has x) := (aggIand2_holds a b ha hb).has x

/-! ### `AndAny`: the union built per key -/

/-- what `AndAny` may hold in `ored`: a well-formed array / run container, or a 1024-word bitmap container whose cached
cardinality is exact — but possibly `≤ 4096` (the scratch bitmap is chosen from the SUM of the cardinalities) -/
def Cont.OrOk : Cont → Prop
  | .bmp k ws => ws.length = 1024 ∧ k = (wordsCard ws : Int)
  | c => c.wf = true

theorem orOk_of_wf {c : Cont} (h : c.wf = true) : c.OrOk := by
  cases c with
  | arr vs => exact h
  | run rs => exact h
  | bmp k ws => exact ⟨(wf_bmp h).1, (wf_bmp h).2.1⟩

theorem bounded_of_orOk {c : Cont} (h : c.OrOk) : c.Bounded := by
  cases c with
  | arr vs => exact bounded_of_wf h
  | run rs => exact bounded_of_wf h
  | bmp k ws => intro y hy; exact testBit_lt h.1 hy

theorem orOk_ofWordsOr {ws : List (BitVec 64)} (hl : ws.length = 1024) : (ofWordsOr ws).OrOk := by
  simp only [ofWordsOr]
  split
  · show fullRun.wf = true; decide
  · exact ⟨hl, rfl⟩

/-- the in-place unions with an array or a run container keep the cardinality `c` of a bitmap exact, each by its own
arithmetic, and store the full run when it reaches 65536 -/
theorem orOk_fullOr {ws : List (BitVec 64)} (hl : ws.length = 1024) {c : Int} (hc : c = (wordsCard ws : Int)) :
    (if c == 65536 then fullRun else Cont.bmp c ws).OrOk ∧
      ∀ x, (if c == 65536 then fullRun else Cont.bmp c ws).has x = testBit ws x := by
  split <;> rename_i hfull
  · have hcard : wordsCard ws = 65536 := by
      simp only [beq_iff_eq] at hfull
      omega
    exact ⟨by show fullRun.wf = true; decide, (holds_full (wordsAre_self hl) hcard).has⟩
  · exact ⟨⟨hl, hc⟩, fun x => rfl⟩

theorem aggIor2_run (rs : List (Nat × Nat)) (b : Cont) : (Cont.run rs).aggIor2 b = (Cont.run rs).or2 b := by cases b <;> rfl

theorem aggIor2_arr_arr (xs ys : List Nat) : (Cont.arr xs).aggIor2 (.arr ys) = (Cont.arr xs).lazyIOR2 (.arr ys) := rfl

theorem aggIor2_arr_run (xs : List Nat) (rs : List (Nat × Nat)) :
    (Cont.arr xs).aggIor2 (.run rs) = (Cont.arr xs).lazyIOR2 (.run rs) := rfl

theorem aggIor2_arr_bmp (xs : List Nat) (c : Int) (ws : List (BitVec 64)) :
    (Cont.arr xs).aggIor2 (.bmp c ws) = (Cont.bmp c ws).or2 (.arr xs) := rfl

theorem aggIor2_spec (a b : Cont) (ha : a.OrOk) (hb : b.wf = true) :
    (a.aggIor2 b).OrOk ∧ ∀ x, (a.aggIor2 b).has x = (a.has x || b.has x) := by
  cases a with
  | run rs =>
    rw [aggIor2_run]
    exact ⟨orOk_of_wf ((or2_holds _ _ ha hb).wf_of_or_left ha), has_or2 _ _ ha hb⟩
  | arr xs =>
    have ha' : (Cont.arr xs).wf = true := ha
    have hhas := has_lazyIOR2 (.arr xs) b (Or.inl (lazyOk_of_wf ha')) hb
    cases b with
    | arr ys =>
      rw [aggIor2_arr_arr]
      exact ⟨orOk_of_wf (wf_lazyIOR2_arr xs _ ha' hb), hhas⟩
    | run rs =>
      rw [aggIor2_arr_run]
      exact ⟨orOk_of_wf (wf_lazyIOR2_arr xs _ ha' hb), hhas⟩
    | bmp c ws =>
      rw [aggIor2_arr_bmp]
      refine ⟨orOk_of_wf ((or2_holds _ _ hb ha').wf_of_or_left hb), fun x => ?_⟩
      rw [has_or2 _ _ hb ha', Bool.or_comm]
  | bmp k ws =>
    obtain ⟨hl, hk⟩ := ha
    cases b with
    | arr ys =>
      have hys := wf_arr hb
      have hw := (wordsAre_self hl).setBits hys.bound
      obtain ⟨hok, hhas⟩ := orOk_fullOr hw.len
        (c := k + ((ys.filter fun v => !testBit ws v).length : Nat)) (by rw [card_bmpOrArr ws ys hl hys, hk]; simp)
      exact ⟨hok, fun x => (hhas x).trans (hw.mem x)⟩
    | bmp c2 ws2 =>
      have hws2 := wf_bmp hb
      simp only [Cont.aggIor2]
      have ho := (wordsAre_self hl).or (wordsAre_self hws2.1)
      exact ⟨orOk_ofWordsOr ho.len, fun x => (has_ofWordsOr _ ho.len x).trans (ho.mem x)⟩
    | run rs =>
      have hrs := wf_run hb
      simp only [Cont.aggIor2]
      split <;> rename_i hf
      · exact ⟨hb, (holds_or_full (c := .bmp k ws) (testBit_lt hl) hb hf).has⟩
      · have ho := (wordsAre_ofRuns hrs.bound).or (wordsAre_self hl)
        obtain ⟨hok, hhas⟩ := orOk_fullOr ho.len
          (c := k + (wordsCard (orW (wordsOfRuns rs) ws) : Int) - (wordsCard ws : Int)) (by omega)
        exact ⟨hok, fun x => (hhas x).trans ((ho.mem x).trans (Bool.or_comm _ _))⟩

theorem foldl_aggIor2 (rest : List Cont) (start : Cont) (hs : start.OrOk) (hr : ∀ c ∈ rest, c.wf = true) :
    (rest.foldl Cont.aggIor2 start).OrOk ∧
      ∀ x, (rest.foldl Cont.aggIor2 start).has x = (start.has x || rest.any (·.has x)) :=
  foldl_inv_any (I := Cont.OrOk) (m := Cont.has) aggIor2_spec rest start hs hr

theorem cardGo_nonneg {c : Cont} (h : c.wf = true) : 0 ≤ c.cardGo := by
  cases c with
  | arr vs => simp [Cont.cardGo]
  | run rs => simp [Cont.cardGo]
  | bmp k ws => have := (wf_bmp h).2.1; simp only [Cont.cardGo]; omega

theorem sum_cardGo_nonneg (l : List Cont) (h : ∀ c ∈ l, c.wf = true) : 0 ≤ (l.map Cont.cardGo).sum := by
  induction l with
  | nil => simp
  | cons c t ih =>
    have := cardGo_nonneg (h c (by simp))
    have := ih (fun c' hc' => h c' (by simp [hc']))
    simp only [List.map_cons, List.sum_cons]; omega

theorem scratchBmp_spec (c : Cont) (h : c.wf = true) : (scratchBmp c).OrOk ∧ ∀ x, (scratchBmp c).has x = c.has x := by
  cases c with
  | arr xs =>
    have hxs := wf_arr h
    have hw := wordsAre_ofArr hxs.bound
    exact ⟨⟨hw.len, by rw [wordsCard_wordsOfArr xs hxs]⟩, hw.mem⟩
  | bmp k ws => exact ⟨⟨(wf_bmp h).1, (wf_bmp h).2.1⟩, fun x => rfl⟩
  | run rs =>
    have hrs := wf_run h
    refine ⟨⟨(wordsAre_ofRuns hrs.bound).len, ?_⟩, (wordsAre_ofRuns hrs.bound).mem⟩
    rw [wordsCard_wordsOfRuns rs hrs.sep hrs.bound]

theorem scratchArr_spec (c : Cont) (h : c.wf = true) (hle : c.cardGo ≤ 4096) :
    (scratchArr c).OrOk ∧ ∀ x, (scratchArr c).has x = c.has x := by
  cases c with
  | arr xs => exact ⟨h, fun x => rfl⟩
  | bmp k ws =>
    exfalso
    obtain ⟨_, hk, hgt⟩ := wf_bmp h
    simp only [Cont.cardGo] at hle
    omega
  | run rs =>
    have hrs := wf_run h
    simp only [Cont.cardGo] at hle
    obtain ⟨y, hy⟩ := wf_has_member _ h
    have hmem : (Cont.arr (expandRuns rs)).has y = true := by
      rw [has_arr, contains_expandRuns]; exact hy
    refine ⟨?_, fun x => ?_⟩
    · show (Cont.arr (expandRuns rs)).wf = true
      refine Cont.NilOrWf.wf_of_has (nilOrWf_arr ⟨?_, sorted_expandRuns rs hrs.sep, ?_⟩) hmem
      · rw [length_expandRuns]; omega
      · intro v hv; exact lt_of_inRuns hrs.bound ((mem_expandRuns rs v).mp hv)
    · simp only [scratchArr, has_arr, has_run, contains_expandRuns]

theorem oredOf_spec (cs : List Cont) (hcs : ∀ c ∈ cs, c.wf = true) :
    match oredOf cs with
    | none => cs = []
    | some o => o.OrOk ∧ ∀ x, o.has x = cs.any (·.has x) := by
  match cs, hcs with
  | [], _ => simp [oredOf]
  | [c], hcs => simp only [oredOf]; exact ⟨orOk_of_wf (hcs c (by simp)), fun x => by simp⟩
  | c0 :: c1 :: rest, hcs =>
    simp only [oredOf]
    have h0 := hcs c0 (by simp)
    have hr : ∀ c ∈ c1 :: rest, c.wf = true := fun c hc => hcs c (by simp [hc])
    generalize hs : (if ((c0 :: c1 :: rest).map Cont.cardGo).sum > (arrayMax : Int) then scratchBmp c0 else scratchArr c0) = start
    have hstart : start.OrOk ∧ ∀ x, start.has x = c0.has x := by
      rw [← hs]
      split <;> rename_i hsum
      · exact scratchBmp_spec c0 h0
      · refine scratchArr_spec c0 h0 ?_
        have := sum_cardGo_nonneg (c1 :: rest) hr
        simp only [List.map_cons, List.sum_cons, arrayMax] at hsum this ⊢
        omega
    have := foldl_aggIor2 (c1 :: rest) start hstart.1 hr
    refine ⟨this.1, fun x => ?_⟩
    rw [this.2 x, hstart.2 x]
    simp only [List.any_cons]

/-! ### `AndAny`: one key -/

/-- a bitmap-typed result with at most 4096 values can only be the empty one: re-typing it to an array changes nothing -/
theorem Cont.Holds.andAnyFix {c : Cont} {p : Nat → Bool} (h : c.Holds p) : (andAnyFix c).Holds p := by
  cases c with
  | arr vs => exact h
  | run rs => exact h
  | bmp k ws =>
    simp only [RModel.Impl.andAnyFix]
    split <;> rename_i hk
    · have h0 : wordsCard ws = 0 := by
        rcases h.wfe with h0 | hw
        · exact h0
        · have := wf_bmp hw
          simp only [arrayMax] at hk
          omega
      rw [List.eq_nil_of_length_eq_zero ((length_valsOfWords ws).trans h0)]
      exact .arr ⟨Nat.zero_le _, .nil, fun _ h => nomatch h⟩ fun x => by
        rw [← h.has, has_bmp, testBit_false_of_card0 ws h0]; rfl
    · exact h

/-- one key of `AndAny`: the receiver's container intersected with the union built in the scratch container -/
theorem andAnyStep_holds (a o : Cont) (ha : a.wf = true) (ho : o.OrOk) :
    (andAnyFix (a.aggIand2 o)).Holds fun x => a.has x && o.has x := by
  cases o with
  | arr ys => exact (aggIand2_holds a _ ha ho).andAnyFix
  | run rs => exact (aggIand2_holds a _ ha ho).andAnyFix
  | bmp k ws =>
    obtain ⟨hl, hk⟩ := ho
    cases a with
    | arr xs => exact holds_filter (wf_arr ha) _
    | bmp c1 ws1 =>
      exact (holds_ofWordsAB ((wordsAre_of_wf ha).and (wordsAre_self hl))).andAnyFix
    | run rs =>
      simp only [Cont.aggIand2, Cont.and2]
      split <;> rename_i hf
      · -- a full receiver hands the scratch bitmap on: its exact cardinality may be at most 4096
        cases isFullRun_eq hf
        exact (holds_ofCard (wordsAre_self hl) hk).congr fun x => by
          rw [has_run, has_bmp, Bool.and_comm, inRuns_full]; exact (bool_and_bound (testBit_lt hl)).symm
      · exact (holds_ofWordsAB ((wordsAre_ofRuns (wf_run ha).bound).and (wordsAre_self hl))).andAnyFix

/-! ### `ParOr`, `ParHeapOr`: the lazy unions on the temporaries of `getFastContainerAtIndex` -/

namespace ParData

/-- the invariant of a container of a chunk between the lazy steps: array and run containers are well-formed; a bitmap container
has its 1024 words, is non-empty, and its cached cardinality is DEFERRED (−1) or EXACT — of any size: `bitmap.lazyOR(run)` is
not lazy and may return an exact bitmap container with few values, which the FUNCTION `repairAfterLazy` re-types -/
def ParOk : Cont → Prop
  | .bmp c ws => ws.length = 1024 ∧ 0 < wordsCard ws ∧ (c = invalidCard ∨ c = (wordsCard ws : Int))
  | c => c.wf = true

theorem parOk_of_lazyOk {c : Cont} (h : c.lazyOk = true) : ParOk c := by
  cases c with
  | arr vs => exact h
  | run rs => exact h
  | bmp k ws =>
    obtain ⟨hl, h2⟩ := lazyOk_bmp_iff.mp h
    rcases h2 with ⟨hk, hp⟩ | ⟨hk, hp⟩
    · exact ⟨hl, hp, Or.inl hk⟩
    · exact ⟨hl, by omega, Or.inr hk⟩

theorem lazyRecv_of_parOk {c : Cont} (h : ParOk c) : c.LazyRecv := by
  cases c with
  | arr vs => exact Or.inl (lazyOk_of_wf h)
  | run rs => exact Or.inl (lazyOk_of_wf h)
  | bmp k ws => exact Or.inr ⟨k, ws, rfl, h.1, h.2.1⟩

end ParData

open ParData

abbrev Cont.ParHolds : Cont → (Nat → Bool) → Prop := Cont.HoldsIf ParOk

theorem Cont.LazyHolds.par {r : Cont} {p : Nat → Bool} (h : r.LazyHolds p) : r.ParHolds p := h.mono parOk_of_lazyOk

namespace ParData

/-- a counted word result is stored with its exact cardinality, however small -/
theorem parHolds_ofWordsOr {ws : List (BitVec 64)} {p : Nat → Bool} (h : WordsAre ws p) : (ofWordsOr ws).ParHolds p := by
  simp only [ofWordsOr]
  split <;> rename_i hc
  · exact (holds_full h (by simpa using hc)).lazy.par
  · exact ⟨h.mem, fun y hy => ⟨h.len, wordsCard_pos ((h.mem y).trans hy), Or.inr rfl⟩⟩

/-- `c1.lazyOR(c2)` on any receiver that `lazyIOR` accepts (the temporaries carry some cached cardinality): lazy, except that
`bitmap.lazyOR(run)` counts -/
theorem lazyOR2_recv_holds (a b : Cont) (ha : a.LazyRecv) (hb : b.wf = true) :
    (a.lazyOR2 b).ParHolds fun x => a.has x || b.has x := by
  cases a with
  | arr xs => exact (lazyOR2_holds _ b (lazyRecv_arr ha) hb).par
  | run rs => exact (lazyOR2_holds _ b (lazyRecv_run ha) hb).par
  | bmp k ws =>
    have hw := wordsAre_self (lazyRecv_bmp ha).1
    cases b with
    | arr ys => exact (lazyHolds_deferred (hw.setBits (wf_arr hb).bound)).par
    | bmp c2 ws2 => exact (lazyHolds_deferred (hw.or (wordsAre_of_wf hb))).par
    | run rs =>
      simp only [Cont.lazyOR2]
      split <;> rename_i hf
      · exact (holds_or_full (c := .bmp k ws) (testBit_lt hw.len) hb hf).lazy.par
      · exact (parHolds_ofWordsOr ((wordsAre_ofRuns (wf_run hb).bound).or hw)).congr fun x => Bool.or_comm _ _

/-- `getFastContainerAtIndex`: an array or a non-full run container is handed to the lazy kernels as a bitmap container, whose
cached cardinality (`len`, or twice the number of values) they do not read -/
theorem toBitmapFast_spec (c : Cont) (h : c.LazyRecv) :
    (toBitmapFast c).LazyRecv ∧ ∀ x, (toBitmapFast c).has x = c.has x := by
  cases c with
  | arr vs => exact lazyRecv_of_words (wordsAre_ofArr (wf_arr (lazyRecv_arr h)).bound) (exists_has_of_lazyRecv h)
  | bmp k ws => exact ⟨h, fun _ => rfl⟩
  | run rs => exact promoteRun_spec _ h

/-- the equal-key step of `lazyOrOnRange`: `getFastContainerAtIndex(i, false).lazyOR(c2)` -/
theorem parOrStep_holds (a b : Cont) (ha : a.wf = true) (hb : b.wf = true) :
    ((toBitmapFast a).lazyOR2 b).ParHolds fun x => a.has x || b.has x :=
  have ⟨hr, hm⟩ := toBitmapFast_spec a (.inl (lazyOk_of_wf ha))
  (lazyOR2_recv_holds _ b hr hb).congr fun x => by rw [hm]

/-- the equal-key step of `lazyIOrOnRange`: `getFastContainerAtIndex(i, true).lazyIOR(c2)` -/
theorem parIorStep_holds (a b : Cont) (ha : ParOk a) (hb : b.wf = true) :
    ((toBitmapFast a).lazyIOR2 b).LazyHolds fun x => a.has x || b.has x :=
  have ⟨hr, hm⟩ := toBitmapFast_spec a (lazyRecv_of_parOk ha)
  (lazyIOR2_holds _ b hr hb).congr fun x => by rw [hm]

/-- on a container that satisfies the chunk invariant the function `repairAfterLazy` of `parallel.go` recounts and re-types -/
theorem repairContPar_bmp (k : Int) (ws : List (BitVec 64)) (h : ParOk (.bmp k ws)) :
    repairContPar (.bmp k ws) = repairWords ws := by
  obtain ⟨hl, hp, hk⟩ := h
  have hk' : (if k == invalidCard then (wordsCard ws : Int) else k) = (wordsCard ws : Int) := by
    rcases hk with hk | hk
    · rw [hk]; rfl
    · rw [hk]; split <;> rfl
  have e1 : ((wordsCard ws : Int) ≤ (arrayMax : Int)) ↔ wordsCard ws ≤ arrayMax := Int.ofNat_le
  have e2 : ((wordsCard ws : Int) == 65536) = (wordsCard ws == 65536) := by
    rw [Bool.eq_iff_iff]; simp only [beq_iff_eq]; omega
  simp only [repairContPar, repairWords, hk', e2]
  by_cases h1 : wordsCard ws ≤ arrayMax
  · rw [if_pos h1, if_pos (e1.mpr h1)]
  · rw [if_neg h1, if_neg (fun hc => h1 (e1.mp hc))]

theorem repairContPar_spec (c : Cont) (h : ParOk c) :
    (repairContPar c).wf = true ∧ ∀ x, (repairContPar c).has x = c.has x := by
  cases c with
  | arr vs => exact ⟨h, fun _ => rfl⟩
  | run rs => exact ⟨h, fun _ => rfl⟩
  | bmp k ws => rw [repairContPar_bmp k ws h]; exact repairWords_spec ws h.1 h.2.1

/-! #### the workers of `ParHeapOr` and `ParAnd` -/

theorem foldl_lazyIOR2_spec (rest : List Cont) (c : Cont) (hc : ParOk c) (hr : ∀ d ∈ rest, d.wf = true) :
    ParOk (rest.foldl Cont.lazyIOR2 c) ∧
      ∀ x, (rest.foldl Cont.lazyIOR2 c).has x = (c.has x || rest.any (·.has x)) :=
  foldl_inv_any (I := ParOk) (m := Cont.has) (fun c d hc hd =>
    have h := lazyIOR2_holds c d (lazyRecv_of_parOk hc) hd
    ⟨parOk_of_lazyOk (h.ok_of_wf hd), h.has⟩) rest c hc hr

/-- `orFunc` of `ParHeapOr` (and the `clone()` of a single container): a well-formed container holding the union — in whatever
order the heap delivered the containers -/
theorem reduceOr_spec (cs : List Cont) (hne : cs ≠ []) (hcs : ∀ c ∈ cs, c.wf = true) :
    (reduceOr cs).wf = true ∧ ∀ x, (reduceOr cs).has x = cs.any (·.has x) := by
  match cs, hne, hcs with
  | [], hne, _ => exact absurd rfl hne
  | [c], _, hcs => exact ⟨hcs c (by simp), fun x => by simp [reduceOr]⟩
  | c0 :: c1 :: rest, _, hcs =>
    have h1 := hcs c1 (by simp)
    have hs := parOrStep_holds c0 c1 (hcs c0 (by simp)) h1
    obtain ⟨i1, i2⟩ := foldl_lazyIOR2_spec rest _ (hs.ok_of_wf h1) (fun d hd => hcs d (by simp [hd]))
    obtain ⟨r1, r2⟩ := repairContPar_spec _ i1
    refine ⟨r1, fun x => ?_⟩
    simp only [reduceOr]
    rw [r2, i2 x, hs.has, List.any_cons, List.any_cons, Bool.or_assoc]

/-- the loop stops at the first empty intermediate result: `isEmpty()` answers truthfully on a kernel result -/
theorem andLoop_holds (rest : List Cont) (c : Cont) {p : Nat → Bool} (hc : c.Holds p) (hr : ∀ d ∈ rest, d.wf = true) :
    (andLoop c rest).Holds fun x => p x && rest.all (·.has x) := by
  induction rest generalizing c p with
  | nil => exact hc.congr fun x => by simp
  | cons d t ih =>
    have ⟨hd, ht⟩ := List.forall_mem_cons.mp hr
    simp only [andLoop]
    rcases hc.nw with rfl | hw
    · exact hc.congr fun x => by rw [← hc.has]; rfl
    · rw [if_neg (by rw [isEmptyGo_of_wf hw]; simp)]
      exact (ih _ ((aggIand2_holds c d hw hd).congr fun x => by rw [hc.has]) ht).congr fun x => by
        rw [List.all_cons, Bool.and_assoc]

/-- `andFunc` of `ParAnd`: `nil` exactly when the intersection is empty, else a well-formed container holding it -/
theorem reduceAnd_spec (cs : List Cont) (hlen : 2 ≤ cs.length) (hcs : ∀ c ∈ cs, c.wf = true) :
    OptHolds (reduceAnd cs) fun x => cs.all (·.has x) := by
  match cs, hlen, hcs with
  | [], hlen, _ => simp at hlen
  | [_], hlen, _ => simp at hlen
  | c0 :: c1 :: rest, _, hcs =>
    have h : (andLoop (c0.and2 c1) rest).Holds fun x => (c0 :: c1 :: rest).all (·.has x) :=
      (andLoop_holds rest _ (and2_holds c0 c1 (hcs c0 (by simp)) (hcs c1 (by simp))) fun d hd => hcs d (by simp [hd])).congr
        fun x => by rw [List.all_cons, List.all_cons, Bool.and_assoc]
    simp only [reduceAnd]
    rcases h.nw with e | hw
    · rw [e]
      exact optHolds_none fun x => by rw [← h.has x, e]; rfl
    · rw [if_neg (by rw [isEmptyGo_of_wf hw]; simp)]
      exact ⟨h.has, optWf_some hw⟩

end ParData

end RModel.Impl
