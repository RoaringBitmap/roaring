import RProofs.BSet
import RProofs.Util.Count
/-!
Meaning of the interval-recursive query functions of `RModel/Spec/BSet.lean` in terms of `mem` (L0).  `Even s` = even length
(finite set); all hypotheses are what `Canon U s` provides; the induction over intervals is `even_induction` of `BSet.lean`.
In this order: rank is the count of a disjoint union of intervals (`Impl.cnt`), and range count with it; `toList s` is the
strictly increasing list of the members, and cardinality, `select`, `maximum` are its length, its entries, its last entry, so
their meaning is read off facts about increasing lists (`Impl.getElem?_eq_some_iff_cnt`, `sorted_getLast?_iff`); the searches
from a position (`nextValue` with `minimum`, `prevValue`, `nextAbsent`, `prevAbsent`), each by induction over the intervals and
stated through `LeastFrom` / `GreatestUpTo`, in which the container and bitmap levels state theirs too; `shift`; emptiness;
range counts on the member list.  Last section: the member list of an intersection of canonical finite sets (`BSI.Good`).
-/
open RModel.Util
namespace RModel.BSet

/-! ### rank and range count -/

theorem rankLt_eq_count (s : BSet) (hs : SInc s) (he : Even s) (n : Nat) :
    rankLt s n = ((List.range n).filter (fun x => mem s x)).length := by
  show rankLt s n = Impl.cnt (mem s) n
  induction s, hs, he using even_induction with
  | nil => exact (Impl.cnt_zero_of_none _ n fun _ _ => rfl).symm
  | step lo hi t hlh ht _ _ _ _ ih =>
    rw [rankLt, ih, ← Impl.cnt_Ico, ← Impl.cnt_or_disjoint _ _ fun x h => ?_]
    · exact Impl.cnt_congr n fun x _ => (mem_cons2_or lo hi t hlh ht x).symm
    · simp only [Bool.and_eq_true, decide_eq_true_eq] at h
      exact true_false_elim h.2 (mem_eq_false_of_le_all t x ht (by omega))

/-- `rankLt` satisfies the defining recurrence of "number of members below n". -/
theorem rankLt_succ (s : BSet) (hs : SInc s) (he : Even s) (n : Nat) :
    rankLt s (n + 1) = rankLt s n + (if mem s n then 1 else 0) := by
  rw [rankLt_eq_count s hs he, rankLt_eq_count s hs he]
  exact Impl.cnt_succ (mem s) n

theorem rankLt_add (s : BSet) (hs : SInc s) (he : Even s) (lo d : Nat) :
    rankLt s (lo + d) = rankLt s lo + ((List.range' lo d).filter (fun x => mem s x)).length := by
  induction d with
  | zero => simp
  | succ d ih =>
    rw [← Nat.add_assoc, rankLt_succ s hs he, ih, List.range'_1_concat, List.filter_append]
    cases h : mem s (lo + d) <;> simp [h, Nat.add_assoc]

theorem cardInRange_spec (s : BSet) (hs : SInc s) (he : Even s) (lo hi : Nat) (h : lo ≤ hi) :
    cardInRange s lo hi = ((List.range' lo (hi - lo)).filter (fun x => mem s x)).length := by
  have := rankLt_add s hs he lo (hi - lo)
  rw [show lo + (hi - lo) = hi by omega] at this
  unfold cardInRange
  omega

theorem card_eq_rankLt_of_le (s : BSet) (n : Nat) (hb : ∀ b ∈ s, b ≤ n) : card s = rankLt s n := by
  fun_induction rankLt s n <;> grind [card]

theorem card_eq_rankLt (U : Nat) (s : BSet) (hs : Canon U s) (n : Nat) (hn : U ≤ n) :
    card s = rankLt s n :=
  card_eq_rankLt_of_le s n (fun b hb => Nat.le_trans (hs.2.1 b hb) hn)

theorem card_eq_count {U : Nat} {s : BSet} (hc : Canon U s) : card s = Impl.cnt (mem s) U :=
  (card_eq_rankLt U s hc U (Nat.le_refl U)).trans (rankLt_eq_count s hc.1 hc.2.2 U)

theorem card_le_of_canon {U : Nat} {s : BSet} (hc : Canon U s) : card s ≤ U :=
  card_eq_count hc ▸ Impl.cnt_le _ U

/-! ### the members as a strictly increasing list; cardinality, `select`, `maximum` are its length, entries, last entry -/

theorem mem_toList (s : BSet) (hs : SInc s) (he : Even s) (x : Nat) :
    x ∈ toList s ↔ mem s x = true := by
  induction s, hs, he using even_induction with
  | nil => simp [toList]
  | step lo hi r hlh ht _ _ _ _ ih =>
    rw [toList, List.mem_append, List.mem_range'_1, ih, mem_cons2_or lo hi r hlh ht, Bool.or_eq_true, Bool.and_eq_true,
      decide_eq_true_eq, decide_eq_true_eq, Nat.add_sub_cancel' (Nat.le_of_lt hlh)]

theorem toList_sorted (s : BSet) (hs : SInc s) (he : Even s) : (toList s).Pairwise (· < ·) := by
  induction s, hs, he using even_induction with
  | nil => simp [toList]
  | step lo hi r hlh ht hsr her _ _ ih =>
    simp only [toList]
    refine List.pairwise_append.mpr ⟨List.pairwise_lt_range', ih, ?_⟩
    intro a ha b hb
    rw [List.mem_range'_1] at ha
    rw [mem_toList r hsr her] at hb
    exact Nat.lt_of_not_le fun hc => true_false_elim hb (mem_eq_false_of_le_all r b ht (by omega))

theorem toList_length (s : BSet) : (toList s).length = card s := by
  fun_induction toList s <;> simp_all [card]

theorem select_eq_getElem? : ∀ (s : BSet) (i : Nat), select s i = (toList s)[i]?
  | [], _ => by simp [select, toList]
  | [_], _ => by simp [select, toList]
  | lo :: hi :: t, i => by
    rw [select, toList, List.getElem?_append]
    simp only [List.length_range']
    split
    · rw [List.getElem?_range' (by assumption)]; simp
    · exact select_eq_getElem? t _

theorem select_spec (s : BSet) (hs : SInc s) (he : Even s) (i v : Nat) :
    select s i = some v ↔ (mem s v = true ∧ rankLt s v = i) := by
  rw [select_eq_getElem?, rankLt_eq_count s hs he]
  exact Impl.getElem?_eq_some_iff_cnt (toList_sorted s hs he) (mem_toList s hs he) i v

theorem select_none (s : BSet) (hs : SInc s) (he : Even s) (i : Nat) :
    select s i = none ↔ card s ≤ i := by
  rw [select_eq_getElem?, List.getElem?_eq_none_iff, toList_length]

theorem maximum_eq_getLast? (s : BSet) (hs : SInc s) (he : Even s) : maximum s = (toList s).getLast? := by
  induction s, hs, he using even_induction with
  | nil => rfl
  | step lo hi t hlh _ hst het _ _ ih =>
    rw [toList, List.getLast?_append, List.getLast?_range', ← ih, if_neg (Nat.sub_ne_zero_of_lt hlh),
      Nat.add_sub_cancel' (Nat.le_of_lt hlh)]
    induction t, hst, het using even_induction with
    | nil => rfl
    | step a b t' hab _ _ _ _ _ _ =>
      -- a non-empty tail has a last member, which is the one of the whole list
      rw [show maximum (lo :: hi :: a :: b :: t') = maximum (a :: b :: t') from rfl, ih]
      cases h : (toList (a :: b :: t')).getLast? with
      | some v => rfl
      | none =>
        rw [List.getLast?_eq_none_iff, toList, List.append_eq_nil_iff, List.range'_eq_nil_iff] at h
        omega

theorem maximum_some (s : BSet) (hs : SInc s) (he : Even s) (v : Nat) :
    maximum s = some v ↔ (mem s v = true ∧ ∀ u, v < u → mem s u = false) := by
  rw [maximum_eq_getLast? s hs he, sorted_getLast?_iff (toList_sorted s hs he), mem_toList s hs he]
  refine and_congr_right fun _ => ⟨fun h u hu => Bool.eq_false_iff.mpr fun hm => ?_, fun h u hu => Nat.le_of_not_lt fun hc => ?_⟩
  · exact Nat.not_le_of_lt hu (h u ((mem_toList s hs he u).mpr hm))
  · exact true_false_elim ((mem_toList s hs he u).mp hu) (h u hc)

theorem maximum_none (s : BSet) (hs : SInc s) (he : Even s) :
    maximum s = none ↔ ∀ x, mem s x = false := by
  rw [maximum_eq_getLast? s hs he, List.getLast?_eq_none_iff, List.eq_nil_iff_forall_not_mem]
  exact forall_congr' fun x => by rw [mem_toList s hs he, Bool.not_eq_true]

/-! ### the searches from a position -/

/-- the least value from `t` on with `p`, all values in between having `q` -/
abbrev LeastFrom (p q : Nat → Prop) (t v : Nat) : Prop := t ≤ v ∧ p v ∧ ∀ u, t ≤ u → u < v → q u

/-- the greatest value up to `t` with `p`, all values in between having `q` -/
abbrev GreatestUpTo (p q : Nat → Prop) (t v : Nat) : Prop := v ≤ t ∧ p v ∧ ∀ u, v < u → u ≤ t → q u

theorem LeastFrom.unique {p q : Nat → Prop} (hpq : ∀ u, p u → q u → False) {t v w : Nat}
    (hv : LeastFrom p q t v) (hw : LeastFrom p q t w) : v = w := by
  rcases Nat.lt_trichotomy v w with h | h | h
  · exact (hpq v hv.2.1 (hw.2.2 v hv.1 h)).elim
  · exact h
  · exact (hpq w hw.2.1 (hv.2.2 w hw.1 h)).elim

theorem GreatestUpTo.unique {p q : Nat → Prop} (hpq : ∀ u, p u → q u → False) {t v w : Nat}
    (hv : GreatestUpTo p q t v) (hw : GreatestUpTo p q t w) : v = w := by
  rcases Nat.lt_trichotomy v w with h | h | h
  · exact (hpq w hw.2.1 (hv.2.2 w h hw.1)).elim
  · exact h
  · exact (hpq v hv.2.1 (hw.2.2 v h hv.1)).elim

theorem LeastFrom.self {p q : Nat → Prop} {t : Nat} (h : p t) : LeastFrom p q t t :=
  ⟨Nat.le_refl t, h, fun _ a b => absurd a (Nat.not_le_of_lt b)⟩

theorem GreatestUpTo.self {p q : Nat → Prop} {t : Nat} (h : p t) : GreatestUpTo p q t t :=
  ⟨Nat.le_refl t, h, fun _ a b => absurd a (Nat.not_lt_of_le b)⟩

theorem stretch_append {q : Nat → Prop} {a b c : Nat} (h1 : ∀ u, a ≤ u → u < b → q u) (h2 : ∀ u, b ≤ u → u < c → q u) :
    ∀ u, a ≤ u → u < c → q u :=
  fun u ha hc => if hb : u < b then h1 u ha hb else h2 u (Nat.le_of_not_lt hb) hc

theorem LeastFrom.extend {p q : Nat → Prop} {t t' v : Nat} (htt : t ≤ t') (hq : ∀ u, t ≤ u → u < t' → q u)
    (h : LeastFrom p q t' v) : LeastFrom p q t v :=
  ⟨Nat.le_trans htt h.1, h.2.1, stretch_append hq h.2.2⟩

theorem GreatestUpTo.extend {p q : Nat → Prop} {t t' v : Nat} (htt : t' ≤ t) (hq : ∀ u, t' < u → u ≤ t → q u)
    (h : GreatestUpTo p q t' v) : GreatestUpTo p q t v :=
  ⟨Nat.le_trans h.1 htt, h.2.1, fun u a b => if hb : u ≤ t' then h.2.2 u a hb else hq u (Nat.lt_of_not_le hb) b⟩

/-- a stretch inside a block of `B` values, read where the block lies (`base + ·`) -/
theorem stretch_shift {Q q : Nat → Prop} {base B a b : Nat} (hq : ∀ y, y < B → q y → Q (base + y)) (hb : b ≤ B)
    (h : ∀ y, a ≤ y → y < b → q y) : ∀ u, base + a ≤ u → u < base + b → Q u := by
  intro u h1 h2
  obtain ⟨y, rfl⟩ : ∃ y, u = base + y := ⟨u - base, by omega⟩
  exact hq y (by omega) (h y (by omega) (by omega))

/-- the answer inside a block of `B` values is the answer where the block lies -/
theorem GreatestUpTo.shift {P Q p q : Nat → Prop} {base B t v : Nat} (hp : ∀ y, y < B → p y → P (base + y))
    (hq : ∀ y, y < B → q y → Q (base + y)) (ht : t < B) (h : GreatestUpTo p q t v) :
    GreatestUpTo P Q (base + t) (base + v) :=
  ⟨Nat.add_le_add_left h.1 _, hp v (Nat.lt_of_le_of_lt h.1 ht) h.2.1, fun u a b =>
    stretch_shift hq (Nat.succ_le_of_lt ht) (fun y c d => h.2.2 y c (Nat.le_of_lt_succ d)) u a (Nat.lt_succ_of_le b)⟩

theorem nextValue_iff (s : BSet) (hs : SInc s) (he : Even s) (t : Nat) :
    (∀ v, nextValue s t = some v ↔ LeastFrom (mem s · = true) (mem s · = false) t v) ∧
      (nextValue s t = none ↔ ∀ u, t ≤ u → mem s u = false) := by
  refine option_spec ?_ (fun _ _ => LeastFrom.unique fun _ => true_false_elim)
    (fun hn v hv => true_false_elim hv.2.1 (hn v hv.1))
  induction s, hs, he using even_induction with
  | nil => exact fun _ _ => rfl
  | step lo hi r hlh ht _ _ _ _ ih =>
    obtain ⟨f1, f2, f3, f4⟩ := step_facts lo hi r hlh ht
    rw [nextValue]
    by_cases h : t < hi
    · rw [if_pos h]
      exact ⟨by omega, f2 _ (by omega) (by omega), fun u h1 h2 => f1 u (by omega)⟩
    · rw [if_neg h]
      split at ih
      · obtain ⟨i1, i2, i3⟩ := ih
        exact ⟨i1, (f3 _ (by omega)).trans i2, fun u h1 h2 => (f3 u (by omega)).trans (i3 u h1 h2)⟩
      · exact fun u hu => (f3 u (by omega)).trans (ih u hu)

theorem nextValue_some (s : BSet) (hs : SInc s) (he : Even s) (t v : Nat) :
    nextValue s t = some v ↔ (t ≤ v ∧ mem s v = true ∧ ∀ u, t ≤ u → u < v → mem s u = false) :=
  (nextValue_iff s hs he t).1 v

theorem nextValue_none (s : BSet) (hs : SInc s) (he : Even s) (t : Nat) :
    nextValue s t = none ↔ ∀ u, t ≤ u → mem s u = false :=
  (nextValue_iff s hs he t).2

theorem minimum_eq_nextValue (s : BSet) (hs : SInc s) (he : Even s) : minimum s = nextValue s 0 := by
  induction s, hs, he using even_induction with
  | nil => rfl
  | step lo hi t hlh _ _ _ _ _ _ => rw [minimum, nextValue, if_pos (by omega), Nat.max_eq_left (Nat.zero_le _)]

theorem minimum_some (s : BSet) (hs : SInc s) (he : Even s) (v : Nat) :
    minimum s = some v ↔ (mem s v = true ∧ ∀ u, u < v → mem s u = false) := by
  rw [minimum_eq_nextValue s hs he, nextValue_some s hs he]
  simp only [Nat.zero_le, true_and, true_implies]

theorem minimum_none (s : BSet) (hs : SInc s) (he : Even s) :
    minimum s = none ↔ ∀ x, mem s x = false := by
  rw [minimum_eq_nextValue s hs he, nextValue_none s hs he]
  simp only [Nat.zero_le, true_implies]

theorem minimum_eq_head? (s : BSet) (hs : SInc s) (he : Even s) : minimum s = (toList s).head? := by
  induction s, hs, he using even_induction with
  | nil => rfl
  | step lo hi t hlh _ _ _ _ _ _ =>
    rw [minimum, toList, List.head?_append, List.head?_range', if_neg (Nat.sub_ne_zero_of_lt hlh)]
    rfl

/-- the accumulator is only the answer when the rest of the list has none -/
theorem prevValueAux_eq : ∀ (s : BSet) (t : Nat) (acc : Option Nat),
    prevValueAux s t acc = (prevValueAux s t none).or acc
  | [], _, _ => rfl
  | [_], _, _ => rfl
  | lo :: hi :: r, t, acc => by
    rw [prevValueAux, prevValueAux]
    split
    · rfl
    · rw [prevValueAux_eq r t (some _)]
      cases prevValueAux r t none <;> rfl

theorem prevValue_iff (s : BSet) (hs : SInc s) (he : Even s) (t : Nat) :
    (∀ v, prevValue s t = some v ↔ GreatestUpTo (mem s · = true) (mem s · = false) t v) ∧
      (prevValue s t = none ↔ ∀ u, u ≤ t → mem s u = false) := by
  refine option_spec ?_ (fun _ _ => GreatestUpTo.unique fun _ => true_false_elim)
    (fun hn v hv => true_false_elim hv.2.1 (hn v hv.1))
  unfold prevValue
  induction s, hs, he using even_induction with
  | nil => exact fun _ _ => rfl
  | step lo hi r hlh ht _ _ _ _ ih =>
    obtain ⟨f1, f2, f3, f4⟩ := step_facts lo hi r hlh ht
    rw [prevValueAux]
    by_cases h : t < lo
    · rw [if_pos h]
      exact fun u hu => f1 u (by omega)
    · rw [if_neg h, prevValueAux_eq]
      split at ih
      · rename_i v e
        obtain ⟨i1, i2, i3⟩ := ih
        have hv : hi < v := Nat.lt_of_not_le fun hc => true_false_elim i2 (f4 v hc)
        rw [e]
        exact ⟨i1, (f3 v (by omega)).trans i2, fun u h1 h2 => (f3 u (by omega)).trans (i3 u h1 h2)⟩
      · rename_i e
        rw [e]
        refine ⟨by omega, f2 _ (by omega) (by omega), fun u h1 h2 => (f3 u (by omega)).trans (ih u h2)⟩

theorem prevValue_some (s : BSet) (hs : SInc s) (he : Even s) (t v : Nat) :
    prevValue s t = some v ↔ (v ≤ t ∧ mem s v = true ∧ ∀ u, v < u → u ≤ t → mem s u = false) :=
  (prevValue_iff s hs he t).1 v

theorem prevValue_none (s : BSet) (hs : SInc s) (he : Even s) (t : Nat) :
    prevValue s t = none ↔ ∀ u, u ≤ t → mem s u = false :=
  (prevValue_iff s hs he t).2

theorem nextAbsent_spec (s : BSet) (hs : SInc s) (he : Even s) (t : Nat) :
    t ≤ nextAbsent s t ∧ mem s (nextAbsent s t) = false ∧
      ∀ u, t ≤ u → u < nextAbsent s t → mem s u = true := by
  induction s, hs, he using even_induction with
  | nil => simp [nextAbsent]
  | step lo hi r hlh ht _ _ _ _ ih =>
    obtain ⟨f1, f2, f3, f4⟩ := step_facts lo hi r hlh ht
    simp only [nextAbsent]
    by_cases h1 : t < lo
    · simp only [h1, if_true]
      exact ⟨Nat.le_refl _, f1 t h1, fun u hu1 hu2 => by omega⟩
    · by_cases h2 : t < hi
      · simp only [h1, h2, if_true, if_false]
        refine ⟨by omega, ?_, fun u hu1 hu2 => f2 u (by omega) hu2⟩
        rw [f3 hi (Nat.le_refl _)]; exact f4 hi (Nat.le_refl _)
      · simp only [h1, h2, if_false]
        obtain ⟨i1, i2, i3⟩ := ih
        refine ⟨i1, ?_, ?_⟩
        · rw [f3 _ (by omega)]; exact i2
        · intro u hu1 hu2; rw [f3 u (by omega)]; exact i3 u hu1 hu2

theorem prevAbsent_iff (s : BSet) (hs : SInc s) (he : Even s) (t : Nat) :
    (∀ v, prevAbsent s t = some v ↔ GreatestUpTo (mem s · = false) (mem s · = true) t v) ∧
      (prevAbsent s t = none ↔ ∀ u, u ≤ t → mem s u = true) := by
  refine option_spec ?_ (fun _ _ => GreatestUpTo.unique fun _ h1 h2 => true_false_elim h2 h1)
    (fun hn v hv => true_false_elim (hn v hv.1) hv.2.1)
  unfold prevAbsent
  induction s, hs, he using even_induction with
  | nil => exact ⟨Nat.le_refl _, rfl, fun u h1 h2 => by omega⟩
  | step lo hi r hlh ht _ _ _ _ ih =>
    obtain ⟨f1, f2, f3, f4⟩ := step_facts lo hi r hlh ht
    rw [prevAbsentAux]
    by_cases h1 : t < lo
    · rw [if_pos h1]
      exact ⟨Nat.le_refl _, f1 t h1, fun u hu1 hu2 => by omega⟩
    · rw [if_neg h1]
      by_cases h2 : t < hi
      · rw [if_pos h2]
        by_cases h0 : lo = 0
        · rw [if_pos h0]
          exact fun u hu => f2 u (by omega) (by omega)
        · rw [if_neg h0]
          exact ⟨by omega, f1 _ (by omega), fun u hu1 hu2 => f2 u (by omega) (by omega)⟩
      · rw [if_neg h2]
        split at ih
        · rename_i v _
          obtain ⟨i1, i2, i3⟩ := ih
          have hv : hi ≤ v := Nat.le_of_not_lt fun hc =>
            true_false_elim (i3 hi hc (by omega)) (f4 hi (Nat.le_refl _))
          exact ⟨i1, (f3 v hv).trans i2, fun u hu1 hu2 => (f3 u (by omega)).trans (i3 u hu1 hu2)⟩
        · exact (true_false_elim (ih hi (by omega)) (f4 hi (Nat.le_refl _))).elim

theorem prevAbsent_some (s : BSet) (hs : SInc s) (he : Even s) (t v : Nat) :
    prevAbsent s t = some v ↔ (v ≤ t ∧ mem s v = false ∧ ∀ u, v < u → u ≤ t → mem s u = true) :=
  (prevAbsent_iff s hs he t).1 v

theorem prevAbsent_none (s : BSet) (hs : SInc s) (he : Even s) (t : Nat) :
    prevAbsent s t = none ↔ ∀ u, u ≤ t → mem s u = true :=
  (prevAbsent_iff s hs he t).2

/-! ### `shift` -/

/-- boundaries moved by `g`, read back through `h` -/
theorem mem_map_bounds (g h : Nat → Nat) (x : Nat) : ∀ (s : BSet), (∀ b ∈ s, (x < g b ↔ h x < b)) → mem (s.map g) x = mem s (h x)
  | [], _ => rfl
  | b :: t, hg => by
    rw [List.map_cons, mem_cons, mem_cons, mem_map_bounds g h x t fun c hc => hg c (List.mem_cons_of_mem _ hc)]
    simp only [hg b List.mem_cons_self]

theorem mem_shiftUp (s : BSet) (k x : Nat) :
    mem (shiftUp s k) x = (decide (k ≤ x) && mem s (x - k)) := by
  by_cases hk : k ≤ x
  · rw [shiftUp, mem_map_bounds (· + k) (· - k) x s fun b _ => by omega, decide_eq_true hk, Bool.true_and]
  · rw [decide_eq_false hk, Bool.false_and]
    exact mem_of_lt_all _ x fun b hb => by obtain ⟨c, _, rfl⟩ := List.mem_map.mp hb; omega

theorem sinc_shiftUp (s : BSet) (hs : SInc s) (k : Nat) : SInc (shiftUp s k) := by
  unfold shiftUp
  exact List.Pairwise.map _ (fun a b h => by omega) hs

theorem mem_toggle0 (r : BSet) (x : Nat) : mem (toggle0 r) x = !(mem r x) := by
  unfold toggle0
  split
  · simp [mem_cons]
  · simp [mem_cons]

theorem sinc_toggle0 (r : BSet) (hr : SInc r) : SInc (toggle0 r) := by
  unfold toggle0
  split
  · exact (List.pairwise_cons.mp hr).2
  · rename_i h
    refine List.pairwise_cons.mpr ⟨?_, hr⟩
    intro z hz
    cases r with
    | nil => simp at hz
    | cons a r' =>
      have ha : a ≠ 0 := fun e => h r' (by rw [e])
      rcases List.mem_cons.mp hz with e | e
      · omega
      · have := (List.pairwise_cons.mp hr).1 z e; omega

theorem mem_map_sub (t : BSet) (k x : Nat) : mem (t.map (· - k)) x = mem t (x + k) :=
  mem_map_bounds (· - k) (· + k) x t fun b _ => by omega

theorem sinc_map_sub (t : BSet) (k : Nat) (ht : SInc t) (h : ∀ z ∈ t, k ≤ z) :
    SInc (t.map (· - k)) := by
  rw [SInc, List.pairwise_map]
  exact List.Pairwise.imp_of_mem (fun {a b} ha hb hab => by
    have := h a ha; have := h b hb; omega) ht

theorem mem_shiftDown (s : BSet) (hs : SInc s) (k x : Nat) :
    mem (shiftDown s k) x = mem s (x + k) := by
  induction s with
  | nil => simp [shiftDown]
  | cons b t ih =>
    have hp := List.pairwise_cons.mp hs
    simp only [shiftDown]
    by_cases hb : b ≤ k
    · simp [hb, mem_toggle0, ih hp.2, mem_cons, show ¬ x + k < b by omega]
    · rw [if_neg hb]
      exact mem_map_sub (b :: t) k x

theorem sinc_shiftDown (s : BSet) (hs : SInc s) (k : Nat) : SInc (shiftDown s k) := by
  induction s with
  | nil => simp [shiftDown]
  | cons b t ih =>
    have hp := List.pairwise_cons.mp hs
    simp only [shiftDown]
    by_cases hb : b ≤ k
    · simp only [hb, if_true]
      exact sinc_toggle0 _ (ih hp.2)
    · rw [if_neg hb]
      exact sinc_map_sub (b :: t) k hs
        (List.forall_mem_cons.mpr ⟨by omega, fun z hz => by have := hp.1 z hz; omega⟩)

theorem sinc_shift (U : Nat) (s : BSet) (hs : SInc s) (d : Int) : SInc (shift U s d) := by
  unfold shift
  split
  · exact sinc_combine _ _ _ _ _ (sinc_shiftUp s hs _) (sinc_range 0 U)
  · exact sinc_combine _ _ _ _ _ (sinc_shiftDown s hs _) (sinc_range 0 U)

theorem mem_shift (U : Nat) (s : BSet) (hs : SInc s) (d : Int) (x : Nat) :
    mem (shift U s d) x =
      (decide (x < U) && decide (0 ≤ (x : Int) - d) && mem s ((x : Int) - d).toNat) := by
  unfold shift
  by_cases hd : d ≥ 0
  · simp only [hd, if_true]
    rw [mem_inter _ _ (sinc_shiftUp s hs _) (sinc_range 0 U), mem_range, mem_shiftUp]
    by_cases hk : d.toNat ≤ x
    · have e : ((x : Int) - d).toNat = x - d.toNat := by omega
      rw [e]
      simp [hk, show d ≤ (x : Int) by omega, Bool.and_comm]
    · simp [hk, show ¬ d ≤ (x : Int) by omega]
  · simp only [hd, if_false]
    rw [mem_inter _ _ (sinc_shiftDown s hs _) (sinc_range 0 U), mem_range, mem_shiftDown s hs]
    have e : ((x : Int) - d).toNat = x + (-d).toNat := by omega
    rw [e]
    simp [show d ≤ (x : Int) by omega, Bool.and_comm]

theorem canon_shift (U : Nat) (s : BSet) (hs : Canon U s) (d : Int) : Canon U (shift U s d) := by
  apply canon_of_bounded
  · exact sinc_shift U s hs.1 d
  · intro x hx
    rw [mem_shift U s hs.1]
    simp [show ¬ x < U by omega]

/-! ### emptiness -/

theorem isEmpty_eq (s : BSet) : isEmpty s = true ↔ s = [] := List.isEmpty_iff

theorem mem_of_isEmpty (s : BSet) (h : isEmpty s = true) (x : Nat) : mem s x = false := by
  rw [(isEmpty_eq s).mp h]; rfl

theorem isEmpty_of_mem (s : BSet) (c : Nat) (h : mem s c = true) : isEmpty s = false :=
  Bool.eq_false_iff.mpr fun he => Bool.false_ne_true ((mem_of_isEmpty s he c).symm.trans h)

theorem isEmpty_iff (s : BSet) (hs : SInc s) (he : Even s) :
    isEmpty s = true ↔ ∀ x, mem s x = false :=
  ⟨mem_of_isEmpty s, fun h => (isEmpty_eq s).mpr ((eq_nil_iff_no_mem s hs).mpr h)⟩

/-! ### range counts on the member list -/

theorem count_eq (l : List Nat) (hl : l.Pairwise (· < ·)) (p : Nat → Bool) (hp : ∀ v, v ∈ l ↔ p v = true) (lo hi : Nat) :
    (l.filter (fun v => decide (lo ≤ v) && decide (v < hi))).length = ((List.range' lo (hi - lo)).filter p).length := by
  -- both lists are duplicate-free and have the same members: the members of `p` in `[lo, hi)`
  refine ((List.perm_ext_iff_of_nodup ((hl.imp Nat.ne_of_lt).filter _) ((List.nodup_range').filter _)).mpr fun a => ?_).length_eq
  simp only [List.mem_filter, hp, List.mem_range'_1, Bool.and_eq_true, decide_eq_true_eq]
  constructor
  · rintro ⟨h1, h2, h3⟩; exact ⟨⟨h2, by omega⟩, h1⟩
  · rintro ⟨⟨h2, h3⟩, h1⟩; exact ⟨h1, h2, by omega⟩

theorem toList_reading {U : Nat} {s : BSet} (hc : Canon U s) :
    (∀ x, x ∈ toList s ↔ mem s x = true) ∧ (toList s).Pairwise (· < ·) ∧ ∀ x ∈ toList s, x < U :=
  ⟨mem_toList _ hc.1 hc.2.2, toList_sorted _ hc.1 hc.2.2,
    fun x hx => mem_lt_of_canon _ _ hc x ((mem_toList _ hc.1 hc.2.2 x).mp hx)⟩

theorem cardInRange_toList {U : Nat} {s : BSet} (hc : Canon U s) (a b : Nat) :
    cardInRange s a b = ((toList s).filter (fun v => decide (a ≤ v) && decide (v < b))).length := by
  obtain ⟨hm, hs, -⟩ := toList_reading hc
  rw [count_eq _ hs _ hm]
  by_cases hab : a ≤ b
  · exact cardInRange_spec _ hc.1 hc.2.2 a b hab
  · -- an empty window: the rank below `a` is at least the rank below `b`
    have hba := Nat.le_of_not_le hab
    have := rankLt_add s hc.1 hc.2.2 b (a - b)
    rw [Nat.add_sub_cancel' hba] at this
    rw [Nat.sub_eq_zero_of_le hba, cardInRange, this]
    exact Nat.sub_eq_zero_of_le (Nat.le_add_right _ _)

end RModel.BSet

/-! ### the member list of a canonical finite set (`BSI.Good`) -/
namespace RModel.BSI
open RModel.BSet

theorem toList_inter (A p : BSet) (hA : Good A) (hp : Good p) :
    toList (inter A p) = (toList A).filter (fun c => mem p c) := by
  have hg := good_inter A p hA hp
  apply sorted_ext _ _ (toList_sorted _ hg.1 hg.2) ((toList_sorted _ hA.1 hA.2).filter _)
  intro x
  rw [mem_toList _ hg.1 hg.2, List.mem_filter, mem_toList _ hA.1 hA.2, mem_inter _ _ hA.1 hp.1]
  simp

theorem card_inter_eq_countP (A p : BSet) (hA : Good A) (hp : Good p) :
    card (inter A p) = (toList A).countP (fun c => mem p c) := by
  rw [← toList_length, toList_inter A p hA hp, List.countP_eq_length_filter]

theorem nodup_toList (S : BSet) (hS : Good S) : (toList S).Nodup :=
  (toList_sorted S hS.1 hS.2).imp (fun h => Nat.ne_of_lt h)

end RModel.BSI

namespace RModel.BSI32
open RModel.BSet
open RModel.BSI (Good)

theorem card_zero_mem (s : BSet) (hs : Good s) (h0 : card s = 0) (x : Nat) : mem s x = false := by
  have : toList s = [] := List.eq_nil_of_length_eq_zero ((toList_length s).trans h0)
  rw [← Bool.not_eq_true, ← mem_toList s hs.1 hs.2 x, this]
  exact List.not_mem_nil

end RModel.BSI32
