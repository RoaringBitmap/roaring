import RModel.Impl.ByteInput
import RProofs.LittleEndian
/-!
The byte-input layer (`/repo/internal/byte_input.go`): `ByteInputAdapter` over any reader of the model (`Reader`: any chunk
schedule, either end-of-data convention, an optional error position; never `(0, nil)`, which the `io.Reader` contract tolerates
and on which `io.ReadAtLeast` spins) is observationally equivalent to `ByteBuffer` over the same bytes —
`adapter_refines_buf`; for clients that choose their next operation by what they have read, `prog_adapter_eq_buf`.  Where the
two differ is the failing operation (`buf_fail_spec`, `adapter_fail_spec`, `adapter_after_fail`).  The cursor primitives of the
decoder model (`takeN`, `rd16`, `rd32`) are the operations of this layer applied to the unread bytes.  Model:
`RModel/Impl/ByteInput.lean`.
-/
namespace RModel.Impl.ByteIn

/-! ### `io.ReadAtLeast` in closed form -/

/-- a `Read(p)` splits what the reader holds into the bytes delivered (at most `len(p)`) and what stays; without an error at
least one byte is delivered, and the error is the final one and comes only with the last byte (or on an exhausted reader) -/
theorem read_spec (r : Reader) (n : Nat) (hn : 0 < n) :
    ∃ out rest' s' e, r.rest = out ++ rest' ∧ out.length ≤ n ∧ (e = none → 0 < out.length) ∧
      (e = none ∨ e = some r.final ∧ rest' = []) ∧
      r.read n = ((out, e), { r with rest := rest', sched := s' }) := by
  obtain ⟨rest, sched, final, eager⟩ := r
  cases rest with
  | nil => exact ⟨[], [], sched, some final, rfl, Nat.zero_le _, nofun, .inr ⟨rfl, rfl⟩, rfl⟩
  | cons x xs =>
    have hk : 1 ≤ (nextChunk sched n).1 ∧ (nextChunk sched n).1 ≤ n := by
      unfold nextChunk; cases sched <;> simp <;> omega
    refine ⟨_, _, _, _, (List.take_append_drop (nextChunk sched n).1 _).symm, ?_, ?_, ?_, rfl⟩
    · exact Nat.le_trans (List.length_take_le _ _) hk.2
    · intro _; simp only [List.length_take, List.length_cons]; omega
    · by_cases h : (eager && ((x :: xs).drop (nextChunk sched n).1).isEmpty) = true
      · exact .inr ⟨if_pos h, List.isEmpty_iff.mp (Bool.and_eq_true_iff.mp h).2⟩
      · exact .inl (if_neg h)

/-- the `io.Reader` contract the adapter relies on holds for every model reader: never `(0, nil)`, never more than asked -/
theorem read_contract (r : Reader) (n : Nat) (hn : 0 < n) :
    (r.read n).1.1.length ≤ n ∧ ((r.read n).1.2 = none → 0 < (r.read n).1.1.length) := by
  obtain ⟨out, rest', s', e, -, hlen, hpos, -, hread⟩ := read_spec r n hn
  rw [hread]
  exact ⟨hlen, hpos⟩

/-- the error `ByteInputAdapter.Read` reports when the reader runs out before the request is served:
`io.ReadAtLeast` turns `io.EOF` into `io.ErrUnexpectedEOF` iff at least one byte was delivered, and passes other errors through -/
def failErr (final : Err) (delivered : Nat) : Err :=
  if delivered > 0 && final == .eof then .unexpectedEOF else final

/-- what `io.ReadAtLeast` leaves in `buf` (prefixed by `acc`) and returns as error -/
def fullSpec (rest : Bytes) (final : Err) (n : Nat) (acc : Bytes) : Bytes × Option Err :=
  if n ≤ rest.length then (acc ++ rest.take n, none)
  else (acc ++ rest, some (failErr final (acc ++ rest).length))

/-- one `Read` that delivered `out` leaves the same problem: `out` moves from the data to `buf` -/
theorem fullSpec_step (out rest : Bytes) (final : Err) (n : Nat) (acc : Bytes) (h : out.length ≤ n) :
    fullSpec rest final (n - out.length) (acc ++ out) = fullSpec (out ++ rest) final n acc := by
  have : n - out.length ≤ rest.length ↔ n ≤ out.length + rest.length := by omega
  simp only [fullSpec, List.length_append, this, List.take_append, List.take_of_length_le h, List.append_assoc]

theorem readAtLeast_spec (fuel : Nat) (r : Reader) (need : Nat) (racc : Bytes) (hf : need ≤ fuel) :
    ∃ s', readAtLeast fuel r need racc =
      (fullSpec r.rest r.final need racc.reverse, { r with rest := r.rest.drop need, sched := s' }) := by
  induction fuel generalizing r need racc with
  | zero =>
    obtain rfl : need = 0 := by omega
    exact ⟨r.sched, by simp [readAtLeast, fullSpec]⟩
  | succ fuel ih =>
    cases need with
    | zero => exact ⟨r.sched, by simp [readAtLeast, fullSpec]⟩
    | succ n =>
      obtain ⟨out, rest', s', e, hrest, hlen, hpos, he, hread⟩ := read_spec r (n + 1) (Nat.succ_pos n)
      unfold readAtLeast
      rw [hread, hrest]
      rcases he with rfl | ⟨rfl, rfl⟩
      · -- no error, at least one byte: the loop goes on with what is left
        obtain ⟨s'', hrec⟩ := ih { r with rest := rest', sched := s' } (n + 1 - out.length) (out.reverse ++ racc)
          (by have := hpos rfl; omega)
        refine ⟨s'', ?_⟩
        simp only [hrec, List.reverse_append, List.reverse_reverse, fullSpec_step _ _ _ _ _ hlen, List.drop_append,
          List.drop_eq_nil_of_le hlen, List.nil_append]
      · -- the final error came with the last bytes: the loop ends here
        refine ⟨s', ?_⟩
        simp only [List.append_nil, fullSpec, failErr, List.reverse_append, List.reverse_reverse,
          List.drop_eq_nil_of_le hlen]
        split
        · rw [List.take_of_length_le hlen]
        · simp [Nat.add_comm]

/-- **`io.ReadAtLeast(r, buf, n)`, closed form**: success iff `n` bytes are left, then `buf = rest[:n]` whatever the chunking;
otherwise everything left is consumed and the error is `failErr` -/
theorem readFull_spec (r : Reader) (n : Nat) :
    ∃ s', r.readFull n = (fullSpec r.rest r.final n [], { r with rest := r.rest.drop n, sched := s' }) :=
  readAtLeast_spec n r n [] (Nat.le_refl _)

/-! ### one operation in closed form -/

def Op.size : Op → Nat
  | .next n => n
  | .u32 => 4
  | .u16 => 2
  | .skip n => n

def Op.val : Op → Bytes → Val
  | .next _, l => .bytes l
  | .u32, l => .num (le32 l)
  | .u16, l => .num (le16 l)
  | .skip _, _ => .unit

/-- `io.ReadFull(r, buf)` is `takeN` on what the reader holds; a short read delivers — and uses up — all of it -/
theorem readFull_takeN (r : Reader) (n : Nat) :
    ∃ s', r.readFull n =
      match RModel.Impl.takeN n r.rest with
      | some (p, t) => ((p, none), { r with rest := t, sched := s' })
      | none => ((r.rest, some (failErr r.final r.rest.length)), { r with rest := [], sched := s' }) := by
  obtain ⟨s', h⟩ := readFull_spec r n
  refine ⟨s', ?_⟩
  rw [h]
  unfold fullSpec RModel.Impl.takeN
  by_cases hle : n ≤ r.rest.length
  · simp [hle]
  · simp [hle, List.drop_eq_nil_iff.mpr (Nat.le_of_not_le hle)]

theorem adapter_read_spec (a : Adapter) (n : Nat) :
    ∃ s', a.read n =
      if n ≤ a.r.rest.length then
        (.ok (a.r.rest.take n), ⟨{ a.r with rest := a.r.rest.drop n, sched := s' }, a.readBytes + n⟩)
      else
        (.error (failErr a.r.final a.r.rest.length), ⟨{ a.r with rest := [], sched := s' }, a.readBytes + a.r.rest.length⟩) := by
  obtain ⟨s', h⟩ := readFull_takeN a.r n
  refine ⟨s', ?_⟩
  unfold Adapter.read
  rw [h]
  unfold RModel.Impl.takeN
  by_cases hle : n ≤ a.r.rest.length
  · simp [hle, List.length_take, Nat.min_eq_left hle]
  · simp [hle]

/-- **`ByteInputAdapter`, one operation, closed form** (for every chunk schedule) -/
theorem adapter_step_spec (a : Adapter) (op : Op) :
    ∃ s', a.step op =
      if op.size ≤ a.r.rest.length then
        (.ok (op.val (a.r.rest.take op.size)),
          ⟨{ a.r with rest := a.r.rest.drop op.size, sched := s' }, a.readBytes + op.size⟩)
      else
        (.error (failErr a.r.final a.r.rest.length),
          ⟨{ a.r with rest := [], sched := s' }, a.readBytes + a.r.rest.length⟩) := by
  obtain ⟨s', h⟩ := adapter_read_spec a op.size
  refine ⟨s', ?_⟩
  -- every operation is `Read(size)` followed by a function of the bytes
  by_cases hle : op.size ≤ a.r.rest.length
  all_goals
    simp only [hle, if_true, if_false] at h ⊢
    cases op
    all_goals
      simp only [Adapter.step, Adapter.next, Adapter.readUInt32, Adapter.readUInt16, Adapter.skipBytes, Op.size, Op.val] at h ⊢
      rw [h]

/-- the interface's integers are the values of the first 4 and 2 bytes (absent bytes count as zero) -/
theorem le32_eq (l : Bytes) : le32 l = leVal (l.take 4) := by
  rcases l with _ | ⟨a, _ | ⟨b, _ | ⟨c, _ | ⟨d, t⟩⟩⟩⟩ <;> simp [le32, leVal] <;> omega

theorem le16_eq (l : Bytes) : le16 l = leVal (l.take 2) := by
  rcases l with _ | ⟨a, _ | ⟨b, t⟩⟩ <;> simp [le16, leVal]

theorem le32_take (l : Bytes) : le32 (l.take 4) = le32 l := by
  rw [le32_eq, le32_eq, List.take_take, Nat.min_self]

theorem le16_take (l : Bytes) : le16 (l.take 2) = le16 l := by
  rw [le16_eq, le16_eq, List.take_take, Nat.min_self]

/-- **`ByteBuffer`, one operation, closed form** -/
theorem buf_step_spec (b : Buf) (op : Op) :
    b.step op =
      if op.size ≤ b.data.length - b.off then
        (.ok (op.val ((b.data.drop b.off).take op.size)), { b with off := b.off + op.size })
      else (.error .unexpectedEOF, b) := by
  by_cases h : op.size ≤ b.data.length - b.off
  · rw [if_pos h]
    cases op <;> simp only [Op.size] at h <;>
      simp only [Buf.step, Buf.next, Buf.readUInt32, Buf.readUInt16, Buf.skipBytes, Op.size, Op.val, le32_take, le16_take,
        gt_iff_lt, if_neg (Nat.not_lt.mpr h)]
  · rw [if_neg h]
    cases op <;> simp only [Op.size] at h <;>
      simp only [Buf.step, Buf.next, Buf.readUInt32, Buf.readUInt16, Buf.skipBytes, gt_iff_lt, if_pos (Nat.lt_of_not_le h)]

/-- the Go invariant `0 ≤ off ≤ len(buf)` is kept by every operation (for non-negative arguments) -/
theorem buf_step_wf (b : Buf) (op : Op) (h : b.wf) : (b.step op).2.wf := by
  rw [buf_step_spec]
  unfold Buf.wf at *
  split
  · simp only; omega
  · exact h

/-! ### the simulation -/

def Buf.cursor (b : Buf) : Bytes := b.data.drop b.off

/-- the adapter and the buffer are at the same position of the same byte string -/
def Sim (a : Adapter) (b : Buf) : Prop :=
  a.r.rest = b.data.drop b.off ∧ a.readBytes = b.off ∧ b.off ≤ b.data.length

theorem sim_cursor (a : Adapter) (b : Buf) (h : Sim a b) : a.r.rest = b.cursor := h.1

theorem Sim.adv {a : Adapter} {b : Buf} (h : Sim a b) {n : Nat} (hn : n ≤ b.data.length - b.off) (s' : List Nat) :
    Sim ⟨{ a.r with rest := b.cursor.drop n, sched := s' }, b.off + n⟩ { b with off := b.off + n } :=
  ⟨by simp [Buf.cursor, List.drop_drop], rfl, by have := h.2.2; simp only; omega⟩

/-- `ByteInputAdapter.Read` seen from the buffer the adapter is in step with -/
theorem sim_read {a : Adapter} {b : Buf} (h : Sim a b) (n : Nat) :
    ∃ s', a.read n =
      if n ≤ b.data.length - b.off then
        (.ok (b.cursor.take n), ⟨{ a.r with rest := b.cursor.drop n, sched := s' }, b.off + n⟩)
      else
        (.error (failErr a.r.final (b.data.length - b.off)),
          ⟨{ a.r with rest := [], sched := s' }, b.off + (b.data.length - b.off)⟩) := by
  obtain ⟨s', hs⟩ := adapter_read_spec a n
  refine ⟨s', ?_⟩
  rw [hs, h.1, h.2.1, List.length_drop]
  rfl

theorem sim_step (a : Adapter) (b : Buf) (op : Op) (h : Sim a b) :
    (∃ v a' b', a.step op = (.ok v, a') ∧ b.step op = (.ok v, b') ∧ Sim a' b') ∨
    (∃ e a' e' b', a.step op = (.error e, a') ∧ b.step op = (.error e', b')) := by
  obtain ⟨s', ha⟩ := adapter_step_spec a op
  rw [h.1, h.2.1, List.length_drop] at ha
  rw [ha, buf_step_spec]
  by_cases hsz : op.size ≤ b.data.length - b.off
  · rw [if_pos hsz, if_pos hsz]
    exact .inl ⟨_, _, _, rfl, rfl, h.adv hsz s'⟩
  · rw [if_neg hsz, if_neg hsz]
    exact .inr ⟨_, _, _, _, rfl, rfl⟩

theorem observe_run_sim (a : Adapter) (b : Buf) (ops : List Op) (h : Sim a b) :
    observe (a.run ops) = observe (b.run ops) := by
  induction ops generalizing a b with
  | nil => rfl
  | cons op ops ih =>
    rcases sim_step a b op h with ⟨v, a', b', ha, hb, hs⟩ | ⟨e, a', e', b', ha, hb⟩
    · simp only [Adapter.run, Buf.run, ha, hb, observe, Adapter.getReadBytes, Buf.getReadBytes, hs.2.1, ih a' b' hs]
    · simp only [Adapter.run, Buf.run, ha, hb, observe]

/-- For every byte string, every chunk schedule (short reads of any shape), either end-of-data convention of
the reader and every sequence of operations, `ByteInputAdapter` over a reader of the bytes and `ByteBuffer` over the same bytes
produce the same observable transcript: the same values and the same `GetReadBytes()` for every operation before the first
failure, and they fail at the same operation. -/
theorem adapter_refines_buf (data : Bytes) (sched : List Nat) (eager : Bool) (ops : List Op) :
    observe ((Adapter.mk (Reader.ofData data sched none eager) 0).run ops) = observe ((Buf.mk data 0).run ops) :=
  observe_run_sim _ _ ops ⟨by simp [Reader.ofData], rfl, Nat.zero_le _⟩

/-- the same from any common position (e.g. after the roaring64 header was consumed) -/
theorem adapter_refines_buf_from (r : Reader) (pre : Bytes) (ops : List Op) :
    observe ((Adapter.mk r pre.length).run ops) = observe ((Buf.mk (pre ++ r.rest) pre.length).run ops) :=
  observe_run_sim _ _ ops ⟨by simp, rfl, by simp⟩

/-- with an error position `e ≤ len(data)`: the adapter behaves like a buffer over the first `e` bytes
(the operation that crosses the error position fails — with the reader's error, see `adapter_fail_spec`) -/
theorem adapter_refines_buf_errAt (data : Bytes) (sched : List Nat) (eager : Bool) (e : Nat) (ops : List Op) :
    observe ((Adapter.mk (Reader.ofData data sched (some e) eager) 0).run ops) = observe ((Buf.mk (data.take e) 0).run ops) := by
  apply observe_run_sim
  refine ⟨?_, rfl, Nat.zero_le _⟩
  unfold Reader.ofData
  by_cases h : e ≤ data.length
  · simp [h]
  · simp [h, List.take_of_length_le (Nat.le_of_lt (Nat.lt_of_not_le h))]

/-! ### adaptive clients -/

theorem runBuf_eq_runBufS {α : Type} (p : Prog α) (b : Buf) :
    p.runBuf b = (p.runBufS b).map fun (x, b') => (x, b'.getReadBytes) := by
  induction p generalizing b with
  | ret x => rfl
  | abort => rfl
  | op o k ih =>
    simp only [Prog.runBuf, Prog.runBufS]
    rcases b.step o with ⟨_ | _, b'⟩
    · exact ih _ b'
    · rfl

theorem runAdapter_eq_runAdapterS {α : Type} (p : Prog α) (a : Adapter) :
    p.runAdapter a = (p.runAdapterS a).map fun (x, a') => (x, a'.getReadBytes) := by
  induction p generalizing a with
  | ret x => rfl
  | abort => rfl
  | op o k ih =>
    simp only [Prog.runAdapter, Prog.runAdapterS]
    rcases a.step o with ⟨_ | _, a'⟩
    · exact ih _ a'
    · rfl

/-- the adaptive theorem with the final states: the client leaves the adapter and the buffer at the same position again -/
theorem progS_adapter_sim {α : Type} (p : Prog α) (a : Adapter) (b : Buf) (h : Sim a b) :
    (∀ y b', p.runBufS b = some (y, b') → ∃ a', p.runAdapterS a = some (y, a') ∧ Sim a' b') ∧
    (p.runBufS b = none → p.runAdapterS a = none) := by
  induction p generalizing a b with
  | ret x =>
    refine ⟨fun y b' hy => ?_, nofun⟩
    obtain ⟨rfl, rfl⟩ := Prod.mk.inj (Option.some.inj hy)
    exact ⟨a, rfl, h⟩
  | abort => exact ⟨nofun, fun _ => rfl⟩
  | op o k ih =>
    rcases sim_step a b o h with ⟨v, a', b', ha, hb, hs⟩ | ⟨e, a', e', b', ha, hb⟩
    · simp only [Prog.runAdapterS, Prog.runBufS, ha, hb]
      exact ih v a' b' hs
    · simp [Prog.runAdapterS, Prog.runBufS, ha, hb]

/-- The adaptive form: no client of the interface that stops at its first failed operation — whatever it does with
the values it reads — can tell a `ByteInputAdapter` over a reader of the bytes (any chunk schedule, either end-of-data
convention) from a `ByteBuffer` over the same bytes: same result, same final `GetReadBytes()`, failure in the same cases. -/
theorem prog_adapter_eq_buf {α : Type} (p : Prog α) (a : Adapter) (b : Buf) (h : Sim a b) :
    p.runAdapter a = p.runBuf b := by
  obtain ⟨hok, hno⟩ := progS_adapter_sim p a b h
  rw [runAdapter_eq_runAdapterS, runBuf_eq_runBufS]
  cases hb : p.runBufS b with
  | none => rw [hno hb]; rfl
  | some yb =>
    obtain ⟨a', ha, hs⟩ := hok yb.1 yb.2 hb
    rw [ha]
    simp only [Option.map_some, Adapter.getReadBytes, Buf.getReadBytes, hs.2.1]

theorem prog_adapter_eq_buf_fresh {α : Type} (p : Prog α) (data : Bytes) (sched : List Nat) (eager : Bool) :
    p.runAdapter (Adapter.mk (Reader.ofData data sched none eager) 0) = p.runBuf (Buf.mk data 0) :=
  prog_adapter_eq_buf p _ _ ⟨by simp [Reader.ofData], rfl, Nat.zero_le _⟩

/-! Where the two legitimately differ: the failing operation. -/

/-- `ByteBuffer`: a failed operation reports `io.ErrUnexpectedEOF` (also at the exact end of the data) and leaves the
buffer where it was — smaller requests can still be served afterwards -/
theorem buf_fail_spec (b : Buf) (op : Op) (e : Err) (b' : Buf) (h : b.step op = (.error e, b')) :
    e = .unexpectedEOF ∧ b' = b ∧ b.data.length - b.off < op.size := by
  rw [buf_step_spec] at h
  split at h
  · simp at h
  · simp only [Prod.mk.injEq, Res.error.injEq] at h
    exact ⟨h.1.symm, h.2.symm, by omega⟩

/-- `ByteInputAdapter`: a failed operation has consumed AND counted everything that was left; the error is `io.EOF` iff the
input ended exactly at the request boundary, `io.ErrUnexpectedEOF` iff it ended inside the request, and the reader's own
error at an error position -/
theorem adapter_fail_spec (a : Adapter) (op : Op) (e : Err) (a' : Adapter) (h : a.step op = (.error e, a')) :
    e = failErr a.r.final a.r.rest.length ∧ a'.r.rest = [] ∧ a'.readBytes = a.readBytes + a.r.rest.length ∧
    a'.r.final = a.r.final ∧ a.r.rest.length < op.size := by
  obtain ⟨s', hs⟩ := adapter_step_spec a op
  rw [hs] at h
  split at h
  · simp at h
  · simp only [Prod.mk.injEq, Res.error.injEq] at h
    obtain ⟨he, ha⟩ := h
    subst ha
    exact ⟨he.symm, rfl, rfl, rfl, by omega⟩

theorem failErr_eof_zero : failErr .eof 0 = .eof := rfl
theorem failErr_eof_pos (k : Nat) (h : 0 < k) : failErr .eof k = .unexpectedEOF := by
  simp [failErr, h]
theorem failErr_other (k : Nat) : failErr .other k = .other := by
  simp [failErr]

/-- after a failure the adapter is exhausted: every later operation that asks for at least one byte fails with the
reader's final error (`io.EOF` for a plain reader) without touching the counter; `Next(0)` / `SkipBytes(0)` succeed -/
theorem adapter_after_fail (a : Adapter) (op : Op) (h : a.r.rest = []) :
    ∃ s', a.step op =
      if op.size = 0 then (.ok (op.val []), ⟨{ a.r with rest := [], sched := s' }, a.readBytes⟩)
      else (.error a.r.final, ⟨{ a.r with rest := [], sched := s' }, a.readBytes⟩) := by
  obtain ⟨s', hs⟩ := adapter_step_spec a op
  refine ⟨s', ?_⟩
  rw [hs, h]
  by_cases h0 : op.size = 0
  · simp [h0]
  · have : ¬ op.size ≤ 0 := by omega
    simp [h0, failErr]

/-- the two implementations do disagree after the first failure — the abstraction `observe` is needed:
3 bytes, `ReadUInt32` (fails on both) then `ReadUInt16` (served by the buffer, `io.EOF` from the adapter) -/
example :
    ((Buf.mk [1, 2, 3] 0).run [.u32, .u16]).map (·.res) = [.error .unexpectedEOF, .ok (.num 513)] ∧
    ((Adapter.mk ⟨[1, 2, 3], [], .eof, false⟩ 0).run [.u32, .u16]).map (·.res) = [.error .unexpectedEOF, .error .eof] ∧
    ((Buf.mk [1, 2, 3] 0).run [.u32, .u16]).map (·.readBytes) = [0, 2] ∧
    ((Adapter.mk ⟨[1, 2, 3], [], .eof, false⟩ 0).run [.u32, .u16]).map (·.readBytes) = [3, 3] := by decide +kernel

/-- `Next(n)` with `n` bytes left returns `data[off:off+n]` and advances the counter by `n` — on both implementations -/
theorem next_spec (a : Adapter) (b : Buf) (n : Nat) (h : Sim a b) (hn : b.off + n ≤ b.data.length) :
    (b.next n).1 = .ok ((b.data.drop b.off).take n) ∧ (b.next n).2.getReadBytes = b.off + n ∧
    (a.next n).1 = .ok ((b.data.drop b.off).take n) ∧ (a.next n).2.getReadBytes = b.off + n ∧
    Sim (a.next n).2 (b.next n).2 := by
  have hle : n ≤ b.data.length - b.off := by omega
  obtain ⟨s', ha⟩ := sim_read h n
  rw [if_pos hle] at ha
  unfold Adapter.next Buf.next
  rw [ha, if_neg (Nat.not_lt.mpr hle)]
  exact ⟨rfl, rfl, rfl, rfl, h.adv hle s'⟩

/-- `SkipBytes(n)` with `n` bytes left advances both by exactly `n` (the adapter by reading and discarding) -/
theorem skip_spec (a : Adapter) (b : Buf) (n : Nat) (h : Sim a b) (hn : b.off + n ≤ b.data.length) :
    (b.skipBytes n).1 = .ok () ∧ (b.skipBytes n).2.getReadBytes = b.off + n ∧
    (a.skipBytes n).1 = .ok () ∧ (a.skipBytes n).2.getReadBytes = b.off + n ∧
    Sim (a.skipBytes n).2 (b.skipBytes n).2 := by
  have hle : n ≤ b.data.length - b.off := by omega
  obtain ⟨s', ha⟩ := sim_read h n
  rw [if_pos hle] at ha
  unfold Adapter.skipBytes Adapter.next Buf.skipBytes
  rw [ha, if_neg (Nat.not_lt.mpr hle)]
  exact ⟨rfl, rfl, rfl, rfl, h.adv hle s'⟩

/-- `SkipBytes(n)` with fewer than `n` bytes left fails on both (it never skips "too little" silently) -/
theorem skip_short (a : Adapter) (b : Buf) (n : Nat) (h : Sim a b) (hn : b.data.length < b.off + n) :
    (b.skipBytes n).1 = .error .unexpectedEOF ∧ (b.skipBytes n).2 = b ∧
    (a.skipBytes n).1 = .error (failErr a.r.final (b.data.length - b.off)) := by
  have hlt : ¬ n ≤ b.data.length - b.off := by have := h.2.2; omega
  obtain ⟨s', ha⟩ := sim_read h n
  rw [if_neg hlt] at ha
  unfold Adapter.skipBytes Adapter.next Buf.skipBytes
  rw [ha, if_pos (Nat.lt_of_not_le hlt)]
  exact ⟨rfl, rfl, rfl⟩

/-- the four bytes at the cursor, little-endian -/
theorem u32_spec (a : Adapter) (b : Buf) (b0 b1 b2 b3 : UInt8) (t : Bytes) (h : Sim a b)
    (hd : b.data.drop b.off = b0 :: b1 :: b2 :: b3 :: t) :
    (b.readUInt32).1 = .ok (b0.toNat + 256 * b1.toNat + 65536 * b2.toNat + 16777216 * b3.toNat) ∧
    (a.readUInt32).1 = .ok (b0.toNat + 256 * b1.toNat + 65536 * b2.toNat + 16777216 * b3.toNat) ∧
    (b.readUInt32).2.getReadBytes = b.off + 4 ∧ (a.readUInt32).2.getReadBytes = b.off + 4 := by
  have hle : 4 ≤ b.data.length - b.off := by
    have := congrArg List.length hd
    simp only [List.length_drop, List.length_cons] at this
    omega
  obtain ⟨s', ha⟩ := sim_read h 4
  rw [if_pos hle, Buf.cursor, hd] at ha
  unfold Adapter.readUInt32 Buf.readUInt32
  rw [ha, if_neg (Nat.not_lt.mpr hle), hd]
  exact ⟨rfl, rfl, rfl, rfl⟩

theorem u16_spec (a : Adapter) (b : Buf) (b0 b1 : UInt8) (t : Bytes) (h : Sim a b)
    (hd : b.data.drop b.off = b0 :: b1 :: t) :
    (b.readUInt16).1 = .ok (b0.toNat + 256 * b1.toNat) ∧
    (a.readUInt16).1 = .ok (b0.toNat + 256 * b1.toNat) ∧
    (b.readUInt16).2.getReadBytes = b.off + 2 ∧ (a.readUInt16).2.getReadBytes = b.off + 2 := by
  have hle : 2 ≤ b.data.length - b.off := by
    have := congrArg List.length hd
    simp only [List.length_drop, List.length_cons] at this
    omega
  obtain ⟨s', ha⟩ := sim_read h 2
  rw [if_pos hle, Buf.cursor, hd] at ha
  unfold Adapter.readUInt16 Buf.readUInt16
  rw [ha, if_neg (Nat.not_lt.mpr hle), hd]
  exact ⟨rfl, rfl, rfl, rfl⟩

/-! The cursor primitives of the decoder model are these operations.
`RModel/Impl/Serial.lean: decode` (and `Serial64`) read a byte LIST with `rd32`, `rd16`, `takeN`.  On both implementations the
operation of this layer is that primitive applied to the unread bytes (`data[off:]` resp. what the reader still holds): same value,
same rest, failure exactly when the primitive says `none`.  Together with `adapter_refines_buf` this is why one decoder model
serves `FromBuffer`/`FromUnsafeBytes` (ByteBuffer) and `ReadFrom`/`UnmarshalBinary`/… (ByteInputAdapter over any reader). -/

theorem takeN_buf (b : Buf) (n : Nat) :
    (∀ p t, RModel.Impl.takeN n b.cursor = some (p, t) →
      (b.next n).1 = .ok p ∧ (b.next n).2.cursor = t ∧ (b.next n).2.off = b.off + n ∧
      (b.skipBytes n).1 = .ok () ∧ (b.skipBytes n).2.cursor = t) ∧
    (RModel.Impl.takeN n b.cursor = none →
      (b.next n).1 = .error .unexpectedEOF ∧ (b.skipBytes n).1 = .error .unexpectedEOF) := by
  unfold RModel.Impl.takeN Buf.next Buf.skipBytes Buf.cursor
  rw [List.length_drop]
  by_cases h : n ≤ b.data.length - b.off
  · simp [h, Nat.not_lt.mpr h, List.drop_drop]
  · simp [h, Nat.lt_of_not_le h]

theorem Buf.next_eq (b : Buf) (n : Nat) :
    b.next n = match RModel.Impl.takeN n b.cursor with
      | some (p, _) => (.ok p, { b with off := b.off + n })
      | none => (.error .unexpectedEOF, b) := by
  unfold Buf.next RModel.Impl.takeN Buf.cursor
  rw [List.length_drop]
  by_cases h : n ≤ b.data.length - b.off
  · simp [h, Nat.not_lt.mpr h]
  · simp [h, Nat.lt_of_not_le h]

theorem Buf.adv {b : Buf} {k : Nat} (hw : b.wf) (hk : k ≤ b.cursor.length) :
    ({ b with off := b.off + k } : Buf).wf ∧ ({ b with off := b.off + k } : Buf).cursor = b.cursor.drop k := by
  unfold Buf.wf Buf.cursor at *
  rw [List.length_drop] at hk
  exact ⟨by simp only; omega, by simp [List.drop_drop]⟩

theorem takeN_adapter (a : Adapter) (n : Nat) :
    (∀ p t, RModel.Impl.takeN n a.r.rest = some (p, t) →
      (a.next n).1 = .ok p ∧ (a.next n).2.r.rest = t ∧ (a.next n).2.readBytes = a.readBytes + n ∧
      (a.skipBytes n).1 = .ok () ∧ (a.skipBytes n).2.r.rest = t) ∧
    (RModel.Impl.takeN n a.r.rest = none →
      (a.next n).1 = .error (failErr a.r.final a.r.rest.length) ∧
      (a.skipBytes n).1 = .error (failErr a.r.final a.r.rest.length)) := by
  obtain ⟨s', hs⟩ := adapter_read_spec a n
  unfold RModel.Impl.takeN Adapter.skipBytes Adapter.next
  rw [hs]
  by_cases h : n ≤ a.r.rest.length <;> simp [h]

theorem rdLE_eq_takeN {k : Nat} {f : Bytes → Nat} (hf : ∀ l, f l = leVal (l.take k)) (l : Bytes) :
    rdLE k l = (RModel.Impl.takeN k l).map fun (p, t) => (f p, t) := by
  unfold rdLE RModel.Impl.takeN
  split
  · simp only [Option.map_some, hf, List.take_take, Nat.min_self]
  · rfl

theorem rd32_eq_takeN (l : Bytes) :
    RModel.Impl.rd32 l = (RModel.Impl.takeN 4 l).map fun (p, t) => (le32 p, t) :=
  (rd32_eq l).trans (rdLE_eq_takeN le32_eq l)

theorem rd16_eq_takeN (l : Bytes) :
    RModel.Impl.rd16 l = (RModel.Impl.takeN 2 l).map fun (p, t) => (le16 p, t) :=
  (rd16_eq l).trans (rdLE_eq_takeN le16_eq l)

theorem rd32_buf (b : Buf) :
    (∀ v t, RModel.Impl.rd32 b.cursor = some (v, t) →
      (b.readUInt32).1 = .ok v ∧ (b.readUInt32).2.cursor = t ∧ (b.readUInt32).2.off = b.off + 4) ∧
    (RModel.Impl.rd32 b.cursor = none → (b.readUInt32).1 = .error .unexpectedEOF) := by
  rw [rd32_eq_takeN]
  unfold RModel.Impl.takeN Buf.readUInt32 Buf.cursor
  rw [List.length_drop]
  by_cases h : 4 ≤ b.data.length - b.off
  · simp [h, Nat.not_lt.mpr h, le32_take, List.drop_drop]
  · simp [h, Nat.lt_of_not_le h]

theorem rd16_buf (b : Buf) :
    (∀ v t, RModel.Impl.rd16 b.cursor = some (v, t) →
      (b.readUInt16).1 = .ok v ∧ (b.readUInt16).2.cursor = t ∧ (b.readUInt16).2.off = b.off + 2) ∧
    (RModel.Impl.rd16 b.cursor = none → (b.readUInt16).1 = .error .unexpectedEOF) := by
  rw [rd16_eq_takeN]
  unfold RModel.Impl.takeN Buf.readUInt16 Buf.cursor
  rw [List.length_drop]
  by_cases h : 2 ≤ b.data.length - b.off
  · simp [h, Nat.not_lt.mpr h, le16_take, List.drop_drop]
  · simp [h, Nat.lt_of_not_le h]

theorem rd32_adapter (a : Adapter) :
    (∀ v t, RModel.Impl.rd32 a.r.rest = some (v, t) →
      (a.readUInt32).1 = .ok v ∧ (a.readUInt32).2.r.rest = t ∧ (a.readUInt32).2.readBytes = a.readBytes + 4) ∧
    (RModel.Impl.rd32 a.r.rest = none → (a.readUInt32).1 = .error (failErr a.r.final a.r.rest.length)) := by
  obtain ⟨s', hs⟩ := adapter_read_spec a 4
  rw [rd32_eq_takeN]
  unfold RModel.Impl.takeN Adapter.readUInt32
  rw [hs]
  by_cases h : 4 ≤ a.r.rest.length <;> simp [h]

theorem rd16_adapter (a : Adapter) :
    (∀ v t, RModel.Impl.rd16 a.r.rest = some (v, t) →
      (a.readUInt16).1 = .ok v ∧ (a.readUInt16).2.r.rest = t ∧ (a.readUInt16).2.readBytes = a.readBytes + 2) ∧
    (RModel.Impl.rd16 a.r.rest = none → (a.readUInt16).1 = .error (failErr a.r.final a.r.rest.length)) := by
  obtain ⟨s', hs⟩ := adapter_read_spec a 2
  rw [rd16_eq_takeN]
  unfold RModel.Impl.takeN Adapter.readUInt16
  rw [hs]
  by_cases h : 2 ≤ a.r.rest.length <;> simp [h]

/-- one byte per `Read` call: 7 calls serve `ReadUInt32, ReadUInt16, Next(1)`; the next `Next(1)` hits the end exactly at a
request boundary (`io.EOF` from the adapter, `io.ErrUnexpectedEOF` from the buffer) -/
example :
    (Adapter.mk (Reader.ofData [0x3a, 0x30, 0, 0, 5, 6, 7] [1] none) 0).run [.u32, .u16, .next 1, .next 1] =
      [⟨.ok (.num 12346), 4⟩, ⟨.ok (.num 1541), 6⟩, ⟨.ok (.bytes [7]), 7⟩, ⟨.error .eof, 7⟩] ∧
    (Buf.mk [0x3a, 0x30, 0, 0, 5, 6, 7] 0).run [.u32, .u16, .next 1, .next 1] =
      [⟨.ok (.num 12346), 4⟩, ⟨.ok (.num 1541), 6⟩, ⟨.ok (.bytes [7]), 7⟩, ⟨.error .unexpectedEOF, 7⟩] := by decide +kernel

/-- a schedule (3, 2, 3, 2, …) that cuts inside the 4-byte integer and inside the `Next`; eager end-of-data -/
example :
    (Adapter.mk (Reader.ofData [1, 2, 3, 4, 5, 6, 7, 8, 9] [3, 2] none true) 0).run [.u32, .next 3, .skip 2, .u16] =
      [⟨.ok (.num 67305985), 4⟩, ⟨.ok (.bytes [5, 6, 7]), 7⟩, ⟨.ok .unit, 9⟩, ⟨.error .eof, 9⟩] := by decide +kernel

/-- the reader's first call delivers 3 of the 4 bytes, the second the rest -/
example :
    (Reader.ofData [1, 2, 3, 4, 5] [3, 2] none).read 4 =
      (([1, 2, 3], none), ⟨[4, 5], [2, 3], .eof, false⟩) := by decide +kernel

/-- an error position inside the integer (3 of 4 bytes delivered): the reader's error is passed through and the 3 bytes are
counted; the buffer over the same 8 bytes would have served the request -/
example :
    (Adapter.mk (Reader.ofData [1, 2, 3, 4, 5, 6, 7, 8] [2] (some 7)) 0).run [.u32, .u32, .u16] =
      [⟨.ok (.num 67305985), 4⟩, ⟨.error .other, 7⟩, ⟨.error .other, 7⟩] ∧
    (Buf.mk ([1, 2, 3, 4, 5, 6, 7, 8].take 7) 0).run [.u32, .u32, .u16] =
      [⟨.ok (.num 67305985), 4⟩, ⟨.error .unexpectedEOF, 4⟩, ⟨.ok (.num 1541), 6⟩] := by decide +kernel

/-- a short final read: 2 of the 4 requested bytes exist -/
example :
    (Adapter.mk (Reader.ofData [1, 2, 3, 4, 5, 6] [] none) 0).run [.u32, .next 4] =
      [⟨.ok (.num 67305985), 4⟩, ⟨.error .unexpectedEOF, 6⟩] := by decide +kernel

/-- `Next(0)` / `SkipBytes(0)` on an exhausted input succeed on both (no `Read` call is made) -/
example :
    (Adapter.mk (Reader.ofData [] [1] none) 0).run [.next 0, .skip 0, .u16] = [⟨.ok (.bytes []), 0⟩, ⟨.ok .unit, 0⟩, ⟨.error .eof, 0⟩] ∧
    (Buf.mk [] 0).run [.next 0, .skip 0, .u16] = [⟨.ok (.bytes []), 0⟩, ⟨.ok .unit, 0⟩, ⟨.error .unexpectedEOF, 0⟩] := by decide +kernel

/-- the hypotheses of `next_spec` / `u32_spec` are satisfiable -/
example : Sim (Adapter.mk (Reader.ofData [1, 2, 3, 4, 5] [1] none) 0) (Buf.mk [1, 2, 3, 4, 5] 0) :=
  ⟨rfl, rfl, by decide⟩

end RModel.Impl.ByteIn
