import RProofs.Iter
import RProofs.IterRev
import RProofs.Iter2Unset
import RModel.Impl.Iter2
/-!
Iteration protocols: `Bitmap.Iterate(cb)` and the range-over-func forms `Values(b)`, `Backward(b)`,
`Unset(b, min, max)` (models: `iterateRep`, `valuesRep`, `backwardRep`, `unsetRep` in `RModel/Impl/Iter2.lean`).

The specification of a callback enumeration with early termination is the early-terminating fold `foldUntil` over the
list that a full enumeration would deliver (the sorted member list, its reverse, the unset values of the window), for ANY
state-transforming callback; every loop over an iterator object is an instance of `loop_of_protocol` (`IterBase.lean`), and
`Iterate`, which chains the containers' `iterate` loops with a `break`, is put together by `foldUntil_append`.  For the
recording callback that answers `false` on its `k`-th call the values seen are the first `max k 1` of that list, all of them
for `k = none`.
-/
open RModel.Util
namespace RModel.Impl.It
open RModel RModel.Impl RModel.Impl.ContOps RModel.Impl.ContQuery

theorem foldUntil_append {σ : Type} (cb : σ → Nat → Bool × σ) : ∀ (l1 l2 : List Nat) (s : σ),
    foldUntil cb (l1 ++ l2) s =
      if (foldUntil cb l1 s).1 then foldUntil cb l2 (foldUntil cb l1 s).2 else (false, (foldUntil cb l1 s).2)
  | [], l2, s => by simp [foldUntil]
  | v :: t, l2, s => by
    simp only [List.cons_append, foldUntil]
    by_cases h : (cb s v).1 = true
    · simp only [h, if_true]; exact foldUntil_append cb t l2 _
    · simp [h]

theorem foldUntil_map {σ : Type} {cb cb' : σ → Nat → Bool × σ} {f : Nat → Nat} : ∀ (l : List Nat) (s : σ),
    (∀ s, ∀ x ∈ l, cb s (f x) = cb' s x) → foldUntil cb (l.map f) s = foldUntil cb' l s
  | [], _, _ => rfl
  | v :: t, s, h => by
    simp only [List.map_cons, foldUntil]
    rw [h s v (by simp)]
    by_cases hc : (cb' s v).1 = true
    · simp only [hc, if_true]
      exact foldUntil_map t _ (fun s x hx => h s x (by simp [hx]))
    · simp [hc]

theorem ite_fst_eta {σ : Type} (r : Bool × σ) : (if r.1 = true then (true, r.2) else (false, r.2)) = r := by
  rcases r with ⟨_ | _, s⟩ <;> rfl

/-- the loop of the three `iterate` methods on a container iterator -/
theorem CIt.iterate_spec {σ : Type} (cb : σ → Nat → Bool × σ) (fuel : Nat) (it : CIt) (s : σ) (hi : it.Inv)
    (hf : it.rem.length ≤ fuel) : CIt.iterate cb fuel it s = foldUntil cb it.rem s :=
  (loop_of_protocol CIt.follows cb (fun s => (true, s)) (fun s => (false, s)) (CIt.iterate cb) (fun _ _ => rfl)
    (fun _ _ _ => rfl) fuel it s hi hf).trans (ite_fst_eta _)

theorem iterateCont_spec {σ : Type} {c : Cont} (h : c.wf = true) (cb : σ → Nat → Bool × σ) (s : σ) :
    iterateCont c cb s = foldUntil cb (valsOfCont c) s := by
  obtain ⟨c1, c2⟩ := CIt.ofCont_spec h
  unfold iterateCont
  rw [CIt.iterate_spec cb 65536 _ s c1 (c2 ▸ length_valsOfCont_le h), c2]

theorem iterateSlots_spec {σ : Type} (cb : σ → Nat → Bool × σ) : ∀ (l : List Slot), SlotsWf l → ∀ (s : σ),
    iterateSlots cb l s = (foldUntil cb (l.flatMap slotVals) s).2
  | [], _, s => rfl
  | sl :: t, hw, s => by
    have hm := hw.head
    simp only [iterateSlots, List.flatMap_cons]
    rw [iterateCont_spec hm.2, foldUntil_append]
    have hmap : foldUntil cb (slotVals sl) s =
        foldUntil (fun s x => cb s (x ||| sl.key <<< 16)) (valsOfCont sl.c) s :=
      foldUntil_map _ _ fun s' x hx => by rw [shl16, or_hs_eq_add (valsOfCont_lt hm.2 hx) (by omega)]
    rw [hmap]
    by_cases hc : (foldUntil (fun s x => cb s (x ||| sl.key <<< 16)) (valsOfCont sl.c) s).1 = true
    · simp only [hc, if_true]
      exact iterateSlots_spec cb t hw.tail _
    · simp [hc]

/-- **`Iterate(cb)`**: whatever the callback does with its state, it is handed the members of the denoted set in
increasing order, each once, until it answers `false` (the member it refuses is the last one it sees) -/
theorem iterateRep_spec {σ : Type} (r : Rep) (h : r.wf = true) (cb : σ → Nat → Bool × σ) (s : σ) :
    iterateRep r cb s = (foldUntil cb (BSet.toList r.toBSet) s).2 := by
  unfold iterateRep
  rw [iterateSlots_spec cb r.slots ((slotsWf_iff r).mp h), ← valsOfRep_eq_toList r h, valsOfRep_eq]

/-! ### the recording callback -/

theorem foldUntil_seen (k : Option Nat) (l : List Nat) :
    (foldUntil (seenCb k) l (0, [])).2.2.reverse =
      match k with
      | none => l
      | some k => l.take (max k 1) := by
  rw [foldUntil_eq]
  exact foldUntilA_seen k l

/-- **`Iterate` with a callback that stops on its `k`-th call**: the values seen are exactly the first `max k 1` members in
increasing order (all members when there are fewer, or when the callback never stops) -/
theorem iterateSeen_spec (r : Rep) (h : r.wf = true) (k : Option Nat) :
    iterateSeen r k =
      match k with
      | none => BSet.toList r.toBSet
      | some k => (BSet.toList r.toBSet).take (max k 1) := by
  unfold iterateSeen
  rw [iterateRep_spec r h]
  exact foldUntil_seen k _

/-! ### `Values(b)` and `Backward(b)` -/

theorem IntIt.forEach_spec {σ : Type} (cb : σ → Nat → Bool × σ) (fuel : Nat) (ii : IntIt) (s : σ) (hi : ii.Inv)
    (hf : ii.rem.length ≤ fuel) : IntIt.forEach cb fuel ii s = (foldUntil cb ii.rem s).2 :=
  (loop_of_protocol IntIt.follows cb id id (IntIt.forEach cb) (fun _ _ => rfl) (fun _ _ _ => rfl) fuel ii s hi hf).trans
    (ite_self _)

theorem valsOfRep_length_le {r : Rep} (h : r.wf = true) : (valsOfRep r).length ≤ 4294967296 := by
  rw [valsOfRep_eq_toList r h, BSet.toList_length]
  exact BSet.card_le_of_canon (canon_rep r h)

/-- **`Values(b)`**: the yield function is handed the members in increasing order until it answers `false` -/
theorem valuesRep_spec {σ : Type} (r : Rep) (h : r.wf = true) (cb : σ → Nat → Bool × σ) (s : σ) :
    valuesRep r cb s = (foldUntil cb (BSet.toList r.toBSet) s).2 := by
  obtain ⟨c1, c2⟩ := IntIt.create_spec r h
  unfold valuesRep
  rw [IntIt.forEach_spec cb _ _ s c1 (by rw [c2]; exact valsOfRep_length_le h), c2, valsOfRep_eq_toList r h]

theorem IntRevIt.forEach_spec {σ : Type} (cb : σ → Nat → Bool × σ) (fuel : Nat) (ii : IntRevIt) (s : σ) (hi : ii.Inv)
    (hf : ii.rem.length ≤ fuel) : IntRevIt.forEach cb fuel ii s = (foldUntil cb ii.rem.reverse s).2 :=
  (loop_of_protocol IntRevIt.follows cb id id (IntRevIt.forEach cb) (fun _ _ => rfl) (fun _ _ _ => rfl) fuel ii s hi
    (by rw [List.length_reverse]; exact hf)).trans (ite_self _)

/-- **`Backward(b)`**: the members in decreasing order until the yield function answers `false` -/
theorem backwardRep_spec {σ : Type} (r : Rep) (h : r.wf = true) (cb : σ → Nat → Bool × σ) (s : σ) :
    backwardRep r cb s = (foldUntil cb (BSet.toList r.toBSet).reverse s).2 := by
  obtain ⟨c1, c2⟩ := IntRevIt.create_spec r h
  unfold backwardRep
  rw [IntRevIt.forEach_spec cb _ _ s c1 (by rw [c2]; exact valsOfRep_length_le h), c2, valsOfRep_eq_toList r h]

theorem valuesSeen_spec (r : Rep) (h : r.wf = true) (k : Option Nat) :
    valuesSeen r k =
      match k with
      | none => BSet.toList r.toBSet
      | some k => (BSet.toList r.toBSet).take (max k 1) := by
  unfold valuesSeen
  rw [valuesRep_spec r h]
  exact foldUntil_seen k _

theorem backwardSeen_spec (r : Rep) (h : r.wf = true) (k : Option Nat) :
    backwardSeen r k =
      match k with
      | none => (BSet.toList r.toBSet).reverse
      | some k => (BSet.toList r.toBSet).reverse.take (max k 1) := by
  unfold backwardSeen
  rw [backwardRep_spec r h]
  exact foldUntil_seen k _

/-! ### `Unset(b, min, max)` -/

theorem UnsetIt.forEach_spec {σ : Type} (cb : σ → Nat → Bool × σ) (fuel : Nat) (iui : UnsetIt) (s : σ) (hi : iui.Inv)
    (hf : iui.rem.length ≤ fuel) : UnsetIt.forEach cb fuel iui s = (foldUntil cb iui.rem s).2 :=
  (loop_of_protocol UnsetIt.follows cb id id (UnsetIt.forEach cb) (fun _ _ => rfl) (fun _ _ _ => rfl) fuel iui s hi
    hf).trans (ite_self _)

theorem absVals_length_le (r : Rep) (a b : Nat) : (absVals r a b).length ≤ b - a := length_absR_le r.has a b

/-- **`Unset(b, min, max)`**: the yield function is handed the values of `[min, max]` that are NOT in the bitmap, in
increasing order, until it answers `false` -/
theorem unsetRep_spec {σ : Type} (r : Rep) (h : r.wf = true) (min max : Nat) (hmax : max < 4294967296)
    (cb : σ → Nat → Bool × σ) (s : σ) :
    unsetRep r min max cb s = (foldUntil cb (absVals r min (max + 1)) s).2 := by
  obtain ⟨c1, c2⟩ := UnsetIt.create_spec r h min (max + 1) (by omega)
  unfold unsetRep
  rw [UnsetIt.forEach_spec cb _ _ s c1 (by rw [c2]; have := absVals_length_le r min (max + 1); omega), c2]

theorem unsetSeen_spec (r : Rep) (h : r.wf = true) (min max : Nat) (hmax : max < 4294967296) (k : Option Nat) :
    unsetSeen r min max k =
      match k with
      | none => absVals r min (max + 1)
      | some k => (absVals r min (max + 1)).take (Nat.max k 1) := by
  unfold unsetSeen
  rw [unsetRep_spec r h min max hmax]
  exact foldUntil_seen k _

end RModel.Impl.It
