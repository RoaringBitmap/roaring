import RProofs.ByteInput
import RProofs.SerialLemmas
/-!
The portable decoder as a CLIENT of the byte-input interface.

`decodeProg` is `roaringArray.readFrom` written against `ReadUInt32 / ReadUInt16 / Next / SkipBytes` only (a `Prog`, see
`RModel/Impl/ByteInput.lean`).  It is proved to be the byte-list decoder model `RModel.Impl.decode` (the model all C05 / C10
theorems are about) when run on a `ByteBuffer` — and therefore, by `prog_adapter_eq_buf`, when run on a `ByteInputAdapter` over
a reader that delivers the bytes in ANY chunk sizes: `decode_via_adapter`.

What holds of every client run on a byte list — the run is determined by the bytes it consumed (`runList_local`): they are a prefix
of the input, and whatever follows them is left unread — is proved once by induction over `Prog`; `decode_ext`, `decode_count_le`
and `decode_count_ge` read it off for the decoder.
-/
namespace RModel.Impl.ByteIn
open RModel RModel.Impl

def Val.asNum : Val → Nat
  | .num v => v
  | _ => 0

def Val.asBytes : Val → Bytes
  | .bytes l => l
  | _ => []

/-- bit `i` of the is-run bitmap (`isRunBitmap[i/8] & (1 << (i%8)) != 0`), `false` without run cookie -/
def runBitOf (isRun : Option Bytes) (i : Nat) : Bool :=
  match isRun with
  | some rb => (rb.getD (i / 8) 0).toNat / 2 ^ (i % 8) % 2 == 1
  | none => false

/-- the container loop of `readFrom` (continuation-passing: `k` receives the slots read) -/
def readContainersProg {β : Type} (P : SerParams) (flag : Bool) (isRun : Option Bytes) :
    (i : Nat) → List (Nat × Nat) → (List Slot → Prog β) → Prog β
  | _, [], k => k []
  | i, (key, cardm1) :: rest, k =>
    let card := cardm1 + 1
    let runBit := runBitOf isRun i
    let cont : Cont → Prog β := fun c =>
      readContainersProg P flag isRun (i + 1) rest (fun ss => k ({ key := key, c := c, flag := flag } :: ss))
    if runBit then
      .op .u16 fun nr => .op (.next (nr.asNum * 4)) fun p => cont (.run (pairs16 (bytesTo16s p.asBytes)))
    else if card > P.arrayMax then
      .op (.next (P.arrayMax * 2)) fun p => cont (.bmp card (bytesToWords p.asBytes))
    else
      .op (.next (card * 2)) fun p => cont (.arr (bytesTo16s p.asBytes))

/-- everything after the size is known: descriptive header, offsets skipped, containers -/
def decodeBody (P : SerParams) (flag : Bool) (size : Nat) (isRun : Option Bytes) : Prog Rep :=
  if size > 65536 then .abort
  else
    .op (.next (4 * size)) fun kc =>
      let keycard := pairs16 (bytesTo16s kc.asBytes)
      let rest : Prog Rep := readContainersProg P flag isRun 0 keycard (fun slots => .ret { cow := false, slots := slots })
      if isRun.isNone || size ≥ P.noOffsetThreshold then .op (.skip (4 * size)) fun _ => rest else rest

/-- `roaringArray.readFrom(stream)` as a client of `internal.ByteInput`; `flag = !stream.NextReturnsSafeSlice()` -/
def decodeProg (P : SerParams) (flag : Bool) : Prog Rep :=
  .op .u32 fun cv =>
    let cookie := cv.asNum
    if cookie % 65536 == P.serialCookie then
      let size := cookie / 65536 + 1
      .op (.next ((size + 7) / 8)) fun rb => decodeBody P flag size (some rb.asBytes)
    else if cookie == P.serialCookieNoRun then
      .op .u32 fun sv => decodeBody P flag sv.asNum none
    else .abort

/-- a client run directly on the list of unread bytes -/
def Prog.runList {α : Type} : Prog α → Bytes → Option (α × Bytes)
  | .ret a, l => some (a, l)
  | .abort, _ => none
  | .op o k, l =>
    match takeN o.size l with
    | some (p, t) => (k (o.val p)).runList t
    | none => none

theorem runList_op {α : Type} {o : Op} {k : Val → Prog α} {l : Bytes} {a : α} {t : Bytes}
    (h : (Prog.op o k).runList l = some (a, t)) :
    ∃ p, (k (o.val p)).runList (l.drop o.size) = some (a, t) ∧ o.size ≤ l.length := by
  simp only [Prog.runList, takeN] at h
  by_cases hle : o.size ≤ l.length
  · rw [if_pos hle] at h
    exact ⟨_, h, hle⟩
  · rw [if_neg hle] at h
    cases h

theorem runList_local {α : Type} (p : Prog α) {l : Bytes} {a : α} {t : Bytes} (h : p.runList l = some (a, t)) :
    ∃ w, l = w ++ t ∧ ∀ u, p.runList (w ++ u) = some (a, u) := by
  induction p generalizing l with
  | ret x => cases h; exact ⟨[], rfl, fun _ => rfl⟩
  | abort => cases h
  | op o k ih =>
    simp only [Prog.runList] at h
    split at h
    · rename_i x r ht
      obtain ⟨rfl, hx⟩ := takeN_eq_some_iff.mp ht
      obtain ⟨w, rfl, hw⟩ := ih _ h
      exact ⟨x ++ w, (List.append_assoc ..).symm, fun u => by
        simp only [Prog.runList, List.append_assoc, takeN_append _ _ _ hx, hw]⟩
    · cases h

theorem runList_length_le {α : Type} {p : Prog α} {l : Bytes} {a : α} {t : Bytes} (h : p.runList l = some (a, t)) :
    t.length ≤ l.length := by
  obtain ⟨w, rfl, -⟩ := runList_local p h
  simp

theorem runBufS_eq_runList {α : Type} (p : Prog α) (b : Buf) (hw : b.wf) :
    p.runBufS b = (p.runList b.cursor).map fun (a, t) => (a, { b with off := b.data.length - t.length }) := by
  induction p generalizing b with
  | ret a =>
    unfold Buf.wf at hw
    simp only [Prog.runBufS, Prog.runList, Buf.cursor, Option.map_some, List.length_drop]
    rw [show b.data.length - (b.data.length - b.off) = b.off by omega]
  | abort => rfl
  | op o k ih =>
    simp only [Prog.runBufS, Prog.runList, buf_step_spec, takeN, Buf.cursor, List.length_drop]
    by_cases hle : o.size ≤ b.data.length - b.off
    · simp only [if_pos hle]
      rw [ih _ _ (by unfold Buf.wf at *; simp only; omega)]
      simp [Buf.cursor, List.drop_drop]
    · simp only [if_neg hle, Option.map_none]

theorem runBuf_eq_runList {α : Type} (p : Prog α) (b : Buf) (hw : b.wf) :
    p.runBuf b = (p.runList b.cursor).map fun (a, t) => (a, b.data.length - t.length) := by
  rw [runBuf_eq_runBufS, runBufS_eq_runList p b hw, Option.map_map]
  rfl

theorem readContainersProg_runList {β : Type} (P : SerParams) (flag : Bool) (isRun : Option Bytes)
    (kc : List (Nat × Nat)) (i : Nat) (k : List Slot → Prog β) (bs : Bytes) :
    (readContainersProg P flag isRun i kc k).runList bs =
      match readContainers P flag isRun i kc bs with
      | none => none
      | some (ss, bs') => (k ss).runList bs' := by
  induction kc generalizing i k bs with
  | nil => rfl
  | cons hd rest ih =>
    obtain ⟨key, cardm1⟩ := hd
    rw [readContainers_cons]
    simp only [readContainersProg, readOne]
    rw [show runBitOf isRun i = runBitAt isRun i from rfl]
    -- the three container kinds: each is one `Next` (after a `ReadUInt16` for runs), then the rest of the loop
    by_cases hr : runBitAt isRun i = true
    · rw [if_pos hr, if_pos hr]
      simp only [Prog.runList, Op.size, Op.val, Val.asNum, Val.asBytes, rd16_eq_takeN]
      cases takeN 2 bs with
      | none => rfl
      | some pt =>
        simp only [Option.map_some]
        cases takeN (le16 pt.1 * 4) pt.2 with
        | none => rfl
        | some pt2 =>
          simp only [Option.map_some, ih]
          cases readContainers P flag isRun (i + 1) rest pt2.2 <;> rfl
    · rw [if_neg hr, if_neg hr]
      split <;> simp only [Prog.runList, Op.size, Op.val, Val.asBytes]
      · cases takeN (P.arrayMax * 2) bs with
        | none => rfl
        | some pt =>
          simp only [Option.map_some, ih]
          cases readContainers P flag isRun (i + 1) rest pt.2 <;> rfl
      · cases takeN ((cardm1 + 1) * 2) bs with
        | none => rfl
        | some pt =>
          simp only [Option.map_some, ih]
          cases readContainers P flag isRun (i + 1) rest pt.2 <;> rfl

/-- how a list run is reported by `decode`: the representation and the number of bytes consumed -/
def report (bs : Bytes) : Option (Rep × Bytes) → Outcome (Rep × Nat)
  | some (r, rest) => .ok (r, bs.length - rest.length)
  | none => .err

theorem decodeBody_runList (P : SerParams) (flag : Bool) (bs : Bytes) (size : Nat) (isRun : Option Bytes) (bs2 : Bytes) :
    report bs ((decodeBody P flag size isRun).runList bs2) = decodeTail P flag bs.length size isRun bs2 := by
  unfold decodeBody decodeTail decodeSkip
  split
  · rfl
  · simp only [Prog.runList, Op.size, Op.val, Val.asBytes]
    cases takeN (4 * size) bs2 with
    | none => rfl
    | some pt =>
      simp only
      split
      · simp only [Prog.runList, Op.size]
        cases takeN (4 * size) pt.2 with
        | none => rfl
        | some pt2 =>
          simp only [Option.map_some, readContainersProg_runList]
          cases readContainers P flag isRun 0 (pairs16 (bytesTo16s pt.1)) pt2.2 <;> rfl
      · simp only [readContainersProg_runList]
        cases readContainers P flag isRun 0 (pairs16 (bytesTo16s pt.1)) pt.2 <;> rfl

/-- the client run on the byte list IS the decoder model -/
theorem decodeProg_runList (P : SerParams) (flag : Bool) (bs : Bytes) :
    report bs ((decodeProg P flag).runList bs) = decode P flag bs := by
  rw [decode_eq]
  unfold decodeProg decodeHdr
  simp only [Prog.runList, Op.size, Op.val, rd32_eq_takeN]
  cases takeN 4 bs with
  | none => rfl
  | some pt =>
    simp only [Option.map_some, Val.asNum]
    by_cases hc1 : (le32 pt.1 % 65536 == P.serialCookie) = true
    · simp only [hc1, if_true, Prog.runList, Op.size, Op.val]
      cases takeN ((le32 pt.1 / 65536 + 1 + 7) / 8) pt.2 with
      | none => rfl
      | some pt1 => exact decodeBody_runList P flag bs _ _ _
    · simp only [hc1, if_false, Bool.false_eq_true]
      by_cases hc2 : (le32 pt.1 == P.serialCookieNoRun) = true
      · simp only [hc2, if_true, Prog.runList, Op.size, Op.val]
        cases takeN 4 pt.2 with
        | none => rfl
        | some pt1 => exact decodeBody_runList P flag bs _ _ _
      · simp only [hc2, if_false, Bool.false_eq_true, Prog.runList, report]

theorem runList_of_decode_ok {P : SerParams} {flag : Bool} {bs : Bytes} {r : Rep} {m : Nat}
    (h : decode P flag bs = .ok (r, m)) :
    ∃ rest, (decodeProg P flag).runList bs = some (r, rest) ∧ m = bs.length - rest.length := by
  rw [← decodeProg_runList] at h
  cases hr : (decodeProg P flag).runList bs with
  | none => rw [hr] at h; cases h
  | some x => rw [hr] at h; cases h; exact ⟨_, rfl, rfl⟩

theorem _root_.RModel.Impl.decode_ext {P : SerParams} {flag : Bool} {bs : Bytes} {v : Rep × Nat}
    (h : decode P flag bs = .ok v) (t : Bytes) : decode P flag (bs ++ t) = .ok v := by
  obtain ⟨r, m⟩ := v
  obtain ⟨rest, hr, rfl⟩ := runList_of_decode_ok h
  obtain ⟨w, rfl, hw⟩ := runList_local _ hr
  rw [← decodeProg_runList, List.append_assoc, hw]
  simp only [report, List.length_append]
  congr 2
  omega

theorem _root_.RModel.Impl.decode_count_le {P : SerParams} {flag : Bool} {bs : Bytes} {r : Rep} {c : Nat}
    (h : decode P flag bs = .ok (r, c)) : c ≤ bs.length := by
  obtain ⟨rest, -, rfl⟩ := runList_of_decode_ok h
  omega

/-- a successful run of the decoder model consumes at least 8 bytes: the cookie and the size word, or the cookie, a byte of run
flags and a descriptor.  Read off the client: every operation it got through took its bytes from the front. -/
theorem decode_count_ge {P : SerParams} {flag : Bool} {bs : Bytes} {r : Rep} {m : Nat}
    (h : decode P flag bs = .ok (r, m)) : 8 ≤ m := by
  obtain ⟨rest, hr, rfl⟩ := runList_of_decode_ok h
  have hs := runList_length_le hr
  obtain ⟨p, h1, e1⟩ := runList_op hr
  simp only [Op.size, Op.val, Val.asNum] at h1 e1
  by_cases hc1 : (le32 p % 65536 == P.serialCookie) = true
  · simp only [hc1, if_true] at h1
    obtain ⟨p2, h2, e2⟩ := runList_op h1
    unfold decodeBody at h2
    split at h2
    · cases h2
    · obtain ⟨p3, h3, e3⟩ := runList_op h2
      have := runList_length_le h3
      simp only [Op.size, List.length_drop] at e2 e3 this
      omega
  · simp only [hc1, if_false, Bool.false_eq_true] at h1
    by_cases hc2 : (le32 p == P.serialCookieNoRun) = true
    · simp only [hc2, if_true] at h1
      obtain ⟨p2, h2, e2⟩ := runList_op h1
      have := runList_length_le h2
      simp only [Op.size, List.length_drop] at e2 this
      omega
    · simp only [hc2, if_false, Bool.false_eq_true] at h1
      cases h1

/-- a successful run of the decoder model consumes at least the 4 cookie bytes and at most the input -/
theorem decode_consumed (P : SerParams) (flag : Bool) (bs : Bytes) (r : Rep) (m : Nat) (h : decode P flag bs = .ok (r, m)) :
    4 ≤ m ∧ m ≤ bs.length :=
  ⟨Nat.le_trans (by decide) (decode_count_ge h), decode_count_le h⟩

/-- how a run on one of the two implementations is reported -/
def reportRun : Option (Rep × Nat) → Outcome (Rep × Nat)
  | some (r, n) => .ok (r, n)
  | none => .err

/-- `FromBuffer` / `FromUnsafeBytes`: the decoder client on a `ByteBuffer` over `bs` returns what the decoder model returns,
including the number of bytes consumed (`GetReadBytes()` at the end) -/
theorem decode_via_buf (P : SerParams) (flag : Bool) (bs : Bytes) :
    reportRun ((decodeProg P flag).runBuf (Buf.mk bs 0)) = decode P flag bs := by
  rw [runBuf_eq_runList _ _ (Nat.zero_le _), ← decodeProg_runList]
  simp only [Buf.cursor, List.drop_zero]
  cases (decodeProg P flag).runList bs with
  | none => rfl
  | some r => obtain ⟨a, t⟩ := r; rfl

/-- **`ReadFrom` on a stream delivered in arbitrary chunk sizes**: the decoder client on a `ByteInputAdapter` over any reader of
`bs` (any chunk schedule, short reads, either end-of-data convention) returns what the decoder model returns on the byte list —
same representation, same byte count, error in the same cases -/
theorem decode_via_adapter (P : SerParams) (flag : Bool) (bs : Bytes) (sched : List Nat) (eager : Bool) :
    reportRun ((decodeProg P flag).runAdapter (Adapter.mk (Reader.ofData bs sched none eager) 0)) = decode P flag bs := by
  rw [prog_adapter_eq_buf_fresh, decode_via_buf]

/-- the decoder client started anywhere in a buffer: what the decoder model says about the unread bytes, and the buffer is left
right behind the bytes consumed -/
theorem decodeProg_runBufS (P : SerParams) (flag : Bool) (b : Buf) (hw : b.wf) :
    (decodeProg P flag).runBufS b =
      match decode P flag b.cursor with
      | .ok (r, m) => some (r, { b with off := b.off + m })
      | _ => none := by
  rw [runBufS_eq_runList _ _ hw, ← decodeProg_runList]
  cases h : (decodeProg P flag).runList b.cursor with
  | none => rfl
  | some r =>
    obtain ⟨a, t⟩ := r
    have h1 := runList_length_le h
    unfold Buf.wf at hw
    simp only [Buf.cursor, List.length_drop] at h1
    simp only [report, Option.map_some, Buf.cursor, List.length_drop]
    have : b.data.length - t.length = b.off + (b.data.length - b.off - t.length) := by omega
    rw [this]

/-- non-vacuity: the serialized bitmap {1, 2, 3} (no-run cookie 12346, one array container) read through an adapter whose
reader delivers 3, then 2, then 3 … bytes -/
example :
    (decodeProg ⟨12347, 12346, 4, 4096⟩ false).runAdapter
      (Adapter.mk (Reader.ofData [0x3a, 0x30, 0, 0, 1, 0, 0, 0, 0, 0, 2, 0, 16, 0, 0, 0, 1, 0, 2, 0, 3, 0] [3, 2] none) 0) =
    some ({ cow := false, slots := [{ key := 0, c := .arr [1, 2, 3], flag := false }] }, 22) := by
  rfl

end RModel.Impl.ByteIn
