import RProofs.ContQueryGlue
/-!
Correctness of the run-container query kernels of `RModel/Impl/ContQuery.lean` with respect to the
characterisations of `RProofs/ContQueryGlue.lean`, for the membership predicate `inRuns rs`.
-/
namespace RModel.Impl
open RModel RModel.BSet ContOps ContQuery

namespace RunQ

/-! ### index view of a run list -/

/-- end (last member) of run `i`, without wrap -/
def rEnd (rs : List (Nat × Nat)) (i : Nat) : Nat := (rs.getD i (0, 0)).1 + (rs.getD i (0, 0)).2

def pc (rs : List (Nat × Nat)) (k : Nat) : Nat := runsCard (rs.take k)

theorem rStart_le_rEnd (rs : List (Nat × Nat)) (i : Nat) : rStart rs i ≤ rEnd rs i := by
  unfold rStart rEnd; omega

theorem rLen_eq (rs : List (Nat × Nat)) (i : Nat) : rLen rs i = rEnd rs i - rStart rs i + 1 := by
  unfold rLen rStart rEnd; omega

theorem rEnd_bound {rs : List (Nat × Nat)} (hb : ∀ p ∈ rs, p.1 + p.2 ≤ 65535) {i : Nat} (h : i < rs.length) :
    rEnd rs i ≤ 65535 := hb _ (Util.getD_mem _ h)

theorem rLast_eq {rs : List (Nat × Nat)} (hb : ∀ p ∈ rs, p.1 + p.2 ≤ 65535) {i : Nat} (h : i < rs.length) :
    rLast rs i = rEnd rs i := by
  have := rEnd_bound hb h
  unfold rEnd at this
  simp only [rLast, rEnd]
  exact add16_eq this

theorem sep_idx {rs : List (Nat × Nat)} (hs : RunSep rs) {i j : Nat} (hij : i < j) (hj : j < rs.length) :
    rEnd rs i + 1 < rStart rs j := by
  have := (List.pairwise_iff_getElem.mp hs) i j (by omega) hj hij
  simp only [rEnd, rStart, List.getD_eq_getElem?_getD, List.getElem?_eq_getElem hj,
    List.getElem?_eq_getElem (show i < rs.length by omega), Option.getD_some]
  exact this

theorem inRuns_idx (rs : List (Nat × Nat)) (x : Nat) :
    inRuns rs x = true ↔ ∃ i, i < rs.length ∧ rStart rs i ≤ x ∧ x ≤ rEnd rs i := by
  rw [inRuns_iff]
  constructor
  · rintro ⟨p, hp, h1, h2⟩
    obtain ⟨i, hi, rfl⟩ := List.mem_iff_getElem.mp hp
    refine ⟨i, hi, ?_, ?_⟩
    · simpa [rStart, List.getD_eq_getElem?_getD, List.getElem?_eq_getElem hi] using h1
    · simpa [rEnd, List.getD_eq_getElem?_getD, List.getElem?_eq_getElem hi] using h2
  · rintro ⟨i, hi, h1, h2⟩
    exact ⟨rs.getD i (0, 0), Util.getD_mem _ hi, h1, h2⟩

theorem inRuns_false_idx (rs : List (Nat × Nat)) (x : Nat)
    (h : ∀ i, i < rs.length → x < rStart rs i ∨ rEnd rs i < x) : inRuns rs x = false := by
  cases hh : inRuns rs x
  · rfl
  · obtain ⟨i, hi, h1, h2⟩ := (inRuns_idx rs x).mp hh
    have := h i hi
    omega

theorem start_mono_le {rs : List (Nat × Nat)} (hs : RunSep rs) {i j : Nat} (hij : i ≤ j) (hj : j < rs.length) :
    rStart rs i ≤ rStart rs j := by
  by_cases e : i = j
  · subst e; omega
  · have := sep_idx hs (show i < j by omega) hj
    have := rStart_le_rEnd rs i
    omega

theorem end_mono_le {rs : List (Nat × Nat)} (hs : RunSep rs) {i j : Nat} (hij : i ≤ j) (hj : j < rs.length) :
    rEnd rs i ≤ rEnd rs j := by
  by_cases e : i = j
  · subst e; omega
  · have := sep_idx hs (show i < j by omega) hj
    have := rStart_le_rEnd rs j
    omega

/-- `u` lies in the gap before run `b`: after the end of run `b - 1`, if there is one, and before the start of run `b`,
if there is one -/
theorem inRuns_gap {rs : List (Nat × Nat)} (hs : RunSep rs) {b u : Nat} (hb : b ≤ rs.length)
    (h1 : 0 < b → rEnd rs (b - 1) < u) (h2 : b < rs.length → u < rStart rs b) : inRuns rs u = false := by
  apply inRuns_false_idx
  intro i hi
  by_cases e : i < b
  · right; have := end_mono_le hs (show i ≤ b - 1 by omega) (by omega); have := h1 (by omega); omega
  · left; have := start_mono_le hs (show b ≤ i by omega) hi; have := h2 (by omega); omega

/-! ### the bisection -/

theorem search_mid {i j : Nat} (h : i < j) : i ≤ i + (j - i) / 2 ∧ i + (j - i) / 2 < j := by omega

theorem runSearchLoop_spec (rs : List (Nat × Nat)) (hs : RunSep rs) (key : Nat) (i j : Nat)
    (hij : i ≤ j) (hj : j ≤ rs.length)
    (h1 : ∀ k, k < i → rStart rs k ≤ key)
    (h2 : ∀ k, j ≤ k → k < rs.length → key < rStart rs k) :
    i ≤ runSearchLoop rs key i j ∧ runSearchLoop rs key i j ≤ j ∧
    (∀ k, k < runSearchLoop rs key i j → rStart rs k ≤ key) ∧
    (∀ k, runSearchLoop rs key i j ≤ k → k < rs.length → key < rStart rs k) := by
  fun_induction runSearchLoop rs key i j with
  | case1 i j hlt h hc ih =>
    have hmid : i ≤ h ∧ h < j := search_mid hlt
    obtain ⟨a1, a2, a3, a4⟩ := ih (by omega) hj (fun k hk => by
      have := start_mono_le hs (show k ≤ h by omega) (by omega)
      omega) h2
    exact ⟨by omega, a2, a3, a4⟩
  | case2 i j hlt h hc ih =>
    have hmid : i ≤ h ∧ h < j := search_mid hlt
    obtain ⟨a1, a2, a3, a4⟩ := ih (by omega) (by omega) h1 (fun k hk hkn => by
      have := start_mono_le hs hk hkn
      omega)
    exact ⟨a1, by omega, a3, a4⟩
  | case3 i j hlt => exact ⟨by omega, by omega, h1, fun k hk => h2 k (by omega)⟩

/-- `search(x)` read through `b`, the number of runs that start at or below `x`: `whichInterval16` is `b - 1`, and `x` is
present exactly when it is not beyond the end of run `b - 1` -/
theorem runSearch_cases (rs : List (Nat × Nat)) (hs : RunSep rs) (hb : ∀ p ∈ rs, p.1 + p.2 ≤ 65535) (x : Nat) :
    ∃ b : Nat, b ≤ rs.length ∧ (runSearch rs x).1 = (b : Int) - 1 ∧
      (∀ i, i < b → rStart rs i ≤ x) ∧ (∀ i, b ≤ i → i < rs.length → x < rStart rs i) ∧
      (((runSearch rs x).2 = true ∧ 0 < b ∧ x ≤ rEnd rs (b - 1) ∧ inRuns rs x = true) ∨
       ((runSearch rs x).2 = false ∧ (∀ i, i < b → rEnd rs i < x) ∧ inRuns rs x = false)) := by
  by_cases hn : rs.length = 0
  · obtain rfl : rs = [] := List.length_eq_zero_iff.mp hn
    exact ⟨0, Nat.le_refl 0, rfl, by omega, by omega, Or.inr ⟨rfl, by omega, rfl⟩⟩
  · obtain ⟨-, a2, a3, a4⟩ := runSearchLoop_spec rs hs x 0 rs.length (by omega) (by omega) (by omega) (by omega)
    generalize hbd : runSearchLoop rs x 0 rs.length = b at a2 a3 a4
    -- the membership test in terms of `b`
    have hpr : (runSearch rs x).2 = decide (0 < b ∧ x ≤ rEnd rs (b - 1)) := by
      simp only [runSearch, hn, hbd, if_false]
      by_cases e1 : b = rs.length
      · simp only [e1, if_true]
        rw [rLast_eq hb (by omega), decide_eq_decide]; omega
      · simp only [e1, if_false]
        by_cases e2 : b = 0
        · simp [e2]
        · simp only [e2, if_false]
          rw [rLast_eq hb (by omega), decide_eq_decide]
          have := a3 (b - 1) (by omega)
          omega
    refine ⟨b, a2, ?_, a3, a4, ?_⟩
    · simp only [runSearch, hn, hbd, if_false]
      split
      · rfl
      · split <;> rfl
    · rw [hpr]
      by_cases hc : 0 < b ∧ x ≤ rEnd rs (b - 1)
      · exact Or.inl ⟨decide_eq_true hc, hc.1, hc.2, (inRuns_idx rs x).mpr ⟨b - 1, by omega, a3 _ (by omega), hc.2⟩⟩
      · refine Or.inr ⟨decide_eq_false hc, fun i hi => ?_, inRuns_gap hs a2 (fun h0 => by omega) (a4 b (Nat.le_refl b))⟩
        have := end_mono_le hs (show i ≤ b - 1 by omega) (show b - 1 < rs.length by omega)
        omega

/-! ### counting -/

theorem runsCard_cons (p : Nat × Nat) (t : List (Nat × Nat)) : runsCard (p :: t) = p.2 + 1 + runsCard t := by
  simp [runsCard]

theorem runsCard_append (a b : List (Nat × Nat)) : runsCard (a ++ b) = runsCard a + runsCard b := by
  simp [runsCard]

/-! The count below `m` of `p :: t`, by the position of `m` relative to the first run. -/

theorem cnt_cons_before (p : Nat × Nat) (t : List (Nat × Nat)) (hs : RunSep (p :: t)) {m : Nat} (hm : m ≤ p.1) :
    cnt (inRuns (p :: t)) m = 0 :=
  cnt_eq_of_none _ (Nat.zero_le m) (fun u _ hu => by
    rw [inRuns_cons, inRuns_tail_false hs (by omega), decide_eq_false (by omega)]; rfl)

theorem cnt_cons_inside (p : Nat × Nat) (t : List (Nat × Nat)) (hs : RunSep (p :: t)) {m : Nat} (h1 : p.1 ≤ m)
    (h2 : m ≤ p.1 + p.2 + 1) : cnt (inRuns (p :: t)) m = m - p.1 := by
  rw [cnt_eq_of_all _ h1 (fun u a b => by
    rw [inRuns_cons, decide_eq_true a, decide_eq_true (show u ≤ p.1 + p.2 by omega)]; rfl),
    cnt_cons_before p t hs (Nat.le_refl _), Nat.zero_add]

theorem cnt_cons_after (p : Nat × Nat) (t : List (Nat × Nat)) (hs : RunSep (p :: t)) {m : Nat}
    (hm : p.1 + p.2 + 1 ≤ m) : cnt (inRuns (p :: t)) m = p.2 + 1 + cnt (inRuns t) m := by
  have h := cnt_diff_congr (p := inRuns t) (q := inRuns (p :: t)) hm (fun j a _ => by
    rw [inRuns_cons, decide_eq_false (show ¬ j ≤ p.1 + p.2 by omega), Bool.and_false, Bool.false_or])
  rw [cnt_cons_inside p t hs (by omega) (Nat.le_refl _),
    cnt_eq_of_none _ (Nat.zero_le _) (fun u _ hu => inRuns_tail_false hs (Nat.le_of_lt hu)), cnt_zero] at h
  omega

theorem pc_zero (rs : List (Nat × Nat)) : pc rs 0 = 0 := by simp [pc, runsCard]

theorem pc_length (rs : List (Nat × Nat)) : pc rs rs.length = runsCard rs := by simp [pc]

theorem pc_cons (p : Nat × Nat) (t : List (Nat × Nat)) (k : Nat) : pc (p :: t) (k + 1) = p.2 + 1 + pc t k := by
  simp [pc, runsCard_cons]

theorem pc_succ (rs : List (Nat × Nat)) {k : Nat} (h : k < rs.length) :
    pc rs (k + 1) = pc rs k + (rEnd rs k - rStart rs k + 1) := by
  unfold pc
  rw [List.take_add_one, runsCard_append, List.getElem?_eq_getElem h]
  simp only [Option.toList_some, rEnd, rStart, List.getD_eq_getElem?_getD, List.getElem?_eq_getElem h,
    Option.getD_some, runsCard_cons]
  simp [runsCard]

theorem pc_split (rs : List (Nat × Nat)) {f l : Nat} (h : f ≤ l) :
    pc rs l = pc rs f + runsCard ((rs.take l).drop f) := by
  unfold pc
  conv => lhs; rw [← List.take_append_drop f (rs.take l)]
  rw [runsCard_append, List.take_take, Nat.min_eq_left h]

/-- `m` lies in the gap before run `k` (or after the last run, `k = length`) -/
theorem cnt_gap (rs : List (Nat × Nat)) (hs : RunSep rs) (m k : Nat)
    (h1 : ∀ i, i < k → i < rs.length → rEnd rs i < m) (h2 : ∀ i, k ≤ i → i < rs.length → m ≤ rStart rs i) :
    cnt (inRuns rs) m = pc rs k := by
  induction rs generalizing k with
  | nil => rw [cnt_zero_of_none (inRuns []) m fun _ _ => rfl]; simp [pc, runsCard]
  | cons p t ih =>
    cases k with
    | zero => rw [pc_zero]; exact cnt_cons_before p t hs (h2 0 (Nat.le_refl 0) (Nat.zero_lt_succ _))
    | succ k =>
      have := h1 0 (Nat.zero_lt_succ k) (Nat.zero_lt_succ _)
      rw [cnt_cons_after p t hs (show p.1 + p.2 + 1 ≤ m from this), pc_cons,
        ih (List.pairwise_cons.mp hs).2 k (fun i a b => h1 (i + 1) (by omega) (Nat.succ_lt_succ b))
          (fun i a b => h2 (i + 1) (by omega) (Nat.succ_lt_succ b))]

/-- `m` lies inside run `k` (or just after its end) -/
theorem cnt_inside (rs : List (Nat × Nat)) (hs : RunSep rs) (m k : Nat) (hk : k < rs.length)
    (h1 : rStart rs k ≤ m) (h2 : m ≤ rEnd rs k + 1) :
    cnt (inRuns rs) m = pc rs k + (m - rStart rs k) := by
  induction rs generalizing k with
  | nil => exact absurd hk (Nat.not_lt_zero k)
  | cons p t ih =>
    cases k with
    | zero => rw [pc_zero, Nat.zero_add]; exact cnt_cons_inside p t hs h1 h2
    | succ k =>
      have h0 : rEnd (p :: t) 0 + 1 < rStart (p :: t) (k + 1) := sep_idx hs (Nat.zero_lt_succ k) hk
      rw [cnt_cons_after p t hs (Nat.le_of_lt (Nat.lt_of_lt_of_le h0 h1)), pc_cons,
        ih (List.pairwise_cons.mp hs).2 k (Nat.lt_of_succ_lt_succ hk) h1 h2]
      exact (Nat.add_assoc _ _ _).symm

/-- The members of run `k` from `lo` on complete the count below `lo` to the first `k + 1` runs; `lo'` is their first
one, as the Go code computes it (`max(ivStart, start)`). -/
theorem cnt_tail (rs : List (Nat × Nat)) (hs : RunSep rs) {k lo : Nat} (hk : k < rs.length)
    (h1 : ∀ i, i < k → rEnd rs i < lo) (hle : lo ≤ rEnd rs k) :
    ∃ lo', (if rStart rs k > lo then rStart rs k else lo) = lo' ∧ rStart rs k ≤ lo' ∧ lo' ≤ rEnd rs k ∧
      cnt (inRuns rs) lo + (rEnd rs k + 1 - lo') = pc rs (k + 1) := by
  rw [pc_succ rs hk]
  have := rStart_le_rEnd rs k
  split
  · refine ⟨_, rfl, Nat.le_refl _, this, ?_⟩
    rw [cnt_gap rs hs lo k (fun i a _ => h1 i a) (fun i a c => by have := start_mono_le hs a c; omega)]
    omega
  · refine ⟨_, rfl, by omega, hle, ?_⟩
    rw [cnt_inside rs hs lo k hk (by omega) (by omega)]
    omega

/-- The count below `last + 1` when run `l` is the last one starting at or below `last`; `hi'` is the last member counted
in run `l`, as the Go code computes it (`min(ivEnd, last)`). -/
theorem cnt_head (rs : List (Nat × Nat)) (hs : RunSep rs) {l last : Nat} (hl : l < rs.length)
    (hsl : rStart rs l ≤ last) (h2 : ∀ i, l < i → i < rs.length → last < rStart rs i) :
    ∃ hi', (if rEnd rs l < last then rEnd rs l else last) = hi' ∧ rStart rs l ≤ hi' ∧
      cnt (inRuns rs) (last + 1) = pc rs l + (hi' + 1 - rStart rs l) := by
  have := rStart_le_rEnd rs l
  split
  · refine ⟨_, rfl, this, ?_⟩
    rw [cnt_gap rs hs (last + 1) (l + 1) (fun i a _ => by have := end_mono_le hs (show i ≤ l by omega) hl; omega)
      (fun i a c => by have := h2 i a c; omega), pc_succ rs hl]
    omega
  · refine ⟨_, rfl, hsl, ?_⟩
    rw [cnt_inside rs hs (last + 1) l hl (by omega) (by omega)]

end RunQ
open RunQ

/-! ### the queries, for a separated run list with ends below 65536 -/

theorem runSelectFrom_spec (rs : List (Nat × Nat)) (hs : RunSep rs) (offset i : Nat)
    (h1 : offset ≤ i) (h2 : i < offset + runsCard rs) :
    ∃ v : Nat, runSelectFrom rs offset i = (v : Int) ∧ inRuns rs v = true ∧ cnt (inRuns rs) v = i - offset := by
  induction rs generalizing offset with
  | nil => simp [runsCard] at h2; omega
  | cons p t ih =>
    obtain ⟨s, l⟩ := p
    have hp := List.pairwise_cons.mp hs
    rw [runsCard_cons] at h2
    simp only at h2
    simp only [runSelectFrom]
    by_cases hc : offset + (l + 1) > i
    · simp only [hc, if_true]
      refine ⟨s + (i - offset), by omega, ?_, ?_⟩
      · rw [inRuns_cons]; simp; omega
      · rw [cnt_cons_inside _ _ hs (by simp only; omega) (by simp only; omega)]
        simp only; omega
    · simp only [hc, if_false]
      obtain ⟨v, e1, e2, e3⟩ := ih hp.2 (offset + (l + 1)) (by omega) (by omega)
      refine ⟨v, e1, ?_, ?_⟩
      · rw [inRuns_cons, e2]; simp
      · have := inRuns_tail_gt hs e2
        simp only at this
        rw [cnt_cons_after _ _ hs (by simp only; omega), e3]
        simp only; omega

theorem runSelect_spec (rs : List (Nat × Nat)) (hs : RunSep rs)
    (i : Nat) (hi : i < runsCard rs) : IsSelect (inRuns rs) i (runSelectFrom rs 0 i) := by
  obtain ⟨v, e1, e2, e3⟩ := runSelectFrom_spec rs hs 0 i (by omega) (by omega)
  exact ⟨v, e1, e2, by omega⟩

theorem runMin_spec (rs : List (Nat × Nat)) (hs : RunSep rs)
    (hne : rs ≠ []) : IsMin (inRuns rs) (if 0 < rs.length then (rStart rs 0 : Int) else undef) :=
  have hn : 0 < rs.length := List.length_pos_iff.mpr hne
  ⟨rStart rs 0, if_pos hn, (inRuns_idx rs _).mpr ⟨0, hn, Nat.le_refl _, rStart_le_rEnd rs 0⟩,
    fun _ hu => inRuns_gap hs (Nat.zero_le _) (fun h => absurd h (Nat.lt_irrefl 0)) (fun _ => hu)⟩

theorem runContains_spec (rs : List (Nat × Nat)) (hs : RunSep rs) (hb : ∀ p ∈ rs, p.1 + p.2 ≤ 65535)
    (x : Nat) : runContains rs x = inRuns rs x := by
  obtain ⟨b, -, -, -, -, hc⟩ := runSearch_cases rs hs hb x
  unfold runContains
  rcases hc with ⟨h1, -, -, h2⟩ | ⟨h1, -, h2⟩ <;> rw [h1, h2]

theorem runNextValue_spec (rs : List (Nat × Nat)) (hs : RunSep rs) (hb : ∀ p ∈ rs, p.1 + p.2 ≤ 65535)
    (x : Nat) : IsNext (inRuns rs) x (runNextValue rs x) := by
  obtain ⟨b, hbn, hw, h3, h4, ⟨h1, hb0, hle, hin⟩ | ⟨h1, hlt, hout⟩⟩ := runSearch_cases rs hs hb x
  · simp only [runNextValue, hw, h1, show ¬ rs.length = 0 by omega, if_true, if_false]
    exact isNext_self hin
  -- `x` lies in the gap before run `b`: the answer is the start of run `b`, if there is one
  have hgap : ∀ u, x ≤ u → (b < rs.length → u < rStart rs b) → inRuns rs u = false := fun u hu h2 =>
    inRuns_gap hs hbn (fun h0 => by have := hlt (b - 1) (by omega); omega) h2
  have hnone : b = rs.length → IsNext (inRuns rs) x (-1) := fun e =>
    Or.inr ⟨rfl, fun u hu => hgap u hu (by omega)⟩
  have hsome : b < rs.length → IsNext (inRuns rs) x (rStart rs b : Int) := fun hbl =>
    Or.inl ⟨rStart rs b, rfl, Nat.le_of_lt (h4 b (Nat.le_refl b) hbl),
      (inRuns_idx rs _).mpr ⟨b, hbl, Nat.le_refl _, rStart_le_rEnd rs b⟩, fun u hxu hu => hgap u hxu (fun _ => hu)⟩
  simp only [runNextValue, hw, h1]
  by_cases hn : rs.length = 0
  · rw [if_pos hn]; exact hnone (by omega)
  rw [if_neg hn, if_neg Bool.false_ne_true]
  by_cases e1 : b = 0
  · rw [if_pos (by omega)]; subst e1; exact hsome (by omega)
  rw [if_neg (by omega)]
  by_cases e2 : b = rs.length
  · rw [if_pos (by omega)]; exact hnone e2
  rw [if_neg (by omega), if_pos (by omega), show ((b : Int) - 1 + 1).toNat = b by omega]
  exact hsome (by omega)

theorem runPreviousValue_spec (rs : List (Nat × Nat)) (hs : RunSep rs) (hb : ∀ p ∈ rs, p.1 + p.2 ≤ 65535)
    (hne : rs ≠ []) (x : Nat) : IsPrev (inRuns rs) x (runPreviousValue rs x) := by
  have hn : ¬ rs.length = 0 := fun h => hne (List.length_eq_zero_iff.mp h)
  obtain ⟨b, hbn, hw, h3, h4, ⟨h1, hb0, hle, hin⟩ | ⟨h1, hlt, hout⟩⟩ := runSearch_cases rs hs hb x
  · simp only [runPreviousValue, hw, h1, hn, if_true, if_false]
    exact isPrev_self hin
  simp only [runPreviousValue, hw, h1]
  rw [if_neg hn, if_neg Bool.false_ne_true]
  by_cases e1 : b = 0
  · rw [if_pos (by omega)]
    exact Or.inr ⟨rfl, fun u hu => inRuns_gap hs hbn (by omega) (fun h => by have := h4 b (Nat.le_refl b) h; omega)⟩
  · rw [if_neg (by omega), show ((b : Int) - 1).toNat = b - 1 by omega, rLast_eq hb (by omega)]
    have := hlt (b - 1) (by omega)
    exact Or.inl ⟨rEnd rs (b - 1), rfl, by omega,
      (inRuns_idx rs _).mpr ⟨b - 1, by omega, rStart_le_rEnd rs _, Nat.le_refl _⟩,
      fun u hu hux => inRuns_gap hs hbn (fun _ => hu) (fun h => by have := h4 b (Nat.le_refl b) h; omega)⟩

theorem runNextAbsentValue_spec (rs : List (Nat × Nat)) (hs : RunSep rs) (hb : ∀ p ∈ rs, p.1 + p.2 ≤ 65535)
    (x : Nat) : IsNextAbsent (inRuns rs) x (runNextAbsentValue rs x) := by
  obtain ⟨b, hbn, hw, h3, h4, ⟨h1, hb0, hle, hin⟩ | ⟨h1, hlt, hout⟩⟩ := runSearch_cases rs hs hb x
  · simp only [runNextAbsentValue, hw, h1, Bool.not_true, Bool.false_eq_true, if_false]
    rw [show ((b : Int) - 1).toNat = b - 1 by omega, rLast_eq hb (by omega)]
    -- one past the end of run `b - 1` lies in the gap before run `b`
    exact ⟨rEnd rs (b - 1) + 1, rfl, by omega,
      inRuns_gap hs hbn (fun _ => Nat.lt_succ_self _) (fun h => by
        have := sep_idx hs (show b - 1 < b by omega) h; omega),
      fun u hxu hu => (inRuns_idx rs _).mpr ⟨b - 1, by omega, by have := h3 (b - 1) (by omega); omega, by omega⟩⟩
  · simp only [runNextAbsentValue, hw, h1, Bool.not_false, if_true]
    exact isNextAbsent_self hout

theorem runPreviousAbsentValue_spec (rs : List (Nat × Nat)) (hs : RunSep rs) (hb : ∀ p ∈ rs, p.1 + p.2 ≤ 65535)
    (x : Nat) (hx : x < 65536) : IsPrevAbsent (inRuns rs) x (runPreviousAbsentValue rs x) := by
  obtain ⟨b, hbn, hw, h3, h4, ⟨h1, hb0, hle, hin⟩ | ⟨h1, hlt, hout⟩⟩ := runSearch_cases rs hs hb x
  · simp only [runPreviousAbsentValue, hw, h1, Bool.not_true, Bool.false_eq_true, if_false]
    rw [show ((b : Int) - 1).toNat = b - 1 by omega]
    have := h3 (b - 1) (by omega)
    have hin : ∀ u, rStart rs (b - 1) ≤ u → u ≤ x → inRuns rs u = true := fun u h1 h2 =>
      (inRuns_idx rs _).mpr ⟨b - 1, by omega, h1, by omega⟩
    by_cases e0 : rStart rs (b - 1) = 0
    · exact Or.inr ⟨by omega, fun u hu => hin u (by omega) hu⟩
    · -- one before the start of run `b - 1` lies in the gap before it
      exact Or.inl ⟨rStart rs (b - 1) - 1, by omega, by omega,
        inRuns_gap hs (show b - 1 ≤ rs.length by omega) (fun h => by
          have := sep_idx hs (show b - 1 - 1 < b - 1 by omega) (show b - 1 < rs.length by omega); omega) (fun _ => by omega),
        fun u hu hux => hin u (by omega) hux⟩
  · simp only [runPreviousAbsentValue, hw, h1, Bool.not_false, if_true]
    exact isPrevAbsent_self hout

theorem runMax_spec (rs : List (Nat × Nat)) (hs : RunSep rs) (hb : ∀ p ∈ rs, p.1 + p.2 ≤ 65535) (hne : rs ≠ []) :
    IsMax (inRuns rs) (if 0 < rs.length then (rLast rs (rs.length - 1) : Int) else undef) := by
  have hn : 0 < rs.length := List.length_pos_iff.mpr hne
  rw [if_pos hn, rLast_eq hb (by omega)]
  exact ⟨rEnd rs (rs.length - 1), rfl,
    (inRuns_idx rs _).mpr ⟨rs.length - 1, by omega, rStart_le_rEnd rs _, Nat.le_refl _⟩,
    fun u hu => inRuns_gap hs (Nat.le_refl _) (fun _ => hu) (fun h => absurd h (Nat.lt_irrefl _))⟩

theorem runsCard_eq_cnt (rs : List (Nat × Nat)) (hs : RunSep rs) (hb : ∀ p ∈ rs, p.1 + p.2 ≤ 65535) :
    runsCard rs = cnt (inRuns rs) 65536 := by
  rw [cnt_gap rs hs 65536 rs.length (fun i _ hi => by have := rEnd_bound hb hi; omega) (fun i a b => by omega),
    pc_length]

theorem runRank_spec (rs : List (Nat × Nat)) (hs : RunSep rs) (hb : ∀ p ∈ rs, p.1 + p.2 ≤ 65535)
    (x : Nat) (hx : x < 65536) : IsRank (inRuns rs) x (runRank rs x) := by
  obtain ⟨b, hbn, hw, h3, h4, ⟨h1, hb0, hle, hin⟩ | ⟨h1, hlt, hout⟩⟩ := runSearch_cases rs hs hb x
  · have hsx := h3 (b - 1) (by omega)
    simp only [runRank, IsRank, hw, h1, Bool.not_true, Bool.false_eq_true, false_and, if_false]
    rw [if_neg (by omega), show ((b : Int) - 1).toNat = b - 1 by omega,
      cnt_inside rs hs (x + 1) (b - 1) (by omega) (by omega) (by omega), sub16_eq hsx hx]
    unfold pc
    omega
  · simp only [runRank, IsRank, hw, h1, Bool.not_false, true_and, if_true]
    rw [cnt_gap rs hs (x + 1) b (fun i a c => by have := hlt i a; omega) (fun i a c => by have := h4 i a c; omega)]
    by_cases e0 : b = 0
    · rw [if_pos (by omega), e0, pc_zero]; rfl
    rw [if_neg (by omega)]
    by_cases e1 : b = rs.length
    · rw [if_pos (by omega), e1, pc_length]
    · rw [if_neg (by omega), show ((b : Int) - 1).toNat + 1 = b by omega]; rfl

namespace RunQ

/-- what the range count reads off the search for its lower end `x`: `k` runs lie entirely below `x`, and `k` is what
the Go code calls `firstIdx`, whether or not `x` is inside a run -/
theorem search_summary (rs : List (Nat × Nat)) (hs : RunSep rs) (hb : ∀ p ∈ rs, p.1 + p.2 ≤ 65535)
    (x : Nat) (w : Int) (pr : Bool) (hsr : runSearch rs x = (w, pr)) :
    ∃ k : Nat, k ≤ rs.length ∧ (if (!pr) = true then w + 1 else w) = (k : Int) ∧
      (∀ i, i < k → rEnd rs i < x) ∧ (k < rs.length → x ≤ rEnd rs k) ∧
      ((pr = true ∧ w = (k : Int) ∧ rStart rs k ≤ x) ∨ (pr = false ∧ (k < rs.length → x < rStart rs k))) := by
  obtain ⟨b, hbn, hw, h3, h4, hc⟩ := runSearch_cases rs hs hb x
  rw [hsr] at hw hc
  simp only at hw hc
  rcases hc with ⟨h1, hb0, hle, -⟩ | ⟨h1, hlt, -⟩
  · have hsx := h3 (b - 1) (by omega)
    refine ⟨b - 1, by omega, by rw [h1]; exact hw.trans (by omega), ?_, fun _ => hle, Or.inl ⟨h1, by omega, hsx⟩⟩
    intro i hi
    have := sep_idx hs hi (show b - 1 < rs.length by omega)
    omega
  · have hx := h4 b (Nat.le_refl b)
    refine ⟨b, hbn, by rw [h1]; exact (by omega : w + 1 = (b : Int)), hlt, fun h => ?_, Or.inr ⟨h1, hx⟩⟩
    have := hx h; have := rStart_le_rEnd rs b; omega

end RunQ

/-- With `k` runs entirely below `lo` and `l + 1` runs starting below `hi`: no member in `[lo, hi)` when `l < k` (the
early exits of the Go code), one run clipped at both ends when `k = l`, otherwise the tail of run `k`, the runs strictly
between, and the head of run `l`. -/
theorem runCardInRange_spec (rs : List (Nat × Nat)) (hs : RunSep rs) (hb : ∀ p ∈ rs, p.1 + p.2 ≤ 65535)
    (lo hi : Nat) : IsCardInRange (inRuns rs) lo hi (runCardInRange rs lo hi) := by
  unfold IsCardInRange
  by_cases hlh : hi ≤ lo
  · simp only [runCardInRange, show lo ≥ hi ∨ rs.length = 0 from Or.inl hlh, if_true,
      Nat.sub_eq_zero_of_le (cnt_mono _ hlh)]
    rfl
  obtain ⟨last, rfl⟩ : ∃ last, hi = last + 1 := ⟨hi - 1, by omega⟩
  rcases hsr1 : runSearch rs lo with ⟨w1, pr1⟩
  rcases hsr2 : runSearch rs last with ⟨w2, pr2⟩
  obtain ⟨k, hkn, hfirst, hbelow, hk, hc1⟩ := search_summary rs hs hb lo w1 pr1 hsr1
  obtain ⟨b, hbn, hw2, h3, h4, hc2⟩ := runSearch_cases rs hs hb last
  rw [hsr2] at hw2 hc2
  simp only at hw2 hc2
  simp only [runCardInRange, Nat.add_sub_cancel, hsr1, hsr2, hfirst, hw2]
  clear hfirst
  by_cases hbk : b ≤ k
  · have : cnt (inRuns rs) (last + 1) = cnt (inRuns rs) lo := by
      apply cnt_eq_of_none _ (by omega)
      intro u h1 h2
      apply inRuns_false_idx
      intro i hi'
      by_cases e : i < k
      · right; have := hbelow i e; omega
      · left; have := h4 i (by omega) hi'; omega
    simp only [show (b : Int) - 1 < 0 ∨ (b : Int) - 1 < k by omega, if_true, ite_self, this, Nat.sub_self]
    rfl
  obtain ⟨l, rfl⟩ : ∃ l, b = l + 1 := ⟨b - 1, by omega⟩
  simp only [Int.natCast_add, Int.cast_ofNat_Int, Int.add_sub_cancel, Int.toNat_natCast]
  rw [Nat.add_sub_cancel] at hc2
  have hkl : k ≤ l := by omega
  have hl : l < rs.length := by omega
  have hkn' : k < rs.length := by omega
  rw [if_neg (show ¬ (lo ≥ last + 1 ∨ rs.length = 0) by omega), if_neg (show ¬ (w1 < 0 ∧ (l : Int) < 0) by omega),
    if_neg (show ¬ ((k : Int) ≥ rs.length) by omega), if_neg (show ¬ ((l : Int) < 0 ∨ (l : Int) < k) by omega),
    rLast_eq hb hkn']
  obtain ⟨lo', hlo', hl1, hl2, hT⟩ := cnt_tail rs hs hkn' hbelow (hk hkn')
  obtain ⟨hi', hhi', hh1, hH⟩ := cnt_head rs hs hl (h3 l (by omega)) (fun i a c => h4 i (by omega) c)
  by_cases hkb : k = l
  · subst hkb
    rw [if_pos (show (k : Int) = (k : Int) ∧ (k : Int) ≥ 0 by omega), hlo', hhi']
    have := pc_succ rs hkn'
    split <;> omega
  · rw [if_neg (show ¬ ((k : Int) = (l : Int) ∧ (k : Int) ≥ 0) by omega)]
    -- `r2` of the Go code: the runs strictly between
    have hr2 := pc_split rs (show k + 1 ≤ l by omega)
    -- `r1` and `r3`: the members of run `k` from `lo` on, and those of run `l` up to `last`
    have hr1 : (if pr1 = true ∧ (k : Int) = w1 then ((rEnd rs k - lo : Nat) : Int) + 1
        else if (k : Int) < rs.length then (rLen rs k : Int) else 0) = ((rEnd rs k + 1 - lo' : Nat) : Int) := by
      rcases hc1 with ⟨hp, hw, hs1⟩ | ⟨hp, hs1⟩
      · rw [if_neg (show ¬ rStart rs k > lo by omega)] at hlo'
        rw [if_pos ⟨hp, hw.symm⟩]; omega
      · rw [if_pos (hs1 hkn')] at hlo'
        rw [if_neg (by simp [hp]), if_pos (by omega), rLen_eq]; omega
    have hr3 : (if (l : Int) > k ∧ (l : Int) < rs.length then
          (if pr2 = true then ((last - rStart rs l : Nat) : Int) + 1 else (rLen rs l : Int))
        else 0) = ((hi' + 1 - rStart rs l : Nat) : Int) := by
      rw [if_pos (by omega)]
      rcases hc2 with ⟨hp, -, hle2, -⟩ | ⟨hp, hlt2, -⟩
      · rw [if_neg (show ¬ rEnd rs l < last by omega)] at hhi'
        rw [if_pos hp]; omega
      · rw [if_pos (hlt2 l (by omega))] at hhi'
        rw [if_neg (by simp [hp]), rLen_eq]; omega
    rw [hr1, hr3]
    omega

end RModel.Impl
