import RProofs.Keyed
import RProofs.ContQueryGlue
import RProofs.IterBase
/-!
Queries on a key-sorted list of blocks (`Keyed`): every element has a key `k` and stores members `y < B`, which stand for the
values `k·B + y`.  Such a list answers the counting and order queries correctly when every block does, and two such lists are
compared block by block.  Everything is stated once, for any block size `B`, over the characterisations `IsRank`, `IsSelect`,
`IsMin`, `IsMax` of a membership predicate and for any function that satisfies the unfolding equations of the Go loop or walk.
The 32-bit bitmap is the instance `B = 2^16` over containers (`slotV`), the 64-bit bitmap the instance `B = 2^32` over 32-bit
bitmaps (`bucketV`); the characterisation proved at one level is what the next level asks of its blocks.
-/
namespace RModel.Impl
open RModel RModel.BSet RepQuery RepOps

namespace Keyed

section oneList
variable {α : Type} {V : Keyed α} {B : Nat}

theorem cnt_mem_cons {s : α} {t : List α} (hs : V.Sorted (s :: t)) (hB : 0 < B) (n : Nat) :
    cnt (V.mem B (s :: t)) n = cnt (V.has s) (min (n - V.key s * B) B) + cnt (V.mem B t) n := by
  have e : V.mem B (s :: t) = fun x => (V.key s == x / B && V.has s (x % B)) || V.mem B t x :=
    funext fun x => V.mem_cons B s t x
  rw [e, cnt_or_disjoint, cnt_block hB]
  intro x ⟨h1, h2⟩
  simp only [Bool.and_eq_true, beq_iff_eq] at h1
  rw [show V.mem B t x = false from V.hasAt_gt (List.pairwise_cons.mp hs).1 (Nat.le_of_eq h1.1.symm) _] at h2
  cases h2

theorem cnt_mem_below {l : List α} {n : Nat} (h : ∀ s ∈ l, n ≤ V.key s * B) : cnt (V.mem B l) n = 0 :=
  cnt_zero_of_none _ _ fun _ hu => V.mem_false_below B fun s hs => Nat.lt_of_lt_of_le hu (h s hs)

theorem cnt_mem_in {s : α} {t : List α} (hs : V.Sorted (s :: t)) {v n : Nat} (hv : v ≤ B) (hn : n = V.key s * B + v) :
    cnt (V.mem B (s :: t)) n = cnt (V.has s) v := by
  subst hn
  rcases Nat.eq_zero_or_pos B with rfl | hB
  · rw [Nat.le_zero.mp hv, cnt_zero, Nat.mul_zero, cnt_zero]
  · rw [cnt_mem_cons hs hB, Nat.add_sub_cancel_left, Nat.min_eq_left hv,
      cnt_mem_below fun s' hs' => lt_block ((List.pairwise_cons.mp hs).1 s' hs') hv, Nat.add_zero]

theorem cnt_mem_above {s : α} {t : List α} (hs : V.Sorted (s :: t)) (hB : 0 < B) {n : Nat} (hn : V.key s * B + B ≤ n) :
    cnt (V.mem B (s :: t)) n = cnt (V.has s) B + cnt (V.mem B t) n := by
  rw [cnt_mem_cons hs hB, Nat.min_eq_right (Nat.le_sub_of_add_le' hn)]

/-! ### `IsEmpty`: no block is stored empty -/

theorem isEmpty_blocks {P : α → Prop} (hne : ∀ s, P s → ∃ y, y < B ∧ V.has s y = true) {l : List α} (hs : V.Sorted l)
    (hP : ∀ s ∈ l, P s) : l.length = 0 ↔ ∀ x, V.mem B l x = false := by
  cases l with
  | nil => exact ⟨fun _ _ => rfl, fun _ => rfl⟩
  | cons s t =>
    refine ⟨nofun, fun h => ?_⟩
    obtain ⟨y, hy, hin⟩ := hne s (hP s List.mem_cons_self)
    rw [← mem_block hs List.mem_cons_self hy, h] at hin
    cases hin

/-! ### `Rank`: whole blocks below the key of the target, then the block's own answer -/

/-- `W` is any function with the unfolding equations of the Go loop (the model's loops over slots and over buckets are two
such functions, by `rfl`); `card s` and `rank s` are what the loop asks of block `s`, correct by hypothesis.  The other query
theorems of this file have the same form. -/
theorem rank_blocks (hB : 0 < B) {card rank : α → Int} {W : List α → Int} {x : Nat} (W_nil : W [] = 0)
    (W_cons : ∀ s t, W (s :: t) = if V.key s > x / B then 0 else if V.key s < x / B then card s + W t else rank s)
    {l : List α} (hs : V.Sorted l) (hc : ∀ s ∈ l, card s = (cnt (V.has s) B : Int))
    (hr : ∀ s ∈ l, IsRank (V.has s) (x % B) (rank s)) : IsRank (V.mem B l) x (W l) := by
  have hlb : x % B < B := Nat.mod_lt x hB
  unfold IsRank
  rw [show x + 1 = x / B * B + (x % B + 1) from congrArg (· + 1) (Nat.div_add_mod' x B).symm]
  induction l with
  | nil => rw [W_nil, cnt_mem_below fun _ h => absurd h List.not_mem_nil]; rfl
  | cons s t ih =>
    rw [W_cons]
    split
    · next h1 => rw [cnt_mem_below fun s' hs' => lt_block (V.gt_of_sorted hs h1 s' hs') hlb]; rfl
    · split
      · next h2 =>
        rw [ih (List.pairwise_cons.mp hs).2 (fun s' h => hc s' (List.mem_cons_of_mem _ h))
          (fun s' h => hr s' (List.mem_cons_of_mem _ h)), hc s List.mem_cons_self, ← Int.natCast_add,
          cnt_mem_above hs hB (Nat.le_trans (lt_block h2 (Nat.le_refl B)) (Nat.le_add_right _ _))]
      · rw [cnt_mem_in hs (show x % B + 1 ≤ B from hlb) (by rw [show V.key s = x / B by omega])]
        exact hr s List.mem_cons_self

/-! ### `GetCardinality`: the sum of the blocks' cardinalities -/

theorem card_blocks (hB : 0 < B) {card : α → Int} {W : List α → Int} (W_nil : W [] = 0)
    (W_cons : ∀ s t, W (s :: t) = card s + W t) {l : List α} (hs : V.Sorted l)
    (hc : ∀ s ∈ l, card s = (cnt (V.has s) B : Int)) (n : Nat) :
    (cnt (V.mem B l) n : Int) ≤ W l ∧ ((∀ s ∈ l, V.key s * B + B ≤ n) → W l = (cnt (V.mem B l) n : Int)) := by
  induction l with
  | nil => rw [W_nil, cnt_mem_below fun _ h => absurd h List.not_mem_nil]; exact ⟨Int.le_refl _, fun _ => rfl⟩
  | cons s t ih =>
    obtain ⟨ih1, ih2⟩ := ih (List.pairwise_cons.mp hs).2 fun s' h => hc s' (List.mem_cons_of_mem _ h)
    rw [W_cons, hc s List.mem_cons_self]
    refine ⟨?_, fun hn => ?_⟩
    · have := cnt_mono (V.has s) (Nat.min_le_right (n - V.key s * B) B)
      rw [cnt_mem_cons hs hB]
      omega
    · rw [cnt_mem_above hs hB (hn s List.mem_cons_self), ih2 fun s' h => hn s' (List.mem_cons_of_mem _ h)]
      rfl

theorem above_of_mem_tail {s : α} {t : List α} (hs : V.Sorted (s :: t)) {v : Nat} (h : V.mem B t v = true) :
    V.key s * B + B ≤ v := by
  have hk : V.key s < v / B := Nat.lt_of_not_le fun hc => by
    rw [show V.mem B t v = false from V.hasAt_gt (List.pairwise_cons.mp hs).1 hc _] at h; cases h
  exact Nat.le_trans (lt_block hk (Nat.le_refl B)) (Nat.div_mul_le_self v B)

/-! ### `Select`: skip whole blocks while the index is at least their cardinality, then ask the block -/

theorem select_blocks (hB : 0 < B) {P : α → Prop} {ans : α → Nat → Option Int} {W : List α → Nat → Option Int}
    (W_nil : ∀ i, W [] i = none)
    (W_cons : ∀ s t i, P s → W (s :: t) i = if cnt (V.has s) B ≤ i then W t (i - cnt (V.has s) B) else ans s i)
    (hlt : ∀ s, P s → ∀ y, V.has s y = true → y < B)
    (ha : ∀ s, P s → ∀ i, i < cnt (V.has s) B → ∃ r, ans s i = some ((V.key s : Int) * B + r) ∧ IsSelect (V.has s) i r)
    {l : List α} (hs : V.Sorted l) (hP : ∀ s ∈ l, P s) (i : Nat) :
    IsSelectOpt (V.mem B l) i (W l i) := by
  unfold IsSelectOpt
  induction l generalizing i with
  | nil =>
    rw [W_nil]
    exact ⟨nofun, fun _ n => by rw [cnt_mem_below fun _ h => absurd h List.not_mem_nil]; exact Nat.zero_le i⟩
  | cons s t ih =>
    have hPs := hP s List.mem_cons_self
    rw [W_cons s t i hPs]
    by_cases hge : cnt (V.has s) B ≤ i
    · obtain ⟨ih1, ih2⟩ :=
        ih (List.pairwise_cons.mp hs).2 (fun s' h => hP s' (List.mem_cons_of_mem _ h)) (i - cnt (V.has s) B)
      rw [if_pos hge]
      refine ⟨fun r hr => ?_, fun hn n => ?_⟩
      · obtain ⟨v, hv, hin, hc⟩ := ih1 r hr
        exact ⟨v, hv, by rw [mem_cons, hin, Bool.or_true], by
          rw [cnt_mem_above hs hB (above_of_mem_tail hs hin), hc]; omega⟩
      · rw [cnt_mem_cons hs hB]
        have := ih2 hn n
        have := cnt_mono (V.has s) (Nat.min_le_right (n - V.key s * B) B)
        omega
    · rw [if_neg hge]
      obtain ⟨r, hr, v, rfl, hin, hc⟩ := ha s hPs i (Nat.lt_of_not_le hge)
      have hv := hlt s hPs v hin
      rw [hr]
      refine ⟨fun r' e => ?_, nofun⟩
      cases e
      exact ⟨V.key s * B + v, by simp, (mem_block hs List.mem_cons_self hv).trans hin,
        (cnt_mem_in hs (Nat.le_of_lt hv) rfl).trans hc⟩

/-! ### `Minimum`, `Maximum`: the answer of the block with the least resp. greatest key -/

theorem min_blocks {l : List α} (hs : V.Sorted l) {s : α} (hm : s ∈ l) (hk : ∀ a ∈ l, V.key s ≤ V.key a)
    (hlt : ∀ y, V.has s y = true → y < B) {r : Int} (h : IsMin (V.has s) r) :
    IsMin (V.mem B l) ((V.key s : Int) * B + r) := by
  obtain ⟨v, rfl, hin, hlow⟩ := h
  have hv := hlt v hin
  refine ⟨V.key s * B + v, by simp, (mem_block hs hm hv).trans hin, fun u hu => ?_⟩
  cases hc : V.mem B l u
  · rfl
  · obtain ⟨a, ha, hka⟩ := key_of_mem hc
    have hd := Nat.div_add_mod' u B
    rcases Nat.eq_or_lt_of_le (hk a ha) with e | hgt
    · rw [mem_of_key hs hm (Nat.zero_lt_of_lt hv) (hka.symm.trans e.symm), hlow _ (by rw [← hka, ← e] at hd; omega)] at hc
      cases hc
    · have := lt_block (hka ▸ hgt) (Nat.le_of_lt hv)
      omega

theorem max_blocks {l : List α} (hs : V.Sorted l) {s : α} (hm : s ∈ l) (hk : ∀ a ∈ l, V.key a ≤ V.key s)
    (hlt : ∀ y, V.has s y = true → y < B) {r : Int} (h : IsMax (V.has s) r) :
    IsMax (V.mem B l) ((V.key s : Int) * B + r) := by
  obtain ⟨v, rfl, hin, hhigh⟩ := h
  have hv := hlt v hin
  have hB := Nat.zero_lt_of_lt hv
  refine ⟨V.key s * B + v, by simp, (mem_block hs hm hv).trans hin, fun u hu => ?_⟩
  cases hc : V.mem B l u
  · rfl
  · obtain ⟨a, ha, hka⟩ := key_of_mem hc
    have hd := Nat.div_add_mod' u B
    rcases Nat.eq_or_lt_of_le (hk a ha) with e | hgt
    · rw [mem_of_key hs hm hB (hka.symm.trans e), hhigh _ (by rw [← hka, e] at hd; omega)] at hc
      cases hc
    · have := lt_block (hka ▸ hgt) (Nat.le_of_lt (Nat.mod_lt u hB))
      omega

end oneList

/-! ### `AndCardinality`, `Intersects`: two cursors, the one with the smaller key moved on by `advanceUntil` -/

section twoLists
variable {α β γ δ : Type} {Va : Keyed α} {Vb : Keyed β}

/-- the walk that keeps only what the common keys contribute -/
abbrev common (Va : Keyed α) (Vb : Keyed β) (M : α → β → List γ) : List α → List β → List γ :=
  mergeWalk Va Vb dropS dropS dropS M

variable {M : α → β → List γ}

theorem common_nil_right (a : List α) : common Va Vb M a [] = [] := by
  rw [common, mergeWalk_nil_right, flatMap_dropS]

theorem common_nil_left (b : List β) : common Va Vb M [] b = [] := by
  rw [common, mergeWalk, flatMap_dropS]

theorem common_lt {sa : α} {sb : β} (ta : List α) (tb : List β) (h : Va.key sa < Vb.key sb) :
    common Va Vb M (sa :: ta) (sb :: tb) = common Va Vb M ta (sb :: tb) := by
  rw [common, mergeWalk, if_pos h]; rfl

theorem common_gt {sa : α} {sb : β} (ta : List α) (tb : List β) (h : Vb.key sb < Va.key sa) :
    common Va Vb M (sa :: ta) (sb :: tb) = common Va Vb M (sa :: ta) tb := by
  rw [common, mergeWalk, if_neg (Nat.lt_asymm h), if_pos h]; rfl

theorem common_eq {sa : α} {sb : β} (ta : List α) (tb : List β) (h : Va.key sa = Vb.key sb) :
    common Va Vb M (sa :: ta) (sb :: tb) = M sa sb ++ common Va Vb M ta tb := by
  rw [common, mergeWalk, if_neg (Nat.lt_irrefl _ <| h ▸ ·), if_neg (Nat.lt_irrefl _ <| h ▸ ·)]

/-- elements with smaller keys contribute nothing -/
theorem common_skipA (a : List α) (d : α) (sb : β) (tb : List β) {i j : Nat} (hij : i ≤ j) (hj : j ≤ a.length)
    (hk : ∀ t, i ≤ t → t < j → Va.key (a.getD t d) < Vb.key sb) :
    common Va Vb M (a.drop i) (sb :: tb) = common Va Vb M (a.drop j) (sb :: tb) := by
  induction hij with
  | refl => rfl
  | @step j hij ih =>
    rw [ih (by omega) (fun t h1 h2 => hk t h1 (by omega)), Util.drop_getD d (show j < a.length from hj),
      common_lt _ _ (hk j hij (Nat.lt_succ_self j))]

theorem common_skipB (b : List β) (d : β) (sa : α) (ta : List α) {i j : Nat} (hij : i ≤ j) (hj : j ≤ b.length)
    (hk : ∀ t, i ≤ t → t < j → Vb.key (b.getD t d) < Va.key sa) :
    common Va Vb M (sa :: ta) (b.drop i) = common Va Vb M (sa :: ta) (b.drop j) := by
  induction hij with
  | refl => rfl
  | @step j hij ih =>
    rw [ih (by omega) (fun t h1 h2 => hk t h1 (by omega)), Util.drop_getD d (show j < b.length from hj),
      common_gt _ _ (hk j hij (Nat.lt_succ_self j))]

/-- `advanceUntil` on the key array moves on, stays within the array, and passes only keys below the target -/
theorem adv_keys {l : List α} (hs : Va.Sorted l) (d : α) (p min : Nat) (hp : p < l.length) :
    p + 1 ≤ advFrom (l.map Va.key) (p + 1) l.length min ∧ advFrom (l.map Va.key) (p + 1) l.length min ≤ l.length ∧
      ∀ t, p + 1 ≤ t → t < advFrom (l.map Va.key) (p + 1) l.length min → Va.key (l.getD t d) < min := by
  have hlen : (l.map Va.key).length = l.length := List.length_map _
  obtain ⟨a1, a2, a3, -⟩ := advFrom_spec (List.pairwise_map.mpr hs) (p + 1) min
    (advFrom (l.map Va.key) (p + 1) l.length min) (by rw [hlen])
  rw [hlen] at a2
  refine ⟨a1, a2 hp, fun t h1 h2 => ?_⟩
  have ht : t < l.length := Nat.lt_of_lt_of_le h2 (a2 hp)
  have := a3 t h1 h2
  rwa [List.getD_eq_getElem?_getD, List.getElem?_map, List.getElem?_eq_getElem ht, Option.map_some, Option.getD_some,
    ← Option.getD_some (a := l[t]) (b := d), ← List.getElem?_eq_getElem ht, ← List.getD_eq_getElem?_getD] at this

/-- Every function that unfolds the way the model's position walks do (`f` combines the two blocks of a common key with the
result for the rest, `u` stands where `advanceUntil` does not move the cursor) is `g` of what is kept of the common keys, for
every `g` that reads a kept piece the way `f` combines. -/
theorem posWalk_eq (f : α → β → δ → δ) (z u : δ) (g : List γ → δ) (hz : g [] = z) {Pa : α → Prop} {Pb : β → Prop}
    (hg : ∀ sa sb rest, Pa sa → Pb sb → g (M sa sb ++ rest) = f sa sb (g rest))
    {a : List α} {b : List β} (da : α) (db : β) (hsa : Va.Sorted a) (hsb : Vb.Sorted b) (hPa : ∀ s ∈ a, Pa s)
    (hPb : ∀ s ∈ b, Pb s) (W : Nat → Nat → δ)
    (hW : ∀ p1 p2, W p1 p2 =
      if p1 < a.length ∧ p2 < b.length then
        if Va.key (a.getD p1 da) = Vb.key (b.getD p2 db) then f (a.getD p1 da) (b.getD p2 db) (W (p1 + 1) (p2 + 1))
        else if Va.key (a.getD p1 da) < Vb.key (b.getD p2 db) then
          if p1 < advFrom (a.map Va.key) (p1 + 1) a.length (Vb.key (b.getD p2 db)) then
            W (advFrom (a.map Va.key) (p1 + 1) a.length (Vb.key (b.getD p2 db))) p2
          else u
        else
          if p2 < advFrom (b.map Vb.key) (p2 + 1) b.length (Va.key (a.getD p1 da)) then
            W p1 (advFrom (b.map Vb.key) (p2 + 1) b.length (Va.key (a.getD p1 da)))
          else u
      else z) (p1 p2 : Nat) :
    W p1 p2 = g (common Va Vb M (a.drop p1) (b.drop p2)) := by
  generalize hn : (a.length - p1) + (b.length - p2) = n
  induction n using Nat.strongRecOn generalizing p1 p2 with
  | _ n ih =>
    subst hn
    rw [hW]
    by_cases hr : p1 < a.length ∧ p2 < b.length
    · have ea := Util.drop_getD da hr.1
      have eb := Util.drop_getD db hr.2
      have hma : a.getD p1 da ∈ a := Util.getD_mem da hr.1
      have hmb : b.getD p2 db ∈ b := Util.getD_mem db hr.2
      rw [if_pos hr]
      by_cases he : Va.key (a.getD p1 da) = Vb.key (b.getD p2 db)
      · rw [if_pos he, ih _ (by omega) _ _ rfl, ea, eb, common_eq _ _ he]
        exact (hg _ _ _ (hPa _ hma) (hPb _ hmb)).symm
      · rw [if_neg he]
        by_cases hlt : Va.key (a.getD p1 da) < Vb.key (b.getD p2 db)
        · obtain ⟨h1, h2, hk⟩ := adv_keys hsa da p1 (Vb.key (b.getD p2 db)) hr.1
          rw [if_pos hlt, if_pos (by omega), ih _ (by omega) _ _ rfl, ea, eb, common_lt _ _ hlt,
            common_skipA a da _ _ h1 h2 hk]
        · obtain ⟨h1, h2, hk⟩ := adv_keys hsb db p2 (Va.key (a.getD p1 da)) hr.2
          rw [if_neg hlt, if_pos (by omega), ih _ (by omega) _ _ rfl, ea, eb, common_gt _ _ (by omega),
            common_skipB b db _ _ h1 h2 hk]
    · rw [if_neg hr]
      by_cases h1 : p1 < a.length
      · rw [List.drop_eq_nil_of_le (show b.length ≤ p2 by omega), common_nil_right, hz]
      · rw [List.drop_eq_nil_of_le (show a.length ≤ p1 by omega), common_nil_left, hz]

/-! ### `Equals`: two block lists store the same set iff they agree block by block -/

def AllPairs (R : α → β → Prop) : List α → List β → Prop
  | [], [] => True
  | x :: xs, y :: ys => R x y ∧ AllPairs R xs ys
  | _, _ => False

theorem equals_blocks {B : Nat} {Pa : α → Prop} {Pb : β → Prop}
    (hna : ∀ s, Pa s → ∃ y, y < B ∧ Va.has s y = true) (hnb : ∀ s, Pb s → ∃ y, y < B ∧ Vb.has s y = true)
    (hla : ∀ s, Pa s → ∀ y, Va.has s y = true → y < B) (hlb : ∀ s, Pb s → ∀ y, Vb.has s y = true → y < B)
    {eqb : β → α → Bool} (heq : ∀ sa sb, Pa sa → Pb sb → (eqb sb sa = true ↔ ∀ y, Vb.has sb y = Va.has sa y))
    {a : List α} {b : List β} (hsa : Va.Sorted a) (hsb : Vb.Sorted b) (hPa : ∀ s ∈ a, Pa s) (hPb : ∀ s ∈ b, Pb s) :
    (∀ v, Va.mem B a v = Vb.mem B b v) ↔
      AllPairs (fun sa sb => Va.key sa = Vb.key sb ∧ eqb sb sa = true) a b := by
  constructor
  · intro h
    induction a generalizing b with
    | nil =>
      cases b with
      | nil => exact trivial
      | cons sb tb =>
        obtain ⟨y, hy, hin⟩ := hnb sb (hPb sb List.mem_cons_self)
        have := h (Vb.key sb * B + y)
        rw [Keyed.mem_block hsb List.mem_cons_self hy, hin] at this
        cases this
    | cons sa ta ih =>
      cases b with
      | nil =>
        obtain ⟨y, hy, hin⟩ := hna sa (hPa sa List.mem_cons_self)
        have := h (Va.key sa * B + y)
        rw [Keyed.mem_block hsa List.mem_cons_self hy, hin] at this
        cases this
      | cons sb tb =>
        have hPsa := hPa sa List.mem_cons_self
        have hPsb := hPb sb List.mem_cons_self
        -- the first keys agree: the block of the least member
        have hle : ∀ {α' β' : Type} {V : Keyed α'} {V' : Keyed β'} {s : α'} {t : List α'} {s' : β'} {t' : List β'},
            V.Sorted (s :: t) → V'.Sorted (s' :: t') → (∃ y, y < B ∧ V.has s y = true) →
            (∀ v, V.mem B (s :: t) v = V'.mem B (s' :: t') v) → V'.key s' ≤ V.key s := by
          intro _ _ V V' s t s' t' hs hs' ⟨y, hy, hin⟩ hh
          apply Nat.le_of_not_lt
          intro hlt
          have h1 := hh (V.key s * B + y)
          rw [Keyed.mem_block hs List.mem_cons_self hy, hin, V'.mem_gt B (V'.gt_of_sorted hs' hlt)
            (Nat.le_of_eq (block_div hy))] at h1
          cases h1
        have hkey : Va.key sa = Vb.key sb :=
          Nat.le_antisymm (hle hsb hsa (hnb sb hPsb) fun v => (h v).symm) (hle hsa hsb (hna sa hPsa) h)
        have hhas : ∀ y, Vb.has sb y = Va.has sa y := by
          intro y
          by_cases hy : y < B
          · have := h (Va.key sa * B + y)
            rw [Keyed.mem_block hsa List.mem_cons_self hy, hkey, Keyed.mem_block hsb List.mem_cons_self hy] at this
            exact this.symm
          · rw [Bool.eq_false_iff.mpr fun h => hy (hlb sb hPsb y h), Bool.eq_false_iff.mpr fun h => hy (hla sa hPsa y h)]
        refine ⟨⟨hkey, (heq sa sb hPsa hPsb).mpr hhas⟩,
          ih (List.pairwise_cons.mp hsa).2 (List.pairwise_cons.mp hsb).2 (fun s hs => hPa s (List.mem_cons_of_mem _ hs))
            (fun s hs => hPb s (List.mem_cons_of_mem _ hs)) fun v => ?_⟩
        by_cases hv : v / B ≤ Va.key sa
        · rw [Va.mem_gt B (List.pairwise_cons.mp hsa).1 hv, Vb.mem_gt B (List.pairwise_cons.mp hsb).1 (hkey ▸ hv)]
        · have := h v
          rwa [Keyed.mem_cons, Keyed.mem_cons, beq_false_of_ne (by omega), beq_false_of_ne (by omega), Bool.false_and,
            Bool.false_and, Bool.false_or, Bool.false_or] at this
  · intro h v
    induction a generalizing b with
    | nil => cases b with
      | nil => rfl
      | cons _ _ => exact h.elim
    | cons sa ta ih =>
      cases b with
      | nil => exact h.elim
      | cons sb tb =>
        rw [Keyed.mem_cons, Keyed.mem_cons, h.1.1,
          (heq sa sb (hPa sa List.mem_cons_self) (hPb sb List.mem_cons_self)).mp h.1.2,
          ih (List.pairwise_cons.mp hsa).2 (List.pairwise_cons.mp hsb).2 (fun s hs => hPa s (List.mem_cons_of_mem _ hs))
            (fun s hs => hPb s (List.mem_cons_of_mem _ hs)) h.2]

end twoLists

end Keyed

end RModel.Impl
