import RProofs.BSet
import RProofs.Util.Count
/-!
Walks over key-sorted lists of chunks.  `Keyed` says how an element of such a list is read (its key, the members of its
chunk); `mergeWalk` is the two-pointer walk over two such lists, `Piece` what a step may contribute (pieces whose key
regions are ordered concatenate: `pieces_sorted`, `pieces_has`), `MergeSpec` the demands on the four kinds of step, with the
conclusions `.sorted`, `.ok`, `.has` (in one piece, with a property of the keys carried along: `Fine`, `MergeSpec.fine`).
Nothing here mentions containers: the slots of a 32-bit bitmap, the buckets of a 64-bit one and the bare keys of a range are
three readings.  Also the arithmetic of chunks of any size `B` (`chunk_cover`, `lex_le`, `range_chunkwise`) and the set
`V.mem B l` that a list of blocks of size `B` stores (`mem_blocks`, `mem_block`).
-/
open RModel.Util
namespace RModel.Impl
open RModel RModel.BSet RModel.Driver

theorem chunk_cover {B k : Nat} {p : Nat → Bool} (hp : ∀ y, p y = true → y < B) (x : Nat) :
    (decide (k * B ≤ x) && p (x - k * B)) = (k == x / B && p (x % B)) := by
  by_cases hk : k = x / B
  · rw [hk, ← Nat.mod_eq_sub_div_mul, decide_eq_true (Nat.div_mul_le_self x _), beq_self_eq_true]
  · rw [beq_false_of_ne hk, Bool.false_and]
    cases hh : p (x - k * B) with
    | false => rw [Bool.and_false]
    | true =>
      rw [Bool.and_true]
      refine decide_eq_false fun hle => hk (Nat.div_eq_of_lt_le hle ?_).symm
      have := hp _ hh
      rw [Nat.succ_mul]; omega

theorem lex_le (B a x : Nat) : a ≤ x ↔ a / B < x / B ∨ (a / B = x / B ∧ a % B ≤ x % B) := by
  have ha := Nat.div_add_mod a B
  have hx := Nat.div_add_mod x B
  constructor
  · intro h
    rcases Nat.lt_or_eq_of_le (Nat.div_le_div_right (c := B) h) with h1 | h1
    · exact Or.inl h1
    · rw [h1] at ha; exact Or.inr ⟨h1, by omega⟩
  · rintro (h | ⟨h1, h2⟩)
    · exact Nat.le_of_lt (Nat.lt_of_div_lt_div h)
    · rw [h1] at ha; omega

theorem lex_lt (B x b : Nat) : x < b ↔ x / B < b / B ∨ (x / B = b / B ∧ x % B < b % B) := by
  rw [← Nat.not_le, lex_le B b x]; omega

/-- a position `(k, y)`, `y < B`, lies between `(a, s)` and `(b, e)` (end exclusive) in the lexicographic order iff `k` is one
of the keys `a..b` and `y` lies in the part of `[0, B)` that the interval leaves to key `k` -/
theorem lex_range {a s b e k y B : Nat} (hy : y < B) :
    ((a ≤ k ∧ k ≤ b) ∧ (if k = a then s else 0) ≤ y ∧ y < (if k = b then e else B)) ↔
      (a < k ∨ a = k ∧ s ≤ y) ∧ (k < b ∨ k = b ∧ y < e) := by
  have h1 : (a ≤ k ∧ (if k = a then s else 0) ≤ y) ↔ (a < k ∨ a = k ∧ s ≤ y) := by split <;> omega
  have h2 : (k ≤ b ∧ y < (if k = b then e else B)) ↔ (k < b ∨ k = b ∧ y < e) := by split <;> omega
  rw [← h1, ← h2]
  exact ⟨fun ⟨⟨p, q⟩, r, t⟩ => ⟨⟨p, r⟩, q, t⟩, fun ⟨⟨p, r⟩, q, t⟩ => ⟨⟨p, q⟩, r, t⟩⟩

/-- `x` lies in `[lo, hi)`, `lo < hi`, iff its chunk is one of the chunks of the range and its position lies in the part of
that chunk the range covers (chunks of any size `B`) -/
theorem range_chunkwise (B lo hi x : Nat) (hB : 0 < B) (h : lo < hi) :
    ((decide (lo / B ≤ x / B) && decide (x / B ≤ (hi - 1) / B)) &&
      (decide ((if x / B = lo / B then lo % B else 0) ≤ x % B) &&
        decide (x % B < (if x / B = (hi - 1) / B then (hi - 1) % B + 1 else B)))) =
    (decide (lo ≤ x) && decide (x < hi)) := by
  rw [Bool.eq_iff_iff]
  simp only [Bool.and_eq_true, decide_eq_true_eq]
  rw [show x < hi ↔ x ≤ hi - 1 by omega, lex_le B lo x, lex_le B x (hi - 1), ← Nat.lt_add_one_iff (m := x % B)]
  exact lex_range (Nat.mod_lt x hB)

/-! ### key-sorted lists of chunks -/

/-- how the elements of a key-sorted list are read: the key of an element and the members of the chunk it stores -/
structure Keyed (α : Type) where
  key : α → Nat
  has : α → Nat → Bool

namespace Keyed
variable {α : Type} (V : Keyed α)

abbrev Sorted (l : List α) : Prop := l.Pairwise (fun s t => V.key s < V.key t)

/-- what a walk keeps of its operands and a fold of walks carries along: sorted, every element with `I`, every key with `Q` -/
def Fine (I : α → Prop) (Q : Nat → Prop) (l : List α) : Prop :=
  V.Sorted l ∧ ∀ s ∈ l, I s ∧ Q (V.key s)

/-- `y` is a member of the chunk that `l` stores under key `q` -/
def hasAt (l : List α) (q y : Nat) : Bool := l.any (fun a => V.key a == q && V.has a y)

theorem hasAt_cons (a : α) (t : List α) (q y : Nat) :
    V.hasAt (a :: t) q y = ((V.key a == q && V.has a y) || V.hasAt t q y) := rfl

theorem hasAt_append (a b : List α) (q y : Nat) : V.hasAt (a ++ b) q y = (V.hasAt a q y || V.hasAt b q y) :=
  List.any_append

theorem hasAt_gt {l : List α} {k : Nat} (h : ∀ s ∈ l, k < V.key s) {q : Nat} (hq : q ≤ k) (y : Nat) :
    V.hasAt l q y = false := by
  induction l with
  | nil => rfl
  | cons s t ih =>
    have ⟨h1, h2⟩ := List.forall_mem_cons.mp h
    rw [hasAt_cons, ih h2, beq_false_of_ne (by omega : V.key s ≠ q)]
    rfl

theorem gt_of_sorted {s : α} {t : List α} (h : V.Sorted (s :: t)) {k : Nat} (hk : k < V.key s) :
    ∀ s' ∈ s :: t, k < V.key s' :=
  List.forall_mem_cons.mpr ⟨hk, fun s' hs' => Nat.lt_trans hk ((List.pairwise_cons.mp h).1 s' hs')⟩

theorem key_first {l : List α} (hs : V.Sorted l) (d : α) : ∀ a ∈ l, V.key (l.getD 0 d) ≤ V.key a := by
  cases l with
  | nil => exact fun _ h => absurd h List.not_mem_nil
  | cons s t =>
    intro a ha
    rcases List.mem_cons.mp ha with rfl | h
    · exact Nat.le_refl _
    · exact Nat.le_of_lt ((List.pairwise_cons.mp hs).1 a h)

theorem key_last {l : List α} (hs : V.Sorted l) (d : α) : ∀ a ∈ l, V.key a ≤ V.key (l.getD (l.length - 1) d) := by
  intro a ha
  obtain ⟨i, hi, rfl⟩ := List.getElem_of_mem ha
  rw [List.getD_eq_getElem?_getD, List.getElem?_eq_getElem (show l.length - 1 < l.length by omega), Option.getD_some]
  rcases Nat.eq_or_lt_of_le (show i ≤ l.length - 1 by omega) with e | hlt
  · simp only [e]; exact Nat.le_refl _
  · exact Nat.le_of_lt (List.pairwise_iff_getElem.mp hs i (l.length - 1) hi (by omega) hlt)

theorem hasAt_eq_find {l : List α} (hs : V.Sorted l) (q y : Nat) :
    V.hasAt l q y = ((l.find? (V.key · == q)).map (V.has · y)).getD false := by
  induction l with
  | nil => rfl
  | cons s t ih =>
    have ht := List.pairwise_cons.mp hs
    rw [hasAt_cons, List.find?_cons]
    by_cases hk : V.key s = q
    · rw [beq_of_eq hk, V.hasAt_gt ht.1 (Nat.le_of_eq hk.symm), Bool.or_false]; rfl
    · rw [beq_false_of_ne hk, ih ht.2]; rfl

/-- the set that a list of blocks of size `B` stores: the element with key `k` holds the values `k * B + y` -/
def mem (B : Nat) (l : List α) (x : Nat) : Bool := V.hasAt l (x / B) (x % B)

theorem mem_cons (B : Nat) (a : α) (t : List α) (x : Nat) :
    V.mem B (a :: t) x = ((V.key a == x / B && V.has a (x % B)) || V.mem B t x) := rfl

theorem lt_block {B k k' y : Nat} (hk : k < k') (hy : y ≤ B) : k * B + y ≤ k' * B :=
  Nat.le_trans (Nat.add_le_add_left hy _) (Nat.succ_mul k B ▸ Nat.mul_le_mul_right B hk)

theorem mem_gt (B : Nat) {l : List α} {k : Nat} (h : ∀ s ∈ l, k < V.key s) {x : Nat} (hx : x / B ≤ k) :
    V.mem B l x = false :=
  V.hasAt_gt h hx _

theorem mem_false_below (B : Nat) {l : List α} {x : Nat} (h : ∀ s ∈ l, x < V.key s * B) : V.mem B l x = false :=
  V.hasAt_gt (k := x / B) (fun s hs => Nat.div_lt_of_lt_mul (Nat.mul_comm _ B ▸ h s hs)) (Nat.le_refl _) _

section
variable {V} {B : Nat}

theorem mem_block {l : List α} (hs : V.Sorted l) {s : α} (hm : s ∈ l) {y : Nat} (hy : y < B) :
    V.mem B l (V.key s * B + y) = V.has s y := by
  induction l with
  | nil => cases hm
  | cons a t ih =>
    rw [mem_cons]
    rcases List.mem_cons.mp hm with rfl | hm'
    · rw [block_on _ y (V.has s) hy,
        show V.mem B t _ = false from V.hasAt_gt (List.pairwise_cons.mp hs).1 (Nat.le_of_eq (block_div hy)) _,
        Bool.or_false]
    · have hlt := (List.pairwise_cons.mp hs).1 s hm'
      rw [ih (List.pairwise_cons.mp hs).2 hm', block_off (V.has a) (by rw [block_div hy]; omega), Bool.false_or]

theorem mem_of_key {l : List α} (hs : V.Sorted l) {s : α} (hm : s ∈ l) (hB : 0 < B) {u : Nat} (hu : u / B = V.key s) :
    V.mem B l u = V.has s (u % B) := by
  rw [← mem_block hs hm (Nat.mod_lt u hB), ← hu, Nat.div_add_mod']

theorem key_of_mem {l : List α} {u : Nat} (h : V.mem B l u = true) : ∃ a ∈ l, V.key a = u / B := by
  obtain ⟨a, ha, hk⟩ := List.any_eq_true.mp h
  exact ⟨a, ha, beq_iff_eq.mp (Bool.and_eq_true_iff.mp hk).1⟩

end

/-- a set given as the union of the sets `den a` of its blocks, block `a` placed at `key a * B` and holding only positions below
`B`, is the set the list stores -/
theorem mem_blocks (B : Nat) (den : α → BSet) (l : List α) (hs : ∀ a ∈ l, SInc (den a))
    (hd : ∀ a ∈ l, ∀ x, BSet.mem (den a) x = (decide (V.key a * B ≤ x) && V.has a (x - V.key a * B)))
    (hb : ∀ a ∈ l, ∀ y, V.has a y = true → y < B) (x : Nat) :
    BSet.mem (unionAll (l.map den)) x = V.mem B l x := by
  rw [mem_unionAll _ (List.forall_mem_map.mpr hs), List.any_map]
  exact any_congr_mem fun a ha => (hd a ha x).trans (chunk_cover (hb a ha) x)

end Keyed

/-- a bare key `k` read as the positions `va k` of its chunk -/
abbrev keysV (va : Nat → Nat → Bool) : Keyed Nat := ⟨fun k => k, va⟩

theorem hasAt_keys (va : Nat → Nat → Bool) (ks : List Nat) (q y : Nat) :
    (keysV va).hasAt ks q y = (ks.contains q && va q y) := by
  induction ks with
  | nil => rfl
  | cons k t ih =>
    rw [Keyed.hasAt_cons, ih, List.contains_cons]
    by_cases hk : k = q
    · subst hk; simp
    · rw [beq_false_of_ne hk, beq_false_of_ne (fun h => hk h.symm)]; simp

/-! ### two-pointer walks over two key-sorted lists

Every binary operation of the library, static, in place or lazy, on 32-bit bitmaps (slots) or 64-bit ones (buckets), and every
key loop of a range mutator is one walk: a key only the left operand has contributes `L s`, a key only the right operand has
`R s` (`R' s` once the left operand is exhausted: the in-place forms append those differently), a key both have `M sa sb`. -/

def mergeWalk {α β γ : Type} (Va : Keyed α) (Vb : Keyed β) (L : α → List γ) (R R' : β → List γ) (M : α → β → List γ) :
    List α → List β → List γ
  | [], b => b.flatMap R'
  | a, [] => a.flatMap L
  | sa :: ta, sb :: tb =>
    if Va.key sa < Vb.key sb then L sa ++ mergeWalk Va Vb L R R' M ta (sb :: tb)
    else if Vb.key sb < Va.key sa then R sb ++ mergeWalk Va Vb L R R' M (sa :: ta) tb
    else M sa sb ++ mergeWalk Va Vb L R R' M ta tb
termination_by a b => a.length + b.length

theorem mergeWalk_nil_right {α β γ : Type} (Va : Keyed α) (Vb : Keyed β) (L : α → List γ) (R R' : β → List γ)
    (M : α → β → List γ) (a : List α) : mergeWalk Va Vb L R R' M a [] = a.flatMap L := by
  cases a <;> simp [mergeWalk]

/-- how a step treats an element only one operand has: not at all, or as it is (a slot also as a private copy: `cloneS` in
`RepOps`) -/
def dropS {α γ : Type} (_ : α) : List γ := []
def keepS {α : Type} (s : α) : List α := [s]
@[simp] theorem flatMap_dropS {α γ : Type} (l : List α) : l.flatMap (dropS (γ := γ)) = [] :=
  List.flatMap_eq_nil_iff.mpr fun _ _ => rfl
@[simp] theorem flatMap_keepS {α : Type} (l : List α) : l.flatMap keepS = l := List.flatMap_singleton' l

/-- `l` is what a result stores under key `k`: elements with that key (so at most one, `l` being sorted) that satisfy `P`,
with members `p` -/
structure Piece {γ : Type} (V : Keyed γ) (P : γ → Prop) (k : Nat) (p : Nat → Bool) (l : List γ) : Prop where
  sorted : V.Sorted l
  ok : ∀ s ∈ l, V.key s = k ∧ P s
  has : ∀ q y, V.hasAt l q y = (k == q && p y)

section
variable {γ : Type} {V : Keyed γ} {P : γ → Prop} {k : Nat} {p : Nat → Bool}

theorem Piece.nil (hp : ∀ y, p y = false) : Piece V P k p [] :=
  ⟨.nil, fun _ h => (nomatch h), fun q y => by rw [hp, Bool.and_false]; rfl⟩

theorem Piece.single {s : γ} (hk : V.key s = k) (hs : P s) (hp : ∀ y, V.has s y = p y) : Piece V P k p [s] :=
  ⟨List.pairwise_singleton _ _, fun s' h => by cases List.mem_singleton.mp h; exact ⟨hk, hs⟩,
    fun q y => by rw [V.hasAt_cons, hk, hp]; exact Bool.or_false _⟩

theorem Piece.has_append {l : List γ} (h : Piece V P k p l) (rest : List γ) (q y : Nat) :
    V.hasAt (l ++ rest) q y = ((k == q && p y) || V.hasAt rest q y) := by
  rw [V.hasAt_append, h.has]

theorem Piece.sorted_append {l rest : List γ} (h : Piece V P k p l) (hr : V.Sorted rest) (hgt : ∀ s ∈ rest, k < V.key s) :
    V.Sorted (l ++ rest) :=
  List.pairwise_append.mpr ⟨h.sorted, hr, fun s hs t ht => (h.ok s hs).1 ▸ hgt t ht⟩

end

/-- one step of a walk, as Booleans: the piece stored under the smallest key `k` decides the positions of that key, the rest
of the walk all others (`a'`, `b'`, `r`: membership in the two remaining lists and in the rest of the result, all `false` at
the positions of that key) -/
theorem merge_step {f : Bool → Bool → Bool} (hf : f false false = false) {k q : Nat} {ma mb A B a' b' r : Bool}
    (hA : A = ((k == q && ma) || a')) (hB : B = ((k == q && mb) || b')) (h0 : q ≤ k → a' = false ∧ b' = false)
    (hr : r = f a' b') : ((k == q && f ma mb) || r) = f A B := by
  subst hA hB hr
  by_cases h : k = q
  · obtain ⟨rfl, rfl⟩ := h0 (Nat.le_of_eq h.symm)
    simp [h, hf]
  · rw [beq_false_of_ne h]; simp

theorem no_part (c B : Bool) : B = ((c && false) || B) := by simp

namespace Keyed
section
variable {α γ : Type} (V : Keyed α)

/-- pieces that are sorted and whose keys lie in regions ordered like the pieces give a sorted list when concatenated -/
theorem pieces_sorted (gs : List γ) (piece : γ → List α) (In : γ → Nat → Prop)
    (hord : gs.Pairwise fun g g' => ∀ k k', In g k → In g' k' → k < k')
    (hp : ∀ g ∈ gs, V.Sorted (piece g) ∧ ∀ s ∈ piece g, In g (V.key s)) : V.Sorted (gs.flatMap piece) :=
  List.pairwise_flatMap.2 ⟨fun g hg => (hp g hg).1,
    hord.imp_of_mem fun {g g'} hg hg' h s hs s' hs' => h _ _ ((hp g hg).2 s hs) ((hp g' hg').2 s' hs')⟩

/-- if each piece holds, of what `T` selects under key `q`, the part in its region, and some region contains `q`, the
concatenation holds what `T` selects -/
theorem pieces_has (gs : List γ) (piece : γ → List α) (In : γ → Prop) (T : Bool) (q y : Nat)
    (hhas : ∀ g ∈ gs, V.hasAt (piece g) q y = true ↔ T = true ∧ In g) (hcov : T = true → ∃ g ∈ gs, In g) :
    V.hasAt (gs.flatMap piece) q y = T := by
  rw [Keyed.hasAt, List.any_flatMap]
  exact any_eq_of_witness (fun g hg h => ((hhas g hg).1 h).1) fun h =>
    (hcov h).imp fun g hg => ⟨hg.1, (hhas g hg.1).2 ⟨h, hg.2⟩⟩

end

end Keyed

section
variable {α γ : Type} {Va : Keyed α} {Vc : Keyed γ} {P : α → Prop} {Po : γ → Prop} {G : α → List γ} {l : List α}

/-- a one-sided walk: every element of a sorted list replaced by its piece -/
theorem sorted_flatMap {p : α → Nat → Bool} (hG : ∀ s, P s → Piece Vc Po (Va.key s) (p s) (G s)) (hs : Va.Sorted l)
    (hl : ∀ s ∈ l, P s) : Vc.Sorted (l.flatMap G) :=
  Vc.pieces_sorted l G (fun s k => k = Va.key s) (hs.imp fun h _ _ hk hk' => hk ▸ hk' ▸ h) fun s hs' =>
    ⟨(hG s (hl s hs')).sorted, fun s' h => ((hG s (hl s hs')).ok s' h).1⟩

theorem ok_flatMap {p : α → Nat → Bool} (hG : ∀ s, P s → Piece Vc Po (Va.key s) (p s) (G s)) (hl : ∀ s ∈ l, P s) :
    ∀ s ∈ l.flatMap G, Po s := fun s hs => by
  obtain ⟨s0, hs0, h⟩ := List.mem_flatMap.mp hs
  exact ((hG s0 (hl s0 hs0)).ok s h).2

/-- its members, when those of a piece are `g` of the element's members and of positions `T` that depend on the key only -/
theorem has_flatMap {g : Bool → Bool → Bool} {T : Nat → Nat → Bool} (g0 : ∀ c, g false c = false)
    (hG : ∀ s, P s → Piece Vc Po (Va.key s) (fun y => g (Va.has s y) (T (Va.key s) y)) (G s)) (hs : Va.Sorted l)
    (hl : ∀ s ∈ l, P s) (q y : Nat) : Vc.hasAt (l.flatMap G) q y = g (Va.hasAt l q y) (T q y) := by
  induction l with
  | nil => exact (g0 _).symm
  | cons s t ih =>
    have ht := List.pairwise_cons.mp hs
    have hl' := List.forall_mem_cons.mp hl
    rw [List.flatMap_cons, (hG s hl'.1).has_append, ih ht.2 hl'.2, Va.hasAt_cons]
    by_cases hk : Va.key s = q
    · rw [Va.hasAt_gt ht.1 (Nat.le_of_eq hk.symm), beq_of_eq hk, hk, g0]
      simp
    · rw [beq_false_of_ne hk]; simp

theorem map_spec {h : α → γ} (hh : ∀ s, P s → Vc.key (h s) = Va.key s ∧ Po (h s) ∧ ∀ y, Vc.has (h s) y = Va.has s y)
    (hs : Va.Sorted l) (hl : ∀ s ∈ l, P s) :
    Vc.Sorted (l.map h) ∧ (∀ s ∈ l.map h, Po s) ∧ ∀ q y, Vc.hasAt (l.map h) q y = Va.hasAt l q y := by
  have hG : ∀ s, P s → Piece Vc Po (Va.key s) (fun y => Va.has s y) [h s] := fun s hp =>
    .single (hh s hp).1 (hh s hp).2.1 (hh s hp).2.2
  rw [List.map_eq_flatMap]
  exact ⟨sorted_flatMap hG hs hl, ok_flatMap hG hl,
    has_flatMap (g := fun m _ => m) (T := fun _ _ => false) (fun _ => rfl) hG hs hl⟩

end

/-- what the four kinds of step of a walk contribute, for operands whose elements satisfy `Pa` / `Pb`, when the elements of
the result are to satisfy `Po` and to have, chunk by chunk, the members `f` of the operands' members -/
structure MergeSpec {α β γ : Type} (Va : Keyed α) (Vb : Keyed β) (Vc : Keyed γ) (f : Bool → Bool → Bool) (Pa : α → Prop)
    (Pb : β → Prop) (Po : γ → Prop) (L : α → List γ) (R R' : β → List γ) (M : α → β → List γ) : Prop where
  zero : f false false = false
  left : ∀ s, Pa s → Piece Vc Po (Va.key s) (fun y => f (Va.has s y) false) (L s)
  right : ∀ s, Pb s → Piece Vc Po (Vb.key s) (fun y => f false (Vb.has s y)) (R s)
  tail : ∀ s, Pb s → Piece Vc Po (Vb.key s) (fun y => f false (Vb.has s y)) (R' s)
  both : ∀ sa sb, Pa sa → Pb sb → Va.key sa = Vb.key sb →
    Piece Vc Po (Va.key sa) (fun y => f (Va.has sa y) (Vb.has sb y)) (M sa sb)

section
variable {α β γ : Type} {Va : Keyed α} {Vb : Keyed β} {Vc : Keyed γ} {L : α → List γ} {R R' : β → List γ}
  {M : α → β → List γ} {f : Bool → Bool → Bool} {Pa : α → Prop} {Pb : β → Prop} {Po : γ → Prop}

/-- every element of the result satisfies `Po` and carries the key of an operand element: `Q` is any property the operands'
keys have -/
theorem MergeSpec.all (W : MergeSpec Va Vb Vc f Pa Pb Po L R R' M) {a : List α} {b : List β} {Q : Nat → Prop}
    (ha : ∀ s ∈ a, Pa s ∧ Q (Va.key s)) (hb : ∀ s ∈ b, Pb s ∧ Q (Vb.key s)) :
    ∀ s ∈ mergeWalk Va Vb L R R' M a b, Po s ∧ Q (Vc.key s) := by
  have piece : ∀ {k p l}, Piece Vc Po k p l → Q k → ∀ s ∈ l, Po s ∧ Q (Vc.key s) := fun h hk s hs =>
    have := h.ok s hs; ⟨this.2, this.1 ▸ hk⟩
  fun_induction mergeWalk Va Vb L R R' M a b with
  | case1 b =>
    intro s hs
    obtain ⟨sb, hsb, h⟩ := List.mem_flatMap.mp hs
    exact piece (W.tail sb (hb sb hsb).1) (hb sb hsb).2 s h
  | case2 a _ =>
    intro s hs
    obtain ⟨sa, hsa, h⟩ := List.mem_flatMap.mp hs
    exact piece (W.left sa (ha sa hsa).1) (ha sa hsa).2 s h
  | case3 sa ta sb tb _ ih =>
    have ⟨h1, h2⟩ := List.forall_mem_cons.mp ha
    exact List.forall_mem_append.mpr ⟨piece (W.left sa h1.1) h1.2, ih h2 hb⟩
  | case4 sa ta sb tb _ _ ih =>
    have ⟨h1, h2⟩ := List.forall_mem_cons.mp hb
    exact List.forall_mem_append.mpr ⟨piece (W.right sb h1.1) h1.2, ih ha h2⟩
  | case5 sa ta sb tb _ _ ih =>
    have ⟨h1, h2⟩ := List.forall_mem_cons.mp ha
    have ⟨h3, h4⟩ := List.forall_mem_cons.mp hb
    exact List.forall_mem_append.mpr ⟨piece (W.both sa sb h1.1 h3.1 (by omega)) h1.2, ih h2 h4⟩

theorem MergeSpec.ok (W : MergeSpec Va Vb Vc f Pa Pb Po L R R' M) {a : List α} {b : List β} (ha : ∀ s ∈ a, Pa s)
    (hb : ∀ s ∈ b, Pb s) : ∀ s ∈ mergeWalk Va Vb L R R' M a b, Po s :=
  fun s hs => (W.all (Q := fun _ => True) (fun s h => ⟨ha s h, trivial⟩) (fun s h => ⟨hb s h, trivial⟩) s hs).1

theorem MergeSpec.sorted (W : MergeSpec Va Vb Vc f Pa Pb Po L R R' M) {a : List α} {b : List β} (ha : ∀ s ∈ a, Pa s)
    (hb : ∀ s ∈ b, Pb s) (hsa : Va.Sorted a) (hsb : Vb.Sorted b) : Vc.Sorted (mergeWalk Va Vb L R R' M a b) := by
  fun_induction mergeWalk Va Vb L R R' M a b with
  | case1 b => exact sorted_flatMap W.tail hsb hb
  | case2 a _ => exact sorted_flatMap W.left hsa ha
  | case3 sa ta sb tb hlt ih =>
    have hta := List.pairwise_cons.mp hsa
    have ha' := List.forall_mem_cons.mp ha
    exact (W.left sa ha'.1).sorted_append (ih ha'.2 hb hta.2 hsb)
      (fun s hs => (W.all (Q := (Va.key sa < ·)) (fun s h => ⟨ha'.2 s h, hta.1 s h⟩)
        (fun s h => ⟨hb s h, Vb.gt_of_sorted hsb hlt s h⟩) s hs).2)
  | case4 sa ta sb tb _ _ ih =>
    have htb := List.pairwise_cons.mp hsb
    have hb' := List.forall_mem_cons.mp hb
    exact (W.right sb hb'.1).sorted_append (ih ha hb'.2 hsa htb.2)
      (fun s hs => (W.all (Q := (Vb.key sb < ·)) (fun s h => ⟨ha s h, Va.gt_of_sorted hsa (by omega) s h⟩)
        (fun s h => ⟨hb'.2 s h, htb.1 s h⟩) s hs).2)
  | case5 sa ta sb tb _ _ ih =>
    have hta := List.pairwise_cons.mp hsa
    have htb := List.pairwise_cons.mp hsb
    have ha' := List.forall_mem_cons.mp ha
    have hb' := List.forall_mem_cons.mp hb
    exact (W.both sa sb ha'.1 hb'.1 (by omega)).sorted_append (ih ha'.2 hb'.2 hta.2 htb.2)
      (fun s hs => (W.all (Q := (Va.key sa < ·)) (fun s h => ⟨ha'.2 s h, hta.1 s h⟩)
        (fun s h => ⟨hb'.2 s h, by have := htb.1 s h; omega⟩) s hs).2)

theorem MergeSpec.has (W : MergeSpec Va Vb Vc f Pa Pb Po L R R' M) {a : List α} {b : List β} (ha : ∀ s ∈ a, Pa s)
    (hb : ∀ s ∈ b, Pb s) (hsa : Va.Sorted a) (hsb : Vb.Sorted b) (q y : Nat) :
    Vc.hasAt (mergeWalk Va Vb L R R' M a b) q y = f (Va.hasAt a q y) (Vb.hasAt b q y) := by
  fun_induction mergeWalk Va Vb L R R' M a b with
  | case1 b => exact has_flatMap (g := fun m _ => f false m) (T := fun _ _ => false) (fun _ => W.zero) W.tail hsb hb q y
  | case2 a _ => exact has_flatMap (g := fun m _ => f m false) (T := fun _ _ => false) (fun _ => W.zero) W.left hsa ha q y
  | case3 sa ta sb tb hlt ih =>
    have hta := List.pairwise_cons.mp hsa
    have ha' := List.forall_mem_cons.mp ha
    rw [(W.left sa ha'.1).has_append]
    exact merge_step W.zero (Va.hasAt_cons sa ta q y) (no_part _ _)
      (fun e => ⟨Va.hasAt_gt hta.1 e y, Vb.hasAt_gt (Vb.gt_of_sorted hsb hlt) e y⟩) (ih ha'.2 hb hta.2 hsb)
  | case4 sa ta sb tb _ hlt ih =>
    have htb := List.pairwise_cons.mp hsb
    have hb' := List.forall_mem_cons.mp hb
    rw [(W.right sb hb'.1).has_append]
    exact merge_step W.zero (no_part _ _) (Vb.hasAt_cons sb tb q y)
      (fun e => ⟨Va.hasAt_gt (Va.gt_of_sorted hsa (by omega)) e y, Vb.hasAt_gt htb.1 e y⟩) (ih ha hb'.2 hsa htb.2)
  | case5 sa ta sb tb _ _ ih =>
    have hta := List.pairwise_cons.mp hsa
    have htb := List.pairwise_cons.mp hsb
    have ha' := List.forall_mem_cons.mp ha
    have hb' := List.forall_mem_cons.mp hb
    have hkk : Va.key sa = Vb.key sb := by omega
    rw [(W.both sa sb ha'.1 hb'.1 hkk).has_append]
    exact merge_step W.zero (Va.hasAt_cons sa ta q y) (hkk ▸ Vb.hasAt_cons sb tb q y)
      (fun e => ⟨Va.hasAt_gt hta.1 e y, Vb.hasAt_gt htb.1 (hkk ▸ e) y⟩) (ih ha'.2 hb'.2 hta.2 htb.2)

end

theorem MergeSpec.fine {α : Type} {V : Keyed α} {f : Bool → Bool → Bool} {Pa Pb Po : α → Prop} {L R R' : α → List α}
    {M : α → α → List α} (W : MergeSpec V V V f Pa Pb Po L R R' M) {Q : Nat → Prop} {a b : List α} (ha : V.Fine Pa Q a)
    (hb : V.Fine Pb Q b) : V.Fine Po Q (mergeWalk V V L R R' M a b) ∧
      ∀ q y, V.hasAt (mergeWalk V V L R R' M a b) q y = f (V.hasAt a q y) (V.hasAt b q y) :=
  have ha' := fun s h => (ha.2 s h).1
  have hb' := fun s h => (hb.2 s h).1
  ⟨⟨W.sorted ha' hb' ha.1 hb.1, W.all ha.2 hb.2⟩, W.has ha' hb' ha.1 hb.1⟩

end RModel.Impl
