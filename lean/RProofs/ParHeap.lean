import RProofs.BinHeap
import RModel.Impl.ParData
/-!
The container heap of `ParHeapOr` / `ParAnd` (`RModel/Impl/ParData.lean`) groups the containers of the operands by key.

`remOf h` lists the (key, container) pairs the cursors in the heap still have to hand out; every heap move (`heap.Init`,
`popIncrementing`, `Next`) permutes it or takes the pair at the root off it.  Under `Inv` (heap order on the cursors' keys, each
cursor's own keys increasing) the root carries the least remaining key, so `Next` takes exactly the pairs with that key.
The array moves are those of the priority queue of `RProofs/BinHeap.lean` with the cursor's key as the size (`heapDown_eq`), which
is where "a move permutes the array" comes from; the heap order is needed here only.
`workItems_spec`: for operands with increasing keys the work items come with strictly increasing keys, each holds the
operands' containers under its key up to a permutation (the order depends on the heap layout), and no key is lost.
-/
namespace RModel.Impl.ParData
open RModel RModel.Impl

/-! ### `keyAt` through the array moves -/

theorem keyAt_eq (h : Array HEnt) (i : Nat) : keyAt h i = (h[i]?.getD default).key := by
  simp [keyAt, Array.getD_eq_getD_getElem?]

theorem getElem?_swapIfInBounds (h : Array HEnt) (i j k : Nat) (hi : i < h.size) (hj : j < h.size) :
    (h.swapIfInBounds i j)[k]? = if k = i then h[j]? else if k = j then h[i]? else h[k]? := by
  by_cases hk : k < h.size
  · rw [Array.getElem?_eq_getElem (by simpa using hk), Array.getElem_swapIfInBounds]
    grind
  · rw [Array.getElem?_eq_none (by simpa using hk)]
    grind

theorem keyAt_swap (h : Array HEnt) (i j k : Nat) (hi : i < h.size) (hj : j < h.size) :
    keyAt (h.swapIfInBounds i j) k = if k = i then keyAt h j else if k = j then keyAt h i else keyAt h k := by
  simp only [keyAt_eq, getElem?_swapIfInBounds h i j k hi hj]
  split
  · rfl
  · split <;> rfl

/-! ### `heapDown` -/

theorem heapDown_eq (h : Array HEnt) (i n : Nat) : heapDown h i n = RepBulk.pqDown HEnt.key h i n := by
  fun_induction RepBulk.pqDown HEnt.key h i n <;> rw [heapDown]
  · rw [if_pos ‹_›]
  · rename_i h i hlt j1 j hj ih
    simp only [RepBulk.pqLess, decide_eq_true_eq] at hj
    rw [if_neg hlt]
    exact (if_pos hj).trans ih
  · rename_i h i hlt j1 j hj
    simp only [RepBulk.pqLess, decide_eq_true_eq] at hj
    rw [if_neg hlt]
    exact if_neg hj

theorem heapDown_perm (h : Array HEnt) (i n : Nat) : (heapDown h i n).toList.Perm h.toList :=
  heapDown_eq h i n ▸ (RepBulk.pqDown_perm _ h i n).toList

theorem size_heapDown (h : Array HEnt) (i n : Nat) : (heapDown h i n).size = h.size :=
  heapDown_eq h i n ▸ (RepBulk.pqDown_perm _ h i n).size_eq

theorem smallerChild (h : Array HEnt) (i n : Nat) (hlt : 2 * i + 1 < n) (j : Nat)
    (hj : j = if 2 * i + 1 + 1 < n && keyAt h (2 * i + 1 + 1) < keyAt h (2 * i + 1) then 2 * i + 1 + 1 else 2 * i + 1) :
    (j - 1) / 2 = i ∧ 0 < j ∧ j < n ∧ ∀ c, 0 < c → c < n → (c - 1) / 2 = i → keyAt h j ≤ keyAt h c := by
  have hc : ∀ c, 0 < c → (c - 1) / 2 = i → c = 2 * i + 1 ∨ c = 2 * i + 2 := by omega
  subst hj
  split
  · rename_i hb
    simp only [Bool.and_eq_true, decide_eq_true_eq] at hb
    refine ⟨by omega, by omega, hb.1, fun c h0 _ hp => ?_⟩
    rcases hc c h0 hp with rfl | rfl
    · exact Nat.le_of_lt hb.2
    · exact Nat.le_refl _
  · rename_i hb
    simp only [Bool.and_eq_true, decide_eq_true_eq, not_and, Nat.not_lt] at hb
    refine ⟨by omega, by omega, hlt, fun c h0 hcn hp => ?_⟩
    rcases hc c h0 hp with rfl | rfl
    · exact Nat.le_refl _
    · exact hb hcn

theorem heapDown_getElem? (h : Array HEnt) (i n k : Nat) (hn : n ≤ h.size) (hk : k < i ∨ n ≤ k) :
    (heapDown h i n)[k]? = h[k]? := by
  fun_induction heapDown h i n
  · rfl
  · rename_i h i hlt j1 j hj ih
    obtain ⟨hji, hj0, hjn, -⟩ := smallerChild h i n (Nat.not_le.1 hlt) j rfl
    clear_value j
    rw [ih (by simpa using hn) (by omega), getElem?_swapIfInBounds h i j k (by omega) (by omega),
      if_neg (by omega : k ≠ i), if_neg (by omega : k ≠ j)]
  · rfl

/-- `down(i, n)` repairs the heap order among the positions whose parent is at or after `lo`, if it can fail only at `i`:
every position other than the children of `i` is in order with its parent (`H1`), and the children of `i` are in order with
the parent of `i` (`H2`).  With `lo = i` this is one round of `heap.Init`, with `lo = i = 0` it is `heap.Fix(h, 0)`. -/
theorem heapDown_heap (h : Array HEnt) (i n lo : Nat) (hn : n ≤ h.size) (hlo : lo ≤ i)
    (H1 : ∀ j, 0 < j → j < n → lo ≤ (j - 1) / 2 → (j - 1) / 2 ≠ i → keyAt h ((j - 1) / 2) ≤ keyAt h j)
    (H2 : 0 < i → lo ≤ (i - 1) / 2 → ∀ j, 0 < j → j < n → (j - 1) / 2 = i → keyAt h ((i - 1) / 2) ≤ keyAt h j) :
    ∀ j, 0 < j → j < n → lo ≤ (j - 1) / 2 →
      keyAt (heapDown h i n) ((j - 1) / 2) ≤ keyAt (heapDown h i n) j := by
  fun_induction heapDown h i n
  · intro j hj0 hjn hjl
    exact H1 j hj0 hjn hjl (by omega)
  · rename_i h i hlt j1 j hj ih
    obtain ⟨hji, hj0, hjn, hmin⟩ := smallerChild h i n (Nat.not_le.1 hlt) j rfl
    clear_value j
    have hi : i < h.size := by omega
    have hj' : j < h.size := by omega
    apply ih (by simpa using hn) (by omega)
    · intro c hc0 hcn hcl hcj
      rw [keyAt_swap h i j _ hi hj', keyAt_swap h i j _ hi hj']
      by_cases hci : (c - 1) / 2 = i
      · rw [if_pos hci, if_neg (by omega : c ≠ i)]
        split
        · exact Nat.le_of_lt hj
        · exact hmin c hc0 hcn hci
      · rw [if_neg hci, if_neg hcj]
        by_cases hc : c = i
        · subst hc
          rw [if_pos rfl]
          exact H2 (by omega) hcl j hj0 hjn hji
        · rw [if_neg hc, if_neg (by omega : c ≠ j)]
          exact H1 c hc0 hcn hcl hci
    · intro _ _ c hc0 hcn hcj
      rw [keyAt_swap h i j _ hi hj', keyAt_swap h i j _ hi hj', hji, if_pos rfl, if_neg (by omega : c ≠ i),
        if_neg (by omega : c ≠ j)]
      exact hcj ▸ H1 c hc0 hcn (by omega) (by omega)
  · rename_i h i hlt j1 j hj
    obtain ⟨hji, hj0, hjn, hmin⟩ := smallerChild h i n (Nat.not_le.1 hlt) j rfl
    intro c hc0 hcn hcl
    by_cases hci : (c - 1) / 2 = i
    · exact hci ▸ Nat.le_trans (Nat.not_lt.1 hj) (hmin c hc0 hcn hci)
    · exact H1 c hc0 hcn hcl hci

/-! ### the heap invariant and the multiset of remaining (key, container) pairs -/

/-- the slots a cursor still has to hand out -/
def conts (e : HEnt) : List (Nat × Cont) := (e.key, e.c) :: e.rest.map fun s => (s.key, s.c)

def remOf (h : Array HEnt) : List (Nat × Cont) := h.toList.flatMap conts

def EntOk (e : HEnt) : Prop := (conts e).Pairwise fun a b => a.1 < b.1

def HeapProp (h : Array HEnt) (n : Nat) : Prop :=
  ∀ j, 0 < j → j < n → keyAt h ((j - 1) / 2) ≤ keyAt h j

structure Inv (h : Array HEnt) : Prop where
  heap : HeapProp h h.size
  ents : ∀ e ∈ h.toList, EntOk e

theorem heapProp_root {h : Array HEnt} {n : Nat} (H : HeapProp h n) : ∀ j, j < n → keyAt h 0 ≤ keyAt h j := by
  intro j
  induction j using Nat.strongRecOn with
  | _ j ih =>
    intro hj
    by_cases h0 : j = 0
    · subst h0; exact Nat.le_refl _
    · exact Nat.le_trans (ih ((j - 1) / 2) (by omega) (by omega)) (H j (by omega) hj)

theorem remOf_perm {h h' : Array HEnt} (p : h'.toList.Perm h.toList) : (remOf h').Perm (remOf h) :=
  List.Perm.flatMap_right _ p

theorem ents_perm {h h' : Array HEnt} (p : h'.toList.Perm h.toList) (H : ∀ e ∈ h.toList, EntOk e) :
    ∀ e ∈ h'.toList, EntOk e := fun e he => H e (p.mem_iff.mp he)

theorem remOf_eq_nil {h : Array HEnt} (H : remOf h = []) : h.size = 0 := by
  cases h with
  | mk l =>
    cases l with
    | nil => rfl
    | cons e t => simp [remOf, conts] at H

theorem inv_root_le {h : Array HEnt} (H : Inv h) : ∀ x ∈ remOf h, keyAt h 0 ≤ x.1 := by
  intro x hx
  obtain ⟨e, he, hxe⟩ := List.mem_flatMap.1 hx
  obtain ⟨j, hj, rfl⟩ := List.mem_iff_getElem.mp he
  have h1 := heapProp_root H.heap j (by simpa using hj)
  have h2 : keyAt h j = (h.toList[j]).key := by
    simp [keyAt_eq, Array.getElem?_eq_getElem (by simpa using hj : j < h.size)]
  have h3 := H.ents _ he
  simp only [EntOk, conts, List.pairwise_cons] at h3
  simp only [conts, List.mem_cons] at hxe
  rcases hxe with rfl | hxe
  · omega
  · have := h3.1 x hxe
    simp only [Array.getElem_toList] at this h2
    omega

/-! ### `popIncrementing` -/

theorem keyAt_pop (a : Array HEnt) (j : Nat) (hj : j < a.size - 1) : keyAt a.pop j = keyAt a j := by
  simp only [keyAt_eq, Array.getElem?_pop, hj, if_true]

theorem keyAt_set0 (a : Array HEnt) (e : HEnt) (j : Nat) (hj : j ≠ 0) : keyAt (a.setIfInBounds 0 e) j = keyAt a j := by
  simp only [keyAt_eq, Array.getElem?_setIfInBounds]
  rw [if_neg (by omega)]

theorem heapPopInc_spec {h : Array HEnt} (H : Inv h) (h0 : 0 < h.size) :
    Inv (heapPopInc h).2 ∧ ((heapPopInc h).1 :: remOf (heapPopInc h).2).Perm (remOf h) ∧
      (heapPopInc h).1.1 = keyAt h 0 := by
  obtain ⟨e0, t, hl⟩ := List.exists_cons_of_length_pos (l := h.toList) (by simpa using h0)
  have hg0 : h[0]? = some e0 := by
    rw [← Array.getElem?_toList, hl]; rfl
  have hk : h.getD 0 default = e0 := by simp [Array.getD_eq_getD_getElem?, hg0]
  have hkey : keyAt h 0 = e0.key := by simp [keyAt, hk]
  have he0 := H.ents e0 (by simp [hl])
  have hheap := H.heap
  unfold heapPopInc
  simp only [hk]
  split
  · rename_i s r hr
    -- `heap.Fix(h, 0)`
    refine ⟨⟨?_, ?_⟩, ?_, hkey.symm⟩
    · intro j hj0 hjn
      simp only [size_heapDown, Array.size_setIfInBounds] at hjn
      refine heapDown_heap _ 0 _ 0 (by simp) (Nat.le_refl _) ?_ ?_ j hj0 hjn (Nat.zero_le _)
      · intro j hj0 hjn _ hne
        rw [keyAt_set0 _ _ _ hne, keyAt_set0 _ _ _ (by omega)]
        exact hheap j hj0 hjn
      · intro h00; omega
    · apply ents_perm (heapDown_perm _ _ _)
      intro e he
      simp only [Array.toList_setIfInBounds, hl, List.set_cons_zero, List.mem_cons] at he
      rcases he with rfl | he
      · simp only [EntOk, conts, hr, List.map_cons, List.pairwise_cons] at he0 ⊢
        exact he0.2
      · exact H.ents e (by simp [hl, he])
    · refine (List.Perm.cons _ (remOf_perm (heapDown_perm _ _ _))).trans ?_
      simp [remOf, conts, hr, hl]
  · rename_i hr
    -- `heap.Pop(h)`
    have hn1 : h.size - 1 < h.size := by omega
    have hsz2 : (h.swapIfInBounds 0 (h.size - 1)).size = h.size := Array.size_swapIfInBounds
    -- this is the `Pop` of the priority queue; the element it takes off is the old root, left in place by the sift
    have hpop : RepBulk.pqPop HEnt.key h = (e0, (heapDown (h.swapIfInBounds 0 (h.size - 1)) 0 (h.size - 1)).pop) := by
      rw [RepBulk.pqPop, ← heapDown_eq, Array.getD_eq_getD_getElem?,
        heapDown_getElem? _ _ _ _ (by omega) (Or.inr (Nat.le_refl _)), getElem?_swapIfInBounds h 0 (h.size - 1) _ h0 hn1]
      split
      · rename_i h1; rw [h1, hg0]; rfl
      · rw [if_pos rfl, hg0]; rfl
    have hperm := (RepBulk.pqPop_spec HEnt.key h h0).1
    rw [hpop] at hperm
    refine ⟨⟨?_, ?_⟩, ?_, hkey.symm⟩
    · intro j hj0 hjn
      simp only [Array.size_pop, size_heapDown, hsz2] at hjn
      rw [keyAt_pop _ _ (by rw [size_heapDown, hsz2]; omega), keyAt_pop _ _ (by rw [size_heapDown, hsz2]; exact hjn)]
      refine heapDown_heap _ 0 _ 0 (by rw [hsz2]; omega) (Nat.le_refl _) ?_ ?_ j hj0 hjn (Nat.zero_le _)
      · intro j hj0 hjn _ hne
        rw [keyAt_swap h 0 (h.size - 1) _ h0 hn1, keyAt_swap h 0 (h.size - 1) _ h0 hn1]
        rw [if_neg hne, if_neg (by omega), if_neg (by omega), if_neg (by omega)]
        exact hheap j hj0 (by omega)
      · intro h00; omega
    · exact fun e he => H.ents e (hperm.mem_iff.1 (List.mem_cons_of_mem _ he))
    · have := List.Perm.flatMap_right conts hperm
      rwa [List.flatMap_cons, conts, hr] at this

theorem root_mem_remOf {h : Array HEnt} (H : Inv h) (h0 : 0 < h.size) : ∃ c, (keyAt h 0, c) ∈ remOf h := by
  obtain ⟨_, hp, hk⟩ := heapPopInc_spec H h0
  refine ⟨(heapPopInc h).1.2, ?_⟩
  rw [← hk]
  exact hp.mem_iff.mp (by simp)

/-! ### `Next` -/

theorem heapCollect_spec (key : Nat) : ∀ (f : Nat) (h : Array HEnt) (acc : List Cont), Inv h →
    (∀ x ∈ remOf h, key ≤ x.1) → (remOf h).length ≤ f →
    ∃ cs, (heapCollect key f h acc).1 = acc.reverse ++ cs ∧ Inv (heapCollect key f h acc).2 ∧
      (cs.map (fun c => (key, c)) ++ remOf (heapCollect key f h acc).2).Perm (remOf h) ∧
      ∀ x ∈ remOf (heapCollect key f h acc).2, key < x.1 := by
  intro f
  induction f with
  | zero =>
    intro h acc H hge hlen
    have hnil : remOf h = [] := List.eq_nil_of_length_eq_zero (by omega)
    refine ⟨[], by simp [heapCollect], H, by simp [heapCollect], ?_⟩
    simp [heapCollect, hnil]
  | succ f ih =>
    intro h acc H hge hlen
    unfold heapCollect
    split
    · rename_i hc
      simp only [Bool.and_eq_true, decide_eq_true_eq, beq_iff_eq] at hc
      obtain ⟨hI, hp, hk⟩ := heapPopInc_spec H hc.1
      rw [← hp.length_eq] at hlen
      have hlen' : (remOf (heapPopInc h).2).length ≤ f := Nat.le_of_succ_le_succ hlen
      have hge' : ∀ x ∈ remOf (heapPopInc h).2, key ≤ x.1 := fun x hx =>
        hge x (hp.mem_iff.mp (List.mem_cons_of_mem _ hx))
      obtain ⟨cs, e1, e2, e3, e4⟩ := ih (heapPopInc h).2 ((heapPopInc h).1.2 :: acc) hI hge' hlen'
      refine ⟨(heapPopInc h).1.2 :: cs, ?_, e2, ?_, e4⟩
      · rw [e1]; simp
      · refine List.Perm.trans ?_ hp
        have : (heapPopInc h).1 = (key, (heapPopInc h).1.2) := by
          rw [← hc.2, ← hk]
        simp only [List.map_cons, List.cons_append]
        rw [← this]
        exact List.Perm.cons _ e3
    · rename_i hc
      refine ⟨[], by simp, H, by simp, ?_⟩
      intro x hx
      obtain ⟨e, he, -⟩ := List.mem_flatMap.1 hx
      have h0 : 0 < h.size := List.length_pos_of_mem he
      obtain ⟨c, hcm⟩ := root_mem_remOf H h0
      have h1 := hge _ hcm
      have h2 := inv_root_le H x hx
      have h3 : keyAt h 0 ≠ key := by
        intro he; apply hc; simp [h0, he]
      simp only at h1
      omega

theorem heapNext_spec {f : Nat} {h : Array HEnt} (H : Inv h) (h0 : 0 < h.size) (hlen : (remOf h).length ≤ f + 1) :
    Inv (heapNext f h).2 ∧ (heapNext f h).1.2 ≠ [] ∧
      ((heapNext f h).1.2.map (fun c => ((heapNext f h).1.1, c)) ++ remOf (heapNext f h).2).Perm (remOf h) ∧
      ∀ x ∈ remOf (heapNext f h).2, (heapNext f h).1.1 < x.1 := by
  obtain ⟨hI, hp, hk⟩ := heapPopInc_spec H h0
  rw [← hp.length_eq] at hlen
  have hlen' : (remOf (heapPopInc h).2).length ≤ f := Nat.le_of_succ_le_succ hlen
  have hge' : ∀ x ∈ remOf (heapPopInc h).2, (heapPopInc h).1.1 ≤ x.1 := fun x hx => by
    rw [hk]
    exact inv_root_le H x (hp.mem_iff.mp (List.mem_cons_of_mem _ hx))
  obtain ⟨cs, e1, e2, e3, e4⟩ :=
    heapCollect_spec (heapPopInc h).1.1 f (heapPopInc h).2 [(heapPopInc h).1.2] hI hge' hlen'
  simp only [heapNext]
  refine ⟨e2, ?_, ?_, e4⟩
  · rw [e1]; simp
  · rw [e1]
    refine List.Perm.trans ?_ hp
    simp only [List.reverse_cons, List.reverse_nil, List.nil_append, List.cons_append, List.map_cons]
    exact List.Perm.cons _ e3

/-! ### the loop over `Next` -/

def sel (k : Nat) (xs : List (Nat × Cont)) : List Cont := xs.filterMap fun x => if x.1 = k then some x.2 else none

theorem sel_map (k k' : Nat) (cs : List Cont) : sel k (cs.map fun c => (k', c)) = if k' = k then cs else [] := by
  split <;> simp [sel, List.filterMap_map, Function.comp_def, *]

theorem sel_eq_nil {k : Nat} {xs : List (Nat × Cont)} (H : ∀ x ∈ xs, x.1 ≠ k) : sel k xs = [] := by
  simp only [sel, List.filterMap_eq_nil_iff]
  exact fun x hx => if_neg (H x hx)

theorem sel_perm (k : Nat) {xs ys : List (Nat × Cont)} (p : xs.Perm ys) : (sel k xs).Perm (sel k ys) := p.filterMap _

theorem sel_append (k : Nat) (xs ys : List (Nat × Cont)) : sel k (xs ++ ys) = sel k xs ++ sel k ys := by
  simp [sel]

theorem sel_groups : ∀ {G : List (Nat × List Cont)}, G.Pairwise (fun a b => a.1 < b.1) → ∀ g ∈ G,
    sel g.1 (G.flatMap fun g => g.2.map fun c => (g.1, c)) = g.2
  | g0 :: G, hs, g, hg => by
    rw [List.pairwise_cons] at hs
    rw [List.flatMap_cons, sel_append, sel_map]
    rcases List.mem_cons.1 hg with rfl | hg
    · rw [if_pos rfl, sel_eq_nil, List.append_nil]
      intro x hx
      obtain ⟨g', hg', hx⟩ := List.mem_flatMap.1 hx
      obtain ⟨c, -, rfl⟩ := List.mem_map.1 hx
      exact Nat.ne_of_gt (hs.1 g' hg')
    · rw [if_neg (Nat.ne_of_lt (hs.1 g hg)), List.nil_append, sel_groups hs.2 g hg]

/-- the loop over `Next` is a sort of `remOf h` by key, delivered in groups -/
theorem heapGroups_spec : ∀ (f : Nat) (h : Array HEnt), Inv h → (remOf h).length ≤ f →
    (heapGroups f h).Pairwise (fun a b => a.1 < b.1) ∧ (∀ g ∈ heapGroups f h, g.2 ≠ []) ∧
    ((heapGroups f h).flatMap fun g => g.2.map fun c => (g.1, c)).Perm (remOf h) := by
  intro f
  induction f with
  | zero =>
    intro h H hlen
    have hnil : remOf h = [] := List.eq_nil_of_length_eq_zero (by omega)
    simp [heapGroups, hnil]
  | succ f ih =>
    intro h H hlen
    unfold heapGroups
    split
    · rename_i hs
      have : h = #[] := by
        apply Array.eq_empty_of_size_eq_zero; simpa using hs
      subst this
      simp [remOf]
    · rename_i hs
      have h0 : 0 < h.size := by
        simp only [beq_iff_eq] at hs; omega
      obtain ⟨hI, hne, hp, hgt⟩ := heapNext_spec H h0 hlen
      have hlen' : (remOf (heapNext f h).2).length ≤ f := by
        have hl := hp.length_eq
        rw [List.length_append, List.length_map] at hl
        have := List.length_pos_iff.mpr hne
        omega
      obtain ⟨i1, i2, i3⟩ := ih (heapNext f h).2 hI hlen'
      refine ⟨List.pairwise_cons.2 ⟨fun g hg => ?_, i1⟩, List.forall_mem_cons.2 ⟨hne, i2⟩,
        (List.Perm.append_left _ i3).trans hp⟩
      -- a later group is not empty, and its pairs are among those left after `Next`
      obtain ⟨c, hc⟩ := List.exists_mem_of_ne_nil _ (i2 g hg)
      exact hgt (g.1, c) (i3.mem_iff.1 (List.mem_flatMap.2 ⟨g, hg, List.mem_map.2 ⟨c, hc, rfl⟩⟩))

/-! ### `heap.Init` -/

theorem heapInitFrom_spec (n : Nat) : ∀ (k : Nat) (h : Array HEnt), n ≤ h.size →
    (∀ j, 0 < j → j < n → k ≤ (j - 1) / 2 → keyAt h ((j - 1) / 2) ≤ keyAt h j) →
    (heapInitFrom n k h).toList.Perm h.toList ∧ HeapProp (heapInitFrom n k h) n := by
  intro k
  induction k with
  | zero =>
    intro h hn H
    exact ⟨List.Perm.refl _, fun j hj0 hjn => H j hj0 hjn (Nat.zero_le _)⟩
  | succ k ih =>
    intro h hn H
    simp only [heapInitFrom]
    have h1 := heapDown_heap h k n k hn (Nat.le_refl _)
      (fun j hj0 hjn hjl hne => H j hj0 hjn (by omega)) (fun hk0 hkl => by omega)
    obtain ⟨p, q⟩ := ih (heapDown h k n) (by rw [size_heapDown]; exact hn) h1
    exact ⟨p.trans (heapDown_perm _ _ _), q⟩

theorem heapInit_spec (h : Array HEnt) (He : ∀ e ∈ h.toList, EntOk e) :
    Inv (heapInit h) ∧ (remOf (heapInit h)).Perm (remOf h) := by
  obtain ⟨p, q⟩ := heapInitFrom_spec h.size (h.size / 2) h (Nat.le_refl _) (fun j hj0 hjn hjl => by omega)
  have hs : (heapInit h).size = h.size := by simpa [heapInit] using p.length_eq
  refine ⟨⟨?_, ents_perm p He⟩, remOf_perm p⟩
  rw [hs]; exact q

/-! ### the work items -/

def KeysSorted (r : Rep) : Prop := r.slots.Pairwise (fun s t => s.key < t.key)

def slotsOf (r : Rep) : List (Nat × Cont) := r.slots.map fun s => (s.key, s.c)

theorem remOf_start (l : List Rep) :
    remOf (l.filterMap fun r => entOf r.slots).toArray = l.flatMap slotsOf := by
  induction l with
  | nil => rfl
  | cons r t ih =>
    simp only [remOf] at ih
    cases hr : r.slots with
    | nil =>
      have e : entOf ([] : List Slot) = none := rfl
      simp only [remOf, List.filterMap_cons, e, List.flatMap_cons, ih, slotsOf, hr, List.map_nil, List.nil_append]
    | cons s u =>
      have e : entOf (s :: u) = some { key := s.key, c := s.c, rest := u } := rfl
      simp only [remOf, List.filterMap_cons, e, List.flatMap_cons, ih, slotsOf, hr, List.map_cons, conts,
        List.cons_append]

theorem ents_start (l : List Rep) (hl : ∀ r ∈ l, KeysSorted r) :
    ∀ e ∈ (l.filterMap fun r => entOf r.slots).toArray.toList, EntOk e := by
  intro e he
  obtain ⟨r, hr, hre⟩ := List.mem_filterMap.1 he
  have := hl r hr
  unfold KeysSorted at this
  cases hs : r.slots with
  | nil => simp [hs, entOf] at hre
  | cons s u =>
    simp only [hs, entOf, Option.some.injEq] at hre this
    subst hre
    simp only [EntOk, conts, List.pairwise_cons, List.pairwise_map] at this ⊢
    exact ⟨List.forall_mem_map.2 this.1, this.2⟩

theorem sel_sorted (k : Nat) : ∀ (sl : List Slot), sl.Pairwise (fun s t => s.key < t.key) →
    sel k (sl.map fun s => (s.key, s.c)) = (LazyOps.findCont k sl).toList := by
  intro sl
  induction sl with
  | nil => intro _; rfl
  | cons s t ih =>
    intro hp
    rw [List.pairwise_cons] at hp
    by_cases hk : s.key = k
    · have : sel k (t.map fun s => (s.key, s.c)) = [] :=
        sel_eq_nil (List.forall_mem_map.2 fun y hy => Nat.ne_of_gt (hk ▸ hp.1 y hy))
      simp only [sel] at this
      simp [sel, LazyOps.findCont, hk, this]
    · have := ih hp.2
      simp only [sel] at this
      simp [sel, LazyOps.findCont, hk, this]

theorem sel_start (k : Nat) (l : List Rep) (hl : ∀ r ∈ l, KeysSorted r) :
    sel k (l.flatMap slotsOf) = (l.map (·.slots)).filterMap (LazyOps.findCont k) := by
  induction l with
  | nil => rfl
  | cons r t ih =>
    have h1 := sel_sorted k r.slots (hl r (by simp))
    have h2 := ih fun r hr => hl r (by simp [hr])
    rw [List.flatMap_cons, sel_append, h2, slotsOf, h1]
    cases hf : LazyOps.findCont k r.slots <;> simp [hf]

theorem length_start (l : List Rep) : (l.flatMap slotsOf).length ≤ heapFuel l := by
  simp only [heapFuel, List.length_flatMap, slotsOf, List.length_map]
  exact Nat.le_add_right _ 1

theorem workItems_spec (l : List Rep) (hl : ∀ r ∈ l, KeysSorted r) :
    (workItems l).Pairwise (fun a b => a.1 < b.1) ∧
    (∀ g ∈ workItems l, g.2 ≠ [] ∧ g.2.Perm ((l.map (·.slots)).filterMap (LazyOps.findCont g.1))) ∧
    (∀ x ∈ l.flatMap slotsOf, ∃ g ∈ workItems l, g.1 = x.1) := by
  obtain ⟨hI, hp⟩ := heapInit_spec _ (ents_start l hl)
  rw [remOf_start] at hp
  have hlen : (remOf (heapOf l)).length ≤ heapFuel l := by
    rw [heapOf, hp.length_eq]
    exact length_start l
  obtain ⟨i1, i2, i3⟩ := heapGroups_spec (heapFuel l) (heapOf l) hI hlen
  have i3 := i3.trans hp
  refine ⟨i1, fun g hg => ⟨i2 g hg, ?_⟩, fun x hx => ?_⟩
  · rw [← sel_start g.1 l hl, ← sel_groups i1 g hg]
    exact sel_perm _ i3
  · obtain ⟨g, hg, hx⟩ := List.mem_flatMap.1 (i3.mem_iff.2 hx)
    obtain ⟨c, -, rfl⟩ := List.mem_map.1 hx
    exact ⟨g, hg, rfl⟩

theorem workItems_sorted (l : List Rep) (hl : ∀ r ∈ l, KeysSorted r) :
    (workItems l).Pairwise (fun a b => a.1 < b.1) := (workItems_spec l hl).1

theorem workItems_perm (l : List Rep) (hl : ∀ r ∈ l, KeysSorted r) :
    ∀ g ∈ workItems l, g.2 ≠ [] ∧ g.2.Perm ((l.map (·.slots)).filterMap (LazyOps.findCont g.1)) :=
  (workItems_spec l hl).2.1

theorem workItems_complete (l : List Rep) (hl : ∀ r ∈ l, KeysSorted r) :
    ∀ r ∈ l, ∀ s ∈ r.slots, ∃ g ∈ workItems l, g.1 = s.key := by
  intro r hr s hs
  exact (workItems_spec l hl).2.2 (s.key, s.c)
    (List.mem_flatMap.mpr ⟨r, hr, List.mem_map.mpr ⟨s, hs, rfl⟩⟩)

end RModel.Impl.ParData
