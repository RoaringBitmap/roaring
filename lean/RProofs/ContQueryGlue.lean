import RProofs.ContOps
import RProofs.BSetQuery
import RProofs.Util.Count
import RModel.Impl.ContQuery
/-!
Kind-independent part of the correctness proof of the container query kernels (`RModel/Impl/ContQuery.lean`).

The answers of the query kernels are first characterised at the level of a membership predicate `p : Nat → Bool`
(`IsRank`, `IsSelect`, `IsMin`, `IsMax`, `IsNext`, `IsPrev`, `IsNextAbsent`, `IsPrevAbsent`, `IsCardInRange`);
each container kind proves that its Go algorithm satisfies these characterisations for its own membership test
(`List.contains`, `testBit`, `inRuns`); this file turns a characterisation into the equation with the verified
set-level query of `BSet` on any canonical boundary list with the same members.  `IsSelectOpt`, `IsMinOpt`, `IsMaxOpt` are the
forms with an optional answer in which the bitmap levels state `Select`, `Minimum` and `Maximum`.
-/
open RModel.Util
namespace RModel.Impl
open RModel RModel.BSet

/-! ### the characterisations -/

def IsRank (p : Nat → Bool) (x : Nat) (r : Int) : Prop := r = (cnt p (x + 1) : Int)

def IsSelect (p : Nat → Bool) (i : Nat) (r : Int) : Prop := ∃ v : Nat, r = (v : Int) ∧ p v = true ∧ cnt p v = i

def IsMin (p : Nat → Bool) (r : Int) : Prop := ∃ v : Nat, r = (v : Int) ∧ p v = true ∧ ∀ u, u < v → p u = false

def IsMax (p : Nat → Bool) (r : Int) : Prop := ∃ v : Nat, r = (v : Int) ∧ p v = true ∧ ∀ u, v < u → p u = false

/- The four neighbour queries are `LeastFrom` / `GreatestUpTo` (`BSetQuery.lean`) of the membership test or of its negation,
with the Go convention for "none": `-1`, except that `nextAbsentValue` always has an answer. -/

def IsNext (p : Nat → Bool) (x : Nat) (r : Int) : Prop :=
  (∃ v : Nat, r = (v : Int) ∧ LeastFrom (p · = true) (p · = false) x v) ∨ (r = -1 ∧ ∀ u, x ≤ u → p u = false)

def IsPrev (p : Nat → Bool) (x : Nat) (r : Int) : Prop :=
  (∃ v : Nat, r = (v : Int) ∧ GreatestUpTo (p · = true) (p · = false) x v) ∨ (r = -1 ∧ ∀ u, u ≤ x → p u = false)

def IsNextAbsent (p : Nat → Bool) (x : Nat) (r : Int) : Prop :=
  ∃ v : Nat, r = (v : Int) ∧ LeastFrom (p · = false) (p · = true) x v

def IsPrevAbsent (p : Nat → Bool) (x : Nat) (r : Int) : Prop :=
  (∃ v : Nat, r = (v : Int) ∧ GreatestUpTo (p · = false) (p · = true) x v) ∨ (r = -1 ∧ ∀ u, u ≤ x → p u = true)

def IsCardInRange (p : Nat → Bool) (lo hi : Nat) (r : Int) : Prop := r = ((cnt p hi - cnt p lo : Nat) : Int)

theorem isNext_self {p : Nat → Bool} {x : Nat} (h : p x = true) : IsNext p x x := Or.inl ⟨x, rfl, .self h⟩

theorem isPrev_self {p : Nat → Bool} {x : Nat} (h : p x = true) : IsPrev p x x := Or.inl ⟨x, rfl, .self h⟩

theorem isNextAbsent_self {p : Nat → Bool} {x : Nat} (h : p x = false) : IsNextAbsent p x x := ⟨x, rfl, .self h⟩

theorem isPrevAbsent_self {p : Nat → Bool} {x : Nat} (h : p x = false) : IsPrevAbsent p x x := Or.inl ⟨x, rfl, .self h⟩

theorem isNext_of_isMin {p : Nat → Bool} {r : Int} (h : IsMin p r) : IsNext p 0 r := by
  obtain ⟨v, hv, hin, hlow⟩ := h
  exact Or.inl ⟨v, hv, Nat.zero_le v, hin, fun u _ hu => hlow u hu⟩

theorem isPrev_of_isMax {p : Nat → Bool} {r : Int} {b : Nat} (hb : ∀ u, p u = true → u ≤ b) (h : IsMax p r) :
    IsPrev p b r := by
  obtain ⟨v, hv, hin, hhigh⟩ := h
  exact Or.inl ⟨v, hv, hb v hin, hin, fun u hu _ => hhigh u hu⟩

/-! ### from a characterisation to the `BSet` query -/

theorem rankLt_eq_cnt {s : BSet} {p : Nat → Bool} (hs : SInc s) (he : Even s) (hm : ∀ x, mem s x = p x)
    (n : Nat) : rankLt s n = cnt p n := by
  rw [rankLt_eq_count s hs he]
  unfold cnt
  congr 1
  apply List.filter_congr
  intro x _; exact hm x

theorem glue_rank {s : BSet} {p : Nat → Bool} (hs : SInc s) (he : Even s) (hm : ∀ x, mem s x = p x)
    {x : Nat} {r : Int} (h : IsRank p x r) :
    r = (rankLt s (x + 1) : Int) := by
  rw [rankLt_eq_cnt hs he hm]; exact h

theorem glue_cardInRange {s : BSet} {p : Nat → Bool} (hs : SInc s) (he : Even s) (hm : ∀ x, mem s x = p x)
    {lo hi : Nat} {r : Int} (h : IsCardInRange p lo hi r) : r = (cardInRange s lo hi : Int) := by
  unfold cardInRange
  rw [rankLt_eq_cnt hs he hm, rankLt_eq_cnt hs he hm]; exact h

theorem glue_select {s : BSet} {p : Nat → Bool} (hs : SInc s) (he : Even s) (hm : ∀ x, mem s x = p x)
    {i : Nat} {r : Int} (h : IsSelect p i r) :
    ∃ v : Nat, r = (v : Int) ∧ select s i = some v := by
  obtain ⟨v, hr, hv, hc⟩ := h
  exact ⟨v, hr, (select_spec s hs he i v).mpr ⟨(hm v).trans hv, (rankLt_eq_cnt hs he hm v).trans hc⟩⟩

/- With `p` replaced by `mem s`, each remaining characterisation is word for word the right-hand side of the
`_some` / `_none` lemma of the corresponding `BSet` query. -/

theorem glue_min {s : BSet} {p : Nat → Bool} (hs : SInc s) (he : Even s) (hm : ∀ x, mem s x = p x)
    {r : Int} (h : IsMin p r) :
    ∃ v : Nat, r = (v : Int) ∧ minimum s = some v := by
  obtain rfl : mem s = p := funext hm
  obtain ⟨v, hr, h'⟩ := h
  exact ⟨v, hr, (minimum_some s hs he v).mpr h'⟩

theorem glue_max {s : BSet} {p : Nat → Bool} (hs : SInc s) (he : Even s) (hm : ∀ x, mem s x = p x)
    {r : Int} (h : IsMax p r) :
    ∃ v : Nat, r = (v : Int) ∧ maximum s = some v := by
  obtain rfl : mem s = p := funext hm
  obtain ⟨v, hr, h'⟩ := h
  exact ⟨v, hr, (maximum_some s hs he v).mpr h'⟩

theorem glue_next {s : BSet} {p : Nat → Bool} (hs : SInc s) (he : Even s) (hm : ∀ x, mem s x = p x)
    {x : Nat} {r : Int} (h : IsNext p x r) :
    r = (match nextValue s x with | some v => (v : Int) | none => -1) := by
  obtain rfl : mem s = p := funext hm
  rcases h with ⟨v, hr, h'⟩ | ⟨hr, h'⟩
  · rw [(nextValue_some s hs he x v).mpr h']; exact hr
  · rw [(nextValue_none s hs he x).mpr h']; exact hr

theorem glue_prev {s : BSet} {p : Nat → Bool} (hs : SInc s) (he : Even s) (hm : ∀ x, mem s x = p x)
    {x : Nat} {r : Int} (h : IsPrev p x r) :
    r = (match prevValue s x with | some v => (v : Int) | none => -1) := by
  obtain rfl : mem s = p := funext hm
  rcases h with ⟨v, hr, h'⟩ | ⟨hr, h'⟩
  · rw [(prevValue_some s hs he x v).mpr h']; exact hr
  · rw [(prevValue_none s hs he x).mpr h']; exact hr

theorem glue_prevAbsent {s : BSet} {p : Nat → Bool} (hs : SInc s) (he : Even s) (hm : ∀ x, mem s x = p x)
    {x : Nat} {r : Int} (h : IsPrevAbsent p x r) :
    r = (match prevAbsent s x with | some v => (v : Int) | none => -1) := by
  obtain rfl : mem s = p := funext hm
  rcases h with ⟨v, hr, h'⟩ | ⟨hr, h'⟩
  · rw [(prevAbsent_some s hs he x v).mpr h']; exact hr
  · rw [(prevAbsent_none s hs he x).mpr h']; exact hr

/-- the container-level convention: the answer is capped by the size `U` of the universe (`U` itself when every value
from `x` on is present) -/
theorem glue_nextAbsent {s : BSet} {p : Nat → Bool} (hs : SInc s) (he : Even s) (hm : ∀ x, mem s x = p x)
    {U : Nat} (hU : ∀ u, U ≤ u → p u = false)
    {x : Nat} (hx : x ≤ U) {r : Int} (h : IsNextAbsent p x r) :
    r = ((min (nextAbsent s x) U : Nat) : Int) := by
  obtain rfl : mem s = p := funext hm
  obtain ⟨v, hr, hv⟩ := h
  -- the answer is not beyond `U`, which is absent
  have hvU : v ≤ U := Nat.le_of_not_lt fun hc => true_false_elim (hv.2.2 U hx hc) (hU U (Nat.le_refl _))
  rw [hr, ← LeastFrom.unique (fun _ a b => true_false_elim b a) hv (nextAbsent_spec s hs he x), Nat.min_eq_left hvU]

/-! ### emptiness, cardinality and the answers that may be missing (`Select`, `Minimum`, `Maximum` of a bitmap) -/

theorem glue_isEmpty {s : BSet} {p : Nat → Bool} (hs : SInc s) (he : Even s) (hm : ∀ x, mem s x = p x) {o : Bool}
    (h : o = true ↔ ∀ x, p x = false) : o = BSet.isEmpty s := by
  rw [Bool.eq_iff_iff, isEmpty_iff s hs he, h]
  simp only [hm]

theorem glue_card {s : BSet} {p : Nat → Bool} {U : Nat} (hc : Canon U s) (hm : ∀ x, mem s x = p x) {r : Int}
    (h : r = (cnt p U : Int)) : r = (BSet.card s : Int) := by
  rw [card_eq_count hc, cnt_congr U fun x _ => hm x, h]

/-- an optional answer of `Select`: the characterisation when there is one, fewer than `i + 1` members otherwise -/
def IsSelectOpt (p : Nat → Bool) (i : Nat) (o : Option Int) : Prop :=
  (∀ r, o = some r → IsSelect p i r) ∧ (o = none → ∀ n, cnt p n ≤ i)

theorem glue_selectOpt {s : BSet} {p : Nat → Bool} {U : Nat} (hc : Canon U s) (hm : ∀ x, mem s x = p x) {i : Nat}
    {o : Option Int} (h : IsSelectOpt p i o) : o = (BSet.select s i).map (fun v => (v : Int)) := by
  cases o with
  | some m =>
    obtain ⟨v, hv, hsome⟩ := glue_select hc.1 hc.2.2 hm (h.1 m rfl)
    rw [hsome, hv]; rfl
  | none =>
    rw [(select_none s hc.1 hc.2.2 i).mpr (by
      rw [card_eq_count hc, cnt_congr U fun x _ => hm x]; exact h.2 rfl U)]
    rfl

/-- optional answers of `Minimum` / `Maximum`: the characterisation when there is one, no member otherwise -/
def IsMinOpt (p : Nat → Bool) (o : Option Int) : Prop := (∀ r, o = some r → IsMin p r) ∧ (o = none → ∀ x, p x = false)
def IsMaxOpt (p : Nat → Bool) (o : Option Int) : Prop := (∀ r, o = some r → IsMax p r) ∧ (o = none → ∀ x, p x = false)

theorem glue_minOpt {s : BSet} {p : Nat → Bool} (hs : SInc s) (he : Even s) (hm : ∀ x, mem s x = p x) {o : Option Int}
    (h : IsMinOpt p o) : o = (BSet.minimum s).map (fun v => (v : Int)) := by
  cases o with
  | some m => obtain ⟨v, hv, hmin⟩ := glue_min hs he hm (h.1 m rfl); rw [hmin, hv]; rfl
  | none => rw [(minimum_none s hs he).mpr fun x => (hm x).trans (h.2 rfl x)]; rfl

theorem glue_maxOpt {s : BSet} {p : Nat → Bool} (hs : SInc s) (he : Even s) (hm : ∀ x, mem s x = p x) {o : Option Int}
    (h : IsMaxOpt p o) : o = (BSet.maximum s).map (fun v => (v : Int)) := by
  cases o with
  | some m => obtain ⟨v, hv, hmax⟩ := glue_max hs he hm (h.1 m rfl); rw [hmax, hv]; rfl
  | none => rw [(maximum_none s hs he).mpr fun x => (hm x).trans (h.2 rfl x)]; rfl

/-! ### facts about the storage that several kinds use -/

theorem word_of_drop {ws : List (BitVec 64)} {k : Nat} {w : BitVec 64} {t : List (BitVec 64)} (h : ws.drop k = w :: t) :
    k < ws.length ∧ ContQuery.word ws k = w ∧ ws.drop (k + 1) = t := by
  have hk : k < ws.length := by
    apply Classical.byContradiction
    intro hc
    rw [List.drop_eq_nil_of_le (by omega)] at h
    cases h
  rw [List.drop_eq_getElem_cons hk] at h
  injection h with h1 h2
  exact ⟨hk, by rw [← h1]; simp [ContQuery.word, List.getD_eq_getElem?_getD, hk], h2⟩

/-- `uint16` subtraction and addition that do not wrap -/
theorem sub16_eq {a b : Nat} (hb : b ≤ a) (ha : a < 65536) : ContQuery.sub16 a b = a - b := by
  unfold ContQuery.sub16
  rw [Nat.mod_eq_of_lt (Nat.lt_of_le_of_lt hb ha), Nat.add_comm, Nat.add_sub_assoc hb, Nat.add_mod_left,
    Nat.mod_eq_of_lt (by omega)]

theorem add16_eq {a b : Nat} (h : a + b ≤ 65535) : ContQuery.add16 a b = a + b := Nat.mod_eq_of_lt (Nat.lt_succ_of_le h)

theorem inRuns_tail_false {p : Nat × Nat} {t : List (Nat × Nat)} (hs : RunSep (p :: t)) {u : Nat}
    (hu : u ≤ p.1 + p.2 + 1) : ContOps.inRuns t u = false := by
  cases h : ContOps.inRuns t u
  · rfl
  · have := inRuns_tail_gt hs h; omega

/-! ### the abstraction of a well-formed container is canonical in `[0, 65536)` -/

theorem has_none_above {c : Cont} (h : ∀ x, c.has x = true → x < 65536) {u : Nat} (hu : 65536 ≤ u) :
    c.has u = false := by
  cases hh : c.has u
  · rfl
  · have := h u hh; omega

theorem canon_of_has_lt {c : Cont} (h : ∀ x, c.has x = true → x < 65536) : Canon 65536 (c.toBSet 0) :=
  canon_of_bounded 65536 _ (sinc_toBSet c) (fun x hx => (mem_toBSet c x).trans (has_none_above h hx))

theorem canon_toBSet {c : Cont} (hc : c.wf = true) : Canon 65536 (c.toBSet 0) :=
  canon_of_has_lt (fun _ h => has_lt hc h)

theorem even_toBSet {c : Cont} (hc : c.wf = true) : Even (c.toBSet 0) := (canon_toBSet hc).2.2

end RModel.Impl
