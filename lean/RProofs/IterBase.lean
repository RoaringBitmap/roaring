import RModel.Impl.Iter
import RModel.Impl.RepQuery
import RProofs.BSet
import RProofs.Util.List
/-!
Iteration protocols: list-level vocabulary shared by all iterator kinds, `advanceUntil` (gallop and bisection, proved
for the form `advFrom` that the bitmap-level walks also call), and the ARRAY container iterators (`shortIterator`,
`reverseIterator`).

`remFrom vals c` = the members `≥ c` of a strictly increasing list: what a forward iterator with cursor `c` still has to
deliver.  `remBelow vals c` = the members `< c`: what a reverse iterator still has to deliver (in reverse).
`absR p a b` = the values of `[a, b)` without `p`: what an unset iterator still has to deliver.
`Follows` is what it means for an iterator kind to stand for such a list; the loops that callers run over an iterator are
proved for any kind that does (`drain_of_protocol`, `loop_of_protocol`).
-/
open RModel.Util
namespace RModel.Impl.It
open RModel RModel.Impl RModel.Impl.ContOps RModel.Impl.ContQuery

/-! ### remaining members from a cursor on -/

def remFrom (vals : List Nat) (c : Nat) : List Nat := vals.filter (fun x => decide (c ≤ x))

theorem mem_remFrom {vals : List Nat} {c x : Nat} : x ∈ remFrom vals c ↔ x ∈ vals ∧ c ≤ x := by
  simp [remFrom]

theorem sorted_remFrom {vals : List Nat} (hs : vals.Pairwise (· < ·)) (c : Nat) : (remFrom vals c).Pairwise (· < ·) :=
  List.Pairwise.filter _ hs

theorem remFrom_zero (vals : List Nat) : remFrom vals 0 = vals := by
  simp [remFrom]

theorem remFrom_cons {vals : List Nat} (hs : vals.Pairwise (· < ·)) {c c' : Nat} (hc : c ∈ vals) (hlt : c < c')
    (hgap : ∀ x ∈ vals, c < x → c' ≤ x) : remFrom vals c = c :: remFrom vals c' := by
  apply Util.sorted_ext _ _ (sorted_remFrom hs c)
  · refine List.pairwise_cons.mpr ⟨?_, sorted_remFrom hs c'⟩
    intro x hx
    have := (mem_remFrom.mp hx).2
    omega
  · intro x
    rw [List.mem_cons, mem_remFrom, mem_remFrom]
    constructor
    · rintro ⟨h1, h2⟩
      by_cases e : x = c
      · exact Or.inl e
      · exact Or.inr ⟨h1, hgap x h1 (by omega)⟩
    · rintro (rfl | ⟨h1, h2⟩)
      · exact ⟨hc, Nat.le_refl _⟩
      · exact ⟨h1, by omega⟩

theorem remFrom_congr {vals : List Nat} {c c' : Nat} (hgap : ∀ x ∈ vals, c ≤ x ↔ c' ≤ x) :
    remFrom vals c = remFrom vals c' := by
  unfold remFrom
  apply List.filter_congr
  intro x hx
  rw [decide_eq_decide]
  exact hgap x hx

theorem remFrom_nil {vals : List Nat} {c : Nat} (h : ∀ x ∈ vals, x < c) : remFrom vals c = [] := by
  unfold remFrom
  rw [List.filter_eq_nil_iff]
  intro x hx
  have := h x hx
  simp; omega

theorem remFrom_ne_nil {vals : List Nat} {c x : Nat} (hx : x ∈ vals) (hc : c ≤ x) : remFrom vals c ≠ [] := by
  intro h
  have : x ∈ remFrom vals c := mem_remFrom.mpr ⟨hx, hc⟩
  rw [h] at this
  cases this

theorem dropWhile_lt_sorted (l : List Nat) (hl : l.Pairwise (· < ·)) (m : Nat) :
    l.dropWhile (fun x => decide (x < m)) = l.filter (fun x => decide (m ≤ x)) :=
  (Util.dropWhile_eq_filter (Util.downClosed_lt id m) hl).trans
    (List.filter_congr fun x _ => by simp only [← Nat.not_lt, decide_not, id])

theorem remFrom_dropWhile {vals : List Nat} (hs : vals.Pairwise (· < ·)) (c m : Nat) :
    (remFrom vals c).dropWhile (fun x => decide (x < m)) = remFrom vals (max c m) := by
  rw [dropWhile_lt_sorted _ (sorted_remFrom hs c)]
  unfold remFrom
  rw [List.filter_filter]
  apply List.filter_congr
  intro x _
  rw [← Bool.decide_and, decide_eq_decide, Nat.max_le]
  exact And.comm

theorem remFrom_self {vals : List Nat} (hs : vals.Pairwise (· < ·)) {c : Nat} (hc : c ∈ vals) :
    remFrom vals c = c :: remFrom vals (c + 1) :=
  remFrom_cons hs hc (Nat.lt_succ_self c) (fun _ _ hx => hx)

theorem remFrom_range {vals : List Nat} (hs : vals.Pairwise (· < ·)) : ∀ (k c : Nat),
    (∀ j, j < k → c + j ∈ vals) → remFrom vals c = List.range' c k ++ remFrom vals (c + k)
  | 0, c, _ => by simp
  | k + 1, c, h => by
    have hc : c ∈ vals := by simpa using h 0 (by omega)
    have ih := remFrom_range hs k (c + 1) (fun j hj => by
      have := h (j + 1) (by omega)
      rwa [show c + 1 + j = c + (j + 1) by omega])
    rw [remFrom_self hs hc, List.range'_succ, ih,
      show c + 1 + k = c + (k + 1) by omega]
    rfl

theorem remFrom_head {vals : List Nat} (hs : vals.Pairwise (· < ·)) {c v : Nat} {t : List Nat}
    (h : remFrom vals c = v :: t) : v ∈ vals ∧ c ≤ v ∧ ∀ x ∈ vals, c ≤ x → v ≤ x := by
  have hp := List.pairwise_cons.mp (h ▸ sorted_remFrom hs c)
  obtain ⟨hv1, hv2⟩ := mem_remFrom.mp (h ▸ List.mem_cons_self)
  refine ⟨hv1, hv2, fun x hx hcx => ?_⟩
  rcases List.mem_cons.mp (h ▸ mem_remFrom.mpr ⟨hx, hcx⟩) with rfl | hxt
  · exact Nat.le_refl _
  · exact Nat.le_of_lt (hp.1 x hxt)

/-! ### values stored under keys

Both levels keep the members in items sorted by key (slots by the high 16 bits, buckets by the high 32); the item with key
`k` holds the values `k * B + v` with `v < B`. -/

theorem mem_map_key {B k : Nat} {l : List Nat} (hl : ∀ v ∈ l, v < B) {x : Nat} :
    x ∈ l.map (k * B + ·) ↔ x / B = k ∧ x % B ∈ l := by
  rw [List.mem_map]
  constructor
  · rintro ⟨v, hv, rfl⟩
    have := hl v hv
    rw [Nat.mul_comm, Nat.mul_add_div (by omega), Nat.mul_add_mod, Nat.div_eq_of_lt this, Nat.mod_eq_of_lt this]
    exact ⟨rfl, hv⟩
  · rintro ⟨rfl, h⟩
    exact ⟨_, h, by rw [Nat.mul_comm]; exact Nat.div_add_mod x B⟩

section Keyed
variable {β : Type} {key : β → Nat} {vals : β → List Nat} {B : Nat}

theorem sorted_flatMap_keyed : ∀ (l : List β), l.Pairwise (fun s t => key s < key t) →
    (∀ s ∈ l, (vals s).Pairwise (· < ·) ∧ ∀ x ∈ vals s, x / B = key s) → (l.flatMap vals).Pairwise (· < ·)
  | [], _, _ => by simp
  | s :: t, hs, hv => by
    have hp := List.pairwise_cons.mp hs
    rw [List.flatMap_cons, List.pairwise_append]
    refine ⟨(hv s (by simp)).1, sorted_flatMap_keyed t hp.2 (fun s' h => hv s' (by simp [h])), ?_⟩
    intro a ha b hb
    obtain ⟨s', hs', hb'⟩ := List.mem_flatMap.mp hb
    have := hp.1 s' hs'
    rw [← (hv s (by simp)).2 a ha, ← (hv s' (by simp [hs'])).2 b hb'] at this
    exact Nat.lt_of_div_lt_div this

theorem later_key_lt {l : List β} (hs : l.Pairwise (fun s t => key s < key t))
    (hv : ∀ s ∈ l, ∀ x ∈ vals s, x / B = key s) {i : Nat} (hi : i < l.length) {x : Nat}
    (hx : x ∈ (l.drop (i + 1)).flatMap vals) : key l[i] < x / B := by
  obtain ⟨s, hs', hxs⟩ := List.mem_flatMap.mp hx
  have hp := hs.sublist (List.drop_sublist i l)
  rw [List.drop_eq_getElem_cons hi] at hp
  rw [hv s (List.mem_of_mem_drop hs') x hxs]
  exact List.rel_of_pairwise_cons hp hs'

end Keyed

/-! ### remaining members below a cursor (reverse iterators) -/

def remBelow (vals : List Nat) (c : Nat) : List Nat := vals.filter (fun x => decide (x < c))

theorem mem_remBelow {vals : List Nat} {c x : Nat} : x ∈ remBelow vals c ↔ x ∈ vals ∧ x < c := by
  simp [remBelow]

theorem sorted_remBelow {vals : List Nat} (hs : vals.Pairwise (· < ·)) (c : Nat) : (remBelow vals c).Pairwise (· < ·) :=
  List.Pairwise.filter _ hs

theorem remBelow_all {vals : List Nat} {c : Nat} (h : ∀ x ∈ vals, x < c) : remBelow vals c = vals := by
  unfold remBelow
  rw [List.filter_eq_self]
  intro x hx
  simpa using h x hx

theorem remBelow_nil {vals : List Nat} {c : Nat} (h : ∀ x ∈ vals, c ≤ x) : remBelow vals c = [] := by
  unfold remBelow
  rw [List.filter_eq_nil_iff]
  intro x hx
  have := h x hx
  simp; omega

theorem remBelow_congr {vals : List Nat} {c c' : Nat} (hgap : ∀ x ∈ vals, x < c ↔ x < c') :
    remBelow vals c = remBelow vals c' := by
  unfold remBelow
  apply List.filter_congr
  intro x hx
  rw [decide_eq_decide]
  exact hgap x hx

theorem remBelow_snoc {vals : List Nat} (hs : vals.Pairwise (· < ·)) {v : Nat} (hv : v ∈ vals) :
    remBelow vals (v + 1) = remBelow vals v ++ [v] := by
  apply Util.sorted_ext _ _ (sorted_remBelow hs _)
  · rw [List.pairwise_append]
    refine ⟨sorted_remBelow hs v, by simp, ?_⟩
    intro a ha b hb
    have := (mem_remBelow.mp ha).2
    simp at hb
    omega
  · intro x
    rw [List.mem_append, mem_remBelow, mem_remBelow]
    simp only [List.mem_singleton]
    constructor
    · rintro ⟨h1, h2⟩
      by_cases e : x = v
      · exact Or.inr e
      · exact Or.inl ⟨h1, by omega⟩
    · rintro (⟨h1, h2⟩ | rfl)
      · exact ⟨h1, by omega⟩
      · exact ⟨hv, by omega⟩

/-! ### absent values from a cursor on (unset iterators)

Every unset iterator (container level with `b = 65536`, bitmap level with `b = end`) has a cursor `c` and still has to deliver
`absR p c b`. -/

def absR (p : Nat → Bool) (a b : Nat) : List Nat := (List.range' a (b - a)).filter (fun x => !p x)

theorem mem_absR {p : Nat → Bool} {a b x : Nat} : x ∈ absR p a b ↔ a ≤ x ∧ x < b ∧ p x = false := by
  simp only [absR, List.mem_filter, List.mem_range'_1, Bool.not_eq_eq_eq_not, Bool.not_true]
  constructor
  · rintro ⟨⟨h1, h2⟩, h3⟩; exact ⟨h1, by omega, h3⟩
  · rintro ⟨h1, h2, h3⟩; exact ⟨⟨h1, by omega⟩, h3⟩

theorem sorted_absR (p : Nat → Bool) (a b : Nat) : (absR p a b).Pairwise (· < ·) :=
  List.Pairwise.filter _ List.pairwise_lt_range'

theorem length_absR_le (p : Nat → Bool) (a b : Nat) : (absR p a b).length ≤ b - a := by
  unfold absR
  have := List.length_filter_le (fun x => !p x) (List.range' a (b - a))
  rw [List.length_range'] at this
  exact this

theorem absR_nil {p : Nat → Bool} {a b : Nat} (h : b ≤ a) : absR p a b = [] := by
  unfold absR
  rw [show b - a = 0 by omega]
  rfl

theorem absR_ext {p q : Nat → Bool} {a a' b b' : Nat}
    (h : ∀ x, (a ≤ x ∧ x < b ∧ p x = false) ↔ (a' ≤ x ∧ x < b' ∧ q x = false)) : absR p a b = absR q a' b' := by
  apply Util.sorted_ext _ _ (sorted_absR _ _ _) (sorted_absR _ _ _)
  intro x
  rw [mem_absR, mem_absR]
  exact h x

theorem absR_congr {p q : Nat → Bool} {a b : Nat} (h : ∀ x, a ≤ x → x < b → p x = q x) : absR p a b = absR q a b := by
  apply absR_ext
  intro x
  constructor
  · rintro ⟨h1, h2, h3⟩; exact ⟨h1, h2, by rw [← h x h1 h2]; exact h3⟩
  · rintro ⟨h1, h2, h3⟩; exact ⟨h1, h2, by rw [h x h1 h2]; exact h3⟩

/-- through this equation the lemmas about `remFrom` carry over to `absR` -/
theorem absR_eq_remFrom (p : Nat → Bool) (a b : Nat) : absR p a b = remFrom (absR p 0 b) a := by
  apply Util.sorted_ext _ _ (sorted_absR _ _ _) (sorted_remFrom (sorted_absR _ _ _) a)
  intro x
  rw [mem_remFrom, mem_absR, mem_absR]
  exact ⟨fun ⟨h1, h2, h3⟩ => ⟨⟨Nat.zero_le x, h2, h3⟩, h1⟩, fun ⟨⟨_, h2, h3⟩, h1⟩ => ⟨h1, h2, h3⟩⟩

theorem absR_skip {p : Nat → Bool} {a a' b : Nat} (hle : a ≤ a')
    (h : ∀ u, a ≤ u → u < a' → u < b → p u = true) : absR p a b = absR p a' b := by
  rw [absR_eq_remFrom, absR_eq_remFrom p a']
  refine remFrom_congr fun x hx => ⟨fun h1 => Nat.le_of_not_lt fun hc => ?_, Nat.le_trans hle⟩
  obtain ⟨-, h2, h3⟩ := mem_absR.mp hx
  rw [h x h1 hc h2] at h3
  cases h3

theorem absR_cons {p : Nat → Bool} {a b : Nat} (hab : a < b) (hp : p a = false) :
    absR p a b = a :: absR p (a + 1) b := by
  rw [absR_eq_remFrom, absR_eq_remFrom p (a + 1),
    remFrom_self (sorted_absR p 0 b) (mem_absR.mpr ⟨Nat.zero_le a, hab, hp⟩)]

theorem absR_ne_nil {p : Nat → Bool} {a b x : Nat} (h1 : a ≤ x) (h2 : x < b) (h3 : p x = false) : absR p a b ≠ [] := by
  rw [absR_eq_remFrom]
  exact remFrom_ne_nil (mem_absR.mpr ⟨Nat.zero_le x, h2, h3⟩) h1

theorem absR_eq_nil {p : Nat → Bool} {a b : Nat} (h : ∀ u, a ≤ u → u < b → p u = true) : absR p a b = [] := by
  cases hl : absR p a b with
  | nil => rfl
  | cons v t =>
    have : v ∈ absR p a b := by rw [hl]; simp
    obtain ⟨h1, h2, h3⟩ := mem_absR.mp this
    rw [h v h1 h2] at h3
    cases h3

theorem absR_nil_imp {p : Nat → Bool} {a b : Nat} (h : absR p a b = []) : ∀ u, a ≤ u → u < b → p u = true := by
  intro u h1 h2
  cases hp : p u
  · exact absurd h (absR_ne_nil h1 h2 hp)
  · rfl

theorem absR_dropWhile (p : Nat → Bool) (a b m : Nat) :
    (absR p a b).dropWhile (fun x => decide (x < m)) = absR p (max a m) b := by
  rw [absR_eq_remFrom, remFrom_dropWhile (sorted_absR p 0 b), ← absR_eq_remFrom]

theorem absR_dropWhile_le (p : Nat → Bool) {a b m : Nat} (h : m ≤ a) :
    (absR p a b).dropWhile (fun x => decide (x < m)) = absR p a b := by
  rw [absR_dropWhile, show max a m = a by omega]

theorem absR_dropWhile_twice (p : Nat → Bool) (a b : Nat) {m m' : Nat} (h : m ≤ m') :
    ((absR p a b).dropWhile (fun x => decide (x < m))).dropWhile (fun x => decide (x < m')) =
      (absR p a b).dropWhile (fun x => decide (x < m')) := by
  rw [absR_dropWhile, absR_dropWhile, absR_dropWhile, show max (max a m) m' = max a m' by omega]

/-! ### the protocol, and the loops of the callers

Every loop of the model that runs an iterator on fuel is determined by the list its state stands for: `drain_of_protocol`
(collect the values) and `loop_of_protocol` (hand them to a callback until it answers `false`, i.e. `foldUntil`). -/

/-- an iterator kind follows the protocol: a state `it` with the invariant `Inv` stands for the list `rem it` of the values it
still has to deliver -/
structure Follows {α : Type} (Inv : α → Prop) (rem : α → List Nat) (hasNext : α → Bool) (next : α → Nat × α) : Prop where
  iff : ∀ {it}, Inv it → (hasNext it = true ↔ rem it ≠ [])
  step : ∀ {it}, Inv it → ∀ {v t}, rem it = v :: t → (next it).1 = v ∧ Inv (next it).2 ∧ rem (next it).2 = t

section Protocol
variable {α : Type} {Inv : α → Prop} {rem : α → List Nat} {hasNext : α → Bool} {next : α → Nat × α}

/-- a reverse iterator, whose `rem` is kept ascending and delivered last first, follows the protocol on `rem.reverse` -/
theorem Follows.ofRev (hiff : ∀ {it}, Inv it → (hasNext it = true ↔ rem it ≠ []))
    (hnext : ∀ {it}, Inv it → ∀ {v t}, rem it = t ++ [v] → (next it).1 = v ∧ Inv (next it).2 ∧ rem (next it).2 = t) :
    Follows Inv (fun it => (rem it).reverse) hasNext next :=
  ⟨fun h => (hiff h).trans (not_congr List.reverse_eq_nil_iff.symm), fun h _ _ e =>
    let ⟨a, b, c⟩ := hnext h (List.reverse_eq_cons_iff.mp e)
    ⟨a, b, by rw [c, List.reverse_reverse]⟩⟩

/-- hand the values of a list to a state-transforming callback until it answers `false`:
(did it run to the end?, final state) -/
def foldUntil {σ : Type} (cb : σ → Nat → Bool × σ) : List Nat → σ → Bool × σ
  | [], s => (true, s)
  | v :: vs, s => if (cb s v).1 then foldUntil cb vs (cb s v).2 else (false, (cb s v).2)

theorem foldUntil_cons {σ : Type} (cb : σ → Nat → Bool × σ) (v : Nat) (vs : List Nat) (s : σ) :
    foldUntil cb (v :: vs) s = if (cb s v).1 = true then foldUntil cb vs (cb s v).2 else (false, (cb s v).2) := rfl

variable (P : Follows Inv rem hasNext next)
include P

/-- `for n < fuel && it.hasNext() { out = append(out, it.next()) }`, for any function `d` with these equations -/
theorem drain_of_protocol (d : Nat → α → List Nat) (d0 : ∀ it, d 0 it = [])
    (ds : ∀ n it, d (n + 1) it = if hasNext it = true then (next it).1 :: d n (next it).2 else []) :
    ∀ fuel it, Inv it → (rem it).length ≤ fuel → d fuel it = rem it
  | 0, it, _, hf => by rw [d0, List.eq_nil_of_length_eq_zero (Nat.le_zero.mp hf)]
  | fuel + 1, it, hi, hf => by
    rw [ds]
    cases hr : rem it with
    | nil => exact if_neg fun hh => (P.iff hi).mp hh hr
    | cons v t =>
      obtain ⟨h1, h2, h3⟩ := P.step hi hr
      rw [hr] at hf
      rw [if_pos ((P.iff hi).mpr (by rw [hr]; exact List.cons_ne_nil _ _)), h1,
        drain_of_protocol d d0 ds fuel _ h2 (by rw [h3]; exact Nat.le_of_succ_le_succ hf), h3]

/-- `for it.hasNext() { if !cb(it.next()) { return stop }; … }; return done`, for any function `f` with these equations:
the callback is handed `rem` until it answers `false` -/
theorem loop_of_protocol {σ ρ : Type} (cb : σ → Nat → Bool × σ) (done stop : σ → ρ) (f : Nat → α → σ → ρ)
    (f0 : ∀ it s, f 0 it s = done s)
    (fs : ∀ n it s, f (n + 1) it s =
      if hasNext it = true then
        if (cb s (next it).1).1 = true then f n (next it).2 (cb s (next it).1).2 else stop (cb s (next it).1).2
      else done s) :
    ∀ fuel it s, Inv it → (rem it).length ≤ fuel →
      f fuel it s =
        if (foldUntil cb (rem it) s).1 = true then done (foldUntil cb (rem it) s).2 else stop (foldUntil cb (rem it) s).2
  | 0, it, s, _, hf => by rw [f0, List.eq_nil_of_length_eq_zero (Nat.le_zero.mp hf)]; rfl
  | fuel + 1, it, s, hi, hf => by
    rw [fs]
    cases hr : rem it with
    | nil => exact if_neg fun hh => (P.iff hi).mp hh hr
    | cons v t =>
      obtain ⟨h1, h2, h3⟩ := P.step hi hr
      rw [hr] at hf
      rw [if_pos ((P.iff hi).mpr (by rw [hr]; exact List.cons_ne_nil _ _)), h1]
      by_cases hc : (cb s v).1 = true
      · rw [if_pos hc, foldUntil_cons, if_pos hc,
          loop_of_protocol cb done stop f f0 fs fuel _ _ h2 (by rw [h3]; exact Nat.le_of_succ_le_succ hf), h3]
      · rw [if_neg hc, foldUntil_cons, if_neg hc, if_neg Bool.false_ne_true]

end Protocol

/-- a chunk `A` that fits into the buffer, followed by what the rest of the loop does with the remaining room -/
theorem take_drop_append {A R : List Nat} {room : Nat} (hA : A.length ≤ room) (f : Nat → Nat) {vs rest : List Nat}
    (h1 : vs = (R.take (room - A.length)).map f) (h2 : rest = R.drop (room - A.length)) :
    A.map f ++ vs = ((A ++ R).take room).map f ∧ rest = (A ++ R).drop room := by
  rw [List.take_append, List.drop_append, List.take_of_length_le hA, List.drop_of_length_le hA, List.map_append]
  exact ⟨congrArg _ h1, h2⟩

/-- `NextMany` called with one buffer length after the other, for any `step` that returns `rem.take cap` and leaves
`rem.drop cap`, and any function `sq` with these equations: the calls concatenate to the first `caps.sum` remaining
values -/
theorem seq_of_protocol {α : Type} {Inv : α → Prop} {rem : α → List Nat} {step : α → Nat → List Nat × α}
    (hstep : ∀ it cap, Inv it →
      (step it cap).1 = (rem it).take cap ∧ Inv (step it cap).2 ∧ rem (step it cap).2 = (rem it).drop cap)
    (sq : α → List Nat → List Nat × α) (s0 : ∀ it, sq it [] = ([], it))
    (ss : ∀ it cap caps,
      sq it (cap :: caps) = ((step it cap).1 ++ (sq (step it cap).2 caps).1, (sq (step it cap).2 caps).2)) :
    ∀ caps it, Inv it →
      (sq it caps).1 = (rem it).take caps.sum ∧ Inv (sq it caps).2 ∧ rem (sq it caps).2 = (rem it).drop caps.sum
  | [], it, hi => by
    rw [s0, List.sum_nil, List.take_zero, List.drop_zero]
    exact ⟨rfl, hi, rfl⟩
  | cap :: caps, it, hi => by
    obtain ⟨h1, h2, h3⟩ := hstep it cap hi
    obtain ⟨k1, k2, k3⟩ := seq_of_protocol hstep sq s0 ss caps _ h2
    rw [ss, List.sum_cons]
    exact ⟨by rw [h1, k1, h3, List.take_add], k2, by rw [k3, h3, List.drop_drop]⟩

/-! ### the recording callback -/

/-- `foldUntil` for values of any type (`foldUntil2` hands over pairs) -/
def foldUntilA {α σ : Type} (cb : σ → α → Bool × σ) : List α → σ → Bool × σ
  | [], s => (true, s)
  | v :: vs, s => if (cb s v).1 then foldUntilA cb vs (cb s v).2 else (false, (cb s v).2)

theorem foldUntil_eq {σ : Type} (cb : σ → Nat → Bool × σ) : ∀ (l : List Nat) (s : σ), foldUntil cb l s = foldUntilA cb l s
  | [], _ => rfl
  | v :: t, s => by simp only [foldUntil, foldUntilA, foldUntil_eq cb t]

/-- the recording callback (`seenCb`, `seenCb2`) for values of any type: it remembers every value it is handed and answers
`false` on its `k`-th call -/
def seenA {α : Type} (k : Option Nat) (st : Nat × List α) (x : α) : Bool × (Nat × List α) :=
  (match k with | none => true | some k => decide (st.1 + 1 < k), (st.1 + 1, x :: st.2))

/-- the recording callback after `n` calls: it sees everything if it never stops, and the next `k - n` values (at least one,
if there is one) if it answers `false` on call number `k` -/
theorem foldUntilA_seen_from {α : Type} (k : Option Nat) : ∀ (l : List α) (n : Nat) (acc : List α),
    (foldUntilA (seenA k) l (n, acc)).2.2 =
      (match k with
        | none => l
        | some k => l.take (max (k - n) 1)).reverse ++ acc
  | [], n, acc => by cases k <;> simp [foldUntilA]
  | v :: t, n, acc => by
    cases k with
    | none =>
      simp only [foldUntilA, seenA, ↓reduceIte]
      rw [foldUntilA_seen_from none t (n + 1) (v :: acc)]
      simp
    | some k =>
      simp only [foldUntilA, seenA]
      by_cases hc : n + 1 < k
      · simp only [hc, decide_true, ↓reduceIte]
        rw [foldUntilA_seen_from (some k) t (n + 1) (v :: acc)]
        have e : max (k - n) 1 = max (k - (n + 1)) 1 + 1 := by omega
        rw [e, List.take_succ_cons]
        simp
      · simp only [hc, decide_false, Bool.false_eq_true, ↓reduceIte]
        have e : max (k - n) 1 = 0 + 1 := by omega
        rw [e, List.take_succ_cons]
        simp

theorem foldUntilA_seen {α : Type} (k : Option Nat) (l : List α) :
    (foldUntilA (seenA k) l (0, [])).2.2.reverse =
      match k with
      | none => l
      | some k => l.take (max k 1) := by
  rw [foldUntilA_seen_from k l 0 []]
  cases k <;> simp

/-! ### `advanceUntil` -/

theorem gallop_spec (xs : List Nat) (lower length min : Nat) : ∀ (spansize : Nat), 0 < spansize →
    (lower + spansize / 2 < length ∧ xs.getD (lower + spansize / 2) 0 < min) →
    let s := gallop xs lower length min spansize
    0 < s ∧ (lower + s / 2 < length ∧ xs.getD (lower + s / 2) 0 < min) ∧
      ¬ (lower + s < length ∧ xs.getD (lower + s) 0 < min) := by
  intro spansize
  fun_induction gallop xs lower length min spansize with
  | case1 sp hc ih =>
    intro _ _
    apply ih (by omega)
    rw [Nat.mul_div_cancel _ (by omega : 0 < 2)]
    exact hc.2
  | case2 sp hc =>
    intro hp hP
    refine ⟨hp, hP, ?_⟩
    intro h
    exact hc ⟨hp, h⟩

theorem mid_between {lower upper : Nat} (h : lower + 1 < upper) :
    lower < (lower + upper) / 2 ∧ (lower + upper) / 2 < upper := by omega

theorem bisect_spec {xs : List Nat} (hs : xs.Pairwise (· < ·)) (min : Nat) : ∀ (lower upper : Nat),
    lower < upper → upper < xs.length → xs.getD lower 0 < min → min ≤ xs.getD upper 0 →
    let r := bisect xs min lower upper
    lower < r ∧ r ≤ upper ∧ min ≤ xs.getD r 0 ∧ xs.getD (r - 1) 0 < min := by
  intro lower upper
  fun_induction bisect xs min lower upper with
  | case1 lower upper hlt mid heq =>
    intro _ hu hlo _
    have hm : lower < mid ∧ mid < upper := mid_between hlt
    clear_value mid
    have := getD_lt_of_sorted hs (Nat.sub_lt (Nat.zero_lt_of_lt hm.1) Nat.one_pos) (Nat.lt_trans hm.2 hu)
    exact ⟨hm.1, Nat.le_of_lt hm.2, Nat.le_of_eq heq.symm, heq ▸ this⟩
  | case2 lower upper hlt mid hne hlt2 ih =>
    intro _ hu hlo hhi
    have hm : lower < mid ∧ mid < upper := mid_between hlt
    obtain ⟨a, b, c, d⟩ := ih hm.2 hu hlt2 hhi
    exact ⟨Nat.lt_trans hm.1 a, b, c, d⟩
  | case3 lower upper hlt mid hne hnlt ih =>
    intro _ hu hlo hhi
    have hm : lower < mid ∧ mid < upper := mid_between hlt
    obtain ⟨a, b, c, d⟩ := ih hm.1 (Nat.lt_trans hm.2 hu) hlo (Nat.le_of_not_lt hnlt)
    exact ⟨a, Nat.le_trans b (Nat.le_of_lt hm.2), c, d⟩
  | case4 lower upper hge =>
    intro hl hu hlo hhi
    have : upper = lower + 1 := by omega
    subst this
    exact ⟨Nat.lt_succ_self _, Nat.le_refl _, hhi, hlo⟩

/-- `advFrom` on a strictly increasing slice: the first index `≥ lower` whose value is `≥ min`, else `xs.length` -/
theorem _root_.RModel.Impl.advFrom_spec {xs : List Nat} (hs : xs.Pairwise (· < ·)) (lower min : Nat) (r : Nat)
    (hr : r = RepQuery.advFrom xs lower xs.length min) :
    lower ≤ r ∧ (lower ≤ xs.length → r ≤ xs.length) ∧ (∀ j, lower ≤ j → j < r → xs.getD j 0 < min) ∧
      (r < xs.length → min ≤ xs.getD r 0) := by
  subst hr
  unfold RepQuery.advFrom
  simp only []
  by_cases h1 : lower ≥ xs.length ∨ xs.getD lower 0 ≥ min
  · rw [if_pos h1]
    exact ⟨Nat.le_refl _, fun h => h, fun j a b => by omega, fun hlt => h1.resolve_left (by omega)⟩
  · rw [if_neg h1]
    obtain ⟨-, ⟨g2, g2'⟩, g3⟩ := gallop_spec xs lower xs.length min 1 (by omega)
      (by simpa using (by omega : lower < xs.length ∧ xs.getD lower 0 < min))
    generalize gallop xs lower xs.length min 1 = s at g2 g2' g3 ⊢
    have below : ∀ k, k < xs.length → xs.getD k 0 < min → ∀ j, j < k + 1 → xs.getD j 0 < min := fun k hk hv j hj =>
      Nat.lt_of_le_of_lt (getD_le_of_sorted hs (by omega) hk) hv
    generalize hu : (if lower + s < xs.length then lower + s else xs.length - 1) = upper
    have hul : upper < xs.length ∧ lower + s / 2 ≤ upper := by split at hu <;> omega
    by_cases h3 : xs.getD upper 0 = min
    · rw [if_pos h3]
      exact ⟨by omega, fun _ => by omega, fun j _ hj => h3 ▸ getD_lt_of_sorted hs hj hul.1, fun _ => by omega⟩
    · rw [if_neg h3]
      by_cases h4 : xs.getD upper 0 < min
      · -- the gallop stopped at the end of the slice
        have hlast : upper = xs.length - 1 := by
          split at hu
          · next h2 => exact absurd ⟨h2, hu ▸ h4⟩ g3
          · exact hu.symm
        rw [if_pos h4]
        exact ⟨by omega, fun _ => Nat.le_refl _, fun j _ hj => below upper hul.1 h4 j (by omega),
          fun h => absurd h (Nat.lt_irrefl _)⟩
      · rw [if_neg h4]
        have hlu : lower + s / 2 < upper := idx_lt_of_getD_lt hs g2 (by omega)
        obtain ⟨b1, b2, b3, b4⟩ := bisect_spec hs min (lower + s / 2) upper hlu hul.1 g2' (by omega)
        generalize bisect xs min (lower + s / 2) upper = r at b1 b2 b3 b4 ⊢
        exact ⟨by omega, fun _ => by omega, fun j _ hj => below (r - 1) (by omega) b4 j (by omega), fun _ => b3⟩

/-- `advanceUntil` on a strictly increasing slice: the first index after `pos` whose value is `≥ min` -/
theorem advanceUntil_spec {xs : List Nat} (hs : xs.Pairwise (· < ·)) (pos min : Nat) (hpos : pos < xs.length)
    (r : Nat) (hr : r = advanceUntil xs pos xs.length min) :
    pos < r ∧ r ≤ xs.length ∧ (∀ j, pos < j → j < r → xs.getD j 0 < min) ∧ (r < xs.length → min ≤ xs.getD r 0) :=
  let ⟨a, b, c, d⟩ := advFrom_spec hs (pos + 1) min r hr
  ⟨a, b hpos, c, d⟩

/-! ### `dropWhile` on `xs.drop loc` -/

theorem dropWhile_drop {p : Nat → Bool} {xs : List Nat} : ∀ (k loc : Nat),
    (∀ j, loc ≤ j → j < loc + k → p (xs.getD j 0) = true) → (loc + k < xs.length → p (xs.getD (loc + k) 0) = false) →
    (xs.drop loc).dropWhile p = xs.drop (loc + k)
  | 0, loc, _, hhi => by
    show (xs.drop loc).dropWhile p = xs.drop loc
    by_cases hl : loc < xs.length
    · rw [List.drop_eq_getElem_cons hl, List.dropWhile_cons_of_neg]
      rw [← getD_eq_getElem' _ _ hl]
      exact Bool.eq_false_iff.mp (hhi hl)
    · rw [List.drop_eq_nil_iff.mpr (by omega)]
      rfl
  | k + 1, loc, hlow, hhi => by
    by_cases hl : loc < xs.length
    · rw [List.drop_eq_getElem_cons hl, List.dropWhile_cons_of_pos, ← Nat.add_assoc, Nat.add_right_comm]
      · exact dropWhile_drop k (loc + 1) (fun j h1 h2 => hlow j (by omega) (by omega))
          (by rwa [Nat.add_right_comm, Nat.add_assoc])
      · rw [← getD_eq_getElem' _ _ hl]
        exact hlow loc (Nat.le_refl _) (by omega)
    · rw [List.drop_eq_nil_iff.mpr (by omega), List.drop_eq_nil_iff.mpr (by omega)]
      rfl

/-! ## array container iterators -/

namespace ArrIt

/-- the values still to be delivered -/
def rem (it : ArrIt) : List Nat := it.slice.drop it.loc

def Inv (it : ArrIt) : Prop := it.slice.Pairwise (· < ·)

theorem hasNext_iff (it : ArrIt) : it.hasNext = true ↔ it.rem ≠ [] := by
  simp only [hasNext, rem, decide_eq_true_eq, ne_eq, List.drop_eq_nil_iff]
  omega

theorem rem_cons {it : ArrIt} {v : Nat} {t : List Nat} (h : it.rem = v :: t) :
    it.loc < it.slice.length ∧ it.slice.getD it.loc 0 = v ∧ it.slice.drop (it.loc + 1) = t := by
  unfold rem at h
  have hl : it.loc < it.slice.length := by
    apply Classical.byContradiction; intro hc
    rw [List.drop_eq_nil_iff.mpr (by omega)] at h
    cases h
  rw [List.drop_eq_getElem_cons hl] at h
  injection h with h1 h2
  exact ⟨hl, by rw [getD_eq_getElem' _ _ hl]; exact h1, h2⟩

theorem peekNext_spec {it : ArrIt} {v : Nat} {t : List Nat} (h : it.rem = v :: t) : it.peekNext = v :=
  (rem_cons h).2.1

theorem next_spec {it : ArrIt} {v : Nat} {t : List Nat} (h : it.rem = v :: t) :
    it.next.1 = v ∧ it.next.2.rem = t ∧ it.next.2.slice = it.slice :=
  ⟨(rem_cons h).2.1, (rem_cons h).2.2, rfl⟩

theorem advanceIfNeeded_spec {it : ArrIt} (hi : it.Inv) (m : Nat) :
    (it.advanceIfNeeded m).rem = it.rem.dropWhile (fun x => decide (x < m)) ∧
      (it.advanceIfNeeded m).slice = it.slice := by
  unfold advanceIfNeeded
  by_cases hc : (it.hasNext && decide (it.peekNext < m)) = true
  · rw [if_pos hc]
    simp only [Bool.and_eq_true, decide_eq_true_eq, hasNext, peekNext] at hc
    obtain ⟨a1, -, a3, a4⟩ := advanceUntil_spec hi it.loc m hc.1 _ rfl
    refine ⟨?_, rfl⟩
    simp only [rem]
    generalize advanceUntil it.slice it.loc it.slice.length m = r at a1 a3 a4
    obtain ⟨k, rfl⟩ : ∃ k, r = it.loc + k := ⟨r - it.loc, by omega⟩
    refine (dropWhile_drop k it.loc (fun j h1 h2 => decide_eq_true ?_) (fun h => decide_eq_false ?_)).symm
    · rcases Nat.eq_or_lt_of_le h1 with rfl | h
      · exact of_decide_eq_true hc.2
      · exact a3 j h h2
    · exact Nat.not_lt.mpr (a4 h)
  · rw [if_neg hc]
    simp only [Bool.and_eq_true, decide_eq_true_eq, not_and, hasNext, peekNext] at hc
    exact ⟨(dropWhile_drop 0 it.loc (fun j h1 h2 => absurd h2 (Nat.not_lt.mpr h1))
      (fun h => Bool.eq_false_iff.mpr (hc h))).symm, rfl⟩

theorem nextMany_spec (it : ArrIt) (hs cap : Nat) :
    (it.nextMany hs cap).1 = (it.rem.take cap).map (· ||| hs) ∧ (it.nextMany hs cap).2.rem = it.rem.drop cap ∧
      (it.nextMany hs cap).2.slice = it.slice := by
  refine ⟨rfl, ?_, rfl⟩
  simp only [nextMany, rem, List.length_take, List.length_drop, List.drop_drop]
  by_cases h : cap ≤ it.slice.length - it.loc
  · rw [Nat.min_eq_left h, Nat.add_comm]
  · rw [Nat.min_eq_right (by omega)]
    rw [List.drop_eq_nil_iff.mpr (by omega), List.drop_eq_nil_iff.mpr (by omega)]

end ArrIt

namespace ArrRevIt

/-- the values still to be delivered, in the order of the slice (they come out last first) -/
def rem (it : ArrRevIt) : List Nat := it.slice.take it.locP

theorem hasNext_iff (it : ArrRevIt) (h : it.locP ≤ it.slice.length) : it.hasNext = true ↔ it.rem ≠ [] := by
  simp only [hasNext, rem, decide_eq_true_eq, ← List.length_pos_iff, List.length_take, Nat.min_eq_left h]

theorem next_spec {it : ArrRevIt} {v : Nat} {t : List Nat} (hl : it.locP ≤ it.slice.length) (h : it.rem = t ++ [v]) :
    it.next.1 = v ∧ it.next.2.rem = t ∧ it.next.2.locP ≤ it.next.2.slice.length := by
  unfold rem at h
  cases hk : it.locP with
  | zero =>
    rw [hk] at h
    exact absurd (congrArg List.length h) (by simp)
  | succ k =>
    have hlt : k < it.slice.length := by omega
    rw [hk, List.take_succ_eq_append_getElem hlt] at h
    obtain ⟨h1, h2⟩ := List.append_inj' h rfl
    simp only [next, rem, hk, Nat.add_sub_cancel, getD_eq_getElem' _ _ hlt]
    exact ⟨(List.cons.inj h2).1, h1, Nat.le_of_lt hlt⟩

end ArrRevIt

end RModel.Impl.It
