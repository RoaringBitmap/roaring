import RModel.Impl.ContQuery
import RProofs.BSet
import RProofs.Util.Count
/-!
Word lists (`List (BitVec 64)`, the payload of a bitmap container) as sets of bit positions: `testBit ws x` is membership, and
a word kernel is described by what it does to the members.  After the facts about one word (`tz`, `lz`, `popcount`, isolating and
clearing the lowest set bit) and about positions in a word list (`testBit` under `take`/`drop`/`++` and padding with zero
words), `WordsAre ws p` says that `ws` are 1024 words with the members `p`; there is one lemma per kernel (single bits,
word-wise and/or/xor/and-not, run lists written as words).  `valsOfWords` (the `fillArray` family) lists exactly the set bits in
increasing order, so the population count `wordsCard` is the number of set positions (`wordsCard_eq_cnt`,
`wordsCard_eq_length`, `wordsCard_mono`, `popcount_eq_cnt`).
-/
open RModel.Util
namespace RModel.Impl
open RModel RModel.BSet RModel.Driver
open ContOps ContQuery

/-! ### one word -/

theorem bits_of_eq_zero (w : BitVec 64) (h : ¬ w ≠ 0#64) (j : Nat) : w.getLsbD j = false := by
  have : w = 0#64 := Classical.byContradiction h
  subst this; simp

theorem exists_bit_of_ne_zero (w : BitVec 64) (h : w ≠ 0#64) : ∃ j, j < 64 ∧ w.getLsbD j = true := by
  apply Classical.byContradiction
  intro hc
  apply h
  apply BitVec.eq_of_getLsbD_eq
  intro i hi
  cases hb : w.getLsbD i with
  | false => simp
  | true => exact absurd ⟨i, hi, hb⟩ hc

theorem tzFrom_spec (w : BitVec 64) : ∀ (fuel i : Nat),
    i ≤ tzFrom w fuel i ∧ tzFrom w fuel i ≤ i + fuel ∧
    (tzFrom w fuel i < i + fuel → w.getLsbD (tzFrom w fuel i) = true) ∧
    ∀ j, i ≤ j → j < tzFrom w fuel i → w.getLsbD j = false := by
  intro fuel
  induction fuel with
  | zero =>
    intro i
    simp only [tzFrom]
    refine ⟨Nat.le_refl _, by omega, by omega, ?_⟩
    intro j h1 h2; omega
  | succ n ih =>
    intro i
    simp only [tzFrom]
    by_cases h : w.getLsbD i = true
    · rw [if_pos h]
      refine ⟨Nat.le_refl _, by omega, fun _ => h, ?_⟩
      intro j h1 h2; omega
    · rw [if_neg h]
      obtain ⟨a, b, c, d⟩ := ih (i + 1)
      refine ⟨by omega, by omega, fun hh => c (by omega), ?_⟩
      intro j h1 h2
      by_cases e : j = i
      · subst e; simpa using h
      · exact d j (by omega) h2

theorem tz_spec (w : BitVec 64) (h : w ≠ 0#64) :
    tz w < 64 ∧ w.getLsbD (tz w) = true ∧ ∀ j, j < tz w → w.getLsbD j = false := by
  obtain ⟨a, b, c, d⟩ := tzFrom_spec w 64 0
  obtain ⟨j, hj, hb⟩ := exists_bit_of_ne_zero w h
  have hlt : tz w < 64 := by
    apply Classical.byContradiction
    intro hc
    have := d j (by omega) (by unfold tz at hc; omega)
    rw [hb] at this; cases this
  unfold tz at hlt ⊢
  exact ⟨hlt, c (by omega), fun j hj => d j (by omega) hj⟩

theorem bitLen_spec (w : BitVec 64) : ∀ n : Nat,
    bitLen w n ≤ n ∧ (0 < bitLen w n → w.getLsbD (bitLen w n - 1) = true) ∧
    ∀ j, bitLen w n ≤ j → j < n → w.getLsbD j = false := by
  intro n
  induction n with
  | zero =>
    simp only [bitLen]
    refine ⟨Nat.le_refl _, by omega, ?_⟩
    intro j h1 h2; omega
  | succ n ih =>
    simp only [bitLen]
    by_cases h : w.getLsbD n = true
    · rw [if_pos h]
      refine ⟨Nat.le_refl _, fun _ => by simpa using h, ?_⟩
      intro j h1 h2; omega
    · rw [if_neg h]
      obtain ⟨a, b, c⟩ := ih
      refine ⟨by omega, b, ?_⟩
      intro j h1 h2
      by_cases e : j = n
      · subst e; simpa using h
      · exact c j h1 (by omega)

theorem lz_spec (w : BitVec 64) (h : w ≠ 0#64) :
    lz w < 64 ∧ w.getLsbD (63 - lz w) = true ∧ ∀ j, 63 - lz w < j → w.getLsbD j = false := by
  obtain ⟨a, b, c⟩ := bitLen_spec w 64
  obtain ⟨j, hj, hb⟩ := exists_bit_of_ne_zero w h
  have hpos : 0 < bitLen w 64 := by
    apply Classical.byContradiction
    intro hc
    have := c j (by omega) hj
    rw [hb] at this; cases this
  unfold lz
  refine ⟨by omega, ?_, ?_⟩
  · have e : 63 - (64 - bitLen w 64) = bitLen w 64 - 1 := by omega
    rw [e]; exact b hpos
  · intro j hj
    by_cases h64 : j < 64
    · exact c j (by omega) h64
    · exact BitVec.getLsbD_of_ge _ _ (by omega)

theorem and_one_shift_ne_zero (w : BitVec 64) (k : Nat) (hk : k < 64) :
    (w &&& (1#64 <<< k) ≠ 0#64) ↔ w.getLsbD k = true := by
  constructor
  · intro h
    obtain ⟨j, hj, hb⟩ := exists_bit_of_ne_zero _ h
    simp only [BitVec.getLsbD_and, BitVec.getLsbD_shiftLeft, BitVec.getLsbD_one, Bool.and_eq_true,
      decide_eq_true_eq, Bool.not_eq_true', decide_eq_false_iff_not] at hb
    have : j = k := by omega
    subst this; exact hb.1
  · intro h hz
    have hb : (w &&& (1#64 <<< k)).getLsbD k = false := by rw [hz]; simp
    rw [BitVec.getLsbD_and, h, BitVec.getLsbD_shiftLeft, BitVec.getLsbD_one] at hb
    simp [hk] at hb

theorem toNat_bit (w : BitVec 64) (c : Nat) : ((w >>> c) &&& 1#64).toNat = if w.getLsbD c then 1 else 0 := by
  simp [BitVec.toNat_and, BitVec.toNat_ushiftRight, BitVec.getLsbD, Nat.testBit, Nat.and_one_is_mod]
  split <;> omega

theorem twoPow_sub_one_getLsbD (k : Nat) (hk : k < 64) (j : Nat) :
    (BitVec.twoPow 64 k - 1#64).getLsbD j = decide (j < k) := by
  rw [BitVec.getLsbD, BitVec.toNat_sub, BitVec.toNat_twoPow]
  have h1 : 2 ^ k < 2 ^ 64 := Nat.pow_lt_pow_right (by omega) hk
  have h2 : 0 < 2 ^ k := Nat.two_pow_pos k
  have e : (2 ^ 64 - (1#64).toNat + 2 ^ k % 2 ^ 64) % 2 ^ 64 = 2 ^ k - 1 := by
    rw [Nat.mod_eq_of_lt h1]
    simp only [BitVec.toNat_ofNat]
    omega
  rw [e, Nat.testBit_two_pow_sub_one]

theorem filter_getLsbD_zero : (List.range 64).filter (0#64).getLsbD = [] := by
  simp

theorem popcount_le64 (w : BitVec 64) : popcount w ≤ 64 := by
  unfold popcount
  have := List.length_filter_le w.getLsbD (List.range 64)
  simpa using this

theorem sum_popcount_le (ws : List (BitVec 64)) : (ws.map popcount).sum ≤ 64 * ws.length := by
  induction ws with
  | nil => simp
  | cons w t ih =>
    have := popcount_le64 w
    simp only [List.map_cons, List.sum_cons, List.length_cons]
    omega

theorem popcount_eq_cnt (w : BitVec 64) : popcount w = cnt w.getLsbD 64 := rfl

theorem popcount_zero : popcount 0#64 = 0 := by
  unfold popcount; rw [filter_getLsbD_zero]; rfl

theorem popcount_shl (w : BitVec 64) (l : Nat) (hl : l ≤ 64) : popcount (w <<< (64 - l)) = cnt w.getLsbD l := by
  rw [popcount_eq_cnt]
  have h : cnt (w <<< (64 - l)).getLsbD (64 - l + l) = cnt w.getLsbD l := by
    apply cnt_shift
    intro j hj
    rw [BitVec.getLsbD_shiftLeft]
    have : j < 64 := by omega
    by_cases h1 : j < 64 - l <;> simp [h1, this] <;> omega
  rw [show 64 - l + l = 64 by omega] at h
  exact h

theorem popcount_and_mask (w m : BitVec 64) (a b : Nat) (hab : a ≤ b) (hb : b ≤ 64)
    (hm : ∀ j, j < 64 → m.getLsbD j = decide (a ≤ j ∧ j < b)) :
    popcount (w &&& m) = cnt w.getLsbD b - cnt w.getLsbD a := by
  rw [popcount_eq_cnt]
  apply cnt_interval hab hb
  intro j hj
  rw [BitVec.getLsbD_and, hm j hj]

/-! ### the lowest set bit: `t = w & -w`, `popcount(t - 1)`, `w ^ t`, `w & (w - 1)` -/

theorem lowBit_getLsbD (w : BitVec 64) (h : w ≠ 0#64) (j : Nat) :
    (w &&& -w).getLsbD j = decide (j = tz w) := by
  obtain ⟨t1, t2, t3⟩ := tz_spec w h
  rw [BitVec.getLsbD_and, BitVec.getLsbD_neg]
  by_cases e : j = tz w
  · subst e
    rw [t2]
    have : ¬ ∃ i, i < tz w ∧ w.getLsbD i = true := by
      rintro ⟨i, hi, hb⟩
      rw [t3 i hi] at hb; cases hb
    simp [this, t1]
  · cases hb : w.getLsbD j with
    | false => simp [e]
    | true =>
      have hlt : tz w < j := by
        apply Classical.byContradiction
        intro hc
        have := t3 j (by omega)
        rw [hb] at this; cases this
      have : ∃ i, i < j ∧ w.getLsbD i = true := ⟨tz w, hlt, t2⟩
      have hj := BitVec.lt_of_getLsbD hb
      simp [this, e, hj]

theorem lowBit_eq (w : BitVec 64) (h : w ≠ 0#64) : w &&& -w = BitVec.twoPow 64 (tz w) := by
  apply BitVec.eq_of_getLsbD_eq
  intro j hj
  rw [lowBit_getLsbD w h, BitVec.getLsbD_twoPow]
  have := (tz_spec w h).1
  simp [this, eq_comm]

theorem popcount_lowBit_sub_one (w : BitVec 64) (h : w ≠ 0#64) : popcount ((w &&& -w) - 1#64) = tz w := by
  have hk := (tz_spec w h).1
  have hb : ∀ j, ((w &&& -w) - 1#64).getLsbD j = decide (j < tz w) := fun j => by
    rw [lowBit_eq w h, twoPow_sub_one_getLsbD _ hk]
  show cnt _ 64 = _
  rw [cnt_eq_of_none _ (Nat.le_of_lt hk) (fun u h1 _ => by rw [hb]; exact decide_eq_false (Nat.not_lt.mpr h1)),
    cnt_eq_of_all _ (Nat.zero_le _) (fun u _ h2 => by rw [hb]; exact decide_eq_true h2), cnt_zero]
  omega

theorem getLsbD_clearLowest (w : BitVec 64) (h : w ≠ 0#64) (j : Nat) :
    (w ^^^ (w &&& -w)).getLsbD j = (w.getLsbD j && decide (j ≠ tz w)) := by
  rw [BitVec.getLsbD_xor, lowBit_getLsbD w h]
  by_cases e : j = tz w
  · subst e; simp [(tz_spec w h).2.1]
  · simp [e]

/-- `bitset &= bitset - 1` clears the same bit as the many-iterator's `bitset ^= bitset & -bitset` -/
theorem clearLowest_eq (w : BitVec 64) : w &&& (w - 1#64) = w ^^^ (w &&& -w) := by
  apply BitVec.eq_of_getLsbD_eq
  intro j hj
  rw [← BitVec.not_neg, BitVec.getLsbD_and, BitVec.getLsbD_not, BitVec.getLsbD_xor, BitVec.getLsbD_and]
  cases w.getLsbD j <;> simp [hj]

/-! ### positions in a word list -/

theorem testBit_cons (w : BitVec 64) (t : List (BitVec 64)) (x : Nat) :
    testBit (w :: t) x = if x < 64 then w.getLsbD x else testBit t (x - 64) := by
  unfold testBit
  split <;> rename_i h
  · simp [Nat.div_eq_of_lt h, Nat.mod_eq_of_lt h]
  · rw [show x / 64 = (x - 64) / 64 + 1 by omega, show x % 64 = (x - 64) % 64 by omega, List.getD_cons_succ]

theorem testBit_of_ge (ws : List (BitVec 64)) (x : Nat) (h : 64 * ws.length ≤ x) : testBit ws x = false := by
  have : ws[x / 64]? = none := by simp; omega
  simp [testBit, List.getD_eq_getElem?_getD, this]

theorem testBit_lt {ws : List (BitVec 64)} (hl : ws.length = 1024) {x : Nat} (h : testBit ws x = true) : x < 65536 := by
  by_cases hx : x < 65536
  · exact hx
  · rw [testBit_of_ge ws x (by omega)] at h; cases h

theorem length_emptyWords : emptyWords.length = 1024 := by
  simp only [emptyWords, List.length_replicate]

theorem testBit_emptyWords (x : Nat) : testBit emptyWords x = false := by
  simp only [testBit, emptyWords, List.getD_eq_getElem?_getD, List.getElem?_replicate]
  split <;> simp

theorem testBit_mk (ws : List (BitVec 64)) (k j : Nat) (hj : j < 64) :
    testBit ws (64 * k + j) = (ws.getD k 0#64).getLsbD j := by
  unfold testBit
  rw [Nat.mul_add_div (by omega), Nat.mul_add_mod, Nat.div_eq_of_lt hj, Nat.add_zero, Nat.mod_eq_of_lt hj]

theorem testBit_take (l : List (BitVec 64)) (n x : Nat) :
    testBit (l.take n) x = (decide (x / 64 < n) && testBit l x) := by
  unfold testBit
  rw [List.getD_eq_getElem?_getD, List.getD_eq_getElem?_getD, List.getElem?_take]
  by_cases h : x / 64 < n
  · simp [h]
  · simp [h]

theorem testBit_drop (l : List (BitVec 64)) (n x : Nat) :
    testBit (l.drop n) x = testBit l (x + 64 * n) := by
  unfold testBit
  rw [List.getD_eq_getElem?_getD, List.getD_eq_getElem?_getD, List.getElem?_drop, Nat.add_mul_div_left _ _ (by omega),
    Nat.add_mul_mod_self_left, Nat.add_comm]

theorem testBit_append (a b : List (BitVec 64)) (x : Nat) :
    testBit (a ++ b) x = if x / 64 < a.length then testBit a x else testBit b (x - 64 * a.length) := by
  unfold testBit
  simp only [List.getD_eq_getElem?_getD, List.getElem?_append]
  split
  · rfl
  · rename_i h
    have h' : 64 * a.length ≤ x := by omega
    rw [Nat.sub_mul_div, Nat.sub_mul_mod h']

theorem testBit_zeros (n x : Nat) : testBit (List.replicate n 0#64) x = false := by
  unfold testBit
  rw [List.getD_eq_getElem?_getD, List.getElem?_replicate]
  split <;> simp

theorem testBit_append_zeros (ws : List (BitVec 64)) (n x : Nat) :
    testBit (ws ++ List.replicate n 0#64) x = testBit ws x := by
  rw [testBit_append]
  split
  · rfl
  · rw [testBit_zeros, testBit_of_ge _ _ (by omega)]

theorem testBit_zeros_append (b : Nat) (l : List (BitVec 64)) (x : Nat) :
    testBit (List.replicate b 0#64 ++ l) x = (decide (64 * b ≤ x) && testBit l (x - 64 * b)) := by
  rw [testBit_append, List.length_replicate]
  split
  · rw [testBit_zeros, decide_eq_false (by omega), Bool.false_and]
  · rw [decide_eq_true (by omega), Bool.true_and]

theorem any_ne_zero_iff_testBit (ws : List (BitVec 64)) :
    ws.any (· ≠ 0#64) = true ↔ ∃ x, testBit ws x = true := by
  constructor
  · intro h
    simp only [List.any_eq_true, decide_eq_true_eq] at h
    obtain ⟨w, hw, hne⟩ := h
    obtain ⟨i, hi, hwi⟩ := List.getElem_of_mem hw
    obtain ⟨j, hj, hb⟩ := exists_bit_of_ne_zero w hne
    refine ⟨64 * i + j, ?_⟩
    have h1 : (64 * i + j) / 64 = i := by omega
    have h2 : (64 * i + j) % 64 = j := by omega
    simp only [testBit, h1, h2, List.getD_eq_getElem?_getD, List.getElem?_eq_getElem hi, Option.getD_some, hwi, hb]
  · intro ⟨x, hx⟩
    simp only [List.any_eq_true, decide_eq_true_eq]
    simp only [testBit, List.getD_eq_getElem?_getD] at hx
    by_cases hlt : x / 64 < ws.length
    · refine ⟨ws[x / 64], List.getElem_mem hlt, ?_⟩
      intro h0
      simp only [List.getElem?_eq_getElem hlt, Option.getD_some, h0] at hx
      simp at hx
    · have : ws[x / 64]? = none := by simp; omega
      simp [this] at hx

/-! ### bit-level meaning of the word kernels -/

theorem getLsbD_bitMask (v j : Nat) (hj : j < 64) : (bitMask v).getLsbD j = decide (j = v % 64) := by
  have hv : v % 64 < 64 := Nat.mod_lt _ (by omega)
  simp only [bitMask, BitVec.getLsbD_shiftLeft, BitVec.getLsbD_one]
  by_cases h : j = v % 64
  · subst h; simp [hv]
  · simp [h, hj]; omega

theorem testBit_modify (ws : List (BitVec 64)) (i : Nat) (f : BitVec 64 → BitVec 64) (x : Nat) :
    testBit (ws.modify i f) x =
      if i = x / 64 then ((ws[x / 64]?.map f).getD 0#64).getLsbD (x % 64) else testBit ws x := by
  simp only [testBit, List.getD_eq_getElem?_getD, List.getElem?_modify]
  split <;> cases ws[x / 64]? <;> simp

theorem eq_iff_divmod (x v : Nat) : x = v ↔ (x / 64 = v / 64 ∧ x % 64 = v % 64) := by omega

/-- the three single-bit kernels at once: `op` acts bitwise as `g` and the mask has exactly bit `v % 64`; a word index
out of range is harmless when `g` keeps `false` (clearing), else it is excluded by `hv` -/
theorem testBit_modify_bitMask (op : BitVec 64 → BitVec 64 → BitVec 64) (g : Bool → Bool → Bool)
    (hop : ∀ w m j, j < 64 → (op w m).getLsbD j = g (w.getLsbD j) (m.getLsbD j)) (hg : ∀ b, g b false = b)
    (ws : List (BitVec 64)) (v x : Nat) (hv : v / 64 < ws.length ∨ ∀ b, g false b = false) :
    testBit (ws.modify (v / 64) fun w => op w (bitMask v)) x = g (testBit ws x) (decide (x = v)) := by
  have hx : x % 64 < 64 := Nat.mod_lt _ (by omega)
  rw [testBit_modify]
  split <;> rename_i h
  · have hiff : (x = v) ↔ x % 64 = v % 64 := by omega
    simp only [testBit, List.getD_eq_getElem?_getD]
    cases hw : ws[x / 64]? with
    | none =>
      have hf : ∀ b, g false b = false := hv.resolve_left fun hlt => by
        rw [List.getElem?_eq_none_iff] at hw
        omega
      simp [hf]
    | some w => simp only [Option.map_some, Option.getD_some, hop _ _ _ hx, getLsbD_bitMask _ _ hx, hiff]
  · have : ¬ x = v := fun e => h (by rw [e])
    simp [this, hg]

theorem testBit_clearBit (ws : List (BitVec 64)) (v x : Nat) :
    testBit (clearBit ws v) x = (testBit ws x && !decide (x = v)) :=
  testBit_modify_bitMask (fun w m => w &&& ~~~ m) (fun p q => p && !q) (by intro w m j hj; simp [hj]) (by simp) ws v x
    (Or.inr fun _ => rfl)

theorem testBit_foldl_clearBit (vs : List Nat) (ws : List (BitVec 64)) (x : Nat) :
    testBit (vs.foldl clearBit ws) x = (testBit ws x && !vs.contains x) := by
  induction vs generalizing ws with
  | nil => simp
  | cons v t ih =>
    simp only [List.foldl_cons]
    rw [ih, testBit_clearBit]
    simp [Bool.and_assoc]

theorem length_foldl_setBit (vs : List Nat) (ws : List (BitVec 64)) : (vs.foldl setBit ws).length = ws.length := by
  induction vs generalizing ws with
  | nil => rfl
  | cons v t ih => rw [List.foldl_cons, ih]; simp [setBit]

theorem length_wordsOfArr (vs : List Nat) : (wordsOfArr vs).length = 1024 := by
  rw [wordsOfArr, length_foldl_setBit, length_emptyWords]

theorem testBit_zipWith (f : BitVec 64 → BitVec 64 → BitVec 64) (g : Bool → Bool → Bool)
    (hfg : ∀ a b j, j < 64 → (f a b).getLsbD j = g (a.getLsbD j) (b.getLsbD j)) (hg : g false false = false)
    (a b : List (BitVec 64)) (hl : a.length = b.length) (x : Nat) :
    testBit (List.zipWith f a b) x = g (testBit a x) (testBit b x) := by
  simp only [testBit, List.getD_eq_getElem?_getD, List.getElem?_zipWith]
  by_cases h : x / 64 < a.length
  · rw [List.getElem?_eq_getElem h, List.getElem?_eq_getElem (hl ▸ h)]
    simpa using hfg _ _ _ (Nat.mod_lt x (by omega))
  · have h1 : a[x / 64]? = none := by simp; omega
    have h2 : b[x / 64]? = none := by simp; omega
    simp [h1, h2, hg]

theorem testBit_andW (a b : List (BitVec 64)) (hl : a.length = b.length) (x : Nat) :
    testBit (andW a b) x = (testBit a x && testBit b x) :=
  testBit_zipWith _ (· && ·) (by intros; simp) rfl a b hl x

/-! ### the word payload judged by its members -/

structure WordsAre (ws : List (BitVec 64)) (p : Nat → Bool) : Prop where
  len : ws.length = 1024
  mem : ∀ x, testBit ws x = p x

theorem wordsAre_self {ws : List (BitVec 64)} (hl : ws.length = 1024) : WordsAre ws (testBit ws) := ⟨hl, fun _ => rfl⟩

theorem WordsAre.congr {ws : List (BitVec 64)} {p q : Nat → Bool} (h : WordsAre ws p) (e : ∀ x, p x = q x) : WordsAre ws q :=
  ⟨h.len, fun x => (h.mem x).trans (e x)⟩

theorem WordsAre.lt {ws : List (BitVec 64)} {p : Nat → Bool} (h : WordsAre ws p) {x : Nat} (hx : p x = true) : x < 65536 :=
  testBit_lt h.len ((h.mem x).trans hx)

theorem WordsAre.modify {ws : List (BitVec 64)} {p : Nat → Bool} (h : WordsAre ws p)
    (op : BitVec 64 → BitVec 64 → BitVec 64) (g : Bool → Bool → Bool)
    (hop : ∀ w m j, j < 64 → (op w m).getLsbD j = g (w.getLsbD j) (m.getLsbD j)) (hg : ∀ b, g b false = b)
    (v : Nat) (hv : v < 65536 ∨ ∀ b, g false b = false) :
    WordsAre (ws.modify (v / 64) fun w => op w (bitMask v)) fun x => g (p x) (decide (x = v)) :=
  ⟨by rw [List.length_modify]; exact h.len, fun x => by
    rw [testBit_modify_bitMask op g hop hg ws v x (hv.imp_left fun h' => by rw [h.len]; omega), h.mem]⟩

theorem WordsAre.setBit {ws : List (BitVec 64)} {p : Nat → Bool} (h : WordsAre ws p) {v : Nat} (hv : v < 65536) :
    WordsAre (setBit ws v) fun x => p x || decide (x = v) :=
  h.modify (· ||| ·) (· || ·) (by intros; simp) (by simp) v (Or.inl hv)

theorem WordsAre.flipBit {ws : List (BitVec 64)} {p : Nat → Bool} (h : WordsAre ws p) {v : Nat} (hv : v < 65536) :
    WordsAre (flipBit ws v) fun x => p x ^^ decide (x = v) :=
  h.modify (· ^^^ ·) (· ^^ ·) (by intros; simp) (by simp) v (Or.inl hv)

theorem WordsAre.clearBit {ws : List (BitVec 64)} {p : Nat → Bool} (h : WordsAre ws p) (v : Nat) :
    WordsAre (clearBit ws v) fun x => p x && !decide (x = v) :=
  h.modify (fun w m => w &&& ~~~ m) (fun a b => a && !b) (by intro w m j hj; simp [hj]) (by simp) v (Or.inr fun _ => rfl)

theorem WordsAre.setBits {ws : List (BitVec 64)} {p : Nat → Bool} (h : WordsAre ws p) {vs : List Nat}
    (hv : ∀ v ∈ vs, v < 65536) : WordsAre (vs.foldl ContOps.setBit ws) fun x => p x || vs.contains x := by
  induction vs generalizing ws p with
  | nil => exact h.congr fun x => by simp
  | cons v t ih =>
    exact (ih (h.setBit (hv v (by simp))) fun u hu => hv u (by simp [hu])).congr fun x => by simp [Bool.or_assoc]

theorem WordsAre.clearBits {ws : List (BitVec 64)} {p : Nat → Bool} (h : WordsAre ws p) (vs : List Nat) :
    WordsAre (vs.foldl ContOps.clearBit ws) fun x => p x && !vs.contains x := by
  induction vs generalizing ws p with
  | nil => exact h.congr fun x => by simp
  | cons v t ih => exact (ih (h.clearBit v)).congr fun x => by simp [Bool.and_assoc]

theorem WordsAre.flipBits {ws : List (BitVec 64)} {p : Nat → Bool} (h : WordsAre ws p) {vs : List Nat}
    (hv : ∀ v ∈ vs, v < 65536) (hd : vs.Nodup) : WordsAre (vs.foldl ContOps.flipBit ws) fun x => p x ^^ vs.contains x := by
  induction vs generalizing ws p with
  | nil => exact h.congr fun x => by simp
  | cons v t ih =>
    have hd' := List.nodup_cons.mp hd
    refine (ih (h.flipBit (hv v (by simp))) (fun u hu => hv u (by simp [hu])) hd'.2).congr fun x => ?_
    by_cases hxv : x = v
    · subst hxv; simp [hd'.1]
    · simp [hxv]

theorem WordsAre.zipWith {a b : List (BitVec 64)} {p q : Nat → Bool} (ha : WordsAre a p)
    {f : BitVec 64 → BitVec 64 → BitVec 64} {g : Bool → Bool → Bool}
    (hfg : ∀ a b j, j < 64 → (f a b).getLsbD j = g (a.getLsbD j) (b.getLsbD j)) (hg : g false false = false)
    (hb : WordsAre b q) : WordsAre (List.zipWith f a b) fun x => g (p x) (q x) :=
  ⟨by simp [ha.len, hb.len], fun x => by rw [testBit_zipWith f g hfg hg a b (ha.len.trans hb.len.symm), ha.mem, hb.mem]⟩

theorem WordsAre.and {a b : List (BitVec 64)} {p q : Nat → Bool} (ha : WordsAre a p) (hb : WordsAre b q) :
    WordsAre (andW a b) fun x => p x && q x := ha.zipWith (by intros; simp) rfl hb
theorem WordsAre.or {a b : List (BitVec 64)} {p q : Nat → Bool} (ha : WordsAre a p) (hb : WordsAre b q) :
    WordsAre (orW a b) fun x => p x || q x := ha.zipWith (by intros; simp) rfl hb
theorem WordsAre.xor {a b : List (BitVec 64)} {p q : Nat → Bool} (ha : WordsAre a p) (hb : WordsAre b q) :
    WordsAre (xorW a b) fun x => p x ^^ q x := ha.zipWith (by intros; simp) rfl hb
theorem WordsAre.andNot {a b : List (BitVec 64)} {p q : Nat → Bool} (ha : WordsAre a p) (hb : WordsAre b q) :
    WordsAre (andNotW a b) fun x => p x && !q x := ha.zipWith (g := fun u v => u && !v) (by intro a b j hj; simp [hj]) rfl hb

theorem wordsAre_empty : WordsAre emptyWords fun _ => false := ⟨length_emptyWords, testBit_emptyWords⟩

theorem wordsAre_ofArr {vs : List Nat} (hv : ∀ v ∈ vs, v < 65536) : WordsAre (wordsOfArr vs) vs.contains :=
  (wordsAre_empty.setBits hv).congr fun _ => Bool.false_or _

/-! ### run lists as bitmap words -/

theorem getLsbD_rangeMask (base lo hi j : Nat) (hj : j < 64) :
    (rangeMask base lo hi).getLsbD j = (decide (lo ≤ base + j) && decide (base + j < hi)) := by
  unfold rangeMask
  split <;> rename_i hc
  · simp only [Bool.or_eq_true, decide_eq_true_eq] at hc
    rw [BitVec.getLsbD_zero, eq_comm, Bool.and_eq_false_iff, decide_eq_false_iff_not, decide_eq_false_iff_not]
    omega
  · simp only [Bool.or_eq_true, decide_eq_true_eq, not_or, Nat.not_le] at hc
    rw [Bool.eq_iff_iff]
    simp only [BitVec.getLsbD_and, BitVec.getLsbD_shiftLeft, BitVec.getLsbD_ushiftRight, BitVec.getLsbD_allOnes,
      Bool.and_eq_true, decide_eq_true_eq, Bool.not_eq_true', decide_eq_false_iff_not]
    constructor <;> intro h <;> omega

theorem getLsbD_foldl_rangeMask (base : Nat) (rs : List (Nat × Nat)) (w : BitVec 64) (j : Nat) (hj : j < 64) :
    (rs.foldl (fun w (p : Nat × Nat) => w ||| rangeMask base p.1 (p.1 + p.2 + 1)) w).getLsbD j =
      (w.getLsbD j || inRuns rs (base + j)) := by
  induction rs generalizing w with
  | nil => simp [inRuns]
  | cons p t ih =>
    simp only [List.foldl_cons]
    rw [ih, BitVec.getLsbD_or, getLsbD_rangeMask _ _ _ _ hj]
    obtain ⟨s, l⟩ := p
    simp only [inRuns, List.any_cons, Bool.or_assoc, Nat.lt_add_one_iff]

theorem testBit_wordsOfRuns (rs : List (Nat × Nat)) (x : Nat) :
    testBit (wordsOfRuns rs) x = (inRuns rs x && decide (x < 65536)) := by
  simp only [testBit, wordsOfRuns, List.getD_eq_getElem?_getD, List.getElem?_map]
  have hx : x % 64 < 64 := Nat.mod_lt _ (by omega)
  by_cases h : x < 65536
  · have h1 : x / 64 < 1024 := by omega
    rw [List.getElem?_range h1]
    simp only [Option.map_some, Option.getD_some, wordOfRuns]
    simpa [h, Nat.div_add_mod] using getLsbD_foldl_rangeMask (64 * (x / 64)) rs 0#64 (x % 64) hx
  · have : (List.range 1024)[x / 64]? = none := by simp; omega
    simp [this, h]

theorem length_wordsOfRuns (rs : List (Nat × Nat)) : (wordsOfRuns rs).length = 1024 := by
  simp [wordsOfRuns]

theorem wordsAre_ofRuns_lt (rs : List (Nat × Nat)) : WordsAre (wordsOfRuns rs) fun x => inRuns rs x && decide (x < 65536) :=
  ⟨length_wordsOfRuns rs, testBit_wordsOfRuns rs⟩

/-! ### `valsOfWords` (`fillArray`): the set bits, strictly increasing, `popcount` many -/

/-- the shortcut for a zero word changes nothing -/
theorem wordVals_eq (base : Nat) (w : BitVec 64) :
    wordVals base w = ((List.range 64).filter w.getLsbD).map (base + ·) := by
  unfold wordVals
  split <;> rename_i h
  · rw [show w = 0#64 by simpa using h, filter_getLsbD_zero, List.map_nil]
  · rfl

theorem mem_wordVals (base : Nat) (w : BitVec 64) (y : Nat) :
    y ∈ wordVals base w ↔ (base ≤ y ∧ y < base + 64 ∧ w.getLsbD (y - base) = true) := by
  simp only [wordVals_eq, List.mem_map, List.mem_filter, List.mem_range]
  constructor
  · rintro ⟨j, ⟨hj, hb⟩, rfl⟩
    refine ⟨by omega, by omega, ?_⟩
    rw [Nat.add_sub_cancel_left]; exact hb
  · rintro ⟨h1, h2, h3⟩
    exact ⟨y - base, ⟨by omega, h3⟩, by omega⟩

theorem sorted_wordVals (base : Nat) (w : BitVec 64) : (wordVals base w).Pairwise (· < ·) := by
  rw [wordVals_eq, List.pairwise_map]
  exact (List.pairwise_lt_range.filter _).imp (by intro a b h; omega)

theorem length_wordVals (base : Nat) (w : BitVec 64) : (wordVals base w).length = popcount w := by
  rw [wordVals_eq, List.length_map, popcount]

/-- one turn of the Go loops that take the set bits of a word from the lowest up (`t := w & -w`, …, `w ^= t`) -/
theorem wordVals_step (base : Nat) (w : BitVec 64) (h : w ≠ 0#64) :
    wordVals base w = (base + tz w) :: wordVals base (w ^^^ (w &&& -w)) := by
  obtain ⟨t1, t2, t3⟩ := tz_spec w h
  have hm : ∀ y, y ∈ wordVals base (w ^^^ (w &&& -w)) ↔ y ∈ wordVals base w ∧ y - base ≠ tz w := fun y => by
    simp only [mem_wordVals, getLsbD_clearLowest w h, Bool.and_eq_true, decide_eq_true_eq, and_assoc]
  refine sorted_ext _ _ (sorted_wordVals _ _) (List.pairwise_cons.mpr ⟨fun a ha => ?_, sorted_wordVals _ _⟩) fun x => ?_
  · obtain ⟨ha, hne⟩ := (hm a).mp ha
    obtain ⟨h1, -, h3⟩ := (mem_wordVals _ _ _).mp ha
    have : ¬ a - base < tz w := fun hc => by rw [t3 _ hc] at h3; cases h3
    omega
  · rw [List.mem_cons, hm]
    by_cases e : x = base + tz w
    · subst e
      exact iff_of_true
        ((mem_wordVals _ _ _).mpr ⟨by omega, by omega, by rw [Nat.add_sub_cancel_left]; exact t2⟩) (Or.inl rfl)
    · have : x ∈ wordVals base w → x - base ≠ tz w := fun hx => by
        have := (mem_wordVals _ _ _).mp hx; omega
      simp only [e, false_or]
      exact ⟨fun hx => ⟨hx, this hx⟩, And.left⟩

theorem mem_valsOfWordsFrom (base : Nat) (ws : List (BitVec 64)) (y : Nat) :
    y ∈ valsOfWordsFrom base ws ↔ (base ≤ y ∧ testBit ws (y - base) = true) := by
  induction ws generalizing base with
  | nil => simp [valsOfWordsFrom, testBit]
  | cons w t ih =>
    rw [valsOfWordsFrom, List.mem_append, mem_wordVals, ih, testBit_cons]
    by_cases h : y < base + 64
    · rw [if_pos (by omega)]
      exact ⟨fun h' => h'.elim (fun ⟨a, _, c⟩ => ⟨a, c⟩) (fun ⟨a, _⟩ => by omega), fun ⟨a, c⟩ => Or.inl ⟨a, h, c⟩⟩
    · rw [if_neg (by omega), show y - base - 64 = y - (base + 64) by omega]
      exact ⟨fun h' => h'.elim (fun ⟨_, a, _⟩ => by omega) (fun ⟨a, c⟩ => ⟨by omega, c⟩), fun ⟨a, c⟩ => Or.inr ⟨by omega, c⟩⟩

theorem sorted_valsOfWordsFrom (base : Nat) (ws : List (BitVec 64)) : (valsOfWordsFrom base ws).Pairwise (· < ·) := by
  induction ws generalizing base with
  | nil => simp [valsOfWordsFrom]
  | cons w t ih =>
    simp only [valsOfWordsFrom]
    rw [List.pairwise_append]
    refine ⟨sorted_wordVals _ _, ih _, ?_⟩
    intro a ha b hb
    have := (mem_wordVals _ _ _).mp ha
    have := (mem_valsOfWordsFrom _ _ _).mp hb
    omega

theorem length_valsOfWordsFrom (base : Nat) (ws : List (BitVec 64)) : (valsOfWordsFrom base ws).length = wordsCard ws := by
  induction ws generalizing base with
  | nil => simp [valsOfWordsFrom, wordsCard]
  | cons w t ih => simp [valsOfWordsFrom, wordsCard, length_wordVals, ih] at *

theorem valsOfWordsFrom_add (m : Nat) : ∀ (ws : List (BitVec 64)) (b : Nat),
    valsOfWordsFrom (m + b) ws = (valsOfWordsFrom b ws).map (m + ·)
  | [], _ => rfl
  | w :: t, b => by
    rw [valsOfWordsFrom, valsOfWordsFrom, List.map_append, Nat.add_assoc, valsOfWordsFrom_add m t, wordVals_eq, wordVals_eq,
      List.map_map]
    exact congrArg (· ++ _) (List.map_congr_left fun a _ => Nat.add_assoc m b a)

theorem mem_valsOfWords (ws : List (BitVec 64)) (y : Nat) : y ∈ valsOfWords ws ↔ testBit ws y = true := by
  simp [valsOfWords, mem_valsOfWordsFrom]

theorem contains_valsOfWords (ws : List (BitVec 64)) (y : Nat) : (valsOfWords ws).contains y = testBit ws y :=
  Bool.eq_iff_iff.mpr (List.contains_iff_mem.trans (mem_valsOfWords ws y))

theorem sorted_valsOfWords (ws : List (BitVec 64)) : (valsOfWords ws).Pairwise (· < ·) := sorted_valsOfWordsFrom 0 ws

theorem nodup_valsOfWords (ws : List (BitVec 64)) : (valsOfWords ws).Nodup := nodup_of_sorted (sorted_valsOfWords ws)

theorem length_valsOfWords (ws : List (BitVec 64)) : (valsOfWords ws).length = wordsCard ws := length_valsOfWordsFrom 0 ws

theorem lt_of_mem_valsOfWords (ws : List (BitVec 64)) (y : Nat) (h : y ∈ valsOfWords ws) : y < 64 * ws.length := by
  have := (mem_valsOfWords ws y).mp h
  by_cases hy : y < 64 * ws.length
  · exact hy
  · rw [testBit_of_ge ws y (by omega)] at this; simp at this

theorem valsOfWords_lt {ws : List (BitVec 64)} (hl : ws.length = 1024) {y : Nat} (hy : y ∈ valsOfWords ws) : y < 65536 := by
  have := lt_of_mem_valsOfWords ws y hy
  omega

/-! ### the population count -/

theorem wordsCard_nil : wordsCard [] = 0 := rfl

theorem wordsCard_cons (w : BitVec 64) (t : List (BitVec 64)) : wordsCard (w :: t) = popcount w + wordsCard t := by
  simp [wordsCard]

theorem wordsCard_append (a b : List (BitVec 64)) : wordsCard (a ++ b) = wordsCard a + wordsCard b := by
  simp [wordsCard]

theorem wordsCard_append_zeros (ws : List (BitVec 64)) (n : Nat) :
    wordsCard (ws ++ List.replicate n 0#64) = wordsCard ws := by
  unfold wordsCard
  rw [List.map_append, List.sum_append, List.map_replicate, popcount_zero]
  simp

theorem wordsCard_take_drop (ws : List (BitVec 64)) (a b : Nat) (hab : a ≤ b) :
    wordsCard ((ws.take b).drop a) + wordsCard (ws.take a) = wordsCard (ws.take b) := by
  have h := congrArg wordsCard (List.take_append_drop a (ws.take b))
  rwa [wordsCard_append, List.take_take, Nat.min_eq_left hab, Nat.add_comm] at h

theorem wordsCard_eq_cnt_of_le {ws : List (BitVec 64)} {n : Nat} (hn : 64 * ws.length ≤ n) :
    wordsCard ws = cnt (testBit ws) n :=
  ((cnt_eq_length (sorted_valsOfWords ws) n fun x =>
    ⟨fun h => ⟨Nat.lt_of_lt_of_le (lt_of_mem_valsOfWords ws x h) hn, (mem_valsOfWords ws x).mp h⟩,
      fun h => (mem_valsOfWords ws x).mpr h.2⟩).trans (length_valsOfWords ws)).symm

theorem wordsCard_eq_cnt (ws : List (BitVec 64)) : wordsCard ws = cnt (testBit ws) (64 * ws.length) :=
  wordsCard_eq_cnt_of_le (Nat.le_refl _)

theorem exists_testBit_of_card_pos {ws : List (BitVec 64)} (h : 0 < wordsCard ws) : ∃ x, testBit ws x = true := by
  rw [← length_valsOfWords] at h
  cases hv : valsOfWords ws with
  | nil => rw [hv] at h; simp at h
  | cons v t => exact ⟨v, (mem_valsOfWords ws v).mp (by rw [hv]; simp)⟩

theorem wordsCard_eq_length {ws : List (BitVec 64)} {l : List Nat} (hl : l.Nodup) (h : ∀ x, x ∈ l ↔ testBit ws x = true) :
    wordsCard ws = l.length := by
  rw [← length_valsOfWords]
  exact length_eq_of_mem_iff (nodup_valsOfWords ws) hl (fun a => by rw [mem_valsOfWords, h])

theorem wordsCard_mono {ws1 ws2 : List (BitVec 64)} (h : ∀ x, testBit ws1 x = true → testBit ws2 x = true) :
    wordsCard ws1 ≤ wordsCard ws2 := by
  rw [← length_valsOfWords, ← length_valsOfWords]
  exact (nodup_valsOfWords _).length_le_of_subset
    (fun a ha => (mem_valsOfWords _ _).mpr (h a ((mem_valsOfWords _ _).mp ha)))

theorem wordsCard_eq_count {ws : List (BitVec 64)} (hl : ws.length = 1024) :
    wordsCard ws = ((List.range 65536).filter (testBit ws)).length := by
  rw [wordsCard_eq_cnt_of_le (n := 65536) (Nat.le_of_eq (by rw [hl])), cnt]

theorem testBit_of_full (ws : List (BitVec 64)) (hl : ws.length = 1024) (hc : wordsCard ws = 65536) (x : Nat) :
    testBit ws x = decide (x < 65536) := by
  by_cases hx : x < 65536
  · rw [wordsCard_eq_cnt_of_le (n := 65536) (Nat.le_of_eq (by rw [hl]))] at hc
    rw [(cnt_eq_self_iff _ _).mp hc x hx, decide_eq_true hx]
  · rw [testBit_of_ge ws x (by omega)]; simp [hx]

theorem wordsCard_pos {ws : List (BitVec 64)} {y : Nat} (h : testBit ws y = true) : 0 < wordsCard ws := by
  rw [← length_valsOfWords]
  exact List.length_pos_of_mem ((mem_valsOfWords ws y).mpr h)

theorem testBit_false_of_card0 (ws : List (BitVec 64)) (h : wordsCard ws = 0) (y : Nat) : testBit ws y = false := by
  cases hy : testBit ws y
  · rfl
  · exact absurd (wordsCard_pos hy) (by omega)

theorem card_agree_outside {ws ws' : List (BitVec 64)} {ys : List Nat} (hnd : ys.Nodup)
    (h : ∀ x, x ∉ ys → testBit ws' x = testBit ws x) :
    wordsCard ws' + (ys.filter (testBit ws)).length = wordsCard ws + (ys.filter (testBit ws')).length := by
  have split : ∀ w : List (BitVec 64), wordsCard w =
      (ys.filter (testBit w)).length + ((valsOfWords w).filter fun x => !ys.contains x).length := fun w => by
    rw [← length_valsOfWords, length_filter_split _ (fun x => ys.contains x)]
    congr 1
    exact length_eq_of_mem_iff ((nodup_valsOfWords w).filter _) (hnd.filter _) fun a => by
      simp only [List.mem_filter, mem_valsOfWords, List.contains_eq_mem, decide_eq_true_eq, and_comm]
  have out : ((valsOfWords ws').filter fun x => !ys.contains x).length =
      ((valsOfWords ws).filter fun x => !ys.contains x).length :=
    length_eq_of_mem_iff ((nodup_valsOfWords _).filter _) ((nodup_valsOfWords _).filter _) fun a => by
      simp only [List.mem_filter, mem_valsOfWords, List.contains_eq_mem, Bool.not_eq_true', decide_eq_false_iff_not]
      exact ⟨fun ⟨h1, h2⟩ => ⟨(h a h2) ▸ h1, h2⟩, fun ⟨h1, h2⟩ => ⟨(h a h2).symm ▸ h1, h2⟩⟩
  rw [split ws, split ws', out]
  omega

/-! ### a word list combined with itself shifted by one word; a word list shifted by less than a word -/

/-- word `k` of the words `ws` combined pairwise with their predecessors (`p` before the first; a zero word appended) -/
theorem getD_zipWith_prev (f : BitVec 64 → BitVec 64 → BitVec 64) (hf : f 0#64 0#64 = 0#64) :
    ∀ (ws : List (BitVec 64)) (p : BitVec 64) (k : Nat),
      (List.zipWith f (ws ++ [0#64]) (p :: ws)).getD k 0#64 = f (ws.getD k 0#64) ((p :: ws).getD k 0#64)
  | [], _, 0 => rfl
  | [], _, k + 1 => by simp [hf]
  | _ :: _, _, 0 => rfl
  | w :: t, _, k + 1 => by simpa using getD_zipWith_prev f hf t w k

/-- the words `ws` shifted left by `i < 64` bits, the bits shifted out of a word going into the next -/
theorem testBit_shiftZip (ws : List (BitVec 64)) (i : Nat) (hi : i < 64) (x : Nat) :
    testBit (List.zipWith (fun (cur prev : BitVec 64) => (cur <<< i) ||| (prev >>> (64 - i))) (ws ++ [0#64]) (0#64 :: ws)) x
      = (decide (i ≤ x) && testBit ws (x - i)) := by
  obtain ⟨k, j, hj, rfl⟩ : ∃ k j, j < 64 ∧ x = 64 * k + j :=
    ⟨x / 64, x % 64, Nat.mod_lt _ (by omega), (Nat.div_add_mod x 64).symm⟩
  rw [testBit_mk _ k j hj, getD_zipWith_prev _ (by simp)]
  simp only [BitVec.getLsbD_or, BitVec.getLsbD_shiftLeft, BitVec.getLsbD_ushiftRight]
  by_cases h2 : j < i
  · -- the low `i` bits of a word come from the top of the word before it
    rw [decide_eq_true h2, Bool.not_true, Bool.and_false, Bool.false_and, Bool.false_or]
    cases k with
    | zero => rw [List.getD_cons_zero, decide_eq_false (by omega), BitVec.getLsbD_zero, Bool.false_and]
    | succ k =>
      rw [List.getD_cons_succ, decide_eq_true (by omega), Bool.true_and,
        show 64 * (k + 1) + j - i = 64 * k + (64 - i + j) by omega, testBit_mk _ _ _ (by omega)]
  · rw [BitVec.getLsbD_of_ge _ (64 - i + j) (by omega), Bool.or_false, decide_eq_true hj, decide_eq_false h2,
      decide_eq_true (by omega), show 64 * k + j - i = 64 * k + (j - i) by omega, testBit_mk _ _ _ (by omega)]
    rfl

end RModel.Impl
