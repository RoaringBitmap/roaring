import RProofs.Facts.Bits
import RModel.Impl.BSI
import RModel.Impl.BSI64Ops
import RProofs.BSIShared
/-!
Theorems about the plane-level model of `roaring64.BSI` (`RModel/Impl/BSI.lean`, and `SetBigMany` of `Impl/BSI64Ops.lean`).

For a column `c` the *column word* `col planes c : List Bool` lists the memberships of `c` in plane 0, 1, …, sign plane;
`dec` reads such a word as a two's complement number (LSB first, the last bit has weight `-2^(len-1)`), `encN` reads it as an
unsigned number.  `getValue b c = some (dec (col b.planes c))` for every column of the existence set (`getValue_eq`), and
everything else is phrased with `getValue` / `value`: under the invariant `WF` the index is the finite map of its `SetValue`s
(every integer is stored exactly, widening is sign extension, a fixed-width index reduces modulo `2^(BitCount+1)`); the write is
proved once, for `SetBigMany`, and `SetBigValue(c, v)` is `SetBigMany({c}, v)` (`setValue_eq_setMany`);
`ClearValues`, `NewBSIRetainSet` and `SumBigValues` act on that map; the plane descents of `CompareValue` (fast path) and
`MinMaxBig` compute the numeric order of the stored values, because flipping the sign bit turns the two's complement order
into the unsigned order of the words (`xt`).  A concrete index at the end is evaluated by the kernel.
`col`, `encN`, `Sub`/`Inside`, `Store` and the other notions that the 32-bit index uses as well stand in `RProofs/BSIShared.lean`, the
canonical finite sets `Good` in `RProofs/BSetQuery.lean`.
-/
open RModel.Util
namespace RModel.BSI
open RModel.BSet

/-! ### the two's complement reading of a column word -/

/-- two's complement reading, LSB first; the last bit is the sign -/
def dec : List Bool → Int
  | [] => 0
  | [s] => if s then -1 else 0
  | b :: q :: r => (if b then 1 else 0) + 2 * dec (q :: r)

def signBit (l : List Bool) : Bool := l.getLast?.getD false

theorem signBit_cons_cons (b q : Bool) (r : List Bool) : signBit (b :: q :: r) = signBit (q :: r) := by
  simp [signBit, List.getLast?_cons_cons]

theorem signBit_iff : ∀ (l : List Bool), l ≠ [] → (signBit l = true ↔ 2 ^ (l.length - 1) ≤ encN l)
  | [], h => by simp at h
  | [s], _ => by cases s <;> simp [signBit, encN]
  | b :: q :: r, _ => by
    rw [signBit_cons_cons, signBit_iff (q :: r) (by simp)]
    have := encN_lt (q :: r)
    simp only [List.length_cons, Nat.add_sub_cancel, Nat.pow_succ] at *
    rw [encN.eq_2 b]
    cases b <;> simp <;> omega

theorem dec_eq : ∀ (l : List Bool), l ≠ [] →
    dec l = (encN l : Int) - (if signBit l then (2 : Int) ^ l.length else 0)
  | [], h => by simp at h
  | [s], _ => by cases s <;> simp [signBit, encN, dec]
  | b :: q :: r, _ => by
    rw [signBit_cons_cons, dec, dec_eq (q :: r) (by simp)]
    rw [encN.eq_2 b, List.length_cons, Int.pow_succ]
    cases b <;> cases signBit (q :: r) <;> simp <;> omega

theorem word_int (l : List Bool) (W : Nat) (hl : l.length = W + 1) :
    (encN l : Int) < 2 * 2 ^ W ∧ (signBit l = true ↔ (2 : Int) ^ W ≤ encN l) ∧
      dec l = encN l - if signBit l then 2 * (2 : Int) ^ W else 0 := by
  have hne : l ≠ [] := by intro e; rw [e] at hl; cases hl
  have h1 := encN_lt l
  have h2 := signBit_iff l hne
  have h3 := dec_eq l hne
  rw [hl] at h1 h3
  rw [hl, Nat.add_sub_cancel] at h2
  have hp := Int.pow_succ' 2 W
  have hq := Facts.natCast_two_pow W
  have hq' := Facts.natCast_two_pow (W + 1)
  exact ⟨by omega, by rw [h2]; omega, by rw [h3, hp]⟩

theorem dec_range (l : List Bool) (h : l ≠ []) :
    -(2 : Int) ^ (l.length - 1) ≤ dec l ∧ dec l < (2 : Int) ^ (l.length - 1) := by
  obtain ⟨W, hW⟩ : ∃ W, l.length = W + 1 := ⟨l.length - 1, by have := List.length_pos_iff.mpr h; omega⟩
  obtain ⟨h1, h2, h3⟩ := word_int l W hW
  rw [hW, Nat.add_sub_cancel]
  cases hs : signBit l <;> simp only [hs, if_true, if_false, Bool.false_eq_true, false_iff, true_iff] at h2 h3 <;> omega

theorem dec_replicate (s : Bool) : ∀ (k : Nat), dec (List.replicate (k + 1) s) = if s then -1 else 0
  | 0 => rfl
  | k + 1 => by
    rw [List.replicate_succ, List.replicate_succ, dec, ← List.replicate_succ, dec_replicate s k]
    cases s <;> simp

/-! ### `GetBigValue` reads the two's complement column word -/

theorem orBits_eq (c : Nat) : ∀ (ps : List BSet) (i : Nat),
    orBits c ps i = (2 : Int) ^ i * (encN (col ps c) : Int)
  | [], i => by simp [orBits, encN]
  | p :: ps, i => by
    simp only [orBits, orBits_eq c ps (i + 1), col_cons, encN, Int.pow_succ]
    cases mem p c <;> simp <;> grind

theorem isNegative_eq (b : BSI) (c : Nat) : b.isNegative c = signBit (col b.planes c) := by
  simp only [isNegative, signBit, col, List.getLast?_map]
  cases b.planes.getLast? <;> simp

theorem bitLen_of_range (n k : Nat) (h1 : 2 ^ k ≤ n) (h2 : n < 2 ^ (k + 1)) : bitLen (n : Int) = k + 1 := by
  have hn : n ≠ 0 := by
    have := Nat.two_pow_pos k
    omega
  have : (n : Int) ≠ 0 := by omega
  simp only [bitLen, this, if_false, Int.natAbs_natCast]
  rw [(Nat.log2_eq_iff hn).mpr ⟨h1, h2⟩]

/-- Go's `negativeTwosComplementToInt` on a word whose sign bit is set subtracts `2^len`
(because then `val.BitLen() = len`). -/
theorem negTwos_eq (l : List Bool) (hl : l ≠ []) (hs : signBit l = true) :
    negativeTwosComplementToInt (encN l : Int) = (encN l : Int) - (2 : Int) ^ l.length := by
  have h1 := (signBit_iff l hl).mp hs
  have h2 := encN_lt l
  have hlen : l.length = (l.length - 1) + 1 := by
    have := List.length_pos_iff.mpr hl
    omega
  rw [hlen] at h2
  have := bitLen_of_range _ _ h1 h2
  simp only [negativeTwosComplementToInt, this, ← hlen]
  show -(((2 : Int) ^ l.length - 1 - (encN l : Int)) + 1) = _
  omega

/-- `GetBigValue`: existence test, then the two's complement value of the column word. -/
theorem getValue_eq (b : BSI) (c : Nat) :
    b.getValue c = if mem b.ebm c then some (dec (col b.planes c)) else none := by
  simp only [getValue]
  cases he : mem b.ebm c
  · simp
  · simp only [Bool.not_true, Bool.false_eq_true, if_false, if_true, isNegative_eq, orBits_eq,
      Int.pow_zero, Int.one_mul, Option.some.injEq]
    by_cases hl : col b.planes c = []
    · simp [hl, signBit, encN, dec]
    · rw [dec_eq _ hl]
      cases hs : signBit (col b.planes c)
      · simp
      · simp [negTwos_eq _ hl hs]

/-- the value stored for an existing column (junk `0` for absent columns) -/
def value (b : BSI) (c : Nat) : Int := (b.getValue c).getD 0

theorem value_eq (b : BSI) (c : Nat) (h : mem b.ebm c = true) : b.value c = dec (col b.planes c) := by
  simp [value, getValue_eq, h]

/-! ### the invariant -/

/-- `len`: there is at least the sign plane (`NewBSI` always allocates `≥ 1` plane) -/
structure WF (b : BSI) : Prop where
  ebm : Good b.ebm
  planes : ∀ p ∈ b.planes, Good p
  sub : ∀ p ∈ b.planes, ∀ x, mem p x = true → mem b.ebm x = true
  len : 1 ≤ b.planes.length

theorem WF.inside {b : BSI} (h : WF b) : Inside b.ebm b.planes := fun p hp => ⟨h.planes p hp, h.sub p hp⟩

theorem WF.sinc {b : BSI} (h : WF b) : ∀ p ∈ b.planes, SInc p :=
  fun p hp => (h.planes p hp).1

theorem wf_of_inside (b : BSI) (he : Good b.ebm) (h : Inside b.ebm b.planes) (hl : 1 ≤ b.planes.length) : WF b :=
  ⟨he, fun p hp => (h p hp).1, fun p hp => (h p hp).2, hl⟩

theorem wf_new (mx mn : Int) : WF (BSI.new mx mn) :=
  wf_of_inside _ good_nil (inside_replicate_nil _ _) (by simp only [BSI.new, List.length_replicate]; split <;> omega)

theorem planes_length (b : BSI) (hl : 1 ≤ b.planes.length) : b.planes.length = b.bitCount + 1 := by
  simp only [bitCount]; omega

theorem dec_absent (b : BSI) (h : WF b) (c : Nat) (hc : mem b.ebm c = false) : dec (col b.planes c) = 0 := by
  rw [col_absent _ _ h.inside c hc]
  obtain ⟨k, hk⟩ : ∃ k, b.planes.length = k + 1 := ⟨b.planes.length - 1, by have := h.len; omega⟩
  rw [hk, dec_replicate]; rfl

theorem value_eq_dec (b : BSI) (h : WF b) (c : Nat) : b.value c = dec (col b.planes c) := by
  cases hc : mem b.ebm c
  · rw [dec_absent b h c hc]
    simp [value, getValue_eq, hc]
  · exact value_eq b c hc

theorem col_ne_nil_of (ps : List BSet) (c : Nat) (h : 1 ≤ ps.length) : col ps c ≠ [] := by
  intro e
  have := congrArg List.length e
  simp only [col_length, List.length_nil] at this
  omega

theorem col_ne_nil (b : BSI) (h : WF b) (c : Nat) : col b.planes c ≠ [] := col_ne_nil_of _ c h.len

/-! ### two's complement bits of an integer -/

/-- `[v.Bit(i), v.Bit(i+1), …]`, `n` bits -/
def twosBits (v : Int) : Nat → Nat → List Bool
  | _, 0 => []
  | i, n + 1 => twosBit v i :: twosBits v (i + 1) n

theorem twosBit_succ (v : Int) (i : Nat) : twosBit v (i + 1) = twosBit (v / 2) i := by
  have : v / 2 / (2 : Int) ^ i = v / (2 : Int) ^ (i + 1) := by
    rw [Int.ediv_ediv, Int.pow_succ, Int.mul_comm]; simp
  simp only [twosBit, this]

theorem twosBits_succ (v : Int) : ∀ (n i : Nat), twosBits v (i + 1) n = twosBits (v / 2) i n
  | 0, _ => rfl
  | n + 1, i => by simp only [twosBits, twosBit_succ, twosBits_succ v n (i + 1)]

@[simp] theorem twosBits_length (v : Int) : ∀ (n i : Nat), (twosBits v i n).length = n
  | 0, _ => rfl
  | n + 1, i => by simp [twosBits, twosBits_length v n]

theorem dec_twosBits_congr : ∀ (n : Nat) (v : Int), ∃ q : Int, dec (twosBits v 0 (n + 1)) = v + q * (2 : Int) ^ (n + 1)
  | 0, v => by
    refine ⟨-(v / 2) - v % 2, ?_⟩
    have : v % 2 = 0 ∨ v % 2 = 1 := by omega
    rcases this with h | h <;> simp [twosBits, twosBit, dec, h] <;> omega
  | n + 1, v => by
    obtain ⟨q, hq⟩ := dec_twosBits_congr n (v / 2)
    refine ⟨q, ?_⟩
    rw [show twosBits v 0 (n + 1 + 1) = twosBit v 0 :: twosBits v 1 (n + 1) from rfl, twosBits_succ]
    rw [show twosBits (v / 2) 0 (n + 1) = twosBit (v / 2) 0 :: twosBits (v / 2) 1 n from rfl] at hq ⊢
    rw [dec, hq, Int.pow_succ (2 : Int) (n + 1)]
    simp only [twosBit, Int.pow_zero, Int.ediv_one]
    have : v % 2 = 0 ∨ v % 2 = 1 := by omega
    rcases this with h | h <;> simp [h] <;> grind

def Fits (v : Int) (bc : Nat) : Prop := -(2 : Int) ^ bc ≤ v ∧ v < (2 : Int) ^ bc

theorem fitsBitCount_iff (v : Int) (bc : Nat) : fitsBitCount v bc = true ↔ Fits v bc := by
  simp [fitsBitCount, Fits]

/-- an integer that fits `n` bits plus sign is read back from its `n + 1` two's complement bits: both numbers lie in
`[-2^n, 2^n)` and are congruent modulo `2^(n+1)` -/
theorem dec_twosBits (n : Nat) (v : Int) (h : Fits v n) : dec (twosBits v 0 (n + 1)) = v := by
  obtain ⟨h1, h2⟩ := h
  obtain ⟨q, hq⟩ := dec_twosBits_congr n v
  have hr := dec_range (twosBits v 0 (n + 1)) (List.ne_nil_of_length_eq_add_one (twosBits_length _ _ _))
  rw [twosBits_length, Nat.add_sub_cancel] at hr
  have e : dec (twosBits v 0 (n + 1)) % 2 ^ (n + 1) = v % 2 ^ (n + 1) := by rw [hq, Int.add_mul_emod_self_right]
  rw [Facts.emod_of_fits _ n hr.1 hr.2, Facts.emod_of_fits v n h1 h2] at e
  have hp := Int.pow_succ' 2 n
  split at e <;> split at e <;> omega

theorem natAbs_lt_bitLen (v : Int) : v.natAbs < 2 ^ bitLen v := by
  simp only [bitLen]
  split
  · simp [*]
  · exact Nat.lt_log2_self

theorem two_le_minBits (v : Int) : 2 ≤ minBits v := by
  simp only [minBits]; split <;> omega

theorem bitLen_lt_minBits (v : Int) : bitLen v < minBits v := by
  simp only [minBits]; split <;> omega

theorem fits_of_minBits (v : Int) (n : Nat) (h : minBits v ≤ n + 1) : Fits v n := by
  unfold Fits
  have h1 := natAbs_lt_bitLen v
  have h2 : 2 ^ bitLen v ≤ 2 ^ n := Nat.pow_le_pow_right (by decide) (by have := bitLen_lt_minBits v; omega)
  have h3 := Facts.natCast_two_pow n
  omega

/-! ### `SetBigMany`, and `SetBigValue` as the write to one column -/

theorem widen_length (ps : List BSet) (m : Nat) : (widen ps m).length = max ps.length m := by
  simp only [widen]
  split
  · simp; omega
  · omega

theorem widen_mem (ps : List BSet) (m : Nat) (q : BSet) (h : q ∈ widen ps m) :
    q ∈ ps ∨ q = union [] (ps.getLastD []) := by
  simp only [widen] at h
  split at h
  · rcases List.mem_append.mp h with h | h
    · exact Or.inl h
    · exact Or.inr (List.mem_replicate.mp h).2
  · exact Or.inl h

theorem getLastD_mem_or (ps : List BSet) : ps.getLastD [] ∈ ps ∨ ps.getLastD [] = [] := by
  cases ps with
  | nil => simp
  | cons a t =>
    left
    rw [List.getLastD_eq_getLast?]
    have := List.getLast?_eq_some_getLast (l := a :: t) (by simp)
    rw [this]
    exact List.getLast_mem _

theorem getLastD_of_forall (ps : List BSet) (P : BSet → Prop) (h : ∀ p ∈ ps, P p) (h0 : P []) : P (ps.getLastD []) := by
  rcases getLastD_mem_or ps with h' | h'
  · exact h _ h'
  · rw [h']; exact h0

theorem col_widen (ps : List BSet) (m : Nat) (c : Nat) (h : ∀ p ∈ ps, SInc p) :
    col (widen ps m) c = col ps c ++ List.replicate (max ps.length m - ps.length) (signBit (col ps c)) := by
  simp only [widen]
  split
  · rename_i hlt
    have hs := getLastD_of_forall ps SInc h List.Pairwise.nil
    have e : max ps.length m - ps.length = m - ps.length := by omega
    simp only [col, List.map_append, List.map_replicate, mem_union _ _ List.Pairwise.nil hs, mem_nil, Bool.false_or, e]
    congr 2
    simp only [signBit, List.getLast?_map, List.getLastD_eq_getLast?]
    cases ps.getLast? <;> simp
  · rename_i hge
    have : max ps.length m - ps.length = 0 := by omega
    simp [this]

theorem signBit_append_replicate (l : List Bool) (k : Nat) :
    signBit (l ++ List.replicate k (signBit l)) = signBit l := by
  cases k with
  | zero => simp
  | succ k =>
    simp only [signBit, List.getLast?_append, List.getLast?_replicate]
    simp

theorem dec_sign_extend : ∀ (l : List Bool) (k : Nat), l ≠ [] →
    dec (l ++ List.replicate k (signBit l)) = dec l
  | [], _, h => by simp at h
  | [s], k, _ => by
    have hs : signBit [s] = s := by simp [signBit]
    rw [hs, show [s] ++ List.replicate k s = List.replicate (k + 1) s from rfl, dec_replicate]
    rfl
  | b :: q :: r, k, _ => by
    rw [signBit_cons_cons, List.cons_append, List.cons_append, dec, ← List.cons_append,
      dec_sign_extend (q :: r) k (by simp), dec]

theorem inside_widen (E : BSet) (ps : List BSet) (m : Nat) (h : Inside E ps) : Inside E (widen ps m) := by
  intro p hp
  rcases widen_mem _ _ _ hp with h' | rfl
  · exact h p h'
  · exact sub_union _ _ _ (sub_nil E) (getLastD_of_forall ps (Sub E) h (sub_nil E))

theorem wf_widen (b : BSI) (h : WF b) (m : Nat) (p : BSet) (hp : p ∈ widen b.planes m) :
    Good p ∧ ∀ x, mem p x = true → mem b.ebm x = true :=
  inside_widen _ _ _ h.inside p hp

theorem WF.inside_union {b : BSI} (h : WF b) (f : BSet) (hf : Good f) :
    Inside (union b.ebm f) b.planes ∧ Sub (union b.ebm f) f :=
  ⟨inside_left_union _ _ _ h.ebm.1 hf.1 h.inside, sub_right_union _ _ f h.ebm.1 hf.1 (sub_refl f hf)⟩

theorem writeMany_eq (f : BSet) (v : Int) : ∀ (ps : List BSet) (i : Nat),
    writeMany f v ps i = ps.mapIdx (fun k p => if twosBit v (i + k) then union p f else diff p f) :=
  mapIdx_of_rec (writeMany f v) (fun k p => if twosBit v k then union p f else diff p f) (fun _ => rfl) (fun _ _ _ => rfl)

theorem inside_writeMany (E f : BSet) (hf : Sub E f) (v : Int) (ps : List BSet) (i : Nat) (h : Inside E ps) :
    Inside E (writeMany f v ps i) := by
  rw [writeMany_eq]
  exact inside_write E f hf _ ps h

theorem col_writeMany (f : BSet) (hf : Good f) (v : Int) (c : Nat) : ∀ (ps : List BSet) (i : Nat), (∀ p ∈ ps, Good p) →
    col (writeMany f v ps i) c = if mem f c then twosBits v i ps.length else col ps c
  | [], _, _ => by simp [writeMany, twosBits]
  | p :: ps, i, h => by
    have hp := h p (by simp)
    have ih := col_writeMany f hf v c ps (i + 1) (fun q hq => h q (by simp [hq]))
    simp only [writeMany, col_cons, ih, List.length_cons, twosBits]
    cases hm : mem f c <;> cases ht : twosBit v i <;>
      simp [mem_union _ _ hp.1 hf.1, mem_diff _ _ hp.1 hf.1, hm]

theorem wf_setMany (b : BSI) (h : WF b) (f : BSet) (hf : Good f) (v : Int) : WF (b.setMany f v) := by
  obtain ⟨hp, hs⟩ := h.inside_union f hf
  refine wf_of_inside (b.setMany f v) (good_union _ _ h.ebm hf) (inside_writeMany _ f hs v _ 0 (inside_widen _ _ _ hp)) ?_
  show 1 ≤ (writeMany f v (widen b.planes (minBits v)) 0).length
  rw [writeMany_eq, List.length_mapIdx, widen_length]
  have := h.len; omega

theorem wf_setManyFixed (b : BSI) (h : WF b) (f : BSet) (hf : Good f) (v : Int) : WF (b.setManyFixed f v) := by
  obtain ⟨hp, hs⟩ := h.inside_union f hf
  refine wf_of_inside (b.setManyFixed f v) (good_union _ _ h.ebm hf) (inside_writeMany _ f hs v _ 0 hp) ?_
  show 1 ≤ (writeMany f v b.planes 0).length
  rw [writeMany_eq, List.length_mapIdx]; exact h.len

/-- every column of the found set holds `v` (any integer, the index widens as needed); every other
column keeps its value (sign extension). -/
theorem get_setMany (b : BSI) (h : WF b) (f : BSet) (hf : Good f) (v : Int) (c : Nat) :
    (b.setMany f v).getValue c = if mem f c then some v else b.getValue c := by
  rw [getValue_eq]
  have he : mem (b.setMany f v).ebm c = (mem b.ebm c || mem f c) := mem_union _ _ h.ebm.1 hf.1 c
  have hcol : col (b.setMany f v).planes c =
      if mem f c then twosBits v 0 (widen b.planes (minBits v)).length else col (widen b.planes (minBits v)) c :=
    col_writeMany f hf v c _ 0 (fun p hp => (wf_widen b h _ p hp).1)
  rw [he, hcol]
  cases hm : mem f c
  · simp only [Bool.or_false, Bool.false_eq_true, if_false]
    rw [col_widen _ _ _ h.sinc, dec_sign_extend _ _ (col_ne_nil b h c), getValue_eq]
  · simp only [Bool.or_true, if_true, Option.some.injEq]
    rw [widen_length]
    have h2 := two_le_minBits v
    obtain ⟨n, hn⟩ : ∃ n, max b.planes.length (minBits v) = n + 1 := ⟨max b.planes.length (minBits v) - 1, by omega⟩
    rw [hn]
    rw [dec_twosBits n v (fits_of_minBits v n (by omega))]

/-- the fixed-width write: no widening, the columns of the found set get the low `BitCount + 1` two's complement bits of `v` -/
theorem get_setManyFixed (b : BSI) (h : WF b) (f : BSet) (hf : Good f) (v : Int) (c : Nat) :
    (b.setManyFixed f v).getValue c =
      if mem f c then some (dec (twosBits v 0 (b.bitCount + 1))) else b.getValue c := by
  rw [getValue_eq, getValue_eq]
  show (if mem (union b.ebm f) c = true then some (dec (col (writeMany f v b.planes 0) c)) else none) = _
  rw [mem_union _ _ h.ebm.1 hf.1, col_writeMany f hf v c _ 0 h.planes, planes_length b h.len]
  cases mem f c <;> simp

/-! `SetBigValue(c, v)` is `SetBigMany({c}, v)`: `Add` / `Remove` are `Or` / `AndNot` with the one-column set. -/

theorem writeBits_eq_writeMany (c : Nat) (v : Int) : ∀ (ps : List BSet) (i : Nat),
    writeBits c v ps i = writeMany (single c) v ps i
  | [], _ => rfl
  | p :: ps, i => by rw [writeBits, writeMany, writeBits_eq_writeMany c v ps]; rfl

@[simp] theorem writeBits_length (c : Nat) (v : Int) (ps : List BSet) (i : Nat) :
    (writeBits c v ps i).length = ps.length := by
  rw [writeBits_eq_writeMany, writeMany_eq, List.length_mapIdx]

theorem setValue_eq_setMany (b : BSI) (c : Nat) (v : Int) : b.setValue c v = b.setMany (single c) v := by
  rw [setValue, setMany, writeBits_eq_writeMany]; rfl

theorem setValueFixed_eq_setManyFixed (b : BSI) (c : Nat) (v : Int) :
    b.setValueFixed c v = b.setManyFixed (single c) v := by
  rw [setValueFixed, setManyFixed, writeBits_eq_writeMany]; rfl

theorem wf_setValue (b : BSI) (h : WF b) (c : Nat) (v : Int) : WF (b.setValue c v) :=
  setValue_eq_setMany b c v ▸ wf_setMany b h _ (good_single c) v

theorem wf_setValueFixed (b : BSI) (h : WF b) (c : Nat) (v : Int) : WF (b.setValueFixed c v) :=
  setValueFixed_eq_setManyFixed b c v ▸ wf_setManyFixed b h _ (good_single c) v

theorem exists_set (b : BSI) (h : WF b) (c c' : Nat) (v : Int) :
    mem (b.setValue c v).ebm c' = true ↔ c' = c ∨ mem b.ebm c' = true := by
  show mem (add b.ebm c) c' = true ↔ _
  rw [mem_add _ h.ebm.1]
  simp [Bool.or_eq_true, or_comm]

/-- an auto-sized index stores EVERY integer exactly. -/
theorem get_set_same (b : BSI) (h : WF b) (c : Nat) (v : Int) :
    (b.setValue c v).getValue c = some v := by
  rw [setValue_eq_setMany, get_setMany b h _ (good_single c), mem_single, decide_eq_true rfl, if_pos rfl]

/-- every other column keeps its value — also when the write widens the index
(sign extension) and when it overwrites with a narrower value. -/
theorem get_set_other (b : BSI) (h : WF b) (c c' : Nat) (hc : c' ≠ c) (v : Int) :
    (b.setValue c v).getValue c' = b.getValue c' := by
  rw [setValue_eq_setMany, get_setMany b h _ (good_single c), mem_single, decide_eq_false hc]; rfl

theorem get_setFixed_other (b : BSI) (h : WF b) (c c' : Nat) (hc : c' ≠ c) (v : Int) :
    (b.setValueFixed c v).getValue c' = b.getValue c' := by
  rw [setValueFixed_eq_setManyFixed, get_setManyFixed b h _ (good_single c), mem_single, decide_eq_false hc]; rfl

theorem get_setFixed_same_gen (b : BSI) (h : WF b) (c : Nat) (v : Int) :
    (b.setValueFixed c v).getValue c = some (dec (twosBits v 0 (b.bitCount + 1))) := by
  rw [setValueFixed_eq_setManyFixed, get_setManyFixed b h _ (good_single c), mem_single, decide_eq_true rfl, if_pos rfl]

/-- fixed-width variant: a value that fits `BitCount` is stored exactly … -/
theorem get_setFixed_same (b : BSI) (h : WF b) (c : Nat) (v : Int)
    (hv : -(2 : Int) ^ b.bitCount ≤ v ∧ v < (2 : Int) ^ b.bitCount) :
    (b.setValueFixed c v).getValue c = some v := by
  rw [get_setFixed_same_gen b h, dec_twosBits _ v hv]

/-- … and a value that does NOT fit is silently stored reduced modulo `2^(BitCount+1)` into the representable range (no
error, no widening). -/
theorem get_setFixed_wrap (b : BSI) (h : WF b) (c : Nat) (v : Int) :
    ∃ w q : Int, (b.setValueFixed c v).getValue c = some w ∧ w = v + q * (2 : Int) ^ (b.bitCount + 1) ∧
      -(2 : Int) ^ b.bitCount ≤ w ∧ w < (2 : Int) ^ b.bitCount := by
  obtain ⟨q, hq⟩ := dec_twosBits_congr b.bitCount v
  have hr := dec_range (twosBits v 0 (b.bitCount + 1)) (List.ne_nil_of_length_eq_add_one (twosBits_length _ _ _))
  rw [twosBits_length, Nat.add_sub_cancel] at hr
  exact ⟨_, q, get_setFixed_same_gen b h c v, hq, hr⟩

theorem two_le_planes_setValue (b : BSI) (c : Nat) (v : Int) : 2 ≤ (b.setValue c v).planes.length := by
  show 2 ≤ (writeBits c v (widen b.planes (minBits v)) 0).length
  rw [writeBits_length, widen_length]
  have := two_le_minBits v
  omega

/-! ### the index is the finite map of its updates -/

theorem getValue_new (mx mn : Int) (c : Nat) : (BSI.new mx mn).getValue c = none := by
  simp [getValue_eq, BSI.new]

/-- the 64-bit index as a store: every integer is admissible -/
def store : Store BSI where
  set := setValue
  get := getValue
  I := WF
  P := fun _ => True
  inv := fun b c v h => wf_setValue b h c v
  same := fun b c v h _ => get_set_same b h c v
  other := fun b c c' v h hc => get_set_other b h c c' hc v

/-- the index is the finite map of its updates: after any sequence of `SetValue`s on a fresh auto-sized index, `GetValue`
returns the last value written to the column, if any. -/
theorem get_foldl_setValue (us : List (Nat × Int)) (c : Nat) :
    (us.foldl (fun b (c, v) => b.setValue c v) (BSI.new 0 0)).getValue c = lastWrite us c none :=
  ((store.foldl_lastWrite us _ (wf_new 0 0)).2 (fun _ _ => trivial) c).trans (congrArg _ (getValue_new 0 0 c))

theorem wf_foldl_setValue (us : List (Nat × Int)) :
    WF (us.foldl (fun b (c, v) => b.setValue c v) (BSI.new 0 0)) :=
  (store.foldl_lastWrite us _ (wf_new 0 0)).1

/-! ### `ClearValues`, `NewBSIRetainSet` -/

theorem wf_clearValues (b : BSI) (h : WF b) (f : BSet) (hf : Good f) : WF (b.clearValues f) :=
  wf_of_inside _ (good_diff _ _ h.ebm hf) (inside_sweep _ _ rfl rfl (by decide) _ f _ h.ebm hf h.inside)
    (by simpa [clearValues] using h.len)

theorem wf_retainSet (b : BSI) (h : WF b) (f : BSet) (hf : Good f) : WF (b.retainSet f) :=
  wf_of_inside _ (good_inter _ _ h.ebm hf) (inside_sweep _ _ rfl rfl (by decide) _ f _ h.ebm hf h.inside)
    (by simpa [retainSet] using h.len)

/-- the cleared columns disappear, every other column keeps its value. -/
theorem get_clearValues (b : BSI) (h : WF b) (f : BSet) (hf : SInc f) (c : Nat) :
    (b.clearValues f).getValue c = if mem f c then none else b.getValue c := by
  rw [getValue_eq, getValue_eq]
  exact (view_map dec _ b.ebm b.planes c (!mem f c) (mem_diff _ _ h.ebm.1 hf c)
    (fun p hp => mem_diff _ _ (h.sinc p hp) hf c)).trans (by cases mem f c <;> rfl)

/-- exactly the columns of `f` survive, with their values (sign plane included). -/
theorem get_retainSet (b : BSI) (h : WF b) (f : BSet) (hf : SInc f) (c : Nat) :
    (b.retainSet f).getValue c = if mem f c then b.getValue c else none := by
  rw [getValue_eq, getValue_eq]
  exact view_map dec _ b.ebm b.planes c (mem f c) (mem_inter _ _ h.ebm.1 hf c)
    (fun p hp => mem_inter _ _ (h.sinc p hp) hf c)

/-! ### `SumBigValues` -/

/-- the weighted plane cardinalities add up to the sum of the two's complement column words -/
theorem sumLoop_eq (f e : BSet) (hf : Good f) (he : Good e) : ∀ (ps : List BSet) (i : Nat),
    Inside e ps →
    sumLoop f ps i = isum (toList (inter f e)) (fun c => (2 : Int) ^ i * dec (col ps c))
  | [], i, _ => by
    rw [sumLoop, isum_congr _ (fun c => (2 : Int) ^ i * dec (col [] c)) (fun _ => 0) (fun c _ => Int.mul_zero _), isum_zero]
  | [s], i, h => by
    have hs := h s (by simp)
    have hA := good_inter f e hf he
    have e1 : isum (toList (inter f e)) (fun c => dec (col [s] c)) =
        (-1) * isum (toList (inter f e)) (fun c => if mem s c then 1 else 0) := by
      rw [← isum_mul]; apply isum_congr; intro c _
      simp only [col_cons, col_nil, dec]
      cases mem s c <;> simp
    rw [sumLoop, ← inter_inter_sub f e s hf he hs.1 hs.2, card_inter_eq_countP _ _ hA hs.1, ← isum_ind,
      isum_mul, e1]
    grind
  | p :: q :: ps, i, h => by
    have hp := h p (by simp)
    have hA := good_inter f e hf he
    have ih := sumLoop_eq f e hf he (q :: ps) (i + 1) (fun r hr => h r (by simp [hr]))
    have e1 : isum (toList (inter f e)) (fun c => (2 : Int) ^ i * dec (col (p :: q :: ps) c)) =
        isum (toList (inter f e)) (fun c => (2 : Int) ^ i * (if mem p c then 1 else 0) +
          (2 : Int) ^ (i + 1) * dec (col (q :: ps) c)) := by
      apply isum_congr; intro c _
      rw [col_cons, col_cons, dec, ← col_cons, Int.pow_succ, Int.mul_add, Int.mul_assoc]
    rw [sumLoop, ih, e1, ← inter_inter_sub f e p hf he hp.1 hp.2, card_inter_eq_countP _ _ hA hp.1]
    simp only [isum_add, isum_mul, isum_ind]
    grind

/-- `SumBigValues(f)` is the sum of the stored values over the columns of `f` that exist. -/
theorem sum_spec (b : BSI) (h : WF b) (f : BSet) (hf : Good f) :
    b.sum f = ((toList (inter f b.ebm)).map (fun c => b.value c)).sum := by
  have := sumLoop_eq f b.ebm hf h.ebm b.planes 0 h.inside
  rw [sum, this]
  apply isum_congr
  intro c hc
  have hg := good_inter f b.ebm hf h.ebm
  rw [mem_toList _ hg.1 hg.2, mem_inter _ _ hf.1 h.ebm.1] at hc
  simp only [Bool.and_eq_true] at hc
  rw [value_eq b c hc.2]; simp

/-- `SumBigValues(nil)` sums every stored value -/
theorem sumAll_spec (b : BSI) (h : WF b) :
    b.sumAll = ((toList b.ebm).map (fun c => b.value c)).sum := by
  rw [sumAll, sum_spec b h b.ebm h.ebm, inter_eq_left _ _ h.ebm h.ebm (fun _ hx => hx)]

/-! ### `CompareValue`: the plane descent -/

/-- the sign-transformed unsigned encoding of column `c`: the column word with the sign bit flipped -/
def xt (b : BSI) (c : Nat) : Nat := encN (col b.planes c) ^^^ 2 ^ b.bitCount

theorem testBit_xt (b : BSI) (c i : Nat) :
    (b.xt c).testBit i = (mem (b.planes.getD i []) c ^^ decide (b.bitCount = i)) := by
  rw [xt, Nat.testBit_xor, Nat.testBit_two_pow, mem_plane]

theorem mem_planeChild (pre plane : BSet) (hp : SInc pre) (hq : SInc plane) (set : Bool) (c : Nat) :
    mem (planeChild pre plane set) c = (mem pre c && (mem plane c == set)) := by
  cases set <;> simp [planeChild, mem_inter _ _ hp hq, mem_diff _ _ hp hq]

theorem sinc_planeChild (pre plane : BSet) (hp : SInc pre) (hq : SInc plane) (set : Bool) :
    SInc (planeChild pre plane set) := by
  cases set <;> simp only [planeChild, inter, diff] <;> exact sinc_combine _ _ _ _ _ hp hq

theorem good_planeChild (pre plane : BSet) (hp : Good pre) (hq : Good plane) (set : Bool) :
    Good (planeChild pre plane set) := by
  cases set
  · exact good_diff _ _ hp hq
  · exact good_inter _ _ hp hq

theorem mem_transformedPlaneChild (b : BSI) (hb : ∀ p ∈ b.planes, SInc p) (pre : BSet) (hp : SInc pre)
    (i : Nat) (set : Bool) (c : Nat) :
    mem (b.transformedPlaneChild pre i set) c = (mem pre c && ((b.xt c).testBit i == set)) := by
  rw [transformedPlaneChild, mem_planeChild _ _ hp (sinc_getD _ hb i), testBit_xt]
  by_cases h : i = b.bitCount
  · subst h; cases set <;> cases mem (b.planes.getD b.bitCount []) c <;> simp
  · have h' : ¬ b.bitCount = i := fun e => h e.symm
    cases set <;> cases mem (b.planes.getD i []) c <;> simp [h, h']

theorem sinc_transformedPlaneChild (b : BSI) (hb : ∀ p ∈ b.planes, SInc p) (pre : BSet) (hp : SInc pre)
    (i : Nat) (set : Bool) : SInc (b.transformedPlaneChild pre i set) :=
  sinc_planeChild _ _ hp (sinc_getD _ hb i) _

/-- invariant of a plane descent that compares, column by column, the numbers `f c` and `g c` from the top bit down
(`compareInt64LessAndEqual`: `g` is the constant target; `compareBSILessAndEqual`: two indexes).  Before bit `i - 1` is
visited, `equalPrefix = s.2` / `less = s.1` hold the columns of `univ` where `f c` agrees with / is below `g c` on the
bits `≥ i`. -/
structure DescInv (f g : Nat → Nat) (univ : BSet) (i : Nat) (s : BSet × BSet) : Prop where
  s1 : SInc s.1
  s2 : SInc s.2
  less : ∀ c, mem s.1 c = true ↔ mem univ c = true ∧ f c / 2 ^ i < g c / 2 ^ i
  eq : ∀ c, mem s.2 c = true ↔ mem univ c = true ∧ f c / 2 ^ i = g c / 2 ^ i

theorem descInv_init (f g : Nat → Nat) (univ : BSet) (hu : SInc univ) (n : Nat) (hf : ∀ c, f c < 2 ^ n)
    (hg : ∀ c, g c < 2 ^ n) : DescInv f g univ n ([], univ) := by
  refine ⟨List.Pairwise.nil, hu, fun c => ?_, fun c => ?_⟩ <;>
    rw [Nat.div_eq_of_lt (hf c), Nat.div_eq_of_lt (hg c)] <;> simp

/-- one plane: `less` gains the columns of `equalPrefix` with bit `0` against `1`, `equalPrefix` keeps those whose bits agree -/
theorem descInv_step (f g : Nat → Nat) (univ : BSet) (i : Nat) (s s' : BSet × BSet) (h : DescInv f g univ (i + 1) s)
    (h1 : SInc s'.1) (h2 : SInc s'.2)
    (hl : ∀ c, mem s'.1 c = true ↔
      mem s.1 c = true ∨ (mem s.2 c = true ∧ (f c).testBit i = false ∧ (g c).testBit i = true))
    (he : ∀ c, mem s'.2 c = true ↔ mem s.2 c = true ∧ (f c).testBit i = (g c).testBit i) :
    DescInv f g univ i s' := by
  refine ⟨h1, h2, fun c => ?_, fun c => ?_⟩
  · rw [hl, h.less, h.eq, div_pow_lt_step (f c) (g c) i, and_assoc, ← and_or_left]
  · rw [he, h.eq, div_pow_eq_step (f c) (g c) i, and_assoc]

/-- once `equalPrefix` is empty the remaining planes cannot change anything (`break`) -/
theorem descInv_of_empty (f g : Nat → Nat) (univ : BSet) (i : Nat) (s : BSet × BSet)
    (h : DescInv f g univ i s) (he : s.2 = []) : DescInv f g univ 0 s := by
  have hne : ∀ c, mem univ c = true → f c / 2 ^ i ≠ g c / 2 ^ i := by
    intro c hu heq
    have := (h.eq c).mpr ⟨hu, heq⟩
    rw [he] at this; simp at this
  refine ⟨h.s1, h.s2, fun c => ?_, fun c => ?_⟩
  · rw [h.less c, Nat.pow_zero, Nat.div_one, Nat.div_one]
    exact and_congr_right fun hu => div_lt_iff_of_ne _ _ i (hne c hu)
  · rw [he]
    simp only [Nat.pow_zero, Nat.div_one, mem_nil, Bool.false_eq_true, false_iff]
    intro ⟨hu, heq⟩
    exact hne c hu (by rw [heq])

theorem descInv_compareStep (b : BSI) (hb : ∀ p ∈ b.planes, SInc p) (target : Nat) (univ : BSet) (i : Nat)
    (s : BSet × BSet) (h : DescInv b.xt (fun _ => target) univ (i + 1) s) :
    DescInv b.xt (fun _ => target) univ i (b.compareStep target i s) := by
  have hc := sinc_transformedPlaneChild b hb _ h.s2 i
  have hm := mem_transformedPlaneChild b hb _ h.s2 i
  simp only [compareStep]
  cases ht : target.testBit i
  · exact descInv_step _ _ univ i s _ h h.s1 (hc false) (fun c => by simp [ht]) (fun c => by simp [hm, ht])
  · exact descInv_step _ _ univ i s _ h (sinc_combine _ _ _ _ _ h.s1 (hc false)) (hc true)
      (fun c => by simp [mem_union _ _ h.s1 (hc false), hm, ht]) (fun c => by simp [hm, ht])

theorem descInv_compareLoop (b : BSI) (hb : ∀ p ∈ b.planes, SInc p) (target : Nat) (univ : BSet) :
    ∀ (i : Nat) (s : BSet × BSet), DescInv b.xt (fun _ => target) univ (i + 1) s →
      DescInv b.xt (fun _ => target) univ 0 (b.compareLoop target i s)
  | 0, s, h => descInv_compareStep b hb target univ 0 s h
  | i + 1, s, h => by
    have h' := descInv_compareStep b hb target univ (i + 1) s h
    simp only [compareLoop]
    split
    · rename_i he
      exact descInv_of_empty _ _ univ _ _ h' ((isEmpty_eq _).mp he)
    · exact descInv_compareLoop b hb target univ i _ h'

theorem xt_lt (b : BSI) (hl : 1 ≤ b.planes.length) (c : Nat) : b.xt c < 2 ^ (b.bitCount + 1) := by
  have h1 := encN_lt (col b.planes c)
  have hlen := planes_length b hl
  rw [col_length, hlen] at h1
  exact Nat.xor_lt_two_pow h1 (Nat.pow_lt_pow_right (by decide) (by omega))

/-- `compareInt64LessAndEqual` column by column (any plane count): `less` / `equal` are the columns
of the universe whose sign-transformed encoding is `<` / `=` the target. -/
theorem compareInt64LessAndEqual_spec (b : BSI) (hb : ∀ p ∈ b.planes, SInc p) (hl : 1 ≤ b.planes.length)
    (target : Nat) (ht : target < 2 ^ (b.bitCount + 1)) (univ : BSet) (hu : SInc univ) :
    SInc (b.compareInt64LessAndEqual target univ).1 ∧ SInc (b.compareInt64LessAndEqual target univ).2 ∧
    (∀ c, mem (b.compareInt64LessAndEqual target univ).1 c = true ↔ mem univ c = true ∧ b.xt c < target) ∧
    (∀ c, mem (b.compareInt64LessAndEqual target univ).2 c = true ↔ mem univ c = true ∧ b.xt c = target) := by
  have := descInv_compareLoop b hb target univ b.bitCount _
    (descInv_init _ _ univ hu _ (xt_lt b hl) (fun _ => ht))
  refine ⟨this.s1, this.s2, ?_, ?_⟩
  · intro c; simpa [compareInt64LessAndEqual] using this.less c
  · intro c; simpa [compareInt64LessAndEqual] using this.eq c

theorem encN_xor_eq (l : List Bool) (W : Nat) (hl : l.length = W + 1) :
    ((encN l ^^^ 2 ^ W : Nat) : Int) = dec l + (2 : Int) ^ W := by
  obtain ⟨h1, h2, h3⟩ := word_int l W hl
  have hq := Facts.natCast_two_pow W
  rw [nat_xor_two_pow _ _ (by rw [Nat.pow_succ]; omega), h3]
  cases hs : signBit l <;> simp only [hs, Bool.false_eq_true, false_iff, true_iff, if_true, if_false] at h2 ⊢ <;>
    split <;> omega

theorem xt_eq (b : BSI) (hl : 1 ≤ b.planes.length) (c : Nat) :
    (b.xt c : Int) = dec (col b.planes c) + (2 : Int) ^ b.bitCount :=
  encN_xor_eq _ _ (by rw [col_length, planes_length b hl])

theorem encodeValue_eq (k : Int) (bc : Nat) (h : Fits k bc) :
    (encodeValue k bc : Int) = if 0 ≤ k then k else k + (2 : Int) ^ (bc + 1) := by
  obtain ⟨h1, h2⟩ := h
  have hp := Int.pow_succ' 2 bc
  rw [encodeValue, Facts.emod_of_fits k bc h1 h2]
  split <;> omega

theorem encodeValue_lt (k : Int) (bc : Nat) : encodeValue k bc < 2 ^ (bc + 1) := by
  have hp := Facts.two_pow_pos' (bc + 1)
  have h1 := Int.emod_lt_of_pos k hp
  have h2 := Int.emod_nonneg k (Int.ne_of_gt hp)
  have h3 := Facts.natCast_two_pow (bc + 1)
  simp only [encodeValue]
  omega

theorem target_eq (k : Int) (bc : Nat) (h : Fits k bc) :
    (transformSigned (encodeValue k bc) bc : Int) = k + (2 : Int) ^ bc := by
  have he := encodeValue_eq k bc h
  obtain ⟨h1, h2⟩ := h
  have hlt := encodeValue_lt k bc
  have hp := Int.pow_succ' 2 bc
  have hq := Facts.natCast_two_pow bc
  rw [transformSigned, Nat.one_shiftLeft, nat_xor_two_pow _ _ hlt]
  split at he <;> split <;> omega

theorem target_lt (k : Int) (bc : Nat) : transformSigned (encodeValue k bc) bc < 2 ^ (bc + 1) := by
  rw [transformSigned, Nat.one_shiftLeft]
  exact Nat.xor_lt_two_pow (encodeValue_lt k bc) (Nat.pow_lt_pow_right (by decide) (by omega))

/-- for a constant that fits `BitCount`, `less` / `equal` are the
columns of the universe (⊆ existence set) whose stored value is `< k` / `= k`.  This is the statement "the plane
descent computes the numeric order of the two's complement values". -/
theorem compareLE_spec (b : BSI) (h : WF b) (k : Int)
    (hk : -(2 : Int) ^ b.bitCount ≤ k ∧ k < (2 : Int) ^ b.bitCount) (univ : BSet) (hu : SInc univ)
    (hsub : ∀ c, mem univ c = true → mem b.ebm c = true) :
    SInc (b.compareLE k univ).1 ∧ SInc (b.compareLE k univ).2 ∧
    (∀ c, mem (b.compareLE k univ).1 c = true ↔ mem univ c = true ∧ b.value c < k) ∧
    (∀ c, mem (b.compareLE k univ).2 c = true ↔ mem univ c = true ∧ b.value c = k) := by
  obtain ⟨a1, a2, a3, a4⟩ := compareInt64LessAndEqual_spec b h.sinc h.len _ (target_lt k b.bitCount) univ hu
  -- transformed encodings are the numbers shifted by `2^BitCount`
  have key : ∀ c, mem univ c = true →
      (b.xt c : Int) = b.value c + (2 : Int) ^ b.bitCount ∧
      (transformSigned (encodeValue k b.bitCount) b.bitCount : Int) = k + (2 : Int) ^ b.bitCount :=
    fun c hm => ⟨by rw [value_eq b c (hsub c hm)]; exact xt_eq b h.len c, target_eq k _ hk⟩
  refine ⟨a1, a2, fun c => ?_, fun c => ?_⟩
  · rw [compareLE, a3 c]
    exact and_congr_right fun hm => by have := key c hm; omega
  · rw [compareLE, a4 c]
    exact and_congr_right fun hm => by have := key c hm; omega

/-! ### the word of a column against the word of a constant -/

/-- a column word (sign bit `xNeg`) that compares as `o` with the word of a constant (sign bit `sNeg`) stands for a smaller
number: the word is smaller and the signs allow it, or the column is negative and the constant is not.  These are the
conditions under which `compareValue` sets `lt1` / `lt2` at the first plane where the words differ. -/
def ltF (sNeg xNeg : Bool) : Ordering → Bool
  | .lt => !sNeg || sNeg == xNeg
  | .eq => false
  | .gt => xNeg && !sNeg

/-- … for a larger number (`gt1`) -/
def gtF (sNeg xNeg : Bool) : Ordering → Bool
  | .lt => sNeg && !xNeg
  | .eq => false
  | .gt => sNeg || sNeg == xNeg

theorem ltF_compare (sNeg xNeg : Bool) (X S : Nat) : ltF sNeg xNeg (Ord.compare X S) =
    ((decide (X < S) && (!sNeg || sNeg == xNeg)) || (decide (S < X) && (xNeg && !sNeg))) := by
  rcases compare_cases X S with ⟨e, h⟩ | ⟨e, h⟩ | ⟨e, h⟩ <;> rw [e] <;> simp [ltF, h, Nat.lt_asymm, Nat.lt_irrefl]

theorem gtF_compare (sNeg xNeg : Bool) (X S : Nat) : gtF sNeg xNeg (Ord.compare X S) =
    ((decide (X < S) && (sNeg && !xNeg)) || (decide (S < X) && (sNeg || sNeg == xNeg))) := by
  rcases compare_cases X S with ⟨e, h⟩ | ⟨e, h⟩ | ⟨e, h⟩ <;> rw [e] <;> simp [gtF, h, Nat.lt_asymm, Nat.lt_irrefl]

/-- the unsigned words `X`, `S` of two numbers `v`, `k`, together with their sign bits, order like the numbers -/
def WordOrder (X S : Nat) (v k : Int) (xNeg sNeg : Bool) : Prop :=
  (X = S ↔ v = k) ∧ (xNeg = true ↔ v < 0) ∧ (sNeg = true ↔ k < 0) ∧
  (ltF sNeg xNeg (Ord.compare X S) = true ↔ v < k) ∧ (gtF sNeg xNeg (Ord.compare X S) = true ↔ k < v)

/-- `P = 2^BitCount`; `X` is a `BitCount+1`-bit word with sign bit `xNeg`, `S` the residue of `k` modulo `2P` -/
theorem wordOrder_of (P : Int) (X S : Nat) (v k : Int) (xNeg : Bool)
    (hX : (X : Int) < 2 * P) (hxn : xNeg = true ↔ P ≤ (X : Int)) (hv : v = (X : Int) - if xNeg then 2 * P else 0)
    (hS : (S : Int) = if 0 ≤ k then k else k + 2 * P) (hk : -P ≤ k ∧ k < P) :
    WordOrder X S v k xNeg (decide (k < 0)) := by
  unfold WordOrder
  -- four cases by the two signs; in each, every clause is a linear fact about `X`, `S`, `P`
  by_cases hl : k < 0 <;> cases xNeg <;> simp [ltF_compare, gtF_compare, hl] at hxn hv hS ⊢ <;> omega

theorem col_order (b : BSI) (h : WF b) (c : Nat) (k : Int) (hk : Fits k b.bitCount) :
    WordOrder (encN (col b.planes c)) (encodeValue k b.bitCount) (b.value c) k (b.isNegative c) (decide (k < 0)) := by
  obtain ⟨h1, h2, h3⟩ := word_int (col b.planes c) b.bitCount (by rw [col_length, planes_length b h.len])
  have hp := Int.pow_succ' 2 b.bitCount
  refine wordOrder_of ((2 : Int) ^ b.bitCount) _ _ _ k _ h1 ?_ ?_ ?_ hk
  · rw [isNegative_eq, h2]
  · rw [value_eq_dec b h c, h3, isNegative_eq]
  · rw [encodeValue_eq k _ hk, hp]

/-! ### the `EQ` path: `BatchEqual` with one value (`matchInt64Cube` / `matchInt64Trie`) -/

/-- the result loop of `matchInt64Cube`: the planes at the fixed (non-variable) bit positions are matched -/
theorem cubeLoopG_spec (ones var : Nat) : ∀ (ps : List BSet) (i : Nat) (r : BSet), Good r → (∀ p ∈ ps, Good p) →
    Good (cubeLoopG ones var ps i r) ∧
    ∀ c, mem (cubeLoopG ones var ps i r) c = true ↔
      mem r c = true ∧ ∀ j, j < ps.length → var.testBit (i + j) = false → mem (ps.getD j []) c = ones.testBit (i + j)
  | [], i, r, hr, _ => by simp [cubeLoopG, hr]
  | p :: ps, i, r, hr, hps => by
    have hp := hps p (by simp)
    have hrest : ∀ q ∈ ps, Good q := fun q hq => hps q (by simp [hq])
    -- the conditions on planes `1..` re-indexed
    have hshift : ∀ (c : Nat), (∀ j, j < (p :: ps).length → var.testBit (i + j) = false →
          mem ((p :: ps).getD j []) c = ones.testBit (i + j)) ↔
        ((var.testBit i = false → mem p c = ones.testBit i) ∧
          ∀ j, j < ps.length → var.testBit (i + 1 + j) = false → mem (ps.getD j []) c = ones.testBit (i + 1 + j)) := by
      intro c
      rw [List.length_cons, Nat.forall_lt_succ_left]
      simp only [Nat.add_zero, List.getD_cons_zero, List.getD_cons_succ, Nat.add_assoc, Nat.add_comm 1]
    simp only [cubeLoopG]
    split
    · rename_i hv
      have ih := cubeLoopG_spec ones var ps (i + 1) r hr hrest
      refine ⟨ih.1, fun c => ?_⟩
      rw [ih.2 c, hshift c]
      simp [hv]
    · rename_i hv
      have hv' : var.testBit i = false := by simpa using hv
      have hr' := good_planeChild r p hr hp (ones.testBit i)
      have hm : ∀ c, mem (planeChild r p (ones.testBit i)) c = true ↔
          mem r c = true ∧ (var.testBit i = false → mem p c = ones.testBit i) := fun c => by
        rw [mem_planeChild _ _ hr.1 hp.1]; simp [hv']
      have ih := cubeLoopG_spec ones var ps (i + 1) _ hr' hrest
      simp only [planeChild] at hr' hm ih
      generalize (if ones.testBit i = true then inter r p else diff r p) = R at hr' hm ih ⊢
      split
      · -- an empty result is returned at once: no column satisfies even the condition on this plane
        rename_i he
        refine ⟨hr', fun c => ?_⟩
        rw [hshift c, ← and_assoc, ← hm c, mem_of_isEmpty _ he c]
        simp
      · refine ⟨ih.1, fun c => ?_⟩
        rw [ih.2 c, hm c, hshift c, and_assoc]

/-- a single value has no variable bit -/
theorem cubeLoop_eq (enc : Nat) : ∀ (ps : List BSet) (i : Nat) (r : BSet), cubeLoop enc ps i r = cubeLoopG enc 0 ps i r
  | [], _, _ => rfl
  | p :: ps, i, r => by
    simp only [cubeLoop, cubeLoopG, Nat.zero_testBit, Bool.false_eq_true, if_false, cubeLoop_eq enc ps]

theorem trieLoop_spec (b : BSI) (hb : ∀ p ∈ b.planes, SInc p) (enc : Nat) : ∀ (n : Nat) (pre : BSet), SInc pre →
    SInc (b.trieLoop enc n pre) ∧
    ∀ c, mem (b.trieLoop enc n pre) c = true ↔
      mem pre c = true ∧ ∀ j, j < n → mem (b.planes.getD j []) c = enc.testBit j
  | 0, pre, hp => by simp [trieLoop, hp]
  | n + 1, pre, hp => by
    simp only [trieLoop]
    split
    · rename_i he
      exact ⟨List.Pairwise.nil, fun c => by simp [mem_of_isEmpty _ he c]⟩
    · have hq := sinc_getD _ hb n
      have ih := trieLoop_spec b hb enc n _ (sinc_planeChild pre _ hp hq (enc.testBit n))
      refine ⟨ih.1, ?_⟩
      intro c
      rw [ih.2 c, mem_planeChild _ _ hp hq, Nat.forall_lt_succ_right, Bool.and_eq_true, beq_iff_eq, and_assoc,
        and_comm (b := ∀ j, j < n → _)]

theorem planes_agree_iff (ps : List BSet) (c enc : Nat) (he : enc < 2 ^ ps.length) :
    (∀ j, j < ps.length → mem (ps.getD j []) c = enc.testBit j) ↔ encN (col ps c) = enc := by
  constructor
  · intro h
    apply Nat.eq_of_testBit_eq
    intro j
    by_cases hj : j < ps.length
    · rw [← mem_plane, h j hj]
    · have h1 := encN_lt (col ps c)
      rw [col_length] at h1
      have hle : 2 ^ ps.length ≤ 2 ^ j := Nat.pow_le_pow_right (by decide) (by omega)
      rw [Nat.testBit_lt_two_pow (by omega), Nat.testBit_lt_two_pow (by omega)]
  · intro h j _
    rw [mem_plane, h]

/-- `BatchEqual([v])` for a value that fits: the columns whose stored value is `v` -/
theorem batchEqual1_spec (b : BSI) (h : WF b) (k : Int)
    (hk : -(2 : Int) ^ b.bitCount ≤ k ∧ k < (2 : Int) ^ b.bitCount) :
    SInc (b.batchEqual1 k) ∧
    ∀ c, mem (b.batchEqual1 k) c = true ↔ mem b.ebm c = true ∧ b.value c = k := by
  have hlen := planes_length b h.len
  have key : ∀ c, (∀ j, j < b.planes.length → mem (b.planes.getD j []) c = (encodeValue k b.bitCount).testBit j) ↔
      b.value c = k := fun c =>
    (planes_agree_iff _ c _ (by rw [hlen]; exact encodeValue_lt k _)).trans (col_order b h c k hk).1
  simp only [batchEqual1]
  split
  · rename_i he
    exact ⟨List.Pairwise.nil, fun c => by simp [mem_of_isEmpty _ he c]⟩
  · split
    · have := cubeLoopG_spec (encodeValue k b.bitCount) 0 b.planes 0 b.ebm h.ebm h.planes
      rw [cubeLoop_eq]
      refine ⟨this.1.1, fun c => ?_⟩
      rw [this.2 c, ← key c]
      simp only [Nat.zero_testBit, forall_const, Nat.zero_add]
    · have := trieLoop_spec b h.sinc (encodeValue k b.bitCount) (b.bitCount + 1) b.ebm h.ebm.1
      refine ⟨this.1, fun c => ?_⟩
      rw [this.2 c, ← hlen, key c]

/-! ### `CompareValue` -/

def pred (op : Op) (v k k2 : Int) : Prop :=
  match op with
  | .LT => v < k
  | .LE => v ≤ k
  | .EQ => v = k
  | .GE => k ≤ v
  | .GT => k < v
  | .RANGE => k ≤ v ∧ v ≤ k2

/-- `foundSet == nil || foundSet.Contains(c)` -/
def inFound (found : Option BSet) (c : Nat) : Prop :=
  match found with
  | none => True
  | some f => mem f c = true

/-- every value fits `BitCount` by construction (no hypothesis on the stored values is needed below), the `0` of a
column without value included -/
theorem value_fits_all (b : BSI) (h : WF b) (c : Nat) : Fits (b.value c) b.bitCount := by
  rw [value_eq_dec b h c]
  simpa [Fits, bitCount] using dec_range _ (col_ne_nil b h c)

theorem value_fits (b : BSI) (h : WF b) (c : Nat) (hc : mem b.ebm c = true) : Fits (b.value c) b.bitCount := by
  rw [value_eq b c hc]
  simpa [Fits, bitCount] using dec_range _ (col_ne_nil b h c)

/-- the sign plane holds exactly the columns with a negative value -/
theorem isNegative_iff (b : BSI) (h : WF b) (c : Nat) : b.isNegative c = true ↔ b.value c < 0 :=
  (col_order b h c 0 (by have := Facts.two_pow_pos' b.bitCount; unfold Fits; omega)).2.1

/-- from the `less` and `equal` sets of a plane descent to the sets of `≤`, `≥`, `>` (`CompareValue`, `CompareBSI`) -/
theorem mem_of_less_equal (univ l e : BSet) (hu : SInc univ) (hl : SInc l) (he : SInc e) (v w : Int) (c : Nat)
    (h3 : mem l c = true ↔ mem univ c = true ∧ v < w) (h4 : mem e c = true ↔ mem univ c = true ∧ v = w) :
    (mem (union l e) c = true ↔ mem univ c = true ∧ v ≤ w) ∧
    (mem (diff univ l) c = true ↔ mem univ c = true ∧ w ≤ v) ∧
    (mem (diff univ (union l e)) c = true ↔ mem univ c = true ∧ w < v) := by
  have hle : SInc (union l e) := sinc_combine _ _ _ _ _ hl he
  rw [mem_diff _ _ hu hle, mem_diff _ _ hu hl, mem_union _ _ hl he]
  simp only [Bool.and_eq_true, Bool.or_eq_true, Bool.not_eq_true', ← Bool.not_eq_true, h3, h4]
  by_cases hU : mem univ c = true
  · simp only [hU, true_and]; omega
  · simp [hU]

/-- on its fast path (`BitCount ≤ 63`, constants fit `BitCount`) `CompareValue` returns exactly the
existing columns of the found set whose stored value satisfies the predicate. -/
theorem compare_spec (b : BSI) (h : WF b) (op : Op) (k k2 : Int) (found : Option BSet)
    (hf : ∀ f, found = some f → SInc f) (hbc : b.bitCount ≤ 63)
    (hk : Fits k b.bitCount) (hk2 : op = .RANGE → Fits k2 b.bitCount) (c : Nat) :
    mem (b.compare op k k2 found) c = true ↔
      mem b.ebm c = true ∧ inFound found c ∧ pred op (b.value c) k k2 := by
  have hnb : ¬ b.bitCount > 63 := by omega
  have hfk := (fitsBitCount_iff k b.bitCount).mpr hk
  have hU : SInc (b.cmpUniverse found) ∧
      ∀ x, mem (b.cmpUniverse found) x = true ↔ mem b.ebm x = true ∧ inFound found x := by
    cases found with
    | none => exact ⟨h.ebm.1, fun x => by simp [inFound, cmpUniverse]⟩
    | some f =>
      have hsf := hf f rfl
      exact ⟨sinc_combine _ _ _ _ _ h.ebm.1 hsf, fun x => by simp [inFound, cmpUniverse, mem_inter _ _ h.ebm.1 hsf]⟩
  generalize hdef : b.cmpUniverse found = univ at hU
  obtain ⟨hsu, hmu⟩ := hU
  have hsub : ∀ x, mem univ x = true → mem b.ebm x = true := fun x hx => ((hmu x).mp hx).1
  by_cases hop : op = .EQ
  · -- EQ: BatchEqual, then And(foundSet)
    subst hop
    obtain ⟨e1, e2⟩ := batchEqual1_spec b h k hk
    simp only [compare, compareInt64Value, hnb, hfk, pred]
    cases found with
    | none => simp [inFound, e2 c]
    | some f => simp [inFound, mem_inter _ _ e1 (hf f rfl), e2 c]; grind
  · have hfr : (decide (op = .RANGE) && !fitsBitCount k2 b.bitCount) = false := by
      by_cases e : op = .RANGE
      · simp [(fitsBitCount_iff k2 b.bitCount).mpr (hk2 e)]
      · simp [e]
    obtain ⟨l1, l2, l3, l4⟩ := compareLE_spec b h k hk univ hsu hsub
    simp only [compareLE] at l1 l2 l3 l4
    obtain ⟨m1, m2, m3⟩ := mem_of_less_equal univ _ _ hsu l1 l2 (b.value c) k c (l3 c) (l4 c)
    simp only [compare, compareInt64Value, hnb, hfk, hop, hfr, hdef, decide_false, Bool.not_true, Bool.or_self,
      Bool.false_eq_true, if_false]
    split
    · -- an empty universe is returned as it is
      rename_i he
      rw [Option.getD_some, ← and_assoc, ← hmu c, mem_of_isEmpty _ he c]
      simp
    · cases op <;> simp only [Option.getD_some, pred]
      · rw [l3 c, hmu c, and_assoc]
      · rw [m1, hmu c, and_assoc]
      · exact absurd rfl hop
      · rw [m2, hmu c, and_assoc]
      · rw [m3, hmu c, and_assoc]
      · split
        · rename_i hgt
          simp only [Option.getD_some, mem_nil, Bool.false_eq_true, false_iff]
          intro ⟨_, _, e⟩; omega
        · -- the second descent runs on the columns with `k ≤ value`
          have hsu' : SInc (diff univ _) := sinc_combine _ _ _ _ _ hsu l1
          obtain ⟨r1, r2, r3, r4⟩ := compareLE_spec b h k2 (hk2 rfl) _ hsu' (fun x hx => hsub x (by
            rw [mem_diff _ _ hsu l1] at hx; simp only [Bool.and_eq_true] at hx; exact hx.1))
          simp only [compareLE] at r1 r2 r3 r4
          rw [Option.getD_some, (mem_of_less_equal _ _ _ hsu' r1 r2 (b.value c) k2 c (r3 c) (r4 c)).1, m2, hmu c]
          simp only [and_assoc]

/-- when does the fast path answer?  Exactly when `BitCount ≤ 63`, the constant fits and (for RANGE) the end fits;
otherwise `compareInt64Value` returns `nil, false` and `CompareValue` takes the per-column big.Int path. -/
theorem compareInt64Value_isSome (b : BSI) (op : Op) (k k2 : Int) (found : Option BSet) :
    (b.compareInt64Value op k k2 found).isSome = true ↔
      b.bitCount ≤ 63 ∧ Fits k b.bitCount ∧ (op = .RANGE → Fits k2 b.bitCount) := by
  rw [← fitsBitCount_iff, ← fitsBitCount_iff, ← Nat.not_lt]
  simp only [compareInt64Value]
  generalize fitsBitCount k b.bitCount = fk
  generalize fitsBitCount k2 b.bitCount = fk2
  -- `none` is returned by the two guards only; behind them every branch of every operation is a `some`
  by_cases h1 : b.bitCount > 63
  · simp [h1]
  · cases fk
    · simp [h1]
    · cases op <;> cases fk2 <;> simp [h1] <;> (repeat' split) <;> simp

/-! ### `MinMaxBig` (plane descent) -/

/-- invariant of an extremum descent (`MinMaxBig`; MIN is `isMax = false`) before bit `i - 1` is visited: the candidates
are exactly the columns of `C0` whose key `f c` has the extreme bits `≥ i` -/
structure ExtInv (isMax : Bool) (f : Nat → Nat) (C0 : BSet) (i : Nat) (C : BSet) : Prop where
  good : Good C
  ne : ∃ c, mem C c = true
  char : ∃ m, (∀ c, mem C c = true ↔ mem C0 c = true ∧ f c / 2 ^ i = m) ∧
    ∀ c, mem C0 c = true → if isMax then f c / 2 ^ i ≤ m else m ≤ f c / 2 ^ i

/-- one step on bit `i`: keep the candidates with the wanted bit (`1` for MAX, `0` for MIN) if there are any, else keep all -/
theorem extInv_step (isMax : Bool) (f : Nat → Nat) (C0 C C' : BSet) (i : Nat) (h : ExtInv isMax f C0 (i + 1) C)
    (hg : Good C')
    (h0 : (∃ c, mem C c = true ∧ (f c).testBit i = isMax) →
      ∀ c, mem C' c = true ↔ mem C c = true ∧ (f c).testBit i = isMax)
    (h1 : (¬ ∃ c, mem C c = true ∧ (f c).testBit i = isMax) → ∀ c, mem C' c = true ↔ mem C c = true) :
    ExtInv isMax f C0 i C' := by
  obtain ⟨m, hm, hb⟩ := h.char
  have hX := fun c => div_pow_step (f c) i
  -- `w` is the bit kept: the wanted one if some candidate has it, else the other one, which all candidates have then
  obtain ⟨w, ha, hne, hw⟩ : ∃ w, (∀ c, mem C' c = true ↔ mem C c = true ∧ (f c).testBit i = w) ∧
      (∃ c, mem C' c = true) ∧ ∀ c, mem C c = true → (f c).testBit i = isMax → w = isMax := by
    by_cases hA : ∃ c, mem C c = true ∧ (f c).testBit i = isMax
    · obtain ⟨c0, hc0⟩ := hA
      exact ⟨isMax, h0 ⟨c0, hc0⟩, ⟨c0, (h0 ⟨c0, hc0⟩ c0).mpr hc0⟩, fun _ _ _ => rfl⟩
    · obtain ⟨c0, hc0⟩ := h.ne
      refine ⟨!isMax, fun c => ?_, ⟨c0, (h1 hA c0).mpr hc0⟩, fun c hc e => absurd ⟨c, hc, e⟩ hA⟩
      rw [h1 hA c]
      exact ⟨fun hc => ⟨hc, Bool.eq_not.mpr fun e => hA ⟨c, hc, e⟩⟩, fun hc => hc.1⟩
  refine ⟨hg, hne, 2 * m + w.toNat, fun c => ?_, fun c hc => ?_⟩
  · rw [ha c, hm c, hX c, and_assoc]
    refine and_congr_right fun _ => ?_
    cases (f c).testBit i <;> cases w <;> simp <;> omega
  · have hq := hb c hc
    rw [hX c]
    by_cases e : f c / 2 ^ (i + 1) = m
    · have := hw c ((hm c).mpr ⟨hc, e⟩)
      rw [e]
      revert this
      cases (f c).testBit i <;> cases isMax <;> cases w <;> simp
    · cases (f c).testBit i <;> cases isMax <;> cases w <;> simp at hq ⊢ <;> omega

/-- the choice made at every plane: the set `A` of the candidates with the wanted bit if it is not empty, else `B`, which
then holds all candidates -/
theorem extInv_pick (isMax : Bool) (f : Nat → Nat) (C0 C A B : BSet) (i : Nat) (h : ExtInv isMax f C0 (i + 1) C)
    (hA : Good A) (hB : Good B) (mA : ∀ c, mem A c = true ↔ mem C c = true ∧ (f c).testBit i = isMax)
    (mB : (∀ c, mem A c = false) → ∀ c, mem B c = true ↔ mem C c = true) :
    ExtInv isMax f C0 i (if !A.isEmpty then A else B) := by
  have hemp := isEmpty_iff _ hA.1 hA.2
  apply extInv_step isMax f C0 C _ i h (by split <;> assumption)
  · intro ⟨c0, hc0⟩ c
    simp only [isEmpty_of_mem A c0 ((mA c0).mpr hc0), Bool.not_false, if_true]
    exact mA c
  · intro hno c
    have hall : ∀ x, mem A x = false := by
      intro x
      cases hx : mem A x
      · rfl
      · exact absurd ⟨x, (mA x).mp hx⟩ hno
    simp only [hemp.mpr hall, Bool.not_true, Bool.false_eq_true, if_false]
    exact mB hall c

theorem extInv_plane (b : BSI) (h : WF b) (isMax : Bool) (C0 C : BSet) (n : Nat) (hn : n < b.bitCount)
    (hC : ExtInv isMax b.xt C0 (n + 1) C) :
    ExtInv isMax b.xt C0 n
      (if !(planeChild C (b.planes.getD n []) isMax).isEmpty then planeChild C (b.planes.getD n []) isMax
        else planeChild C (b.planes.getD n []) (!isMax)) := by
  have hp := good_getD b.planes h.planes n
  apply extInv_pick isMax b.xt C0 C _ _ n hC (good_planeChild _ _ hC.good hp _) (good_planeChild _ _ hC.good hp _)
  · intro c; rw [mem_planeChild _ _ hC.good.1 hp.1, testBit_xt]; simp [Nat.ne_of_gt hn]
  · intro hno c
    have := hno c
    rw [mem_planeChild _ _ hC.good.1 hp.1] at this ⊢
    revert this; cases mem C c <;> cases mem (b.planes.getD n []) c <;> cases isMax <;> simp

theorem minLoop_spec (b : BSI) (h : WF b) (C0 : BSet) : ∀ (n : Nat) (C : BSet), n ≤ b.bitCount →
    ExtInv false b.xt C0 n C → ExtInv false b.xt C0 0 (b.minLoop n C)
  | 0, _, _, hC => hC
  | n + 1, C, hn, hC => minLoop_spec b h C0 n _ (by omega) (extInv_plane b h false C0 C n (by omega) hC)

theorem maxLoop_spec (b : BSI) (h : WF b) (C0 : BSet) : ∀ (n : Nat) (C : BSet), n ≤ b.bitCount →
    ExtInv true b.xt C0 n C → ExtInv true b.xt C0 0 (b.maxLoop n C)
  | 0, _, _, hC => hC
  | n + 1, C, hn, hC => maxLoop_spec b h C0 n _ (by omega) (extInv_plane b h true C0 C n (by omega) hC)

/-- `minMaxBigByPlanes`: for a non-empty candidate set (⊆ existence set) the surviving candidates are exactly
the columns holding the minimum (resp. maximum) value, and there is at least one. -/
theorem minMaxCandidates_spec (b : BSI) (h : WF b) (isMax : Bool) (C0 : BSet) (hg : Good C0)
    (hne : ∃ c, mem C0 c = true) (hsub : ∀ c, mem C0 c = true → mem b.ebm c = true) :
    Good (b.minMaxCandidates isMax C0) ∧ (∃ c, mem (b.minMaxCandidates isMax C0) c = true) ∧
    ∀ c, mem (b.minMaxCandidates isMax C0) c = true ↔
      mem C0 c = true ∧ ∀ c', mem C0 c' = true →
        (if isMax then b.value c' ≤ b.value c else b.value c ≤ b.value c') := by
  have hp := good_getD b.planes h.planes b.bitCount
  have hxt : ∀ c, mem C0 c = true → (b.xt c : Int) = b.value c + (2 : Int) ^ b.bitCount := by
    intro c hc; rw [value_eq b c (hsub c hc)]; exact xt_eq b h.len c
  have init : ExtInv isMax b.xt C0 (b.bitCount + 1) C0 := by
    refine ⟨hg, hne, 0, fun c => ?_, fun c _ => ?_⟩ <;> rw [Nat.div_eq_of_lt (xt_lt b h.len c)] <;> simp
  -- the sign plane first (MIN prefers the negative columns, MAX the others), then the value planes
  have sign := extInv_pick isMax b.xt C0 C0 _ C0 b.bitCount init (good_planeChild C0 _ hg hp (!isMax)) hg
    (fun c => by rw [mem_planeChild _ _ hg.1 hp.1, testBit_xt]; cases isMax <;> simp) (fun _ _ => Iff.rfl)
  have fin : ExtInv isMax b.xt C0 0 (b.minMaxCandidates isMax C0) := by
    cases isMax
    · exact minLoop_spec b h C0 b.bitCount _ (Nat.le_refl _) sign
    · exact maxLoop_spec b h C0 b.bitCount _ (Nat.le_refl _) sign
  obtain ⟨m, hm, hb⟩ := fin.char
  simp only [Nat.pow_zero, Nat.div_one] at hm hb
  refine ⟨fin.good, fin.ne, fun c => ?_⟩
  rw [hm c]
  constructor
  · intro ⟨hc, e⟩
    refine ⟨hc, fun c' hc' => ?_⟩
    have := hb c' hc'; have := hxt c hc; have := hxt c' hc'
    cases isMax <;> simp only [Bool.false_eq_true, if_false, if_true] at * <;> omega
  · intro ⟨hc, hall⟩
    refine ⟨hc, ?_⟩
    obtain ⟨c1, hc1⟩ := fin.ne
    have e1 := (hm c1).mp hc1
    have := hall c1 e1.1; have := hb c hc; have := hxt c hc; have := hxt c1 e1.1
    cases isMax <;> simp only [Bool.false_eq_true, if_false, if_true] at * <;> omega

/-- `MinMaxBig` returns the sentinel on an empty candidate set, otherwise the value of a candidate
column that is a lower (MIN) / upper (MAX) bound of all candidate values. -/
theorem minMax_spec (b : BSI) (h : WF b) (isMax : Bool) (found : Option BSet) (hf : ∀ f, found = some f → Good f) :
    ((∀ c, mem (inter (found.getD b.ebm) b.ebm) c = false) →
      b.minMax isMax found = if isMax then -(2 : Int) ^ b.bitCount else (2 : Int) ^ b.bitCount - 1) ∧
    ((∃ c, mem (inter (found.getD b.ebm) b.ebm) c = true) →
      ∃ c0, mem (inter (found.getD b.ebm) b.ebm) c0 = true ∧ b.minMax isMax found = b.value c0 ∧
        ∀ c, mem (inter (found.getD b.ebm) b.ebm) c = true →
          (if isMax then b.value c ≤ b.value c0 else b.value c0 ≤ b.value c)) := by
  have hgf : Good (found.getD b.ebm) := found_getD _ h.ebm found hf
  have hg := good_inter _ _ hgf h.ebm
  have hemp := isEmpty_iff _ hg.1 hg.2
  constructor
  · intro hall
    simp only [minMax, hemp.mpr hall, if_true]
  · intro ⟨c1, hc1⟩
    have hne := isEmpty_of_mem _ c1 hc1
    have hsub : ∀ c, mem (inter (found.getD b.ebm) b.ebm) c = true → mem b.ebm c = true := by
      intro c hc
      rw [mem_inter _ _ hgf.1 h.ebm.1] at hc
      simp only [Bool.and_eq_true] at hc
      exact hc.2
    obtain ⟨g, ⟨c2, hc2⟩, hchar⟩ := minMaxCandidates_spec b h isMax _ hg ⟨c1, hc1⟩ hsub
    -- `Minimum()` of the surviving candidates is one of them
    cases hv : minimum (b.minMaxCandidates isMax (inter (found.getD b.ebm) b.ebm)) with
    | none =>
      have := (minimum_none _ g.1 g.2).mp hv c2
      rw [hc2] at this; cases this
    | some v =>
      have := (hchar v).mp ((minimum_some _ g.1 g.2 v).mp hv).1
      refine ⟨v, this.1, ?_, this.2⟩
      simp only [minMax, hne, Bool.false_eq_true, if_false, hv, Option.getD_some, value]

/-! ### non-vacuity: a concrete index -/

/-- values 5, −3, 70000 (forces a widening from 4 to 18 planes, sign-extending the stored −3), then column 1 is
overwritten by the narrower −1, column 9 holds 0 -/
def exIdx : BSI :=
  (((((BSI.new 0 0).setValue 1 5).setValue 2 (-3)).setValue 3 70000).setValue 1 (-1)).setValue 9 0

theorem wf_exIdx : WF exIdx := by
  unfold exIdx
  repeat apply wf_setValue
  exact wf_new 0 0

/-- the index plane by plane (`[1, 3]` = columns 1, 2; `[1, 4]` = columns 1, 2, 3), evaluated once -/
theorem exIdx_eq : exIdx =
    { planes := [[1, 3], [1, 2], [1, 3], [1, 3], [1, 4], [1, 4], [1, 4], [1, 3], [1, 4], [1, 3], [1, 3], [1, 3], [1, 4],
        [1, 3], [1, 3], [1, 3], [1, 4], [1, 3]],
      ebm := [1, 4, 9, 10] } := by
  decide +kernel

-- the widening really happened
example : ((BSI.new 0 0).setValue 1 5).planes.length = 4 ∧ (((BSI.new 0 0).setValue 1 5).setValue 2 (-3)).planes.length = 4 ∧
    exIdx.planes.length = 18 := by decide +kernel
-- values read back (computed by the model …
example : [1, 2, 3, 9, 4].map exIdx.getValue = [some (-1), some (-3), some 70000, some 0, none] := by
  rw [exIdx_eq]; decide +kernel
-- … and the same facts from the theorems)
example : exIdx.getValue 9 = some 0 :=
  get_set_same _ (wf_foldl_setValue [(1, 5), (2, -3), (3, 70000), (1, -1)]) 9 0
example : exIdx.getValue 1 = some (-1) :=
  get_foldl_setValue [(1, 5), (2, -3), (3, 70000), (1, -1), (9, 0)] 1
example (c : Nat) : mem (exIdx.compare .LT 0 0 none) c = true ↔ mem exIdx.ebm c = true ∧ exIdx.value c < 0 := by
  have := compare_spec exIdx wf_exIdx .LT 0 0 none (by simp) (by rw [exIdx_eq]; decide +kernel)
    ((fitsBitCount_iff _ _).mp (by rw [exIdx_eq]; decide +kernel)) (by simp) c
  simpa [inFound, pred] using this
-- comparisons: columns with value < 0, ≤ 0, = −3, ≥ −1, > −1, in [−3, 0]; a found set restricts the universe
example : exIdx.compare .LT 0 0 none = [1, 3] ∧ exIdx.compare .LE 0 0 none = [1, 3, 9, 10] ∧
    exIdx.compare .EQ (-3) 0 none = [2, 3] ∧ exIdx.compare .GE (-1) 0 none = [1, 2, 3, 4, 9, 10] ∧
    exIdx.compare .GT (-1) 0 none = [3, 4, 9, 10] ∧ exIdx.compare .RANGE (-3) 0 none = [1, 3, 9, 10] ∧
    exIdx.compare .RANGE (-3) 0 (some [2, 4, 9, 20]) = [2, 3, 9, 10] := by rw [exIdx_eq]; decide +kernel
-- a constant that does not fit BitCount = 17 makes the fast path decline
example : exIdx.compareInt64Value .LT 131072 0 none = none ∧ (exIdx.compareInt64Value .LT 131071 0 none).isSome = true := by
  rw [exIdx_eq]; decide +kernel
example : exIdx.sumAll = 69996 ∧ exIdx.sum [1, 3] = -4 ∧ exIdx.sum [3, 100] = 70000 := by
  rw [exIdx_eq]; decide +kernel
-- `count` of SumBigValues is |foundSet| (97 here), not the number of summed columns (1)
example : exIdx.sumBigValues (some [3, 100]) = (70000, 97) := by rw [exIdx_eq]; decide +kernel
example : [1, 2, 3].map (exIdx.clearValues [2, 3]).getValue = [some (-1), none, some 70000] ∧
    [1, 2, 3].map (exIdx.retainSet [2, 3]).getValue = [none, some (-3), none] := by
  rw [exIdx_eq]; decide +kernel
example : exIdx.minMax false none = -3 ∧ exIdx.minMax true none = 70000 ∧ exIdx.minMax true (some [1, 3]) = -1 := by
  rw [exIdx_eq]; decide +kernel
-- fixed width: `NewBSI(7, -8)` has 5 planes (BitCount 4) and stores −16 … 15; 25 is silently truncated to −7
example : ((BSI.new 7 (-8)).setValueFixed 0 25).getValue 0 = some (-7) ∧ (BSI.new 7 (-8)).bitCount = 4 := by decide +kernel

end RModel.BSI
