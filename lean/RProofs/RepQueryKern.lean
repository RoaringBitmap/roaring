import RProofs.ContQuery
import RProofs.RepQueryCard
import RProofs.IterCont
/-!
The container kernels of `RModel/Impl/RepQuery.lean`: `andCardinality`, `intersects`, `equals` (the Go algorithms of the 3×3
pairings) in membership (`Cont.has`) form and, from there, at set level.

* `intersects` on well-formed operands answers "the two containers have a common member" (the pairings with a bitmap or a
  run operand here; array × array is `arrIntersects` of `RepQueryCard.lean`);
* `Cont.equalsQ_has : a.wf → b.wf → (a.equalsQ b = true ↔ ∀ x, a.has x = b.has x)`: for the same kind the field-wise
  comparison — a well-formed container of a given kind is determined by its members (`sorted_ext`, `words_ext`, `runs_ext`);
  for mixed kinds the cardinality test gives equal lengths of the member lists and the lock-step iterator loop `iterEq` then
  decides equality of the two remaining lists (`iterEq_spec`);
* the dispatch over the pairings: `Cont.andCardinalityQ_has`, `Cont.intersectsQ_has`, `Cont.intersectsQ_eq_and2`, and the
  three answers at set level (`Cont.andCardinalityQ_spec`, `Cont.intersectsQ_spec`, `Cont.equalsQ_spec`).
-/
open RModel.Util
namespace RModel.Impl
open RModel RModel.BSet ContOps ContQuery RepQuery It

/-! ## `intersects` -/

/-! ### emptiness of the intersection container -/

theorem not_isEmptyGo_and2_iff (a b : Cont) (ha : a.wf = true) (hb : b.wf = true) :
    (!(a.and2 b).isEmptyGo) = true ↔ ∃ x, a.has x = true ∧ b.has x = true := by
  simp only [← Bool.and_eq_true, ← has_and2 a b ha hb]
  rcases emptyOrWf_and2 a b ha hb with ⟨he, hno⟩ | ⟨he, hw⟩
  · rw [he]
    exact ⟨fun h => (by cases h), fun ⟨x, hx⟩ => by rw [hno x] at hx; cases hx⟩
  · rw [he]
    exact ⟨fun _ => wf_has_member _ hw, fun _ => rfl⟩

/-! ### array × bitmap -/

theorem any_containsQ_iff (xs : List Nat) (c : Cont) (hc : c.wf = true) :
    xs.any c.containsQ = true ↔ ∃ x, (Cont.arr xs).has x = true ∧ c.has x = true := by
  simp only [List.any_eq_true, has_arr, List.contains_eq_mem, decide_eq_true_eq]
  exact exists_congr fun x => and_congr_right fun hx => by rw [has_contains c (wfQ_of_wf hc) x]

/-! ### bitmap × bitmap -/

theorem any_andW_iff {w1 w2 : List (BitVec 64)} (hl : w1.length = w2.length) :
    (andW w1 w2).any (· ≠ 0#64) = true ↔ ∃ x, testBit w1 x = true ∧ testBit w2 x = true := by
  rw [any_ne_zero_iff_testBit]
  simp only [testBit_andW w1 w2 hl, Bool.and_eq_true]

/-! ## `equals` -/

namespace RepQuery

/-! ### the lock-step loop -/

theorem iterEq_succ (fuel : Nat) (d o : CIt) :
    iterEq (fuel + 1) d o =
      if d.hasNext then (if o.next.1 != d.next.1 then false else iterEq fuel d.next.2 o.next.2) else true := rfl

theorem iterEq_spec : ∀ (fuel : Nat) (d o : CIt), d.Inv → o.Inv → d.rem.length = o.rem.length → d.rem.length ≤ fuel →
    iterEq fuel d o = decide (d.rem = o.rem)
  | 0, d, o, _, _, hl, hf => by
    have h1 : d.rem = [] := List.length_eq_zero_iff.mp (by omega)
    have h2 : o.rem = [] := List.length_eq_zero_iff.mp (by omega)
    rw [h1, h2]; rfl
  | fuel + 1, d, o, hd, ho, hl, hf => by
    rw [iterEq_succ]
    cases hr : d.rem with
    | nil =>
      have h2 : o.rem = [] := List.length_eq_zero_iff.mp (by rw [← hl, hr]; rfl)
      have : d.hasNext = false := by
        cases hh : d.hasNext
        · rfl
        · exact absurd hr ((CIt.hasNext_iff hd).mp hh)
      rw [this, h2]; rfl
    | cons v t =>
      cases hr' : o.rem with
      | nil => rw [hr, hr'] at hl; cases hl
      | cons v' t' =>
        have hh : d.hasNext = true := (CIt.hasNext_iff hd).mpr (by rw [hr]; simp)
        obtain ⟨d1, d2, d3⟩ := CIt.next_spec hd hr
        obtain ⟨o1, o2, o3⟩ := CIt.next_spec ho hr'
        rw [hr, hr'] at hl
        rw [hr] at hf
        simp only [List.length_cons] at hl hf
        rw [hh, if_pos rfl, d1, o1,
          iterEq_spec fuel d.next.2 o.next.2 d2 o2 (by rw [d3, o3]; omega) (by rw [d3]; omega), d3, o3]
        by_cases hv : v' = v
        · subst hv; simp
        · have hv' : ¬ v = v' := fun e => hv e.symm
          simp [hv, hv']

/-! ### member lists and cardinalities -/

theorem card_eq_length {c : Cont} (h : c.wf = true) : c.getCardinalityQ = ((valsOfCont c).length : Int) := by
  have e : cnt c.has 65536 = (valsOfCont c).length := by
    apply cnt_eq_length (sorted_valsOfCont h)
    intro x
    rw [mem_valsOfCont]
    constructor
    · intro hx; exact ⟨has_lt h hx, hx⟩
    · intro hx; exact hx.2
  rw [has_card c (wfQ_of_wf h), e]

theorem vals_eq_iff {a b : Cont} (ha : a.wf = true) (hb : b.wf = true) :
    valsOfCont a = valsOfCont b ↔ ∀ x, a.has x = b.has x := by
  constructor
  · intro h x
    rw [Bool.eq_iff_iff, ← mem_valsOfCont a x, ← mem_valsOfCont b x, h]
  · intro h
    apply sorted_ext _ _ (sorted_valsOfCont ha) (sorted_valsOfCont hb)
    intro x
    rw [mem_valsOfCont, mem_valsOfCont, h x]

/-- the generic comparison, `a` driving the loop: cardinalities, then the two iterators in lock step -/
theorem mixed_spec (a b : Cont) (ha : a.wf = true) (hb : b.wf = true) :
    (b.getCardinalityQ == a.getCardinalityQ && iterEq 65537 (CIt.ofCont a) (CIt.ofCont b)) = true ↔
      ∀ x, a.has x = b.has x := by
  obtain ⟨ia, ra⟩ := CIt.ofCont_spec ha
  obtain ⟨ib, rb⟩ := CIt.ofCont_spec hb
  have hle := length_valsOfCont_le ha
  rw [← vals_eq_iff ha hb, card_eq_length ha, card_eq_length hb, Bool.and_eq_true, beq_iff_eq]
  by_cases hl : (valsOfCont a).length = (valsOfCont b).length
  · rw [iterEq_spec 65537 _ _ ia ib (by rw [ra, rb]; exact hl) (by rw [ra]; omega), ra, rb, decide_eq_true_eq, hl]
    exact and_iff_right rfl
  · exact ⟨fun h => absurd (by have := h.1; omega) hl, fun h => absurd (by rw [h]) hl⟩

/-! ### word lists are determined by their bits -/

theorem words_ext {w1 w2 : List (BitVec 64)} (hl : w1.length = w2.length)
    (h : ∀ x, testBit w1 x = testBit w2 x) : w1 = w2 := by
  apply List.ext_getElem hl
  intro i h1 h2
  apply BitVec.eq_of_getLsbD_eq
  intro j hj
  have := h (64 * i + j)
  rw [testBit_word _ _ _ hj, testBit_word _ _ _ hj] at this
  simpa [word, List.getD_eq_getElem?_getD, h1, h2] using this

end RepQuery

/-! ### the pairings -/

/-- **`c.equals(o)` decides equality of the member sets** of well-formed containers, for all 3×3 pairings of kinds: the
ARRAY and RUN receivers drive the generic comparison themselves, the BITMAP receiver lets the other operand drive -/
theorem Cont.equalsQ_has (a b : Cont) (ha : a.wf = true) (hb : b.wf = true) :
    a.equalsQ b = true ↔ ∀ x, a.has x = b.has x := by
  have flip : ∀ {p q : Nat → Bool}, (∀ x, q x = p x) ↔ ∀ x, p x = q x := forall_congr' fun _ => eq_comm
  cases a with
  | arr xs =>
    cases b with
    | arr ys =>
      rw [← vals_eq_iff ha hb]
      simp only [Cont.equalsQ, beq_iff_eq, valsOfCont]
    | bmp c ws => exact mixed_spec _ _ ha hb
    | run rs => exact mixed_spec _ _ ha hb
  | bmp c ws =>
    cases b with
    | arr ys => exact (mixed_spec _ _ hb ha).trans flip
    | bmp c2 w2 =>
      obtain ⟨l1, k1, -⟩ := wf_bmp ha
      obtain ⟨l2, k2, -⟩ := wf_bmp hb
      simp only [Cont.equalsQ, Bool.and_eq_true, beq_iff_eq, Cont.has]
      refine ⟨fun ⟨_, h⟩ x => by rw [h], fun h => ?_⟩
      obtain rfl : ws = w2 := words_ext (by rw [l1, l2]) h
      exact ⟨by rw [k1, k2], rfl⟩
    | run rs => exact (mixed_spec _ _ hb ha).trans flip
  | run rs =>
    cases b with
    | arr ys => exact mixed_spec _ _ ha hb
    | bmp c ws => exact mixed_spec _ _ ha hb
    | run r2 =>
      simp only [Cont.equalsQ, beq_iff_eq, Cont.has]
      exact ⟨fun h x => by rw [h], runs_ext rs r2 (wf_run ha).sep (wf_run hb).sep⟩

/-! ## the dispatch -/

theorem Cont.andCardinalityQ_has (a b : Cont) (ha : a.wf = true) (hb : b.wf = true) :
    a.andCardinalityQ b = (cnt (fun x => a.has x && b.has x) 65536 : Int) := by
  cases a with
  | arr xs =>
    have hx := wf_arr ha
    cases b with
    | arr ys =>
      have hy := wf_arr hb
      simp only [Cont.andCardinalityQ, Cont.has]
      rw [arrAndCard_spec hx.sorted hy.sorted hx.bound]
    | bmp cd ws =>
      simp only [Cont.andCardinalityQ, Cont.has]
      rw [bmpArrCard_spec ws hx.sorted hx.bound]
    | run rs =>
      have hr := wf_run hb
      simp only [Cont.andCardinalityQ, Cont.has]
      rw [runArrCard_spec hr.sep hr.bound hx.sorted hx.bound, cnt_and_comm]
  | bmp cd ws =>
    have hw := wf_bmp ha
    cases b with
    | arr ys =>
      have hy := wf_arr hb
      simp only [Cont.andCardinalityQ, Cont.has]
      rw [bmpArrCard_spec ws hy.sorted hy.bound, cnt_and_comm]
    | bmp cd2 ws2 =>
      simp only [Cont.andCardinalityQ, Cont.has]
      rw [bmpBmpCard_spec ws ws2 hw.1 (wf_bmp hb).1]
    | run rs =>
      have hr := wf_run hb
      simp only [Cont.andCardinalityQ, Cont.has]
      rw [runBmpCard_spec ws hr.sep hr.bound, cnt_and_comm]
  | run rs =>
    have hr := wf_run ha
    cases b with
    | arr ys =>
      have hy := wf_arr hb
      simp only [Cont.andCardinalityQ, Cont.has]
      rw [runArrCard_spec hr.sep hr.bound hy.sorted hy.bound]
    | bmp cd ws =>
      simp only [Cont.andCardinalityQ, Cont.has]
      rw [runBmpCard_spec ws hr.sep hr.bound]
    | run rs2 =>
      have hr2 := wf_run hb
      simp only [Cont.andCardinalityQ, Cont.has]
      rw [rrCard_spec hr.sep hr.bound hr2.sep hr2.bound]

theorem Cont.intersectsQ_has (a b : Cont) (ha : a.wf = true) (hb : b.wf = true) :
    a.intersectsQ b = true ↔ ∃ x, a.has x = true ∧ b.has x = true := by
  have hswap : (∃ x, b.has x = true ∧ a.has x = true) ↔ ∃ x, a.has x = true ∧ b.has x = true :=
    exists_congr fun _ => and_comm
  cases a with
  | arr xs =>
    cases b with
    | arr ys => exact arrIntersects_spec (wf_arr ha).sorted (wf_arr hb).sorted
    | bmp c ws => exact any_containsQ_iff xs _ hb
    | run rs => exact (not_isEmptyGo_and2_iff _ _ hb ha).trans hswap
  | bmp c ws =>
    cases b with
    | arr ys => exact (any_containsQ_iff ys _ ha).trans hswap
    | bmp c2 w2 => exact any_andW_iff ((wf_bmp ha).1.trans (wf_bmp hb).1.symm)
    | run rs => exact (not_isEmptyGo_and2_iff _ _ hb ha).trans hswap
  | run rs => exact not_isEmptyGo_and2_iff _ _ ha hb

/-- on well-formed operands `intersects` is "the intersection container is not empty" for EVERY pairing -/
theorem Cont.intersectsQ_eq_and2 (a b : Cont) (ha : a.wf = true) (hb : b.wf = true) :
    a.intersectsQ b = !(a.and2 b).isEmptyGo := by
  rw [Bool.eq_iff_iff, Cont.intersectsQ_has a b ha hb, not_isEmptyGo_and2_iff a b ha hb]

/-! ## the same at set level: the verified `BSet` queries on the two abstractions -/

theorem RepQuery.inter_toBSet (a b : Cont) (ha : a.wf = true) (hb : b.wf = true) :
    Canon 65536 (BSet.inter (a.toBSet 0) (b.toBSet 0)) ∧
      ∀ x, mem (BSet.inter (a.toBSet 0) (b.toBSet 0)) x = (a.has x && b.has x) :=
  ⟨canon_inter 65536 _ _ (canon_toBSet ha) (canon_toBSet hb),
    fun x => by rw [mem_inter _ _ (sinc_toBSet a) (sinc_toBSet b), mem_toBSet, mem_toBSet]⟩

theorem Cont.andCardinalityQ_spec (a b : Cont) (ha : a.wf = true) (hb : b.wf = true) :
    a.andCardinalityQ b = (BSet.card (BSet.inter (a.toBSet 0) (b.toBSet 0)) : Int) := by
  obtain ⟨hc, hm⟩ := inter_toBSet a b ha hb
  exact glue_card hc hm (Cont.andCardinalityQ_has a b ha hb)

theorem Cont.intersectsQ_spec (a b : Cont) (ha : a.wf = true) (hb : b.wf = true) :
    a.intersectsQ b = !BSet.isEmpty (BSet.inter (a.toBSet 0) (b.toBSet 0)) := by
  obtain ⟨hc, hm⟩ := inter_toBSet a b ha hb
  rw [Bool.eq_iff_iff, Cont.intersectsQ_has a b ha hb, Bool.not_eq_true', ← Bool.not_eq_true,
    BSet.isEmpty_iff _ hc.1 hc.2.2]
  simp only [hm, Classical.not_forall, Bool.not_eq_false, Bool.and_eq_true]

theorem Cont.equalsQ_spec (a b : Cont) (ha : a.wf = true) (hb : b.wf = true) :
    a.equalsQ b = (a.toBSet 0 == b.toBSet 0) := by
  rw [Bool.eq_iff_iff, Cont.equalsQ_has a b ha hb, beq_iff_eq]
  constructor
  · intro hall
    exact canon_ext 65536 _ _ (canon_toBSet ha) (canon_toBSet hb) (fun x => by rw [mem_toBSet, mem_toBSet, hall x])
  · intro e x
    rw [← mem_toBSet, ← mem_toBSet, e]

end RModel.Impl
