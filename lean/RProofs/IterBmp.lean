import RProofs.Util.Nat
import RProofs.IterBase
import RProofs.ContQueryBmpScan
/-!
Iteration protocols: the BITMAP container iterators
(`bitmapContainerShortIterator`, `reverseBitmapContainerShortIterator`, `bitmapContainerManyIterator`).

Same interface as `ArrIt` (IterBase.lean) and `RunIt` (IterRun.lean): a state invariant `Inv`, the list `rem` of the
values still to be delivered, and what each method does to `rem`.  The forward and many-iterators keep a cursor and
`rem = remFrom (valsOfWords ws) cursor`; the reverse iterator has `rem = remBelow (valsOfWords ws) cursor`.  Every move of
the forward iterator is `i = NextSetBit(x)`, which leaves the members `≥ x` (`BmpIt.seek_spec`: the constructor is `x = 0`,
`next` is `x = i + 1`, `advanceIfNeeded` is `x = minval`); every move of the reverse iterator is `i = PrevSetBit(x)`, which
leaves the members `≤ x` (`BmpRevIt.seekBack_spec`).  The loop of the many-iterator is followed on `BmpManyIt.ahead`, the set bits of the cached word and then of the later words (`rem_eq_ahead`):
its steps are the defining equations of `valsOfWordsFrom` and `wordVals_step`, as for `ToArray`.
-/
open RModel.Util
namespace RModel.Impl.It
open RModel RModel.Impl RModel.Impl.ContOps RModel.Impl.ContQuery

/-- the cursor value of an answer of `NextSetBit` -/
def nextCursor (r : Int) : Nat := if r < 0 then 65536 else r.toNat

namespace BmpIt

/-- the cursor: the next set bit, 65536 when exhausted -/
def cursor (it : BmpIt) : Nat := if it.i < 0 then 65536 else it.i.toNat

def Inv (it : BmpIt) : Prop :=
  it.ws.length = 1024 ∧ (it.i = -1 ∨ (0 ≤ it.i ∧ it.i < 65536 ∧ testBit it.ws it.i.toNat = true))

def rem (it : BmpIt) : List Nat := remFrom (valsOfWords it.ws) it.cursor

theorem cursor_eq (it : BmpIt) : it.cursor = nextCursor it.i := rfl

/-- the state after `i = NextSetBit(x)`: the members `≥ x` remain -/
theorem seek_spec {ws : List (BitVec 64)} (hl : ws.length = 1024) (x : Nat) :
    (⟨ws, bmpNextSetBit ws x⟩ : BmpIt).Inv ∧ (⟨ws, bmpNextSetBit ws x⟩ : BmpIt).rem = remFrom (valsOfWords ws) x := by
  rcases bmpNextSetBit_spec ws x with ⟨v, hv, h1, h2, h3⟩ | ⟨hr, hnone⟩
  · -- a set bit `v ≥ x` with no set bit in between
    have hlt := testBit_lt hl h2
    rw [hv]
    refine ⟨⟨hl, Or.inr (show 0 ≤ (v : Int) ∧ (v : Int) < 65536 ∧ _ from ⟨by omega, by omega, by simpa using h2⟩)⟩, ?_⟩
    show remFrom _ (nextCursor v) = _
    rw [show nextCursor (v : Int) = v by unfold nextCursor; rw [if_neg (by omega)]; omega]
    refine remFrom_congr fun y hy => ⟨fun _ => by omega, fun hxy => ?_⟩
    rw [mem_valsOfWords] at hy
    exact Nat.le_of_not_lt fun hc => by rw [h3 y hxy hc] at hy; cases hy
  · rw [hr]
    refine ⟨⟨hl, Or.inl rfl⟩, ?_⟩
    show remFrom _ 65536 = _
    rw [remFrom_nil fun y hy => valsOfWords_lt hl hy, remFrom_nil]
    intro y hy
    rw [mem_valsOfWords] at hy
    exact Nat.lt_of_not_le fun hc => by rw [hnone y hc] at hy; cases hy

theorem init_spec (ws : List (BitVec 64)) (hl : ws.length = 1024) :
    (init ws).Inv ∧ (init ws).rem = valsOfWords ws ∧ (init ws).ws = ws :=
  ⟨(seek_spec hl 0).1, (seek_spec hl 0).2.trans (remFrom_zero _), rfl⟩

theorem rem_nil_of_neg {it : BmpIt} (hi : it.Inv) (h : it.i = -1) : it.rem = [] := by
  unfold rem cursor
  rw [if_pos (by omega)]
  exact remFrom_nil fun y hy => valsOfWords_lt hi.1 hy

theorem rem_of_nonneg {it : BmpIt} (hi : it.Inv) (h : it.i ≠ -1) :
    0 ≤ it.i ∧ it.i < 65536 ∧ it.cursor = it.i.toNat ∧
      it.rem = it.i.toNat :: remFrom (valsOfWords it.ws) (it.i.toNat + 1) := by
  rcases hi.2 with e | ⟨h0, h1, h2⟩
  · exact absurd e h
  · have hc : it.cursor = it.i.toNat := by unfold cursor; rw [if_neg (by omega)]
    refine ⟨h0, h1, hc, ?_⟩
    unfold rem
    rw [hc]
    exact remFrom_self (sorted_valsOfWords _) ((mem_valsOfWords _ _).mpr h2)

theorem hasNext_iff {it : BmpIt} (hi : it.Inv) : it.hasNext = true ↔ it.rem ≠ [] := by
  simp only [hasNext, decide_eq_true_eq]
  by_cases h : it.i = -1
  · rw [rem_nil_of_neg hi h, h]
    simp
  · obtain ⟨h0, _, _, hr⟩ := rem_of_nonneg hi h
    rw [hr]
    simp
    omega

theorem rem_cons {it : BmpIt} (hi : it.Inv) {v : Nat} {t : List Nat} (h : it.rem = v :: t) :
    0 ≤ it.i ∧ it.i < 65536 ∧ it.i.toNat = v ∧ t = remFrom (valsOfWords it.ws) (v + 1) := by
  by_cases hn : it.i = -1
  · rw [rem_nil_of_neg hi hn] at h; cases h
  · obtain ⟨h0, h1, _, hr⟩ := rem_of_nonneg hi hn
    rw [hr] at h
    injection h with e1 e2
    subst e1
    exact ⟨h0, h1, rfl, e2.symm⟩

theorem peekNext_eq {it : BmpIt} (h0 : 0 ≤ it.i) (h1 : it.i < 65536) : it.peekNext = it.i.toNat := by
  unfold peekNext
  rw [Int.emod_eq_of_lt h0 h1]

theorem peekNext_spec {it : BmpIt} (hi : it.Inv) {v : Nat} {t : List Nat} (h : it.rem = v :: t) : it.peekNext = v := by
  obtain ⟨h0, h1, h2, _⟩ := rem_cons hi h
  exact (peekNext_eq h0 h1).trans h2

theorem next_spec {it : BmpIt} (hi : it.Inv) {v : Nat} {t : List Nat} (h : it.rem = v :: t) :
    it.next.1 = v ∧ it.next.2.Inv ∧ it.next.2.rem = t ∧ it.next.2.ws = it.ws := by
  obtain ⟨h0, h1, h2, h3⟩ := rem_cons hi h
  have hs : uintSucc it.i = v + 1 := by unfold uintSucc; omega
  obtain ⟨s1, s2⟩ := seek_spec hi.1 (v + 1)
  unfold next
  rw [hs]
  exact ⟨(peekNext_eq h0 h1).trans h2, s1, s2.trans h3.symm, rfl⟩

theorem advanceIfNeeded_spec {it : BmpIt} (hi : it.Inv) (m : Nat) (hm : m < 65536) :
    (it.advanceIfNeeded m).Inv ∧ (it.advanceIfNeeded m).rem = it.rem.dropWhile (fun x => decide (x < m)) ∧
      (it.advanceIfNeeded m).ws = it.ws := by
  have _ := hm  -- the bound on `m` is not needed
  unfold advanceIfNeeded
  by_cases hn : it.i = -1
  · have hh : it.hasNext = false := by simp [hasNext, hn]
    rw [hh, Bool.false_and, if_neg Bool.false_ne_true, rem_nil_of_neg hi hn]
    exact ⟨hi, rfl, rfl⟩
  obtain ⟨h0, h1, hcur, hr⟩ := rem_of_nonneg hi hn
  have hh : it.hasNext = true := (hasNext_iff hi).mpr (by rw [hr]; exact List.cons_ne_nil _ _)
  rw [hh, Bool.true_and, peekNext_eq h0 h1]
  by_cases hlt : it.i.toNat < m
  · rw [if_pos (decide_eq_true hlt)]
    obtain ⟨s1, s2⟩ := seek_spec hi.1 m
    refine ⟨s1, s2.trans ?_, rfl⟩
    unfold rem
    rw [remFrom_dropWhile (sorted_valsOfWords _), hcur, Nat.max_eq_right (Nat.le_of_lt hlt)]
  · rw [if_neg (by simpa using hlt), hr, List.dropWhile_cons_of_neg (by simpa using hlt)]
    exact ⟨hi, rfl, rfl⟩

end BmpIt

/-- the cursor value of an answer of `PrevSetBit` / `maximum` -/
def prevCursor (r : Int) : Nat := if r < 0 then 0 else r.toNat + 1

namespace BmpRevIt

/-- the cursor: every member `< cursor` is still to be delivered (largest first) -/
def cursor (it : BmpRevIt) : Nat := if it.i < 0 then 0 else it.i.toNat + 1

def Inv (it : BmpRevIt) : Prop :=
  it.ws.length = 1024 ∧ (it.i = -1 ∨ (0 ≤ it.i ∧ it.i < 65536 ∧ testBit it.ws it.i.toNat = true))

/-- the values still to be delivered, ascending (they come out last first) -/
def rem (it : BmpRevIt) : List Nat := remBelow (valsOfWords it.ws) it.cursor

theorem cursor_eq (it : BmpRevIt) : it.cursor = prevCursor it.i := rfl

/-- the state after `i = PrevSetBit(x)`: the members `≤ x` remain -/
theorem seekBack_spec {ws : List (BitVec 64)} (hl : ws.length = 1024) (x : Nat) (hx : x < 65536) :
    (⟨ws, bmpPrevSetBit ws x⟩ : BmpRevIt).Inv ∧
      (⟨ws, bmpPrevSetBit ws x⟩ : BmpRevIt).rem = remBelow (valsOfWords ws) (x + 1) := by
  rcases bmpPrevSetBit_spec ws x (by omega) with ⟨v, hv, h1, h2, h3⟩ | ⟨hr, hnone⟩
  · -- a set bit `v ≤ x` with no set bit in between
    rw [hv]
    refine ⟨⟨hl, Or.inr (show 0 ≤ (v : Int) ∧ (v : Int) < 65536 ∧ _ from ⟨by omega, by omega, by simpa using h2⟩)⟩, ?_⟩
    show remBelow _ (prevCursor v) = _
    rw [show prevCursor (v : Int) = v + 1 by unfold prevCursor; rw [if_neg (by omega)]; omega]
    refine remBelow_congr fun y hy => ⟨fun _ => by omega, fun hxy => ?_⟩
    rw [mem_valsOfWords] at hy
    exact Nat.lt_succ_of_le (Nat.le_of_not_lt fun hc => by rw [h3 y hc (Nat.le_of_lt_succ hxy)] at hy; cases hy)
  · rw [hr]
    refine ⟨⟨hl, Or.inl rfl⟩, ?_⟩
    show remBelow _ 0 = _
    rw [remBelow_nil fun y _ => Nat.zero_le y, remBelow_nil]
    intro y hy
    rw [mem_valsOfWords] at hy
    exact Nat.succ_le_of_lt (Nat.lt_of_not_le fun hc => by rw [hnone y hc] at hy; cases hy)

/-- `card` is the cached cardinality field; for a well-formed container it is the popcount (> 0) -/
theorem init_spec (card : Int) (ws : List (BitVec 64)) (hl : ws.length = 1024) (hc : card = (wordsCard ws : Int)) :
    (init card ws).Inv ∧ (init card ws).rem = valsOfWords ws ∧ (init card ws).ws = ws := by
  unfold init
  by_cases hp : card > 0
  · rw [if_pos hp]
    obtain ⟨v, hv, h1, h2⟩ := bmpMax_spec ws hl (exists_testBit_of_card_pos (by omega))
    have hlt := testBit_lt hl h1
    refine ⟨⟨hl, Or.inr ?_⟩, ?_, rfl⟩
    · simp only [hv]
      exact ⟨by omega, by omega, by simpa using h1⟩
    simp only [rem, cursor, hv]
    rw [if_neg (by omega)]
    refine remBelow_all fun y hy => ?_
    rw [mem_valsOfWords] at hy
    exact Nat.lt_succ_of_le (Nat.le_of_not_lt fun hc' => by rw [h2 y hc'] at hy; cases hy)
  · rw [if_neg hp]
    refine ⟨⟨hl, Or.inl rfl⟩, ?_, rfl⟩
    show remBelow (valsOfWords ws) _ = valsOfWords ws
    rw [List.eq_nil_of_length_eq_zero (show (valsOfWords ws).length = 0 by rw [length_valsOfWords]; omega)]
    rfl

theorem rem_nil_of_neg {it : BmpRevIt} (h : it.i = -1) : it.rem = [] := by
  unfold rem cursor
  rw [if_pos (by omega)]
  apply remBelow_nil
  intro y _
  omega

theorem rem_of_nonneg {it : BmpRevIt} (hi : it.Inv) (h : it.i ≠ -1) :
    0 ≤ it.i ∧ it.i < 65536 ∧
      it.rem = remBelow (valsOfWords it.ws) it.i.toNat ++ [it.i.toNat] := by
  rcases hi.2 with e | ⟨h0, h1, h2⟩
  · exact absurd e h
  · have hc : it.cursor = it.i.toNat + 1 := by unfold cursor; rw [if_neg (by omega)]
    refine ⟨h0, h1, ?_⟩
    unfold rem
    rw [hc]
    exact remBelow_snoc (sorted_valsOfWords _) ((mem_valsOfWords _ _).mpr h2)

theorem hasNext_iff {it : BmpRevIt} (hi : it.Inv) : it.hasNext = true ↔ it.rem ≠ [] := by
  simp only [hasNext, decide_eq_true_eq]
  by_cases h : it.i = -1
  · rw [rem_nil_of_neg h, h]
    simp
  · obtain ⟨h0, _, hr⟩ := rem_of_nonneg hi h
    rw [hr]
    simp
    omega

theorem next_spec {it : BmpRevIt} (hi : it.Inv) {v : Nat} {t : List Nat} (h : it.rem = t ++ [v]) :
    it.next.1 = v ∧ it.next.2.Inv ∧ it.next.2.rem = t ∧ it.next.2.ws = it.ws := by
  have hn : it.i ≠ -1 := fun e => by
    rw [rem_nil_of_neg e] at h
    exact absurd (congrArg List.length h) (by simp)
  obtain ⟨h0, h1, hr⟩ := rem_of_nonneg hi hn
  rw [hr] at h
  obtain ⟨rfl, hv⟩ := List.append_inj' h rfl
  obtain rfl : it.i.toNat = v := (List.cons.inj hv).1
  refine ⟨by simp only [next, Int.emod_eq_of_lt h0 h1], ?_⟩
  simp only [next, prevSetBit, rem, cursor_eq]
  by_cases hz : it.i - 1 < 0
  · rw [if_pos hz, show it.i.toNat = 0 by omega]
    exact ⟨⟨hi.1, Or.inl rfl⟩, rfl, trivial⟩
  · rw [if_neg hz]
    obtain ⟨s1, s2⟩ := seekBack_spec hi.1 (it.i - 1).toNat (by omega)
    refine ⟨s1, s2.trans ?_, trivial⟩
    congr 1
    omega

end BmpRevIt

namespace BmpManyIt

/-- the cursor of `(base, bitset)`: the lowest set bit of the cached word, else the start of the next word -/
def cursor (it : BmpManyIt) : Nat :=
  if it.bitset = 0#64 then it.baseP * 64 else (it.baseP - 1) * 64 + tz it.bitset

/-- the cached word holds exactly the not-yet-delivered bits of word `base`: bits of `ws[base]` from some position on -/
def Inv (it : BmpManyIt) : Prop :=
  it.ws.length = 1024 ∧
    (it.bitset = 0#64 ∨
      (0 < it.baseP ∧ it.baseP ≤ 1024 ∧
        ∃ k, k < 64 ∧ ∀ j, j < 64 → it.bitset.getLsbD j = (decide (k ≤ j) && (it.ws.getD (it.baseP - 1) 0#64).getLsbD j)))

def rem (it : BmpManyIt) : List Nat := remFrom (valsOfWords it.ws) it.cursor

theorem init_spec (ws : List (BitVec 64)) (hl : ws.length = 1024) :
    let it : BmpManyIt := { ws := ws, baseP := 0, bitset := 0#64 }
    it.Inv ∧ it.rem = valsOfWords ws := by
  refine ⟨⟨hl, Or.inl rfl⟩, ?_⟩
  simp only [rem, cursor]
  exact remFrom_zero _

/-- what remains, read off the state `(base, bitset)`: the set bits of the cached word, then those of the words not yet fetched -/
def ahead (ws : List (BitVec 64)) (b : Nat) (w : BitVec 64) : List Nat :=
  wordVals ((b - 1) * 64) w ++ valsOfWordsFrom (b * 64) (ws.drop b)

theorem ahead_end (ws : List (BitVec 64)) (b : Nat) (hb : ws.length ≤ b) : ahead ws b 0#64 = [] := by
  rw [ahead, List.drop_of_length_le hb]
  rfl

/-- `base++` onto a word of the bitmap: the next word is cached, nothing is skipped -/
theorem ahead_fetch (ws : List (BitVec 64)) (b : Nat) (hb : b < ws.length) :
    ahead ws b 0#64 = ahead ws (b + 1) (ws.getD b 0#64) := by
  rw [ahead, ahead, List.drop_eq_getElem_cons hb, valsOfWordsFrom, Nat.add_sub_cancel, Nat.add_mul, Nat.one_mul,
    List.getD_eq_getElem?_getD, List.getElem?_eq_getElem hb]
  rfl

theorem ahead_extract (ws : List (BitVec 64)) (b : Nat) (w : BitVec 64) (hw : w ≠ 0#64) :
    ahead ws b w = ((b - 1) * 64 + tz w) :: ahead ws b (w ^^^ (w &&& -w)) := by
  rw [ahead, ahead, wordVals_step _ w hw, List.cons_append]

/-- the cursor form of what remains is the positional one -/
theorem rem_eq_ahead {it : BmpManyIt} (hi : it.Inv) : it.rem = ahead it.ws it.baseP it.bitset := by
  obtain ⟨ws, b, w⟩ := it
  obtain ⟨-, hr⟩ := hi
  simp only [] at hr ⊢
  have hb : w ≠ 0#64 → 0 < b := fun hw => hr.elim (fun e => absurd e hw) (·.1)
  refine sorted_ext _ _ (sorted_remFrom (sorted_valsOfWords _) _) ?_ fun x => ?_
  · refine List.pairwise_append.mpr ⟨sorted_wordVals _ _, sorted_valsOfWordsFrom _ _, fun a ha c hc => ?_⟩
    obtain ⟨-, h1, h3⟩ := (mem_wordVals _ _ _).mp ha
    obtain ⟨h2, -⟩ := (mem_valsOfWordsFrom _ _ _).mp hc
    have := hb fun e => by rw [e, BitVec.getLsbD_zero] at h3; cases h3
    omega
  simp only [rem, ahead, cursor, mem_remFrom, mem_valsOfWords, List.mem_append, mem_wordVals, mem_valsOfWordsFrom, testBit_drop]
  by_cases hw : w = 0#64
  · subst hw
    simp only [if_true, BitVec.getLsbD_zero, Bool.false_eq_true, and_false, false_or]
    exact ⟨fun ⟨h1, h2⟩ => ⟨h2, by rwa [show x - b * 64 + 64 * b = x by omega]⟩,
      fun ⟨h1, h2⟩ => ⟨by rwa [show x - b * 64 + 64 * b = x by omega] at h2, h1⟩⟩
  rcases hr with e | ⟨hb0, -, k, -, hbits⟩
  · exact absurd e hw
  obtain ⟨b, rfl⟩ : ∃ b', b = b' + 1 := ⟨b - 1, (Nat.sub_add_cancel hb0).symm⟩
  obtain ⟨t1, t2, t3⟩ := tz_spec w hw
  have hkt := hbits _ t1
  rw [t2, eq_comm, Bool.and_eq_true, decide_eq_true_eq] at hkt
  simp only [if_neg hw, Nat.add_sub_cancel] at hbits ⊢
  by_cases hx : (b + 1) * 64 ≤ x
  · rw [show x - (b + 1) * 64 + 64 * (b + 1) = x by omega]
    exact ⟨fun h => Or.inr ⟨hx, h.1⟩, fun h => h.elim (fun h => by omega) fun h => ⟨h.2, by omega⟩⟩
  refine Iff.trans ?_ (or_iff_left fun h => hx h.1).symm
  by_cases hx' : b * 64 ≤ x
  · -- a value of the cached word: a member, and still in `bitset` iff it is not below the cursor
    have hj : x - b * 64 < 64 := by omega
    have hm : testBit ws x = (ws.getD b 0#64).getLsbD (x - b * 64) := by
      rw [← testBit_mk ws b _ hj]; congr 1; omega
    rw [hm]
    constructor
    · rintro ⟨h1, h2⟩
      rw [hbits _ hj, h1, Bool.and_true]
      exact ⟨hx', by omega, decide_eq_true (by omega)⟩
    · rintro ⟨-, -, h⟩
      have : ¬ x - b * 64 < tz w := fun hc => by rw [t3 _ hc] at h; cases h
      rw [hbits _ hj, Bool.and_eq_true] at h
      exact ⟨h.2, by omega⟩
  · exact ⟨fun h => by omega, fun h => absurd h.1 hx'⟩

/-- extracting the lowest bit of the cached word keeps the invariant: the word above that bit is cached -/
theorem inv_extract (ws : List (BitVec 64)) (b : Nat) (w : BitVec 64)
    (hi : Inv { ws := ws, baseP := b, bitset := w }) (hw : w ≠ 0#64) :
    (b - 1) * 64 + tz w < 65536 ∧ Inv { ws := ws, baseP := b, bitset := w ^^^ (w &&& -w) } := by
  obtain ⟨hl, hr⟩ := hi
  simp only [] at hl hr
  rcases hr with e | ⟨hb0, hb1, k, hk, hbits⟩
  · exact absurd e hw
  obtain ⟨t1, t2, t3⟩ := tz_spec w hw
  have hkt := hbits _ t1
  rw [t2, eq_comm, Bool.and_eq_true, decide_eq_true_eq] at hkt
  have hbits' : ∀ j, j < 64 → (w ^^^ (w &&& -w)).getLsbD j =
      (decide (tz w + 1 ≤ j) && (ws.getD (b - 1) 0#64).getLsbD j) := by
    intro j hj
    rw [getLsbD_clearLowest w hw]
    by_cases h1 : j < tz w
    · rw [t3 j h1, Bool.false_and, decide_eq_false (Nat.not_le.mpr (Nat.lt_succ_of_lt h1)), Bool.false_and]
    · rw [hbits j hj, decide_eq_true (Nat.le_trans hkt.1 (Nat.le_of_not_lt h1)), Bool.true_and, Bool.and_comm]
      congr 1
      rw [decide_eq_decide]
      omega
  refine ⟨by omega, hl, ?_⟩
  generalize w ^^^ (w &&& -w) = w' at hbits' ⊢
  by_cases hz : w' = 0#64
  · exact Or.inl hz
  · obtain ⟨u1, u2, -⟩ := tz_spec w' hz
    rw [hbits' _ u1, Bool.and_eq_true, decide_eq_true_eq] at u2
    exact Or.inr ⟨hb0, hb1, tz w + 1, Nat.lt_of_le_of_lt u2.1 u1, hbits'⟩

theorem loop_spec (ws : List (BitVec 64)) (hs : Nat) (hhs : hs % 65536 = 0) (room b : Nat) (w : BitVec 64) :
    Inv { ws := ws, baseP := b, bitset := w } →
    (loop ws hs room b w).1 = ((ahead ws b w).take room).map (hs + ·) ∧
      Inv { ws := ws, baseP := (loop ws hs room b w).2.1, bitset := (loop ws hs room b w).2.2 } ∧
      ahead ws (loop ws hs room b w).2.1 (loop ws hs room b w).2.2 = (ahead ws b w).drop room := by
  fun_induction loop ws hs room b w with
  | case1 b w =>
    intro hi
    exact ⟨rfl, hi, rfl⟩
  | case2 room b hroom hge =>
    intro hi
    rw [ahead_end ws b hge, ahead_end ws (b + 1) (Nat.le_succ_of_le hge)]
    exact ⟨by simp, ⟨hi.1, Or.inl rfl⟩, by simp⟩
  | case3 room b hroom hlt ih =>
    intro hi
    have hl : ws.length = 1024 := hi.1
    rw [ahead_fetch ws b (by omega)]
    exact ih ⟨hl, Or.inr ⟨Nat.succ_pos b, (by omega : b + 1 ≤ 1024), 0, by omega, fun j _ => by simp⟩⟩
  | case4 room b w hroom hw t v vs r heq ih =>
    intro hi
    obtain ⟨x1, x2⟩ := inv_extract ws b w hi hw
    obtain ⟨a1, a2, a3⟩ := ih x2
    rw [heq] at a1 a2 a3
    simp only [] at a1 a2 a3
    obtain ⟨n, rfl⟩ : ∃ n, room = n + 1 := ⟨room - 1, by omega⟩
    rw [ahead_extract ws b w hw]
    simp only [Nat.add_sub_cancel] at a1 a3
    refine ⟨?_, a2, ?_⟩
    · simp only [List.take_succ_cons, List.map_cons]
      rw [← a1]
      congr 1
      show ((b - 1) * 64 + popcount ((w &&& -w) - 1#64)) ||| hs = _
      rw [popcount_lowBit_sub_one w hw]
      exact or_hs_eq_add x1 hhs
    · rw [List.drop_succ_cons]
      exact a3

/-- `hs` as in `RunIt.nextMany_spec`: the high bits passed down, a multiple of 65536 -/
theorem nextMany_spec {it : BmpManyIt} (hi : it.Inv) (hs cap : Nat) (hhs : hs % 65536 = 0) :
    (it.nextMany hs cap).1 = (it.rem.take cap).map (hs + ·) ∧ (it.nextMany hs cap).2.Inv ∧
      (it.nextMany hs cap).2.rem = it.rem.drop cap ∧ (it.nextMany hs cap).2.ws = it.ws := by
  obtain ⟨a1, a2, a3⟩ := loop_spec it.ws hs hhs cap it.baseP it.bitset hi
  rw [← rem_eq_ahead hi] at a1 a3
  exact ⟨a1, a2, (rem_eq_ahead a2).trans a3, rfl⟩

end BmpManyIt

end RModel.Impl.It
