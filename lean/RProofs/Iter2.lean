import RProofs.Iter2Iterate
import RProofs.Iter2R64
import RProofs.Iter2Unset
import RProofs.Iter2Ranges
/-!
Iteration protocols of `RModel/Impl/Iter2.lean`: the unset iterator, `Iterate(cb)`, `Ranges()` and the roaring64
iterators (tie to Go: `harness/l2iter.go`, `RModel/Driver/Iter2.lean`, suite `l2iter2`).  This is the module the checks of C04
name for them (`tools/props.py`): it restates the main theorems of the proof modules in one place, bundles the three of the
unset iterator that `Statements/C04.lean` uses (`UnsetIt.protocol`) and adds what the checker's comparison needs about its
`PeekNext`; the proofs live in

* `RProofs/Iter2UnsetCont.lean`, `RProofs/Iter2Unset.lean` — the unset iterator
  (`arrayContainerUnsetIterator`, `bitmapContainerUnsetIterator`, `runUnsetIterator16`, `unsetIterator`);
* `RProofs/Iter2Iterate.lean` — `Iterate(cb)` and the range-over-func forms `Values`, `Backward`, `Unset`;
* `RProofs/Iter2RangesBase.lean`, `RProofs/Iter2RangesBmp.lean`, `RProofs/Iter2Ranges.lean` — `Ranges()`;
* `RProofs/Iter2R64.lean` — the roaring64 iterators `intIterator`, `intReverseIterator`, `manyIntIterator`.

All statements are about the executable Go-state-machine models and hold for every well-formed representation
(`Rep.wf` / `Rep64.wf`); windows of the unset iterator need `end ≤ 2^32` (Go panics above) and nothing else (`start ≥ end`
gives the empty enumeration).
-/
namespace RModel.Impl.It
open RModel RModel.Impl

/-! ## the unset iterator -/

/-- draining `UnsetIterator(a, b)` yields exactly the values of `[a, b)` that are not in the bitmap, in increasing order -/
theorem UnsetIt.drain_create' (r : Rep) (h : r.wf = true) (a b : Nat) (hb : b ≤ 4294967296) (fuel : Nat) (hf : b - a ≤ fuel) :
    ((UnsetIt.create r a b).drain fuel).1 = (List.range' a (b - a)).filter (fun x => !r.has x) :=
  UnsetIt.drain_create r h a b hb fuel hf

/-- … which is the enumeration of the set the L1 checker compares Go with (`Driver/Iter.lean`, command `uit`) -/
theorem UnsetIt.drain_create_oracle (r : Rep) (h : r.wf = true) (a b : Nat) (hb : b ≤ 4294967296) (fuel : Nat)
    (hf : b - a ≤ fuel) :
    ((UnsetIt.create r a b).drain fuel).1 = BSet.toList (BSet.restrict (BSet.compl 4294967296 r.toBSet) a b) :=
  UnsetIt.drain_create_toList r h a b hb fuel hf

/-- `HasNext` (which skips exhausted containers) never changes what remains and answers whether something remains;
`Next` delivers the head; `AdvanceIfNeeded(m)` leaves exactly the remaining values `≥ m` -/
theorem UnsetIt.protocol {iui : UnsetIt} (hi : iui.Inv) :
    ((UnsetIt.hasNext iui).2.Inv ∧ (UnsetIt.hasNext iui).2.rem = iui.rem ∧ ((UnsetIt.hasNext iui).1 = true ↔ iui.rem ≠ [])) ∧
    (∀ v t, iui.rem = v :: t → (UnsetIt.next iui).1 = v ∧ (UnsetIt.next iui).2.Inv ∧ (UnsetIt.next iui).2.rem = t) ∧
    (∀ m, m < 4294967296 → (iui.advanceIfNeeded m).Inv ∧
      (iui.advanceIfNeeded m).rem = iui.rem.dropWhile (fun x => decide (x < m))) :=
  ⟨UnsetIt.hasNext_spec hi, fun _ _ h => UnsetIt.next_spec hi h, fun m hm => UnsetIt.advanceIfNeeded_spec hi m hm⟩

/-- `PeekNext` after a failed `HasNext` is the Go panic (`none`) -/
theorem UnsetIt.peekNext_nil {iui : UnsetIt} (hi : iui.Inv) (h : iui.rem = []) : (UnsetIt.peekNext iui).1 = none := by
  obtain ⟨-, -, j3⟩ := UnsetIt.hasNext_spec hi
  have hf : (UnsetIt.hasNext iui).1 = false := by
    cases hh : (UnsetIt.hasNext iui).1
    · rfl
    · exact absurd h (j3.mp hh)
  unfold UnsetIt.peekNext
  simp [hf]

/-- the checker's comparison (b) (`Driver/Iter2.lean`, `l2AgreeU`): a state that represents "the values `≥ c` of the
enumerated set `s`" answers `HasNext` / `PeekNext` exactly like the set-level cursor `BSet.nextValue s c` -/
theorem UnsetIt.peek_eq_nextValue {iui : UnsetIt} (hi : iui.Inv) (s : BSet) (hs : BSet.SInc s) (he : BSet.Even s) (c : Nat)
    (h : iui.rem = remFrom (BSet.toList s) c) :
    (UnsetIt.peekNext iui).1 = BSet.nextValue s c := by
  rw [← remFrom_toList_head s hs he c, ← h]
  cases hr : iui.rem with
  | nil => rw [UnsetIt.peekNext_nil hi hr]; rfl
  | cons v t => rw [(UnsetIt.peekNext_spec hi hr).1]; rfl

/-! ## `Iterate(cb)` -/

/-- `Iterate` with a callback that answers `false` on its `k`-th call (`k ≥ 1`): the values the callback sees are the
first `k` members in increasing order — all members when there are fewer, or when it never answers `false` -/
theorem iterate_spec (r : Rep) (h : r.wf = true) (k : Option Nat) :
    iterateSeen r k =
      match k with
      | none => BSet.toList r.toBSet
      | some k => (BSet.toList r.toBSet).take (max k 1) :=
  iterateSeen_spec r h k

/-- for ANY state-transforming callback: `Iterate` = early-terminating fold over the sorted member list -/
theorem iterate_fold {σ : Type} (r : Rep) (h : r.wf = true) (cb : σ → Nat → Bool × σ) (s : σ) :
    iterateRep r cb s = (foldUntil cb (BSet.toList r.toBSet) s).2 :=
  iterateRep_spec r h cb s

/-! ## `Ranges()` -/

/-- `Ranges()` hands the yield function the maximal runs of consecutive members (the boundary pairs of the canonical
interval list), merged across container boundaries, in increasing order, until it answers `false` -/
theorem ranges_spec (r : Rep) (h : r.wf = true) (k : Option Nat) :
    rangesSeen r k =
      match k with
      | none => pairsOf r.toBSet
      | some k => (pairsOf r.toBSet).take (max k 1) :=
  rangesSeen_spec r h k

/-! ## roaring64 -/

theorem IntIt64.drain_create'' (r : Rep64) (h : r.wf = true) (fuel : Nat) (hf : BSet.card r.toBSet ≤ fuel) :
    ((IntIt64.create r).drain fuel).1 = BSet.toList r.toBSet :=
  IntIt64.drain_create r h fuel hf

theorem IntIt64.advance (ii : IntIt64) (hi : ii.Inv) (m : Nat) (hm : m < 18446744073709551616) :
    (ii.advanceIfNeeded m).Inv ∧ (ii.advanceIfNeeded m).rem = ii.rem.dropWhile (fun x => decide (x < m)) :=
  IntIt64.advanceIfNeeded_spec hi m hm

theorem IntRevIt64.drain_create'' (r : Rep64) (h : r.wf = true) (fuel : Nat) (hf : BSet.card r.toBSet ≤ fuel) :
    ((IntRevIt64.create r).drain fuel).1 = (BSet.toList r.toBSet).reverse :=
  IntRevIt64.drain_create r h fuel hf

theorem ManyIt64.nextManySeq_create'' (r : Rep64) (h : r.wf = true) (caps : List Nat) (hc : BSet.card r.toBSet ≤ caps.sum) :
    ((ManyIt64.create r).nextManySeq caps).1 = BSet.toList r.toBSet :=
  ManyIt64.nextManySeq_create r h caps hc

end RModel.Impl.It
