import RProofs.Iter2UnsetCont
import RProofs.RepQueryBase
/-!
Unset iterators, part 2: the BITMAP-level unset iterator `unsetIterator` (`UnsetIt`, `Bitmap.UnsetIterator(start, end)`).

Specification list: `absVals r a b` = the values of `[a, b)` that are not in `r`, in increasing order.

The state has a CURSOR `cursor = nextKey·65536 + low` (`low` = `emptyVal` in a gap, the cursor of the container iterator
inside a container) and still has to deliver `rem = absR (slotsHas slots) cursor end` — the absent values of `[cursor, end)`.
`Inv` says which of three situations the iterator is in: past the window (`end ≤ nextKey·65536`), in a gap (no container
with key `nextKey`; `containerIndex` = first slot with a larger key), or inside container `containerIndex` (key `nextKey`).

`HasNext()` (which may move on to the next chunk) keeps `rem`, `Next()` takes `v :: t` to `t`, `AdvanceIfNeeded(m)` leaves
`rem.dropWhile (· < m)`, and a fresh iterator has `rem = absVals r start end`, which is the enumeration of
`([0, 2^32) \ r) ∩ [start, end)` at level 1.
-/
open RModel.Util
namespace RModel.Impl.It
open RModel RModel.Impl RModel.Impl.ContOps RModel.Impl.ContQuery

def absVals (r : Rep) (a b : Nat) : List Nat := (List.range' a (b - a)).filter (fun x => !r.has x)

theorem absVals_eq (r : Rep) (h : r.wf = true) (a b : Nat) : absVals r a b = absR (slotsHas r.slots) a b :=
  absR_congr (p := r.has) fun x _ _ => has_eq_slotsHas r ((slotsWf_iff r).mp h) x

/-! ### chunk-wise membership by slot index -/

theorem key_lt_of_lt {l : List Slot} (hw : SlotsWf l) {i j : Nat} (hij : i < j) (hj : j < l.length) :
    (slotAt l i).key < (slotAt l j).key := RepQuery.kAt_lt hw hij hj

theorem absR_chunk_skip {p m : Nat → Bool} {k c c' e : Nat} (hch : ∀ y, y < 65536 → p (65536 * k + y) = m y)
    (hcc : c ≤ c') (hc' : c' ≤ 65536) (hpres : ∀ y, c ≤ y → y < c' → m y = true) :
    absR p (65536 * k + c) e = absR p (65536 * k + c') e :=
  absR_skip (Nat.add_le_add_left hcc _) fun u h1 h2 _ =>
    BSet.stretch_shift (Q := (p · = true)) (fun y hy h => (hch y hy).trans h) hc' hpres u h1 h2

theorem max_chunk {k c m : Nat} (hm : m / 65536 = k) : max (65536 * k + c) m = 65536 * k + max c (m % 65536) := by
  omega

/-- nothing of the window lies in `[a, a')` -/
theorem absR_jump {p : Nat → Bool} {a a' e : Nat} (hle : a ≤ a') (h : a = a' ∨ e ≤ a) : absR p a e = absR p a' e :=
  absR_skip hle (fun u h1 h2 h3 => by exfalso; omega)

namespace UnsetIt

/-! ### `seek` -/

structure AtKey (slots : List Slot) (ci key : Nat) : Prop where
  below : ∀ i, i < ci → (slotAt slots i).key < key
  here : ci < slots.length → key ≤ (slotAt slots ci).key

theorem seek_spec (slots : List Slot) (ci key : Nat) (hlo : ∀ i, i < ci → (slotAt slots i).key < key) :
    AtKey slots (seek slots ci key) key := by
  fun_induction seek slots ci key with
  | case1 ci hc ih =>
    apply ih
    intro i hi
    by_cases e : i = ci
    · subst e; exact hc.2
    · exact hlo i (by omega)
  | case2 ci hc => exact ⟨hlo, fun h => Nat.le_of_not_lt fun h' => hc ⟨h, h'⟩⟩

/-! ### state, invariant, remaining values -/

@[irreducible] def low (iui : UnsetIt) : Nat := if iui.iter.isNone then iui.emptyVal else iui.iter.cur

@[irreducible] def cursor (iui : UnsetIt) : Nat := 65536 * iui.nextKey + iui.low

def rem (iui : UnsetIt) : List Nat := absR (slotsHas iui.slots) iui.cursor iui.end_

structure Inv (iui : UnsetIt) : Prop where
  wf : SlotsWf iui.slots
  hend : iui.end_ ≤ 4294967296
  hstart : iui.start < 65536 * (iui.nextKey + 1)
  st : iui.end_ ≤ 65536 * iui.nextKey ∨
       (iui.iter.isNone = true ∧ iui.emptyVal < 65536 ∧
          (∀ i, i < iui.containerIndex → (slotAt iui.slots i).key < iui.nextKey) ∧
          (iui.containerIndex < iui.slots.length → iui.nextKey < (slotAt iui.slots iui.containerIndex).key)) ∨
       (iui.iter.isNone = false ∧ iui.containerIndex < iui.slots.length ∧
          (slotAt iui.slots iui.containerIndex).key = iui.nextKey ∧ iui.iter.Inv ∧
          iui.iter.mem = (slotAt iui.slots iui.containerIndex).c.has ∧ iui.hs = 65536 * iui.nextKey)

theorem inWindow_eq (iui : UnsetIt) {l : Nat} (h : l < 65536) :
    iui.inWindow l = decide (65536 * iui.nextKey + l < iui.end_) := by
  unfold inWindow; rw [or16 _ h]

theorem rem_eq (j : UnsetIt) : j.rem = absR (slotsHas j.slots) j.cursor j.end_ := rfl

theorem cursor_gap {j : UnsetIt} (hn : j.iter.isNone = true) : j.cursor = 65536 * j.nextKey + j.emptyVal := by
  unfold cursor low; rw [if_pos hn]

theorem cursor_cont {j : UnsetIt} (hn : j.iter.isNone = false) : j.cursor = 65536 * j.nextKey + j.iter.cur := by
  unfold cursor low; rw [hn]; rfl

theorem rem_gap {j : UnsetIt} (hn : j.iter.isNone = true) :
    j.rem = absR (slotsHas j.slots) (65536 * j.nextKey + j.emptyVal) j.end_ := by
  rw [rem_eq, cursor_gap hn]

theorem cursor_ge (iui : UnsetIt) : 65536 * iui.nextKey ≤ iui.cursor := by unfold cursor; exact Nat.le_add_right _ _

theorem rem_nil_of_done {iui : UnsetIt} (h : iui.end_ ≤ 65536 * iui.nextKey) : iui.rem = [] :=
  absR_nil (Nat.le_trans h (cursor_ge iui))

theorem live_iff {j : UnsetIt} (h : j.iter.Inv) :
    (j.iter.hasNext && j.inWindow j.iter.peekNext) = true ↔
      j.iter.cur < 65536 ∧ 65536 * j.nextKey + j.iter.cur < j.end_ := by
  rw [Bool.and_eq_true, UCIt.hasNext_eq h, decide_eq_true_eq]
  refine and_congr_right fun w1 => ?_
  rw [UCIt.peekNext_eq h w1, inWindow_eq _ w1, decide_eq_true_eq]

theorem contDone_iff {j : UnsetIt} (h : j.iter.Inv) :
    j.contDone = true ↔ 65536 ≤ j.iter.cur ∨ j.end_ ≤ 65536 * j.nextKey + j.iter.cur := by
  rw [contDone, ← Bool.not_and, Bool.not_eq_true', Bool.eq_false_iff, Ne, live_iff h]
  omega

/-! ### frame facts of `init` / `stepOn` -/

theorem init_frame (iui : UnsetIt) :
    iui.init.slots = iui.slots ∧ iui.init.end_ = iui.end_ ∧ iui.init.start = iui.start ∧
      iui.init.containerIndex = iui.containerIndex := by
  unfold init; split
  · exact ⟨rfl, rfl, rfl, rfl⟩
  · split <;> exact ⟨rfl, rfl, rfl, rfl⟩

theorem init_slots (iui : UnsetIt) : iui.init.slots = iui.slots := (init_frame iui).1

theorem init_end (iui : UnsetIt) : iui.init.end_ = iui.end_ := (init_frame iui).2.1

theorem init_start (iui : UnsetIt) : iui.init.start = iui.start := (init_frame iui).2.2.1

theorem init_ci (iui : UnsetIt) : iui.init.containerIndex = iui.containerIndex := (init_frame iui).2.2.2

/-! ### what the invariant says in a gap and inside a container -/

structure InGap (j : UnsetIt) : Prop where
  ev : j.emptyVal < 65536
  below : ∀ i, i < j.containerIndex → (slotAt j.slots i).key < j.nextKey
  above : j.containerIndex < j.slots.length → j.nextKey < (slotAt j.slots j.containerIndex).key
  empty : ∀ y, y < 65536 → slotsHas j.slots (65536 * j.nextKey + y) = false
  cursor : j.cursor = 65536 * j.nextKey + j.emptyVal

structure InCont (j : UnsetIt) : Prop where
  idx : j.containerIndex < j.slots.length
  key : (slotAt j.slots j.containerIndex).key = j.nextKey
  inv : j.iter.Inv
  mem : j.iter.mem = (slotAt j.slots j.containerIndex).c.has
  hs : j.hs = 65536 * j.nextKey
  le : j.iter.cur ≤ 65536
  chunk : ∀ y, y < 65536 → slotsHas j.slots (65536 * j.nextKey + y) = j.iter.mem y
  cursor : j.cursor = 65536 * j.nextKey + j.iter.cur

theorem gap_facts {j : UnsetIt} (hi : j.Inv) (hn : j.iter.isNone = true) (hke : 65536 * j.nextKey < j.end_) :
    InGap j := by
  rcases hi.st with s | ⟨_, hev, hlo, hhi⟩ | ⟨s, _⟩
  · omega
  · exact ⟨hev, hlo, hhi, fun y hy => RepQuery.slotsHas_gap_key hi.wf hlo hhi (by omega), cursor_gap hn⟩
  · rw [hn] at s; cases s

theorem cont_facts {j : UnsetIt} (hi : j.Inv) (hn : j.iter.isNone = false) (hke : 65536 * j.nextKey < j.end_) :
    InCont j := by
  rcases hi.st with s | ⟨s, _⟩ | ⟨_, hci, hkey, hinv, hmem, hhs⟩
  · omega
  · rw [hn] at s; cases s
  · refine ⟨hci, hkey, hinv, hmem, hhs, UCIt.cur_le hinv, fun y hy => ?_, cursor_cont hn⟩
    rw [hmem, ← hkey, Nat.mul_comm]
    exact RepQuery.slotsHas_chunk hi.wf hci hy

theorem rem_cont_from {j : UnsetIt} (hi : j.Inv) (hn : j.iter.isNone = false) (hke : 65536 * j.nextKey < j.end_)
    {p : Nat → Bool} {c0 : Nat} (h : j.iter.At p c0) :
    j.rem = absR (slotsHas j.slots) (65536 * j.nextKey + c0) j.end_ := by
  have c := cont_facts hi hn hke
  rw [rem_eq, c.cursor]
  exact (absR_chunk_skip c.chunk h.le c.le fun u a b => (congrFun h.mem u).trans (h.present u a b)).symm

/-! ### `init` -/

/-- the low part at which chunk `nextKey` is entered: `start` cuts into the chunk, or it is entered at its beginning -/
theorem overlap_low (iui : UnsetIt) (hstart : iui.start < 65536 * (iui.nextKey + 1)) :
    (if iui.overlapsStart = true then iui.start % 65536 else 0) < 65536 ∧
    max iui.start (65536 * iui.nextKey) =
      65536 * iui.nextKey + (if iui.overlapsStart = true then iui.start % 65536 else 0) := by
  have hov : iui.overlapsStart = true ↔ (65536 * iui.nextKey < iui.start ∧ iui.start < 65536 * (iui.nextKey + 1)) := by
    unfold overlapsStart
    rw [shl16c, shl16c, Bool.and_eq_true, decide_eq_true_eq, decide_eq_true_eq]
  by_cases ho : iui.overlapsStart = true
  · rw [if_pos ho]
    have := hov.mp ho
    omega
  · rw [if_neg ho]
    have := mt hov.mpr ho
    omega

/-- `init()` in chunk `nextKey`, with `containerIndex` at the first slot whose key is `≥ nextKey` (or past the window):
afterwards the iterator represents the absent values of `[max start (nextKey·65536), end)` -/
theorem init_spec (iui : UnsetIt) (hw : SlotsWf iui.slots) (hend : iui.end_ ≤ 4294967296)
    (hstart : iui.start < 65536 * (iui.nextKey + 1))
    (hpos : iui.end_ ≤ 65536 * iui.nextKey ∨ AtKey iui.slots iui.containerIndex iui.nextKey) :
    iui.init.Inv ∧
    iui.init.rem = absR (slotsHas iui.slots) (max iui.start (65536 * iui.nextKey)) iui.end_ := by
  unfold init
  by_cases h1 : iui.nextKey <<< 16 ≥ iui.end_
  · -- past the window
    rw [if_pos h1]
    rw [shl16c] at h1
    refine ⟨⟨hw, hend, hstart, Or.inl h1⟩, ?_⟩
    rw [absR_nil (show iui.end_ ≤ max iui.start (65536 * iui.nextKey) by omega)]
    exact rem_nil_of_done h1
  rw [if_neg h1]
  rw [shl16c] at h1
  have hk : iui.nextKey < 65536 := by omega
  have hke : 65536 * iui.nextKey < iui.end_ := by omega
  rcases hpos with hpos | ⟨hlo, hhi⟩
  · omega
  obtain ⟨hs0, hmax⟩ := overlap_low iui hstart
  rw [hmax]
  by_cases h2 : iui.containerIndex ≥ iui.slots.length ∨ (slotAt iui.slots iui.containerIndex).key > iui.nextKey % 65536
  · -- a gap
    rw [if_pos h2]
    rw [Nat.mod_eq_of_lt hk] at h2
    have hhi' : iui.containerIndex < iui.slots.length → iui.nextKey < (slotAt iui.slots iui.containerIndex).key :=
      fun hl => by omega
    exact ⟨⟨hw, hend, hstart, Or.inr (Or.inl ⟨rfl, hs0, hlo, hhi'⟩)⟩, rem_gap rfl⟩
  · -- a container
    rw [if_neg h2]
    rw [Nat.mod_eq_of_lt hk] at h2
    have hci : iui.containerIndex < iui.slots.length := by omega
    have hkey : (slotAt iui.slots iui.containerIndex).key = iui.nextKey := by
      have := hhi hci
      omega
    obtain ⟨o, o3⟩ := UCIt.ofCont_cur (hw.ok _ (slotAt_mem hci)).2
    simp only []
    generalize UCIt.ofCont (slotAt iui.slots iui.containerIndex).c = it0 at o o3 ⊢
    by_cases ho : iui.overlapsStart = true
    · rw [if_pos ho, if_pos ho]
      have a := UCIt.adv_cur o.inv (iui.start % 65536) (Nat.mod_lt _ (by decide))
      have hn := (UCIt.isNone_advanceIfNeeded (iui.start % 65536)).trans o3
      have hi' : ({ iui with hs := iui.nextKey <<< 16 % 4294967296,
                             iter := it0.advanceIfNeeded (iui.start % 65536) } : UnsetIt).Inv :=
        ⟨hw, hend, hstart, Or.inr (Or.inr ⟨hn, hci, hkey, a.inv, a.mem.trans o.mem, shl16_mod hk⟩)⟩
      -- below the cursor of the fresh iterator everything is present, from there on `advanceIfNeeded` says so
      refine ⟨hi', rem_cont_from hi' hn hke
        ⟨a.inv, a.mem.trans o.mem, Nat.le_trans (Nat.le_max_right _ _) a.le, fun u hu1 hu2 => ?_⟩⟩
      by_cases hlt : u < it0.cur
      · exact o.present u (Nat.zero_le _) hlt
      · rw [← o.mem]
        exact a.present u (by omega) hu2
    · rw [if_neg ho, if_neg ho]
      have hi' : ({ iui with hs := iui.nextKey <<< 16 % 4294967296, iter := it0 } : UnsetIt).Inv :=
        ⟨hw, hend, hstart, Or.inr (Or.inr ⟨o3, hci, hkey, o.inv, o.mem, shl16_mod hk⟩)⟩
      exact ⟨hi', rem_cont_from hi' o3 hke o⟩

theorem init_spec_at (iui : UnsetIt) (hw : SlotsWf iui.slots) (hend : iui.end_ ≤ 4294967296)
    (hs : iui.start ≤ 65536 * iui.nextKey)
    (hpos : iui.end_ ≤ 65536 * iui.nextKey ∨ AtKey iui.slots iui.containerIndex iui.nextKey) :
    iui.init.Inv ∧ iui.init.rem = absR (slotsHas iui.slots) (65536 * iui.nextKey) iui.end_ := by
  have := init_spec iui hw hend (by omega) hpos
  rwa [Nat.max_eq_right hs] at this

/-! ### `stepOn` -/

theorem stepOn_spec {iui : UnsetIt} (hi : iui.Inv)
    (h : iui.end_ ≤ 65536 * (iui.nextKey + 1) ∨ (iui.iter.isNone = false ∧ 65536 * iui.nextKey < iui.end_)) :
    iui.stepOn.Inv ∧ iui.stepOn.rem = absR (slotsHas iui.slots) (65536 * (iui.nextKey + 1)) iui.end_ := by
  refine init_spec_at { iui with nextKey := iui.nextKey + 1, containerIndex := iui.containerIndex + 1 } hi.wf hi.hend
    (Nat.le_of_lt hi.hstart) (h.imp_right fun ⟨h1, h2⟩ => ?_)
  have c := cont_facts hi h1 h2
  have := c.key
  show AtKey iui.slots (iui.containerIndex + 1) (iui.nextKey + 1)
  constructor
  · intro i hil
    have : (slotAt iui.slots i).key ≤ (slotAt iui.slots iui.containerIndex).key :=
      RepQuery.kAt_le hi.wf (Nat.le_of_lt_succ hil) c.idx
    omega
  · intro hl
    have := key_lt_of_lt hi.wf (Nat.lt_add_one iui.containerIndex) hl
    omega

/-- leaving a chunk that has nothing more to deliver inside the window keeps what remains -/
theorem stepOn_keeps {j : UnsetIt} (hi : j.Inv) (hke : 65536 * j.nextKey < j.end_)
    (hd : j.end_ ≤ j.cursor ∨ (j.iter.isNone = false ∧ 65536 ≤ j.iter.cur)) :
    j.stepOn.Inv ∧ j.stepOn.rem = j.rem := by
  cases hn : j.iter.isNone
  · have c := cont_facts hi hn hke
    have hcl := c.le
    obtain ⟨s1, s2⟩ := stepOn_spec hi (Or.inr ⟨hn, hke⟩)
    rw [c.cursor] at hd
    refine ⟨s1, s2.trans ?_⟩
    rw [rem_eq, c.cursor]
    exact (absR_jump (by omega) (by omega)).symm
  · have g := gap_facts hi hn hke
    have hev := g.ev
    rw [g.cursor, hn] at hd
    have hd : j.end_ ≤ 65536 * j.nextKey + j.emptyVal := hd.elim id fun h => nomatch h.1
    obtain ⟨s1, s2⟩ := stepOn_spec hi (Or.inl (by omega))
    refine ⟨s1, s2.trans ?_⟩
    rw [rem_eq, g.cursor]
    exact (absR_jump (by omega) (Or.inr hd)).symm

/-! ### `HasNext()` -/

/-- the state in which `HasNext()` answers `true` -/
def Ready (j : UnsetIt) : Prop :=
  j.nextKey < 65536 ∧ j.nextKey <<< 16 < j.end_ ∧
  ((j.iter.isNone = true ∧ j.inWindow j.emptyVal = true) ∨
   (j.iter.isNone = false ∧ (j.iter.hasNext && j.inWindow j.iter.peekNext) = true))

theorem hasNext_ready (iui : UnsetIt) : (hasNext iui).1 = true → Ready (hasNext iui).2 := by
  fun_induction hasNext iui with
  | case1 x h1 h2 h3 => intro _; exact ⟨h1.1, h1.2, Or.inl ⟨h2, h3⟩⟩
  | case2 x h1 h2 h3 ih => exact ih
  | case3 x h1 h2 h3 => intro _; exact ⟨h1.1, h1.2, Or.inr ⟨Bool.eq_false_iff.mpr h2, h3⟩⟩
  | case4 x h1 h2 h3 ih => exact ih
  | case5 x h1 => intro h; cases h

theorem hasNext_idem (iui : UnsetIt) : hasNext (hasNext iui).2 = hasNext iui := by
  fun_induction hasNext iui with
  | case1 x h1 h2 h3 => show hasNext x = _; rw [hasNext, if_pos h1, if_pos h2, if_pos h3]
  | case2 x h1 h2 h3 ih => exact ih
  | case3 x h1 h2 h3 => show hasNext x = _; rw [hasNext, if_pos h1, if_neg h2, if_pos h3]
  | case4 x h1 h2 h3 ih => exact ih
  | case5 x h1 => show hasNext x = _; rw [hasNext, if_neg h1]

/-- what `Ready` means under the invariant: the cursor is an absent value inside the window -/
theorem ready_facts {j : UnsetIt} (hi : j.Inv) (hr : Ready j) :
    j.nextKey < 65536 ∧ 65536 * j.nextKey < j.end_ ∧ j.low < 65536 ∧ j.cursor < j.end_ ∧
    slotsHas j.slots j.cursor = false := by
  obtain ⟨hk, hke, hrd⟩ := hr
  rw [shl16c] at hke
  refine ⟨hk, hke, ?_⟩
  rcases hrd with ⟨hn, hwin⟩ | ⟨hn, hwin⟩
  · have g := gap_facts hi hn hke
    rw [inWindow_eq _ g.ev, decide_eq_true_eq] at hwin
    refine ⟨by unfold low; rw [if_pos hn]; exact g.ev, by rw [g.cursor]; exact hwin, ?_⟩
    rw [g.cursor]
    exact g.empty _ g.ev
  · have c := cont_facts hi hn hke
    obtain ⟨w1, w2⟩ := (live_iff c.inv).mp hwin
    refine ⟨by unfold low; rw [hn]; exact w1, by rw [c.cursor]; exact w2, ?_⟩
    rw [c.cursor, c.chunk _ w1]
    exact UCIt.cur_absent c.inv w1

theorem rem_ready {j : UnsetIt} (hi : j.Inv) (hr : Ready j) :
    j.rem = j.cursor :: absR (slotsHas j.slots) (j.cursor + 1) j.end_ := by
  obtain ⟨_, _, _, h1, h2⟩ := ready_facts hi hr
  exact absR_cons h1 h2

/-- **`HasNext()`** keeps the remaining values and answers whether there are any -/
theorem hasNext_spec {iui : UnsetIt} (hi : iui.Inv) :
    (hasNext iui).2.Inv ∧ (hasNext iui).2.rem = iui.rem ∧ ((hasNext iui).1 = true ↔ iui.rem ≠ []) := by
  fun_induction hasNext iui with
  | case1 x h1 h2 h3 =>
    refine ⟨hi, rfl, ?_⟩
    simp only [true_iff]
    rw [rem_ready hi ⟨h1.1, h1.2, Or.inl ⟨h2, h3⟩⟩]
    exact List.cons_ne_nil _ _
  | case2 x h1 h2 h3 ih =>
    have hke := h1.2
    rw [shl16c] at hke
    have g := gap_facts hi h2 hke
    rw [inWindow_eq _ g.ev, decide_eq_true_eq, ← g.cursor] at h3
    obtain ⟨s1, e⟩ := stepOn_keeps hi hke (Or.inl (Nat.le_of_not_lt h3))
    obtain ⟨i1, i2, i3⟩ := ih s1
    exact ⟨i1, by rw [i2, e], by rw [i3, e]⟩
  | case3 x h1 h2 h3 =>
    refine ⟨hi, rfl, ?_⟩
    simp only [true_iff]
    rw [rem_ready hi ⟨h1.1, h1.2, Or.inr ⟨Bool.eq_false_iff.mpr h2, h3⟩⟩]
    exact List.cons_ne_nil _ _
  | case4 x h1 h2 h3 ih =>
    have hke := h1.2
    rw [shl16c] at hke
    have hn := Bool.eq_false_iff.mpr h2
    have c := cont_facts hi hn hke
    rw [live_iff c.inv, ← c.cursor] at h3
    have hd : x.end_ ≤ x.cursor ∨ 65536 ≤ x.iter.cur := by omega
    obtain ⟨s1, e⟩ := stepOn_keeps hi hke (hd.imp_right fun h => ⟨hn, h⟩)
    obtain ⟨i1, i2, i3⟩ := ih s1
    exact ⟨i1, by rw [i2, e], by rw [i3, e]⟩
  | case5 x h1 =>
    refine ⟨hi, rfl, ?_⟩
    have := hi.hend
    rw [shl16c] at h1
    rw [rem_nil_of_done (by omega)]
    simp

theorem rem_nil_of_hasNext_false {iui : UnsetIt} (hi : iui.Inv) (h : (hasNext iui).1 = false) : iui.rem = [] :=
  Classical.byContradiction fun hne => by rw [(hasNext_spec hi).2.2.mpr hne] at h; cases h

/-! ### leaving a chunk -/

/-- leaving (or not) the container after its iterator has moved to the least absent value `≥ c0`; `j'` is a variable so that
a call site can take the state as the model spells it (`_ rfl`) -/
theorem cont_move {j : UnsetIt} (hi : j.Inv) (hn : j.iter.isNone = false) (hke : 65536 * j.nextKey < j.end_)
    (it' : UCIt) (c0 : Nat) (h : it'.At j.iter.mem c0) (h3 : it'.isNone = false)
    (j' : UnsetIt) (hj : j' = { j with iter := it' }) :
    (if j'.contDone = true then j'.stepOn else j').Inv ∧
    (if j'.contDone = true then j'.stepOn else j').rem = absR (slotsHas j.slots) (65536 * j.nextKey + c0) j.end_ := by
  subst hj
  have c := cont_facts hi hn hke
  have hi' : ({ j with iter := it' } : UnsetIt).Inv :=
    ⟨hi.wf, hi.hend, hi.hstart, Or.inr (Or.inr ⟨h3, c.idx, c.key, h.inv, h.mem.trans c.mem, c.hs⟩)⟩
  have hrem := rem_cont_from hi' h3 hke h
  split <;> rename_i hc
  · have hc := (contDone_iff (j := { j with iter := it' }) h.inv).mp hc
    rw [← cursor_cont (j := { j with iter := it' }) h3] at hc
    obtain ⟨s1, e⟩ := stepOn_keeps hi' hke (hc.symm.imp_right fun h => ⟨h3, h⟩)
    exact ⟨s1, e.trans hrem⟩
  · exact ⟨hi', hrem⟩

/-- moving `emptyContainerVal` forward inside a gap, leaving the chunk when that is past the window -/
theorem gap_move {j : UnsetIt} (hi : j.Inv) (hn : j.iter.isNone = true) (hke : 65536 * j.nextKey < j.end_)
    (e : Nat) (he : e < 65536) (j' : UnsetIt) (hj : j' = { j with emptyVal := e }) :
    (if (!j'.inWindow e) = true then j'.stepOn else j').Inv ∧
    (if (!j'.inWindow e) = true then j'.stepOn else j').rem = absR (slotsHas j.slots) (65536 * j.nextKey + e) j.end_ := by
  subst hj
  have g := gap_facts hi hn hke
  have hi' : ({ j with emptyVal := e } : UnsetIt).Inv :=
    ⟨hi.wf, hi.hend, hi.hstart, Or.inr (Or.inl ⟨hn, he, g.below, g.above⟩)⟩
  rw [inWindow_eq _ he]
  simp only [Bool.not_eq_true', decide_eq_false_iff_not]
  split <;> rename_i hc
  · obtain ⟨s1, e'⟩ := stepOn_keeps hi' hke (Or.inl (by rw [cursor_gap (j := { j with emptyVal := e }) hn]; exact Nat.le_of_not_lt hc))
    exact ⟨s1, e'.trans (rem_gap hn)⟩
  · exact ⟨hi', rem_gap hn⟩

/-! ### `Next()` -/

/-- `Next()` when its `HasNext()` answers `true` and leaves the state `j` -/
theorem next_ready {iui j : UnsetIt} (hj : (hasNext iui).2 = j) (hi : j.Inv) (hr : Ready j) :
    (next iui).1 = j.cursor ∧ (next iui).2.Inv ∧
      (next iui).2.rem = absR (slotsHas j.slots) (j.cursor + 1) j.end_ := by
  unfold next
  rw [hj]
  simp only []
  obtain ⟨hk, hke, hrd⟩ := hr
  rw [shl16c] at hke
  have hst := hi.hstart
  rcases hrd with ⟨hn, hwin⟩ | ⟨hn, hwin⟩
  · -- in a gap
    have g := gap_facts hi hn hke
    have hev := g.ev
    rw [inWindow_eq _ hev, decide_eq_true_eq] at hwin
    rw [if_pos hn, gap_value_eq hk hev, g.cursor]
    split <;> rename_i hc
    · -- wrapped around or reached the end: on to chunk `nextKey + 1`; `containerIndex` already is beyond the gap
      have := init_spec_at { j with emptyVal := (j.emptyVal + 1) % 65536, nextKey := j.nextKey + 1 } hi.wf hi.hend
        (Nat.le_of_lt hst) (Or.inr ⟨fun i h => Nat.lt_succ_of_lt (g.below i h), g.above⟩)
      simp only [] at this
      refine ⟨rfl, this.1, this.2.trans (absR_jump (a := 65536 * j.nextKey + j.emptyVal + 1) (by omega) ?_).symm⟩
      by_cases hw : j.emptyVal + 1 = 65536
      · left; omega
      · right
        rw [Nat.mod_eq_of_lt (by omega)] at hc
        rcases hc with hc | hc
        · omega
        · rw [inWindow_eq _ (by omega)] at hc
          simp only [Bool.not_eq_true', decide_eq_false_iff_not] at hc
          omega
    · -- still inside the gap and the window
      have hm : (j.emptyVal + 1) % 65536 = j.emptyVal + 1 :=
        Nat.mod_eq_of_lt (Nat.lt_of_le_of_ne hev fun e => hc (Or.inl (by rw [e])))
      rw [hm] at hc ⊢
      refine ⟨rfl, ⟨hi.wf, hi.hend, hst, Or.inr (Or.inl ⟨hn, by simp only []; omega, g.below, g.above⟩)⟩, ?_⟩
      rw [Nat.add_assoc]
      exact rem_gap hn
  · -- inside a container: `iter.next()`, then on to the next chunk if nothing is left in the window
    have c := cont_facts hi hn hke
    obtain ⟨w1, w2⟩ := (live_iff c.inv).mp hwin
    obtain ⟨n1, n2⟩ := UCIt.next_cur c.inv w1
    rw [if_neg (by rw [hn]; exact Bool.false_ne_true), c.cursor, Nat.add_assoc]
    have hx : j.iter.next.1 ||| j.hs = 65536 * j.nextKey + j.iter.cur := by
      rw [n1, c.hs, or_hs_eq_add w1 (by omega)]
    obtain ⟨c1, c2⟩ := cont_move hi hn hke j.iter.next.2 (j.iter.cur + 1) n2 (UCIt.isNone_next.trans hn) _ rfl
    rw [← apply_ite (Prod.mk (j.iter.next.1 ||| j.hs))]
    exact ⟨hx, c1, c2⟩

/-- **`Next()`**: delivers the head of the remaining list and leaves its tail -/
theorem next_spec {iui : UnsetIt} (hi : iui.Inv) {v : Nat} {t : List Nat} (h : iui.rem = v :: t) :
    (next iui).1 = v ∧ (next iui).2.Inv ∧ (next iui).2.rem = t := by
  obtain ⟨j1, j2, j3⟩ := hasNext_spec hi
  have hr := hasNext_ready iui (j3.mpr (h ▸ List.cons_ne_nil v t))
  obtain ⟨n1, n2, n3⟩ := next_ready rfl j1 hr
  have hrem := rem_ready j1 hr
  rw [j2, h] at hrem
  obtain ⟨e1, e2⟩ := List.cons.inj hrem
  exact ⟨by rw [n1, e1], n2, by rw [n3, e2]⟩

/-! ### `PeekNext()` -/

theorem peekNext_spec {iui : UnsetIt} (hi : iui.Inv) {v : Nat} {t : List Nat} (h : iui.rem = v :: t) :
    (peekNext iui).1 = some v ∧ (peekNext iui).2.Inv ∧ (peekNext iui).2.rem = iui.rem := by
  obtain ⟨j1, j2, j3⟩ := hasNext_spec hi
  have ht : (hasNext iui).1 = true := j3.mpr (h ▸ List.cons_ne_nil v t)
  have hr := hasNext_ready iui ht
  have hrem := rem_ready j1 hr
  rw [j2, h] at hrem
  obtain ⟨e1, _⟩ := List.cons.inj hrem
  unfold peekNext
  simp only []
  rw [ht]
  simp only [Bool.not_true, Bool.false_eq_true, if_false]
  obtain ⟨hk, hke, hrd⟩ := hr
  rw [shl16c] at hke
  rcases hrd with ⟨hn, hwin⟩ | ⟨hn, hwin⟩
  · have g := gap_facts j1 hn hke
    rw [if_pos hn]
    refine ⟨?_, j1, j2⟩
    simp only []
    rw [gap_value_eq hk g.ev, ← g.cursor, e1]
  · have c := cont_facts j1 hn hke
    have w1 := ((live_iff c.inv).mp hwin).1
    rw [if_neg (by rw [hn]; exact Bool.false_ne_true)]
    refine ⟨?_, j1, j2⟩
    simp only []
    rw [UCIt.peekNext_eq c.inv w1, show (0xFFFF : Nat) = 2 ^ 16 - 1 from rfl, Nat.and_two_pow_sub_one_eq_mod,
      Nat.mod_eq_of_lt w1, c.hs, or_hs_eq_add w1 (by omega), ← c.cursor, e1]

/-! ### `drain`, `create`, `reinit` -/

/-- the protocol as the callers' loops run it: `HasNext()` answers, `Next()` on the state it leaves (which calls it again)
delivers -/
theorem follows : Follows Inv rem (fun iui => (hasNext iui).1) (fun iui => next (hasNext iui).2) :=
  ⟨fun h => (hasNext_spec h).2.2, fun hi _ _ h => next_spec (hasNext_spec hi).1 ((hasNext_spec hi).2.1.trans h)⟩

theorem drain_spec (fuel : Nat) (iui : UnsetIt) (hi : iui.Inv) (hf : iui.rem.length ≤ fuel) :
    (iui.drain fuel).1 = iui.rem :=
  drain_of_protocol follows (fun n i => (drain n i).1) (fun _ => rfl) (fun _ _ => apply_ite Prod.fst _ _ _) fuel iui hi hf

/-- `Initialize(a, start, end)` on any iterator object -/
theorem reinit_spec (iui : UnsetIt) (r : Rep) (h : r.wf = true) (a b : Nat) (hb : b ≤ 4294967296) :
    (iui.reinit r a b).Inv ∧ (iui.reinit r a b).rem = absVals r a b := by
  have hw := (slotsWf_iff r).mp h
  have hka : a >>> 16 = a / 65536 := by rw [Nat.shiftRight_eq_div_pow]
  unfold reinit
  have := init_spec { iui with start := a, end_ := b, slots := r.slots, nextKey := a >>> 16,
                                containerIndex := seek r.slots 0 (a >>> 16) } hw hb
    (by simp only []; omega) (Or.inr (seek_spec r.slots 0 (a >>> 16) (fun i hi => absurd hi (Nat.not_lt_zero i))))
  simp only [] at this
  refine ⟨this.1, ?_⟩
  rw [this.2, absVals_eq r h, show max a (65536 * (a >>> 16)) = a by omega]

theorem create_spec (r : Rep) (h : r.wf = true) (a b : Nat) (hb : b ≤ 4294967296) :
    (create r a b).Inv ∧ (create r a b).rem = absVals r a b := reinit_spec _ r h a b hb

/-- **draining `UnsetIterator(a, b)` yields exactly the values of `[a, b)` that are not in the bitmap, in increasing
order** (any `a`; nothing when `a ≥ b`) -/
theorem drain_create (r : Rep) (h : r.wf = true) (a b : Nat) (hb : b ≤ 4294967296) (fuel : Nat) (hf : b - a ≤ fuel) :
    ((create r a b).drain fuel).1 = absVals r a b := by
  obtain ⟨hi, hr⟩ := create_spec r h a b hb
  rw [drain_spec fuel _ hi, hr]
  rw [hr, absVals_eq r h]
  exact Nat.le_trans (length_absR_le _ _ _) hf

/-! ### `AdvanceIfNeeded(minval)` -/

theorem below_ci {j : UnsetIt} (hi : j.Inv) (hke : 65536 * j.nextKey < j.end_) :
    ∀ i, i < j.containerIndex → (slotAt j.slots i).key < j.nextKey + 1 := by
  intro i hil
  cases hn : j.iter.isNone
  · have c := cont_facts hi hn hke
    have := c.key
    have := key_lt_of_lt hi.wf hil c.idx
    omega
  · exact Nat.lt_succ_of_lt ((gap_facts hi hn hke).below i hil)

/-- the first loop: everything below chunk `T` is skipped -/
theorem advSkip_spec {iui : UnsetIt} (hi : iui.Inv) (T : Nat) :
    (advSkip iui T).Inv ∧ (advSkip iui T).rem = iui.rem.dropWhile (fun x => decide (x < 65536 * T)) ∧
    (hasNext (advSkip iui T)).2 = advSkip iui T ∧
    ((hasNext (advSkip iui T)).1 = true → T ≤ (advSkip iui T).nextKey) := by
  fun_induction advSkip iui T with
  | case1 x hc ih =>
    obtain ⟨j1, j2, -⟩ := hasNext_spec hi
    have hr := hasNext_ready x hc.1
    generalize (hasNext x).2 = j at j1 j2 hr hc ih ⊢
    obtain ⟨hk, hke, hlow, hcl, _⟩ := ready_facts j1 hr
    have hini := init_spec_at { j with nextKey := j.nextKey + 1,
                                       containerIndex := seek j.slots j.containerIndex (j.nextKey + 1) }
      j1.wf j1.hend (Nat.le_of_lt j1.hstart) (Or.inr (seek_spec _ _ _ (below_ci j1 hke)))
    simp only [] at hini
    obtain ⟨i1, i2, i3, i4⟩ := ih hini.1
    refine ⟨i1, ?_, i3, i4⟩
    rw [i2, hini.2, ← j2, rem_eq j]
    have hcu : j.cursor ≤ 65536 * (j.nextKey + 1) := by
      have : j.cursor = 65536 * j.nextKey + j.low := by unfold cursor; rfl
      omega
    rw [← Nat.max_eq_right hcu, ← absR_dropWhile, absR_dropWhile_twice]
    exact Nat.mul_le_mul_left _ hc.2
  | case2 x hc =>
    obtain ⟨j1, j2, j3⟩ := hasNext_spec hi
    have hT : (hasNext x).1 = true → T ≤ (hasNext x).2.nextKey := fun hh => Nat.le_of_not_lt fun hlt => hc ⟨hh, hlt⟩
    refine ⟨j1, ?_, by rw [hasNext_idem], by rw [hasNext_idem]; exact hT⟩
    cases hh : (hasNext x).1
    · rw [j2, rem_nil_of_hasNext_false hi hh]; rfl
    · rw [← j2, rem_eq (hasNext x).2, absR_dropWhile_le]
      exact Nat.le_trans (Nat.mul_le_mul_left _ (hT hh)) (cursor_ge _)

/-- **`AdvanceIfNeeded(minval)`** leaves exactly the remaining values `≥ minval` -/
theorem advanceIfNeeded_spec {iui : UnsetIt} (hi : iui.Inv) (m : Nat) (hm : m < 4294967296) :
    (iui.advanceIfNeeded m).Inv ∧
    (iui.advanceIfNeeded m).rem = iui.rem.dropWhile (fun x => decide (x < m)) := by
  have _ := hm  -- the bound on `m` is not needed
  obtain ⟨a1, a2, a3, a4⟩ := advSkip_spec hi (m >>> 16)
  have hT : m >>> 16 = m / 65536 := by rw [Nat.shiftRight_eq_div_pow]
  rw [rem_eq iui, ← absR_dropWhile_twice _ _ _ (show 65536 * (m >>> 16) ≤ m by omega), ← rem_eq iui, ← a2]
  unfold advanceIfNeeded
  simp only []
  generalize advSkip iui (m >>> 16) = s at a1 a2 a3 a4 ⊢
  rw [a3]
  obtain ⟨j1, j2, j3⟩ := hasNext_spec a1
  cases hb : (hasNext s).1
  · -- nothing left
    rw [Bool.false_and, if_neg Bool.false_ne_true]
    refine ⟨a1, ?_⟩
    rw [rem_nil_of_hasNext_false a1 hb]; rfl
  · have hr := hasNext_ready s hb
    rw [a3] at hr
    obtain ⟨hk, hke, hlow, hcl, _⟩ := ready_facts a1 hr
    have hTk := a4 hb
    rw [Bool.true_and]
    by_cases hkT : s.nextKey = m >>> 16
    · rw [if_pos (by rw [beq_iff_eq]; exact hkT)]
      have hmk : m / 65536 = s.nextKey := by rw [hkT, hT]
      cases hn : s.iter.isNone
      · -- inside a container
        rw [if_neg Bool.false_ne_true]
        have c := cont_facts a1 hn hke
        obtain ⟨c1, c2⟩ := cont_move a1 hn hke _ _ (UCIt.adv_cur c.inv (m % 65536) (Nat.mod_lt _ (by decide)))
          ((UCIt.isNone_advanceIfNeeded _).trans hn) _ rfl
        exact ⟨c1, by rw [c2, rem_eq s, absR_dropWhile, c.cursor, max_chunk hmk]⟩
      · -- in a gap
        rw [if_pos rfl]
        have g := gap_facts a1 hn hke
        by_cases hlt : s.emptyVal < m % 65536
        · rw [if_pos hlt]
          obtain ⟨c1, c2⟩ := gap_move a1 hn hke (m % 65536) (Nat.mod_lt _ (by omega)) _ rfl
          exact ⟨c1, by rw [c2, rem_eq s, absR_dropWhile, g.cursor, max_chunk hmk, Nat.max_eq_right (Nat.le_of_lt hlt)]⟩
        · rw [if_neg hlt]
          obtain ⟨c1, c2⟩ := gap_move a1 hn hke s.emptyVal g.ev _ rfl
          exact ⟨c1, by rw [c2, rem_eq s, absR_dropWhile, g.cursor, max_chunk hmk, Nat.max_eq_left (Nat.le_of_not_lt hlt)]⟩
    · -- already beyond the chunk of `minval`
      rw [if_neg (by rw [beq_iff_eq]; exact hkT)]
      refine ⟨a1, ?_⟩
      rw [rem_eq s, absR_dropWhile_le]
      have := cursor_ge s
      have : 65536 * (m >>> 16 + 1) ≤ 65536 * s.nextKey := Nat.mul_le_mul_left _ (by omega)
      omega

end UnsetIt

/-! ### the bridge to the L1 oracle -/

/-- the specification list is the enumeration of `([0, 2^32) \ r) ∩ [a, b)` at level 1 -/
theorem absVals_eq_toList (r : Rep) (h : r.wf = true) (a b : Nat) (hb : b ≤ 4294967296) :
    absVals r a b = BSet.toList (BSet.restrict (BSet.compl 4294967296 r.toBSet) a b) := by
  have hw := (slotsWf_iff r).mp h
  have hc := canon_rep r h
  have hcc := BSet.canon_compl 4294967296 _ hc
  have hcr : BSet.Canon 4294967296 (BSet.restrict (BSet.compl 4294967296 r.toBSet) a b) :=
    BSet.canon_inter _ _ _ hcc (BSet.canon_range _ a b hb)
  rw [absVals_eq r h]
  apply Util.sorted_ext _ _ (sorted_absR _ _ _) (BSet.toList_sorted _ hcr.1 hcr.2.2)
  intro x
  rw [mem_absR, BSet.mem_toList _ hcr.1 hcr.2.2, BSet.restrict, BSet.mem_inter _ _ hcc.1 (BSet.sinc_range a b),
    BSet.mem_compl _ _ hc.1, BSet.mem_range, mem_rep r h, has_eq_slotsHas r hw]
  by_cases h1 : a ≤ x
  · by_cases h2 : x < b
    · have h3 : x < 4294967296 := by omega
      rw [decide_eq_true h1, decide_eq_true h2, decide_eq_true h3]
      cases slotsHas r.slots x <;> simp [h1, h2]
    · rw [decide_eq_false h2]; simp [h2]
  · rw [decide_eq_false h1]; simp [h1]

theorem UnsetIt.drain_create_toList (r : Rep) (h : r.wf = true) (a b : Nat) (hb : b ≤ 4294967296) (fuel : Nat)
    (hf : b - a ≤ fuel) :
    ((UnsetIt.create r a b).drain fuel).1 = BSet.toList (BSet.restrict (BSet.compl 4294967296 r.toBSet) a b) := by
  rw [UnsetIt.drain_create r h a b hb fuel hf, absVals_eq_toList r h a b hb]

end RModel.Impl.It
