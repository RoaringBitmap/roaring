import RModel.Spec.Agg
import RProofs.BSet
/-! Meaning of the aggregate folds in terms of membership, and closure of the canonical form (C11).  Last section: the folds by
which the bit-sliced indexes collect columns into a canonical finite set (`BSI.Good`). -/
open RModel.Util
namespace RModel.BSet

theorem canon_foldl_combine (U : Nat) (f : Bool → Bool → Bool) (hf : f false false = false) (l : List BSet) (acc : BSet)
    (ha : Canon U acc) (hl : ∀ s ∈ l, Canon U s) : Canon U (l.foldl (fun a b => combine f a b false false) acc) :=
  List.foldlRecOn l _ ha fun a h s hs => canon_combine U f hf a s h (hl s hs)

/-- parity of the number of members containing `x`, starting from `b` -/
def parity (l : List BSet) (x : Nat) (b : Bool) : Bool := l.foldl (fun p s => p != mem s x) b

/-- `parity l x false` says: an odd number of members of `l` contain `x` -/
theorem parity_eq_odd (l : List BSet) (x : Nat) (b : Bool) :
    BSet.parity l x b = (b != ((l.filter (mem · x)).length % 2 == 1)) := by
  induction l generalizing b with
  | nil => simp [BSet.parity]
  | cons s t ih =>
    -- one more member flips the parity
    have flip : ∀ n, ((n + 1) % 2 == 1) = !(n % 2 == 1) := fun n => by
      rcases Nat.mod_two_eq_zero_or_one n with h | h <;> simp [Nat.add_mod, h]
    rw [BSet.parity, List.foldl_cons, ← BSet.parity, ih, List.filter_cons]
    cases hm : mem s x
    · simp
    · simp [flip]

/-! ### the folds on strictly increasing operands (no universe needed) -/

theorem mem_foldl_inter_sinc (l : List BSet) (acc : BSet) (hacc : SInc acc) (hl : ∀ s ∈ l, SInc s) (x : Nat) :
    mem (l.foldl BSet.inter acc) x = (mem acc x && l.all (mem · x)) :=
  (mem_foldl_combine _ rfl l acc hacc hl x).trans (foldl_and_eq_all _ l _)

theorem sinc_unionL (l : List BSet) (hl : ∀ s ∈ l, SInc s) : SInc (BSet.unionL l) :=
  sinc_foldl_union l [] (by simp [SInc]) hl

theorem mem_unionL_sinc (l : List BSet) (hl : ∀ s ∈ l, SInc s) (x : Nat) :
    mem (BSet.unionL l) x = l.any (mem · x) := by
  rw [BSet.unionL, mem_foldl_union l [] (by simp [SInc]) hl, mem_nil, Bool.false_or]

/-- adding the values of a list one by one (`AddMany`) -/
theorem mem_foldl_add (s : BSet) (hs : SInc s) (l : List Nat) :
    SInc (l.foldl BSet.add s) ∧ ∀ x, mem (l.foldl BSet.add s) x = (mem s x || l.contains x) := by
  have := foldl_inv_any (I := SInc) (P := fun _ => True) (op := BSet.add) (m := mem) (mb := fun y x => decide (x = y))
    (fun a y ha _ => ⟨sinc_add a ha y, mem_add a ha y⟩) l s hs (fun _ _ => trivial)
  exact ⟨this.1, fun x => by rw [this.2, List.contains_eq_any_beq]; simp only [Bool.beq_eq_decide_eq]⟩

/-- a set whose members are those of some operand is the union of the operands (`den`: the set an operand denotes) -/
theorem eq_unionL_of_any {ρ : Type} {den : ρ → BSet} (hd : ∀ r, SInc (den r)) {s : BSet} (hs : SInc s) {l : List ρ}
    (h : ∀ x, mem s x = l.any (fun r => mem (den r) x)) : s = BSet.unionL (l.map den) := by
  have hl : ∀ t ∈ l.map den, SInc t := List.forall_mem_map.2 fun r _ => hd r
  refine canon_ext_sinc _ _ hs (sinc_unionL _ hl) (fun x => ?_)
  rw [h x, mem_unionL_sinc _ hl, List.any_map]
  rfl

/-- a set whose members are those of every operand, none if there is no operand, is their intersection -/
theorem eq_interL_of_all {ρ : Type} {den : ρ → BSet} (hd : ∀ r, SInc (den r)) {s : BSet} (hs : SInc s) {l : List ρ}
    (h : ∀ x, mem s x = (!l.isEmpty && l.all fun r => mem (den r) x)) : s = BSet.interL (l.map den) := by
  cases l with
  | nil => exact canon_ext_sinc _ _ hs .nil h
  | cons a t =>
    have ht : ∀ u ∈ t.map den, SInc u := List.forall_mem_map.2 fun r _ => hd r
    refine canon_ext_sinc _ _ hs (sinc_foldl_combine _ _ _ (hd a) ht) fun x => ?_
    rw [h x, List.map_cons, BSet.interL, mem_foldl_inter_sinc _ _ (hd a) ht, List.all_map]
    rfl

/-! ### the aggregates of `Spec/Agg.lean` on canonical sets -/

/-- FastOr / HeapOr / ParOr / ParHeapOr: `x` is in the result iff some member contains it -/
theorem mem_unionL (U : Nat) (l : List BSet) (hl : ∀ s ∈ l, Canon U s) (x : Nat) :
    mem (unionL l) x = l.any (fun s => mem s x) :=
  mem_unionL_sinc l (fun s hs => (hl s hs).1) x

theorem canon_unionL (U : Nat) (l : List BSet) (hl : ∀ s ∈ l, Canon U s) : Canon U (unionL l) :=
  canon_foldl_combine U _ rfl l [] (canon_nil U) hl

/-- FastAnd / ParAnd on a non-empty list: `x` is in the result iff every member contains it -/
theorem mem_interL (U : Nat) (a : BSet) (t : List BSet) (hl : ∀ s ∈ a :: t, Canon U s) (x : Nat) :
    mem (interL (a :: t)) x = (a :: t).all (fun s => mem s x) :=
  (mem_foldl_combine _ rfl t a (hl a List.mem_cons_self).1 (fun s hs => (hl s (List.mem_cons_of_mem _ hs)).1) x).trans
    (foldl_and_eq_all _ t _)

theorem canon_interL (U : Nat) (l : List BSet) (hl : ∀ s ∈ l, Canon U s) : Canon U (interL l) := by
  cases l with
  | nil => exact canon_nil U
  | cons a t => exact canon_foldl_combine U _ rfl t a (hl a (by simp)) (fun s hs => hl s (by simp [hs]))

/-- HeapXor: `x` is in the result iff an odd number of members contain it -/
theorem mem_xorL (U : Nat) (l : List BSet) (hl : ∀ s ∈ l, Canon U s) (x : Nat) :
    mem (xorL l) x = parity l x false :=
  mem_foldl_combine _ rfl l [] .nil (fun s hs => (hl s hs).1) x

theorem canon_xorL (U : Nat) (l : List BSet) (hl : ∀ s ∈ l, Canon U s) : Canon U (xorL l) :=
  canon_foldl_combine U _ rfl l [] (canon_nil U) hl

/-- AndAny: `v` stays iff it was in the receiver and some member of the list contains it -/
theorem mem_andAny (U : Nat) (x : BSet) (l : List BSet) (hx : Canon U x) (hl : ∀ s ∈ l, Canon U s) (v : Nat) :
    mem (andAny x l) v = (mem x v && l.any (fun s => mem s v)) := by
  simp [andAny, mem_inter x (unionL l) hx.1 (canon_unionL U l hl).1 v, mem_unionL U l hl v]

theorem canon_andAny (U : Nat) (x : BSet) (l : List BSet) (hx : Canon U x) (hl : ∀ s ∈ l, Canon U s) :
    Canon U (andAny x l) :=
  canon_inter U x (unionL l) hx (canon_unionL U l hl)

/-- the union fold does not depend on the order or multiplicity of the list -/
theorem unionL_perm (U : Nat) (l l' : List BSet) (hl : ∀ s ∈ l, Canon U s) (hl' : ∀ s ∈ l', Canon U s)
    (h : ∀ s, s ∈ l ↔ s ∈ l') : unionL l = unionL l' := by
  apply canon_ext U _ _ (canon_unionL U l hl) (canon_unionL U l' hl')
  intro x
  rw [mem_unionL U l hl, mem_unionL U l' hl', Bool.eq_iff_iff]
  simp only [List.any_eq_true]
  constructor
  · rintro ⟨s, hs, hx⟩; exact ⟨s, (h s).1 hs, hx⟩
  · rintro ⟨s, hs, hx⟩; exact ⟨s, (h s).2 hs, hx⟩

end RModel.BSet

/-! ### folds that collect members into a canonical finite set -/
namespace RModel.BSI
open RModel.BSet

/-- the union of one set per participant -/
theorem foldl_union_any {β : Type} (e : β → BSet) (bs : List β) (hb : ∀ x ∈ bs, Good (e x)) (acc : BSet) (ha : Good acc) :
    Good (bs.foldl (fun acc x => union acc (e x)) acc) ∧
    ∀ c, mem (bs.foldl (fun acc x => union acc (e x)) acc) c = (mem acc c || bs.any (fun x => mem (e x) c)) :=
  foldl_inv_any (I := Good) (P := fun x => Good (e x))
    (fun _ _ ha hx => ⟨good_union _ _ ha hx, mem_union _ _ ha.1 hx.1⟩) bs acc ha hb

theorem good_foldl_add : ∀ (ys : List Nat) (acc : BSet), Good acc → Good (ys.foldl add acc)
  | [], _, h => h
  | y :: ys, acc, h => good_foldl_add ys (add acc y) (good_add _ _ h)

/-- a worker that adds the columns of its batch that pass a test builds the set of the filtered batch -/
theorem foldl_addIf_eq (p : Nat → Bool) (l : List Nat) :
    l.foldl (fun res c => if p c then add res c else res) [] = ofList (l.filter p) := by
  rw [ofList, List.foldl_filter]

theorem good_ofList (l : List Nat) : Good (ofList l) := good_foldl_add l [] good_nil

theorem mem_ofList (l : List Nat) (k : Nat) : mem (ofList l) k = true ↔ k ∈ l := by
  rw [ofList, (mem_foldl_add [] .nil l).2]
  simp

end RModel.BSI
