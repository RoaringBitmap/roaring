import RProofs.Rep64
/-!
The range operations of `roaring64` (`Flip` in place and static, `AddRange`, `RemoveRange`) for every instance `o : Ops32` of the
32-bit range functions that is sound (`Ops32.Sound`: set semantics and well-formed results on well-formed inputs for
`lo < hi ≤ 2^32`); `Ops32.exact_sound` (`Rep64Agg.lean`) closes the parameter with the exact 32-bit models.  The key loop
`hbStart..hbLast` is the walk of the key list, each key read by `keysV` as the positions the operation touches under it, against
the bucket list (`rangeWalk_eq`, `rangeWalk_spec`), with one `MergeSpec` per operation; `RemoveRange` visits buckets, not keys, and
is a one-sided walk (`removeRange_buckets`).  That the sub-ranges of the keys make up `[lo, hi)` is `range_bucketwise_flip` /
`range_bucketwise_last` (the two ways the Go code computes the last key and the end of its sub-range).
-/
open RModel.Util
namespace RModel.Impl
open RModel RModel.BSet RModel.Driver ContOps RepOps R64Ops

/-- what the bucket-level theorems need from the 32-bit `Flip / AddRange / RemoveRange` on a range `s < e ≤ 2^32` -/
structure Ops32.Sound (o : Ops32) : Prop where
  mem_flip : ∀ (r : Rep) (s e y : Nat), r.wf = true → s < e → e ≤ 4294967296 →
    mem (o.flip r s e).toBSet y = (mem r.toBSet y != (decide (s ≤ y) && decide (y < e)))
  wf_flip : ∀ (r : Rep) (s e : Nat), r.wf = true → s < e → e ≤ 4294967296 → (o.flip r s e).wf = true
  mem_addRange : ∀ (r : Rep) (s e y : Nat), r.wf = true → s < e → e ≤ 4294967296 →
    mem (o.addRange r s e).toBSet y = (mem r.toBSet y || (decide (s ≤ y) && decide (y < e)))
  wf_addRange : ∀ (r : Rep) (s e : Nat), r.wf = true → s < e → e ≤ 4294967296 → (o.addRange r s e).wf = true
  mem_removeRange : ∀ (r : Rep) (s e y : Nat), r.wf = true → s < e → e ≤ 4294967296 →
    mem (o.removeRange r s e).toBSet y = (mem r.toBSet y && !(decide (s ≤ y) && decide (y < e)))
  wf_removeRange : ∀ (r : Rep) (s e : Nat), r.wf = true → s < e → e ≤ 4294967296 → (o.removeRange r s e).wf = true

/-! ### the key loop is a walk of the key list against the bucket list -/

theorem rangeWalk_eq (va : Nat → Nat → Bool) (pres : Nat → Bucket → Option Bucket) (abs : Nat → Option Bucket)
    (out : Bucket → Bucket) (ks : List Nat) (bs : List Bucket) :
    rangeWalk pres abs out ks bs = mergeWalk (keysV va) bucketV (fun k => (abs k).toList) (fun b => [out b])
      (fun b => [out b]) (fun k b => (pres k b).toList) ks bs := by
  fun_induction rangeWalk pres abs out ks bs with
  | case1 bs => simp [mergeWalk, List.map_eq_flatMap]
  | case2 k ks ih => rw [ih, mergeWalk_nil_right, mergeWalk_nil_right, consOpt_eq]; rfl
  | case3 k ks b bs hlt ih => rw [ih, mergeWalk, if_neg (Nat.lt_asymm hlt), if_pos hlt]; rfl
  | case4 k ks b bs hlt hlt2 ih => rw [ih, mergeWalk, if_pos hlt2, consOpt_eq]
  | case5 k ks b bs hlt hlt2 ih => rw [ih, mergeWalk, if_neg hlt2, if_neg hlt, consOpt_eq]

/-! ### pieces shared by the instances -/

theorem rangeTest_false {s e : Nat} (h : ¬ s < e) (y : Nat) : (decide (s ≤ y) && decide (y < e)) = false := by
  rw [Bool.eq_false_iff]
  simp only [ne_eq, Bool.and_eq_true, decide_eq_true_eq]
  omega

/-- the 32-bit `Flip(s, e)`, `e ≤ 2^32`, in place (`r' = r`) or static (`r' = r.Clone()`): an empty range leaves `r'` -/
theorem flip32_spec {o : Ops32} (ho : o.Sound) {r r' : Rep} (hr : r.wf = true) (h' : r'.wf = true ∧ r'.toBSet = r.toBSet)
    (s e : Nat) (he : e ≤ 4294967296) :
    (if s < e then o.flip r s e else r').wf = true ∧ ∀ y, mem (if s < e then o.flip r s e else r').toBSet y =
      (mem r.toBSet y != (decide (s ≤ y) && decide (y < e))) := by
  split
  · rename_i h; exact ⟨ho.wf_flip r s e hr h he, fun y => ho.mem_flip r s e y hr h he⟩
  · rename_i h; exact ⟨h'.1, fun y => by rw [h'.2, rangeTest_false h, Bool.bne_false]⟩

theorem subHiFlip_le (hi k : Nat) : subHiFlip hi k ≤ 4294967296 := by
  unfold subHiFlip; split <;> omega

theorem subHiLast_le (hi k : Nat) : subHiLast hi k ≤ 4294967296 := by
  unfold subHiLast; split <;> omega

theorem contains_keyRange (a b k : Nat) : (keyRange a b).contains k = (decide (a ≤ k) && decide (k ≤ b)) := by
  rw [Bool.eq_iff_iff]
  simp only [keyRange, List.contains_iff_mem, List.mem_range'_1, Bool.and_eq_true, decide_eq_true_eq]
  omega

theorem pairwise_keyRange (a b : Nat) : (keyRange a b).Pairwise (· < ·) := List.pairwise_lt_range' 1

theorem mem_keyRange {a b k : Nat} (h : k ∈ keyRange a b) : a ≤ k ∧ k ≤ b := by
  simp only [keyRange, List.mem_range'_1] at h; omega

/-- inside the key range the per-bucket sub-range of `Flip` is the range itself -/
theorem range_bucketwise_flip (lo hi x : Nat) :
    ((decide (lo / 4294967296 ≤ x / 4294967296) && decide (x / 4294967296 ≤ hi / 4294967296)) &&
      (decide (subLo lo (x / 4294967296) ≤ x % 4294967296) && decide (x % 4294967296 < subHiFlip hi (x / 4294967296)))) =
    (decide (lo ≤ x) && decide (x < hi)) := by
  rw [Bool.eq_iff_iff]
  simp only [Bool.and_eq_true, decide_eq_true_eq]
  rw [lex_le 4294967296 lo x, lex_lt 4294967296 x hi]
  exact lex_range (Nat.mod_lt x (by decide))

/-- inside the key range the per-bucket sub-range of `AddRange` is the range itself -/
theorem range_bucketwise_last (lo hi x : Nat) (h : lo < hi) :
    ((decide (lo / 4294967296 ≤ x / 4294967296) && decide (x / 4294967296 ≤ (hi - 1) / 4294967296)) &&
      (decide (subLo lo (x / 4294967296) ≤ x % 4294967296) && decide (x % 4294967296 < subHiLast hi (x / 4294967296)))) =
    (decide (lo ≤ x) && decide (x < hi)) :=
  range_chunkwise 4294967296 lo hi x (by decide) h

/-- a key loop over the keys `ka..kb` whose steps meet a specification: the result is well-formed, and `f` combines the
positions `va` of the visited keys with the members of the bucket list -/
theorem rangeWalk_spec {pres : Nat → Bucket → Option Bucket} {abs : Nat → Option Bucket} {out : Bucket → Bucket}
    {va : Nat → Nat → Bool} {f : Bool → Bool → Bool} {Ka : Nat → Prop}
    (W : MergeSpec (keysV va) bucketV bucketV f Ka BucketOk BucketOk (fun k => (abs k).toList) (fun b => [out b])
      (fun b => [out b]) (fun k b => (pres k b).toList)) {ka kb : Nat} (hK : ∀ k ∈ keyRange ka kb, Ka k) {bs : List Bucket}
    (hw : BucketsWf bs) :
    BucketsWf (rangeWalk pres abs out (keyRange ka kb) bs) ∧ ∀ x, bucketsHas (rangeWalk pres abs out (keyRange ka kb) bs) x =
      f ((decide (ka ≤ x / 4294967296) && decide (x / 4294967296 ≤ kb)) && va (x / 4294967296) (x % 4294967296))
        (bucketsHas bs x) := by
  rw [rangeWalk_eq va]
  refine ⟨W.bucketsWf hK (pairwise_keyRange _ _) hw, fun x => ?_⟩
  rw [W.bucketsHas hK (pairwise_keyRange _ _) hw, hasAt_keys, contains_keyRange]

/-! ### in-place `Flip` -/

/-- the positions `Flip` flips in bucket `k` -/
def flipPart64 (lo hi k y : Nat) : Bool := decide (subLo lo k ≤ y) && decide (y < subHiFlip hi k)

theorem piece_newFlipped {o : Ops32} (ho : o.Sound) (lo hi k : Nat) (hk : k < 4294967296) :
    Piece bucketV BucketOk k (fun y => false != flipPart64 lo hi k y) (newFlipped o lo hi k).toList :=
  have h := flip32_spec ho wf_emptyRep ⟨wf_emptyRep, rfl⟩ (subLo lo k) _ (subHiFlip_le hi k)
  piece_nonEmpty hk h.1 fun y => (h.2 y).trans (by rw [mem_emptyRep]; rfl)

theorem spec_flip64 {o : Ops32} (ho : o.Sound) (lo hi : Nat) :
    MergeSpec (keysV (flipPart64 lo hi)) bucketV bucketV (fun p q => q != p) (· < 4294967296) BucketOk BucketOk
      (fun k => (newFlipped o lo hi k).toList) (fun b => [id b]) (fun b => [id b])
      (fun k b => (flipPresent o lo hi k b).toList) :=
  ⟨rfl, piece_newFlipped ho lo hi, fun _ hb => .single rfl hb fun _ => (Bool.bne_false _).symm,
    fun _ hb => .single rfl hb fun _ => (Bool.bne_false _).symm,
    fun k b hk hb _ =>
      have h := flip32_spec ho (wf_writableBm_of_ok hb) ⟨wf_writableBm_of_ok hb, rfl⟩ (subLo lo k) _ (subHiFlip_le hi k)
      piece_nonEmpty hk h.1 fun y => (h.2 y).trans (by rw [toBSet_writableBm]; rfl)⟩

theorem keys_lt_of_hi {lo hi : Nat} (hhi : hi < 18446744073709551616) :
    ∀ k ∈ keyRange (lo / 4294967296) (hi / 4294967296), k < 4294967296 := by
  intro k hk
  have := mem_keyRange hk
  omega

/-- `(*Bitmap).Flip(lo, hi)` returns a well-formed bitmap -/
theorem Rep64.wf_flip {o : Ops32} (ho : o.Sound) (r : Rep64) (hr : r.wf = true) (lo hi : Nat)
    (hhi : hi < 18446744073709551616) : (Rep64.flip o r lo hi).wf = true := by
  unfold Rep64.flip
  split
  · exact (bucketsWf_iff _).mpr (rangeWalk_spec (spec_flip64 ho lo hi) (keys_lt_of_hi hhi) ((bucketsWf_iff r).mp hr)).1
  · exact hr

theorem Rep64.mem_flip {o : Ops32} (ho : o.Sound) (r : Rep64) (hr : r.wf = true) (lo hi : Nat)
    (hhi : hi < 18446744073709551616) (x : Nat) :
    mem (Rep64.flip o r lo hi).toBSet x = (mem r.toBSet x != (decide (lo ≤ x) && decide (x < hi))) := by
  have hw := (bucketsWf_iff r).mp hr
  have hwf := Rep64.wf_flip ho r hr lo hi hhi
  rw [mem_rep64_buckets _ ((bucketsWf_iff _).mp hwf).bounded, mem_rep64_buckets r hw.bounded]
  unfold Rep64.flip
  split
  · simp only
    unfold flipWalk
    rw [(rangeWalk_spec (spec_flip64 ho lo hi) (keys_lt_of_hi hhi) hw).2]
    unfold flipPart64
    rw [range_bucketwise_flip]
  · rename_i h; rw [rangeTest_false h, Bool.bne_false]

/-- **in-place `Flip`**: the stored result denotes the L1 `flipRange` -/
theorem Rep64.toBSet_flip {o : Ops32} (ho : o.Sound) (r : Rep64) (hr : r.wf = true) (lo hi : Nat)
    (hhi : hi < 18446744073709551616) : (Rep64.flip o r lo hi).toBSet = BSet.flipRange r.toBSet lo hi :=
  canon_ext_sinc _ _ (sinc_rep64 _) (sinc_flipRange _ (sinc_rep64 r) lo hi)
    (fun x => by rw [Rep64.mem_flip ho r hr lo hi hhi, mem_flipRange _ (sinc_rep64 r)])

/-! ### static `Flip` -/

theorem flagsOnly_copyOutside (b : Bucket) : FlagsOnly (copyOutside b) b := by
  unfold copyOutside; split
  · exact ⟨rfl, .inl rfl⟩
  · exact ⟨rfl, .inr (.inl rfl)⟩

theorem spec_sflip64 {o : Ops32} (ho : o.Sound) (lo hi : Nat) :
    MergeSpec (keysV (flipPart64 lo hi)) bucketV bucketV (fun p q => q != p) (· < 4294967296) BucketOk BucketOk
      (fun k => (newFlipped o lo hi k).toList) (fun b => [copyOutside b]) (fun b => [copyOutside b])
      (fun k b => (sflipPresent o lo hi k b).toList) := by
  have out : ∀ b, BucketOk b → Piece bucketV BucketOk b.high (fun y => mem b.bm.toBSet y != false) [copyOutside b] :=
    fun b hb => .single (flagsOnly_copyOutside b).1 ((flagsOnly_copyOutside b).ok hb) fun y =>
      (congrArg (mem · y) (flagsOnly_copyOutside b).set).trans (Bool.bne_false _).symm
  exact ⟨rfl, piece_newFlipped ho lo hi, out, out,
    fun k b hk hb _ =>
      have h := flip32_spec ho hb.2.1 ⟨(Rep.wf_cloneB _).trans hb.2.1, Rep.toBSet_cloneB _⟩ (subLo lo k) _ (subHiFlip_le hi k)
      piece_nonEmpty hk h.1 h.2⟩

/-- `roaring64.Flip(r, lo, hi)` returns a well-formed bitmap -/
theorem Rep64.wf_sflip {o : Ops32} (ho : o.Sound) (r : Rep64) (hr : r.wf = true) (lo hi : Nat)
    (hhi : hi < 18446744073709551616) : (Rep64.sflip o r lo hi).wf = true := by
  unfold Rep64.sflip
  split
  · exact (bucketsWf_iff _).mpr (rangeWalk_spec (spec_sflip64 ho lo hi) (keys_lt_of_hi hhi) ((bucketsWf_iff r).mp hr)).1
  · exact Rep64.wf_clone r hr

theorem Rep64.mem_sflip {o : Ops32} (ho : o.Sound) (r : Rep64) (hr : r.wf = true) (lo hi : Nat)
    (hhi : hi < 18446744073709551616) (x : Nat) :
    mem (Rep64.sflip o r lo hi).toBSet x = (mem r.toBSet x != (decide (lo ≤ x) && decide (x < hi))) := by
  by_cases h : lo < hi
  · have hw := (bucketsWf_iff r).mp hr
    have hwf := Rep64.wf_sflip ho r hr lo hi hhi
    rw [mem_rep64_buckets _ ((bucketsWf_iff _).mp hwf).bounded, mem_rep64_buckets r hw.bounded]
    unfold Rep64.sflip sflipWalk
    rw [if_pos h, (rangeWalk_spec (spec_sflip64 ho lo hi) (keys_lt_of_hi hhi) hw).2]
    unfold flipPart64
    rw [range_bucketwise_flip]
  · rw [show Rep64.sflip o r lo hi = r.clone from if_neg h, Rep64.toBSet_clone r hr, rangeTest_false h, Bool.bne_false]

/-- **static `Flip`**: the stored result denotes the L1 `flipRange` -/
theorem Rep64.toBSet_sflip {o : Ops32} (ho : o.Sound) (r : Rep64) (hr : r.wf = true) (lo hi : Nat)
    (hhi : hi < 18446744073709551616) : (Rep64.sflip o r lo hi).toBSet = BSet.flipRange r.toBSet lo hi :=
  canon_ext_sinc _ _ (sinc_rep64 _) (sinc_flipRange _ (sinc_rep64 r) lo hi)
    (fun x => by rw [Rep64.mem_sflip ho r hr lo hi hhi, mem_flipRange _ (sinc_rep64 r)])

/-! ### `AddRange` -/

/-- the keys `AddRange` visits: below `2^32`, with a non-empty sub-range -/
def AddKey (lo hi : Nat) (k : Nat) : Prop := k < 4294967296 ∧ subLo lo k < subHiLast hi k

/-- the sub-range of a non-empty interval in a bucket is not empty, whatever the key (outside the key range it is the whole bucket) -/
theorem subLo_lt_subHiLast {lo hi : Nat} (h : lo < hi) (k : Nat) : subLo lo k < subHiLast hi k := by
  have hl := (lex_le 4294967296 lo (hi - 1)).mp (by omega)
  have := Nat.mod_lt lo (show 0 < 4294967296 by decide)
  unfold subLo subHiLast
  generalize lo / 4294967296 = ka, lo % 4294967296 = s, (hi - 1) / 4294967296 = kb, (hi - 1) % 4294967296 = e at *
  split <;> split <;> omega

theorem addKey_of_mem {lo hi : Nat} (h : lo < hi) (hhi : hi ≤ 18446744073709551616) :
    ∀ k ∈ keyRange (lo / 4294967296) ((hi - 1) / 4294967296), AddKey lo hi k := by
  intro k hk
  have := mem_keyRange hk
  exact ⟨by omega, subLo_lt_subHiLast h k⟩

theorem isEmptyGo_addRange {o : Ops32} (ho : o.Sound) (r : Rep) (hr : r.wf = true) (s e : Nat) (h : s < e)
    (he : e ≤ 4294967296) : (o.addRange r s e).isEmptyGo = false := by
  cases hh : (o.addRange r s e).isEmptyGo with
  | false => rfl
  | true =>
    have h1 := mem_of_isEmptyGo hh s
    rw [ho.mem_addRange r s e s hr h he] at h1
    simp [h] at h1

/-- the positions `AddRange` fills in bucket `k` -/
def addPart64 (lo hi k y : Nat) : Bool := decide (subLo lo k ≤ y) && decide (y < subHiLast hi k)

/-- the bucket `AddRange` leaves under a key `k` of its range, from the bitmap `c` it found there (`{}`: none) -/
theorem piece_added {o : Ops32} (ho : o.Sound) {lo hi k : Nat} (hk : AddKey lo hi k) {c : Rep} (hc : c.wf = true)
    {m : Nat → Bool} (hm : ∀ y, mem c.toBSet y = m y) :
    Piece bucketV BucketOk k (fun y => m y || addPart64 lo hi k y)
      [{ high := k, bm := o.addRange c (subLo lo k) (subHiLast hi k), flag := false }] :=
  .single rfl ⟨hk.1, ho.wf_addRange _ _ _ hc hk.2 (subHiLast_le hi k), isEmptyGo_addRange ho _ hc _ _ hk.2 (subHiLast_le hi k)⟩
    (fun y => by rw [← hm]; exact ho.mem_addRange _ _ _ _ hc hk.2 (subHiLast_le hi k))

theorem spec_add64 {o : Ops32} (ho : o.Sound) (lo hi : Nat) :
    MergeSpec (keysV (addPart64 lo hi)) bucketV bucketV (fun p q => q || p) (AddKey lo hi) BucketOk BucketOk
      (fun k => (some { high := k, bm := o.addRange {} (subLo lo k) (subHiLast hi k), flag := false }).toList)
      (fun b => [id b]) (fun b => [id b]) (fun k b =>
        (some { high := k, bm := o.addRange (writableBm b) (subLo lo k) (subHiLast hi k), flag := false }).toList) :=
  ⟨rfl, fun _ hk => piece_added ho hk wf_emptyRep mem_emptyRep,
    fun _ hb => .single rfl hb fun _ => (Bool.or_false _).symm, fun _ hb => .single rfl hb fun _ => (Bool.or_false _).symm,
    fun _ b hk hb _ => piece_added ho hk (wf_writableBm_of_ok hb) fun y => congrArg (mem · y) (toBSet_writableBm b)⟩

/-- `(*Bitmap).AddRange(lo, hi)` returns a well-formed bitmap -/
theorem Rep64.wf_addRange {o : Ops32} (ho : o.Sound) (r : Rep64) (hr : r.wf = true) (lo hi : Nat)
    (hhi : hi ≤ 18446744073709551616) : (Rep64.addRange o r lo hi).wf = true := by
  unfold Rep64.addRange
  split
  · rename_i h
    exact (bucketsWf_iff _).mpr (rangeWalk_spec (spec_add64 ho lo hi) (addKey_of_mem h hhi) ((bucketsWf_iff r).mp hr)).1
  · exact hr

theorem Rep64.mem_addRange {o : Ops32} (ho : o.Sound) (r : Rep64) (hr : r.wf = true) (lo hi : Nat)
    (hhi : hi ≤ 18446744073709551616) (x : Nat) :
    mem (Rep64.addRange o r lo hi).toBSet x = (mem r.toBSet x || (decide (lo ≤ x) && decide (x < hi))) := by
  have hw := (bucketsWf_iff r).mp hr
  have hwf := Rep64.wf_addRange ho r hr lo hi hhi
  rw [mem_rep64_buckets _ ((bucketsWf_iff _).mp hwf).bounded, mem_rep64_buckets r hw.bounded]
  unfold Rep64.addRange
  split
  · rename_i h
    simp only
    unfold addWalk
    rw [(rangeWalk_spec (spec_add64 ho lo hi) (addKey_of_mem h hhi) hw).2]
    unfold addPart64
    rw [range_bucketwise_last lo hi x h]
  · rename_i h; rw [rangeTest_false h, Bool.or_false]

/-- **`AddRange`**: the stored result denotes the L1 `addRange` -/
theorem Rep64.toBSet_addRange {o : Ops32} (ho : o.Sound) (r : Rep64) (hr : r.wf = true) (lo hi : Nat)
    (hhi : hi ≤ 18446744073709551616) : (Rep64.addRange o r lo hi).toBSet = BSet.addRange r.toBSet lo hi :=
  canon_ext_sinc _ _ (sinc_rep64 _) (sinc_addRange _ (sinc_rep64 r) lo hi)
    (fun x => by rw [Rep64.mem_addRange ho r hr lo hi hhi, BSet.mem_addRange _ (sinc_rep64 r)])

/-! ### `RemoveRange` -/

/-- a bucket outside the key range is kept, a bucket whose whole key the range covers is dropped, any other bucket is trimmed
by the sub-range of its key (the sub-range `AddRange` would fill) -/
theorem removeBucket_cases (o : Ops32) (lo hi : Nat) (b : Bucket) :
    (¬ (lo / 4294967296 ≤ b.high ∧ b.high ≤ (hi - 1) / 4294967296) ∧ removeBucket o lo hi b = some b) ∨
    ((lo / 4294967296 ≤ b.high ∧ b.high ≤ (hi - 1) / 4294967296) ∧
      ((subLo lo b.high = 0 ∧ subHiLast hi b.high = 4294967296 ∧ removeBucket o lo hi b = none) ∨
        removeBucket o lo hi b = trimBucket o b (subLo lo b.high) (subHiLast hi b.high))) := by
  unfold removeBucket subLo subHiLast
  generalize lo / 4294967296 = ka, lo % 4294967296 = s, (hi - 1) / 4294967296 = kb, (hi - 1) % 4294967296 = e
  by_cases h1 : b.high < ka ∨ kb < b.high
  · exact Or.inl ⟨by omega, if_pos (by simpa using h1)⟩
  · rw [if_neg (by simpa using h1)]
    refine Or.inr ⟨by omega, ?_⟩
    by_cases h2 : ka = kb
    · rw [if_pos h2, if_pos (by omega), if_pos (by omega)]; exact Or.inr rfl
    · rw [if_neg h2]
      by_cases h3 : b.high = ka
      · rw [if_pos h3, if_pos h3, if_neg (by omega)]
        by_cases h4 : s = 0
        · rw [if_pos h4]; exact Or.inl ⟨h4, rfl, rfl⟩
        · rw [if_neg h4]; exact Or.inr rfl
      · rw [if_neg h3, if_neg h3]
        by_cases h5 : b.high = kb
        · rw [if_pos h5, if_pos h5]
          by_cases h6 : e = 4294967295
          · rw [if_pos h6]; exact Or.inl ⟨rfl, by omega, rfl⟩
          · rw [if_neg h6]; exact Or.inr rfl
        · rw [if_neg h5, if_neg h5]; exact Or.inl ⟨rfl, rfl, rfl⟩

/-- the positions `RemoveRange` clears in bucket `k` -/
def removePart64 (lo hi k y : Nat) : Bool :=
  (decide (lo / 4294967296 ≤ k) && decide (k ≤ (hi - 1) / 4294967296)) && addPart64 lo hi k y

theorem piece_removeBucket {o : Ops32} (ho : o.Sound) {lo hi : Nat} (h : lo < hi) (b : Bucket) (hb : BucketOk b) :
    Piece bucketV BucketOk b.high (fun y => mem b.bm.toBSet y && !removePart64 lo hi b.high y)
      (removeBucket o lo hi b).toList := by
  unfold removePart64 addPart64
  rcases removeBucket_cases o lo hi b with ⟨hk, e⟩ | ⟨hk, ⟨e1, e2, e⟩ | e⟩ <;> rw [e]
  · rw [show (decide (lo / 4294967296 ≤ b.high) && decide (b.high ≤ (hi - 1) / 4294967296)) = false by simpa using hk]
    exact .single rfl hb fun y => by simp
  · refine .nil fun y => ?_
    cases hm : mem b.bm.toBSet y with
    | false => rfl
    | true => simp [e1, e2, hk.1, hk.2, bounded32_of_wf hb.2.1 y hm]
  · have hse := subLo_lt_subHiLast h b.high
    exact piece_nonEmpty hb.1 (ho.wf_removeRange _ _ _ (wf_writableBm_of_ok hb) hse (subHiLast_le hi _)) fun y => by
      rw [ho.mem_removeRange _ _ _ _ (wf_writableBm_of_ok hb) hse (subHiLast_le hi _), toBSet_writableBm]
      simp [hk.1, hk.2]

theorem removeRange_buckets {o : Ops32} (ho : o.Sound) (lo hi : Nat) (h : lo < hi) (l : List Bucket) (hl : BucketsWf l) :
    BucketsWf (l.filterMap (removeBucket o lo hi)) ∧ ∀ x, bucketsHas (l.filterMap (removeBucket o lo hi)) x =
      (bucketsHas l x && !(decide (lo ≤ x) && decide (x < hi))) := by
  rw [filterMap_eq_flatMap]
  have hG := piece_removeBucket ho h
  refine ⟨⟨sorted_flatMap (Va := bucketV) (Vc := bucketV) hG hl.sorted hl.ok, ok_flatMap (Va := bucketV) hG hl.ok⟩,
    fun x => ?_⟩
  rw [← range_bucketwise_last lo hi x h]
  exact has_flatMap (Va := bucketV) (Vc := bucketV) (g := fun m c => m && !c) (T := removePart64 lo hi) (fun _ => rfl) hG
    hl.sorted hl.ok _ _

/-- `(*Bitmap).RemoveRange(lo, hi)` returns a well-formed bitmap -/
theorem Rep64.wf_removeRange {o : Ops32} (ho : o.Sound) (r : Rep64) (hr : r.wf = true) (lo hi : Nat) :
    (Rep64.removeRange o r lo hi).wf = true := by
  unfold Rep64.removeRange
  split
  · rename_i h
    exact (bucketsWf_iff _).mpr (removeRange_buckets ho lo hi h _ ((bucketsWf_iff r).mp hr)).1
  · exact hr

theorem Rep64.mem_removeRange {o : Ops32} (ho : o.Sound) (r : Rep64) (hr : r.wf = true) (lo hi : Nat) (x : Nat) :
    mem (Rep64.removeRange o r lo hi).toBSet x = (mem r.toBSet x && !(decide (lo ≤ x) && decide (x < hi))) := by
  have hw := (bucketsWf_iff r).mp hr
  have hwf := Rep64.wf_removeRange ho r hr lo hi
  rw [mem_rep64_buckets _ ((bucketsWf_iff _).mp hwf).bounded, mem_rep64_buckets r hw.bounded]
  unfold Rep64.removeRange
  split
  · rename_i h
    exact (removeRange_buckets ho lo hi h _ hw).2 x
  · rename_i h; rw [rangeTest_false h, Bool.not_false, Bool.and_true]

/-- **`RemoveRange`**: the stored result denotes the L1 `removeRange` (no bound on `hi`: no key loop) -/
theorem Rep64.toBSet_removeRange {o : Ops32} (ho : o.Sound) (r : Rep64) (hr : r.wf = true) (lo hi : Nat) :
    (Rep64.removeRange o r lo hi).toBSet = BSet.removeRange r.toBSet lo hi :=
  canon_ext_sinc _ _ (sinc_rep64 _) (sinc_removeRange _ (sinc_rep64 r) lo hi)
    (fun x => by rw [Rep64.mem_removeRange ho r hr lo hi, BSet.mem_removeRange _ (sinc_rep64 r)])

/-! ### the operand of static `Flip` afterwards: same set, still well-formed (inner flags only) -/

theorem flagsOnly_sflipSrc (lo hi : Nat) (b : Bucket) : FlagsOnly (R64Ops.sflipSrc lo hi b) b := by
  obtain ⟨c, hc⟩ : ∃ c : Bool, R64Ops.sflipSrc lo hi b =
      if c = true then { high := b.high, bm := b.bm.cloneSrcB, flag := b.flag } else b := ⟨_, rfl⟩
  rw [hc]
  cases c
  · exact ⟨rfl, .inl rfl⟩
  · exact ⟨rfl, .inr (.inr rfl)⟩

theorem Rep64.cloneSrc_spec (r : Rep64) (hr : r.wf = true) : r.cloneSrc.wf = true ∧ r.cloneSrc.toBSet = r.toBSet := by
  unfold Rep64.cloneSrc
  split
  · exact flagsOnly_map hr rfl (fun _ => ⟨rfl, .inl rfl⟩)
  · exact flagsOnly_map hr rfl (fun _ => ⟨rfl, .inr (.inr rfl)⟩)

theorem Rep64.sflipSrc_spec (r : Rep64) (hr : r.wf = true) (lo hi : Nat) :
    (r.sflipSrc lo hi).wf = true ∧ (r.sflipSrc lo hi).toBSet = r.toBSet := by
  unfold Rep64.sflipSrc
  split
  · exact flagsOnly_map hr rfl (flagsOnly_sflipSrc lo hi)
  · exact Rep64.cloneSrc_spec r hr

theorem Rep64.wf_sflipSrc (r : Rep64) (hr : r.wf = true) (lo hi : Nat) : (r.sflipSrc lo hi).wf = true :=
  (Rep64.sflipSrc_spec r hr lo hi).1

/-- static `Flip` leaves the set its operand denotes unchanged -/
theorem Rep64.toBSet_sflipSrc (r : Rep64) (hr : r.wf = true) (lo hi : Nat) : (r.sflipSrc lo hi).toBSet = r.toBSet :=
  (Rep64.sflipSrc_spec r hr lo hi).2

end RModel.Impl
