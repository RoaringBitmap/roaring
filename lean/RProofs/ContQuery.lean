import RProofs.ContQueryGlue
import RProofs.ContQueryArr
import RProofs.ContQueryRun
import RProofs.ContQueryBmpScan
import RProofs.ContQueryBmpCount
import RModel.Impl.RepQuery
/-!
The container-level query kernels of `RModel/Impl/ContQuery.lean` — models of the Go ALGORITHMS (`binarySearch` and the
`binarySearchUntil/Past` searches with the pigeon-hole bisections over the sorted array, word scans with
`TrailingZeros64 / LeadingZeros64 / OnesCount64` and shift masks over the bitmap words, `searchRange` bisection over the
run list), tied to the real Go kernels by the `kern` correspondence check — compute the verified set-level queries of
`BSet` on the abstraction `c.toBSet 0`, for every receiver `c` with `c.wfQ` — every well-formed container (`wfQ_of_wf`), and
also run containers that are not storage-minimal — and in-domain arguments (`x < 65536`).

The right-hand sides are literally the expressions `kernSem` (`Driver/Kern.lean`) compares the Go scalars with.  At the end:
`safeMinimum` / `safeMaximum`, the one-container kernels of `RModel/Impl/RepQuery.lean`, are `minimumQ` / `maximumQ` on a well-formed
container.
-/
namespace RModel.Impl
open RModel RModel.BSet ContOps ContQuery

/-! ### the domain: `Cont.wfQ` = well-formed, except that run containers need not be storage-minimal -/

theorem wfQ_arr {xs : List Nat} : (Cont.arr xs).wfQ = (Cont.arr xs).wf := rfl
theorem wfQ_bmp {cd : Int} {ws : List (BitVec 64)} : (Cont.bmp cd ws).wfQ = (Cont.bmp cd ws).wf := rfl

theorem wfQ_of_wf {c : Cont} (h : c.wf = true) : c.wfQ = true := by
  cases c with
  | arr xs => exact h
  | bmp cd ws => exact h
  | run rs =>
    simp only [Cont.wf, Bool.and_eq_true] at h
    simp only [Cont.wfQ, Bool.and_eq_true]
    exact h.1

theorem wfQ_run {rs : List (Nat × Nat)} (h : (Cont.run rs).wfQ = true) :
    rs ≠ [] ∧ RunSep rs ∧ ∀ p ∈ rs, p.1 + p.2 ≤ 65535 := by
  simp only [Cont.wfQ, Bool.and_eq_true, Bool.not_eq_true', List.isEmpty_eq_false_iff] at h
  have := runsOk_spec rs h.2
  exact ⟨h.1, this.1, this.2⟩

theorem has_lt_q {c : Cont} (hq : c.wfQ = true) {x : Nat} (h : c.has x = true) : x < 65536 := by
  cases c with
  | arr xs => exact has_lt (c := .arr xs) hq h
  | bmp cd ws => exact has_lt (c := .bmp cd ws) hq h
  | run rs => exact lt_of_inRuns (wfQ_run hq).2.2 h

theorem canon_toBSet_q {c : Cont} (hq : c.wfQ = true) : Canon 65536 (c.toBSet 0) :=
  canon_of_has_lt (fun _ h => has_lt_q hq h)
theorem even_toBSet_q {c : Cont} (hq : c.wfQ = true) : Even (c.toBSet 0) := (canon_toBSet_q hq).2.2

/-! ### every kind satisfies the membership-level characterisations (for `c.has`) -/

theorem has_contains (c : Cont) (hc : c.wfQ = true) (x : Nat) : c.containsQ x = c.has x := by
  cases c with
  | arr xs => exact arrContains_spec (wf_arr hc).sorted x
  | bmp cd ws => exact bmpContains_spec ws x
  | run rs => exact runContains_spec rs (wfQ_run hc).2.1 (wfQ_run hc).2.2 x

theorem has_rank (c : Cont) (hc : c.wfQ = true) (x : Nat) (hx : x < 65536) : IsRank c.has x (c.rankQ x) := by
  cases c with
  | arr xs => exact arrRank_spec (wf_arr hc).sorted x
  | bmp cd ws => exact bmpRank_spec ws x
  | run rs => exact runRank_spec rs (wfQ_run hc).2.1 (wfQ_run hc).2.2 x hx

theorem has_select (c : Cont) (hc : c.wfQ = true) (i : Nat) (hi : i < c.card) : IsSelect c.has i (c.selectQ i) := by
  cases c with
  | arr xs => exact arrSelect_spec (wf_arr hc).sorted i hi
  | bmp cd ws => exact bmpSelect_spec ws i hi
  | run rs => exact runSelect_spec rs (wfQ_run hc).2.1 i hi

theorem has_min (c : Cont) (hc : c.wfQ = true) : IsMin c.has c.minimumQ := by
  cases c with
  | arr xs => exact arrMin_spec (wf_arr hc).sorted (wf_arr hc).pos
  | bmp cd ws => exact bmpMin_spec ws (wf_bmp hc).1 (exists_testBit_of_card_pos (by have := (wf_bmp hc).2.2; omega))
  | run rs => exact runMin_spec rs (wfQ_run hc).2.1 (wfQ_run hc).1

theorem has_max (c : Cont) (hc : c.wfQ = true) : IsMax c.has c.maximumQ := by
  cases c with
  | arr xs => exact arrMax_spec (wf_arr hc).sorted (wf_arr hc).pos
  | bmp cd ws => exact bmpMax_spec ws (wf_bmp hc).1 (exists_testBit_of_card_pos (by have := (wf_bmp hc).2.2; omega))
  | run rs => exact runMax_spec rs (wfQ_run hc).2.1 (wfQ_run hc).2.2 (wfQ_run hc).1

theorem bmp_card_ne_zero {cd : Int} {ws : List (BitVec 64)} (hc : (Cont.bmp cd ws).wfQ = true) : ¬ cd = 0 := by
  have := wf_bmp hc; omega

theorem has_next (c : Cont) (hc : c.wfQ = true) (x : Nat) : IsNext c.has x (c.nextValueQ x) := by
  cases c with
  | arr xs => exact arrNextValue_spec (wf_arr hc).sorted (wf_arr hc).pos x
  | bmp cd ws =>
    simp only [Cont.nextValueQ, bmp_card_ne_zero hc, if_false]
    exact bmpNextSetBit_spec ws x
  | run rs => exact runNextValue_spec rs (wfQ_run hc).2.1 (wfQ_run hc).2.2 x

theorem has_prev (c : Cont) (hc : c.wfQ = true) (x : Nat) (hx : x < 65536) : IsPrev c.has x (c.previousValueQ x) := by
  cases c with
  | arr xs => exact arrPreviousValue_spec (wf_arr hc).sorted (wf_arr hc).pos x
  | bmp cd ws =>
    simp only [Cont.previousValueQ, bmp_card_ne_zero hc, if_false]
    exact bmpPrevSetBit_spec ws x (by have := (wf_bmp hc).1; omega)
  | run rs => exact runPreviousValue_spec rs (wfQ_run hc).2.1 (wfQ_run hc).2.2 (wfQ_run hc).1 x

theorem has_nextAbsent (c : Cont) (hc : c.wfQ = true) (x : Nat) (hx : x < 65536) :
    IsNextAbsent c.has x (c.nextAbsentValueQ x) := by
  cases c with
  | arr xs => exact arrNextAbsentValue_spec (wf_arr hc) x hx
  | bmp cd ws => exact bmpNextUnsetBit_spec ws x
  | run rs => exact runNextAbsentValue_spec rs (wfQ_run hc).2.1 (wfQ_run hc).2.2 x

theorem has_prevAbsent (c : Cont) (hc : c.wfQ = true) (x : Nat) (hx : x < 65536) :
    IsPrevAbsent c.has x (c.previousAbsentValueQ x) := by
  cases c with
  | arr xs => exact arrPreviousAbsentValue_spec (wf_arr hc) x hx
  | bmp cd ws => exact bmpPreviousAbsentValue_spec ws x
  | run rs => exact runPreviousAbsentValue_spec rs (wfQ_run hc).2.1 (wfQ_run hc).2.2 x hx

theorem has_cardInRange (c : Cont) (hc : c.wfQ = true) (lo hi : Nat) (hlo : lo ≤ 65536) (hhi : hi ≤ 65536) :
    IsCardInRange c.has lo hi (c.cardInRangeQ lo hi) := by
  cases c with
  | arr xs => exact arrCardInRange_spec (wf_arr hc).sorted (wf_arr hc).bound lo hi hlo hhi
  | bmp cd ws => exact bmpCardInRange_spec ws lo hi hlo hhi
  | run rs => exact runCardInRange_spec rs (wfQ_run hc).2.1 (wfQ_run hc).2.2 lo hi

theorem has_card (c : Cont) (hc : c.wfQ = true) : c.getCardinalityQ = (cnt c.has 65536 : Int) := by
  cases c with
  | arr xs => exact congrArg Nat.cast (cnt_arr_all (wf_arr hc).sorted 65536 (wf_arr hc).bound).symm
  | bmp cd ws =>
    obtain ⟨hl, hcd, _⟩ := wf_bmp hc
    rw [show (65536 : Nat) = 64 * ws.length by omega]
    exact hcd.trans (congrArg Nat.cast (wordsCard_eq_cnt ws))
  | run rs => exact congrArg Nat.cast (runsCard_eq_cnt rs (wfQ_run hc).2.1 (wfQ_run hc).2.2)

theorem card_wf {c : Cont} (h : c.wf = true) : c.getCardinalityQ = (c.card : Int) := by
  cases c with
  | arr xs => rfl
  | bmp cd ws => exact (wf_bmp h).2.1
  | run rs => rfl

/-- `uint32(c.getCardinality())` -/
theorem card_toNat {c : Cont} (h : c.wf = true) : (c.getCardinalityQ % 4294967296).toNat = cnt c.has 65536 := by
  have := has_card c (wfQ_of_wf h)
  have := cnt_le c.has 65536
  omega

/-! ### the theorems: the Go algorithms compute the set-level answers -/

section
variable (c : Cont) (hc : c.wfQ = true)
include hc

theorem containsQ_spec (x : Nat) (hx : x < 65536) : c.containsQ x = BSet.mem (c.toBSet 0) x := by
  -- the bound on `x` plays no role: model and abstraction agree on every `x`
  have _ := hx
  rw [mem_toBSet]
  exact has_contains c hc x

/-- `rank(x)` = number of members `≤ x` -/
theorem rankQ_spec (x : Nat) (hx : x < 65536) : c.rankQ x = (BSet.rankLt (c.toBSet 0) (x + 1) : Int) :=
  glue_rank (sinc_toBSet c) (even_toBSet_q hc) (mem_toBSet c) (has_rank c hc x hx)

/-- `selectInt(i)` is the `i`-th smallest member, for `i` below the cardinality -/
theorem selectQ_spec (i : Nat) (hi : i < c.card) :
    ∃ v : Nat, c.selectQ i = (v : Int) ∧ BSet.select (c.toBSet 0) i = some v :=
  glue_select (sinc_toBSet c) (even_toBSet_q hc) (mem_toBSet c) (has_select c hc i hi)

theorem minimumQ_spec : ∃ v : Nat, c.minimumQ = (v : Int) ∧ BSet.minimum (c.toBSet 0) = some v :=
  glue_min (sinc_toBSet c) (even_toBSet_q hc) (mem_toBSet c) (has_min c hc)

theorem maximumQ_spec : ∃ v : Nat, c.maximumQ = (v : Int) ∧ BSet.maximum (c.toBSet 0) = some v :=
  glue_max (sinc_toBSet c) (even_toBSet_q hc) (mem_toBSet c) (has_max c hc)

/-- least member `≥ x`, `-1` if there is none -/
theorem nextValueQ_spec (x : Nat) (hx : x < 65536) :
    c.nextValueQ x = (match BSet.nextValue (c.toBSet 0) x with | some v => (v : Int) | none => -1) := by
  -- no kind needs the bound on `x`: beyond the container every `nextValue` answers `-1`
  have _ := hx
  exact glue_next (sinc_toBSet c) (even_toBSet_q hc) (mem_toBSet c) (has_next c hc x)

/-- greatest member `≤ x`, `-1` if there is none -/
theorem previousValueQ_spec (x : Nat) (hx : x < 65536) :
    c.previousValueQ x = (match BSet.prevValue (c.toBSet 0) x with | some v => (v : Int) | none => -1) :=
  glue_prev (sinc_toBSet c) (even_toBSet_q hc) (mem_toBSet c) (has_prev c hc x hx)

/-- least non-member `≥ x`; `65536` when every value from `x` on is present (the convention of `kernSem`) -/
theorem nextAbsentValueQ_spec (x : Nat) (hx : x < 65536) :
    c.nextAbsentValueQ x = ((min (BSet.nextAbsent (c.toBSet 0) x) 65536 : Nat) : Int) := by
  exact glue_nextAbsent (U := 65536) (sinc_toBSet c) (even_toBSet_q hc) (mem_toBSet c)
    (fun u hu => has_none_above (fun _ h => has_lt_q hc h) hu) (by omega) (has_nextAbsent c hc x hx)

/-- greatest non-member `≤ x`, `-1` when every value up to `x` is present -/
theorem previousAbsentValueQ_spec (x : Nat) (hx : x < 65536) :
    c.previousAbsentValueQ x = (match BSet.prevAbsent (c.toBSet 0) x with | some v => (v : Int) | none => -1) :=
  glue_prevAbsent (sinc_toBSet c) (even_toBSet_q hc) (mem_toBSet c) (has_prevAbsent c hc x hx)

/-- `getCardinalityInRange(lo, hi)`: number of members in `[lo, hi)` (0 when `hi ≤ lo`) -/
theorem cardInRangeQ_spec (lo hi : Nat) (hlo : lo ≤ 65536) (hhi : hi ≤ 65536) :
    c.cardInRangeQ lo hi = (BSet.cardInRange (c.toBSet 0) lo hi : Int) :=
  glue_cardInRange (sinc_toBSet c) (even_toBSet_q hc) (mem_toBSet c) (has_cardInRange c hc lo hi hlo hhi)

theorem getCardinalityQ_spec : c.getCardinalityQ = (BSet.card (c.toBSet 0) : Int) :=
  glue_card (canon_toBSet_q hc) (mem_toBSet c) (has_card c hc)

end

/-! ### `safeMinimum`, `safeMaximum`: on a well-formed container the error branches are not taken -/

namespace RepQuery

theorem bmp_min_ne {cd : Int} {ws : List (BitVec 64)} (h : (Cont.bmp cd ws).wf = true) : bmpMinFrom 0 ws ≠ 65535 := by
  -- a least member 65535 would be the only member, and a well-formed bitmap container has more than 4096
  intro hc
  obtain ⟨v, hv, hin, hlow⟩ := has_min (Cont.bmp cd ws) (wfQ_of_wf h)
  have hv' : v = 65535 := by
    have : (Cont.bmp cd ws).minimumQ = ((bmpMinFrom 0 ws : Nat) : Int) := rfl
    rw [this, hc] at hv; omega
  have hcard := has_card (Cont.bmp cd ws) (wfQ_of_wf h)
  have hz : cnt (Cont.bmp cd ws).has 65535 = 0 := cnt_zero_of_none _ _ (fun u hu => hlow u (by omega))
  have h1 : cnt (Cont.bmp cd ws).has 65536 ≤ 1 := by
    rw [show (65536 : Nat) = 65535 + 1 by rfl, cnt_succ, hz]; split <;> omega
  have h2 := (wf_bmp h).2.2
  have h3 := (wf_bmp h).2.1
  have e : (Cont.bmp cd ws).getCardinalityQ = cd := rfl
  rw [e] at hcard
  omega

theorem safeMinimumQ_eq {c : Cont} (h : c.wf = true) : safeMinimumQ c = c.minimumQ := by
  cases c with
  | arr xs => exact if_neg (Nat.ne_of_gt (wf_arr h).pos)
  | bmp cd ws =>
    have hl := (wf_bmp h).1
    exact (if_neg (by omega)).trans (if_neg (bmp_min_ne h))
  | run rs =>
    have : 0 < rs.length := List.length_pos_iff.mpr (wf_run h).ne
    exact (if_neg (Nat.ne_of_gt this)).trans (if_pos this).symm

theorem safeMaximumQ_eq {c : Cont} (h : c.wf = true) : safeMaximumQ c = c.maximumQ := by
  cases c with
  | arr xs => exact if_neg (Nat.ne_of_gt (wf_arr h).pos)
  | bmp cd ws =>
    have hl := (wf_bmp h).1
    simp only [safeMaximumQ, Cont.maximumQ]
    rw [if_neg (by omega)]
    split
    · rename_i h0; rw [h0]; rfl
    · rfl
  | run rs =>
    have : 0 < rs.length := List.length_pos_iff.mpr (wf_run h).ne
    exact (if_neg (Nat.ne_of_gt this)).trans (if_pos this).symm

end RepQuery

end RModel.Impl
