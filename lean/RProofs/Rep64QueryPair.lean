import RProofs.RepQueryPair
import RProofs.Rep64Query
/-!
# The two-operand read-only drivers of `roaring64`

`OrCardinality`, `AndCardinality`, `Intersects`, `Equals` of `RModel/Impl/Rep64Query.lean` compute the set-level answers on the
abstractions `x.toBSet`, `y.toBSet` of well-formed operands (`Rep64.wf`).  The `advanceUntil` walks count / test for emptiness
the bucket list of the static `And` (`andBuckets`): `andCardWalk64_eq`, `intersectsWalk64_eq` are instances of the walk over two
keyed lists (`Keyed.posWalk_eq`: a gallop skips exactly the elements the merge skips one by one, so the `undef` branches are
unreachable); `Equals` is the block-by-block comparison `Keyed.equals_blocks`; `OrCardinality` counts the bucket list of the
static `Or`.
-/
namespace RModel.Impl
open RModel RModel.BSet RModel.Driver ContOps ContQuery RepOps RepQuery R64Ops R64Q

namespace R64Q

/-! ### `OrCardinality`: the walk counts the buckets of `Or` -/

theorem getCardinality_cloneB (c : Rep) : c.cloneB.getCardinality = c.getCardinality := by
  unfold Rep.getCardinality Rep.cloneB
  simp only []
  induction c.slots with
  | nil => rfl
  | cons s t ih => rw [List.map_cons, cardSum, cardSum, ih]

theorem cardSum64_map_copyBucket (l : List Bucket) : cardSum64 (l.map copyBucket) = cardSum64 l := by
  induction l with
  | nil => rfl
  | cons s t ih => rw [List.map_cons, cardSum64, cardSum64, ih]; simp only [copyBucket, getCardinality_cloneB]

theorem orCardBuckets_eq (a b : List Bucket) : orCardBuckets a b = cardSum64 (orBuckets a b) := by
  fun_induction orCardBuckets a b with
  | case1 b => rw [orBuckets, cardSum64_map_copyBucket]
  | case2 a h =>
    cases a with
    | nil => rw [orBuckets, cardSum64_map_copyBucket]
    | cons s t => rw [orBuckets, cardSum64_map_copyBucket]; exact List.cons_ne_nil _ _
  | case3 sa ta sb tb hlt ih =>
    rw [orBuckets, if_pos hlt, cardSum64, ih]; simp only [copyBucket, getCardinality_cloneB]
  | case4 sa ta sb tb hlt hlt2 ih =>
    rw [orBuckets, if_neg hlt, if_pos hlt2, cardSum64, ih]; simp only [copyBucket, getCardinality_cloneB]
  | case5 sa ta sb tb hlt hlt2 ih => rw [orBuckets, if_neg hlt, if_neg hlt2, cardSum64, ih]

/-! ### `AndCardinality` / `Intersects`: the walks count / test the buckets of `And` on the remaining buckets -/

theorem cardSum64_keep (k : Nat) (c : Rep) (rest : List Bucket) :
    cardSum64 (R64Ops.keep k c rest) = c.getCardinality + cardSum64 rest := by
  unfold R64Ops.keep
  by_cases he : c.isEmptyGo = true
  · rw [if_pos he]
    have : c.slots = [] := by simpa [Rep.isEmptyGo] using he
    simp [Rep.getCardinality, this, cardSum]
  · rw [if_neg he, cardSum64]

theorem andCardinality_eq_and2 (a b : Rep) (ha : a.wf = true) (hb : b.wf = true) :
    a.andCardinality b = (Rep.and2 a b).getCardinality := by
  rw [Rep.andCardinality_spec a b ha hb, Rep.card_spec _ (Rep.wf_and2 a b ha hb), Rep.toBSet_and2 a b ha hb]

theorem intersects_eq_and2 (a b : Rep) (ha : a.wf = true) (hb : b.wf = true) :
    a.intersects b = !(Rep.and2 a b).isEmptyGo := by
  have h := Rep.isEmpty_spec _ (Rep.wf_and2 a b ha hb)
  rw [Rep.intersects_spec a b ha hb, ← Rep.toBSet_and2 a b ha hb, ← h]
  simp only [Rep.isEmptyQ, Rep.isEmptyGo]
  cases (Rep.and2 a b).slots <;> rfl

/-! Both walks are `Keyed.posWalk_eq` on `andBuckets = mergeWalk … (storeIf and2)`. -/

theorem andCardWalk64_eq (a b : List Bucket) (ha : BucketsWf a) (hb : BucketsWf b) :
    andCardWalk64 a b 0 0 = cardSum64 (andBuckets a b) := by
  rw [andBuckets_eq]
  exact Keyed.posWalk_eq (Pa := BucketOk) (Pb := BucketOk) (fun s s' r => s.bm.andCardinality s'.bm + r) 0 undef cardSum64 rfl
    (fun sa sb rest hc hd => by
      rw [storeIf, ← keep64_eq, cardSum64_keep, andCardinality_eq_and2 _ _ hc.2.1 hd.2.1])
    _ _ ha.sorted hb.sorted ha.ok hb.ok (andCardWalk64 a b) (fun _ _ => by rw [andCardWalk64]; rfl) 0 0

theorem intersectsWalk64_eq (a b : List Bucket) (ha : BucketsWf a) (hb : BucketsWf b) :
    intersectsWalk64 a b 0 0 = !(andBuckets a b).isEmpty := by
  rw [andBuckets_eq]
  exact Keyed.posWalk_eq (Pa := BucketOk) (Pb := BucketOk) (fun s s' r => if s.bm.intersects s'.bm then true else r)
    false false (fun l => !l.isEmpty) rfl
    (fun sa sb rest hc hd => by
      rw [intersects_eq_and2 _ _ hc.2.1 hd.2.1, storeIf, R64Ops.nonEmpty]
      cases (sa.bm.and2 sb.bm).isEmptyGo <;> rfl)
    _ _ ha.sorted hb.sorted ha.ok hb.ok (intersectsWalk64 a b) (fun _ _ => by rw [intersectsWalk64]; rfl) 0 0

/-! ### `Equals` -/

theorem equals32_iff (a b : Rep) (ha : a.wf = true) (hb : b.wf = true) :
    a.equals b = true ↔ ∀ y, mem a.toBSet y = mem b.toBSet y := by
  rw [Rep.equals_spec a b ha hb, beq_iff_eq]
  constructor
  · intro h y; rw [h]
  · intro h; exact canon_ext_sinc _ _ (sinc_rep a) (sinc_rep b) h

/-- the three tests of `equals` (lengths, keys, 32-bit bitmaps) compare the two bucket lists pair by pair -/
theorem allPairs_buckets (a b : List Bucket) :
    (a.length = b.length ∧ keysEq64 b a = true ∧ bmsEq64 b a = true) ↔
      Keyed.AllPairs (fun sa sb => bucketV.key sa = bucketV.key sb ∧ sb.bm.equals sa.bm = true) a b := by
  induction a generalizing b with
  | nil => cases b <;> simp [Keyed.AllPairs, keysEq64, bmsEq64]
  | cons sa ta ih =>
    cases b with
    | nil => simp [Keyed.AllPairs]
    | cons sb tb =>
      rw [Keyed.AllPairs, ← ih, keysEq64, bmsEq64]
      by_cases hk : sb.high = sa.high
      · cases hq : sb.bm.equals sa.bm <;> simp [hk]
      · simp [hk]
        exact fun h => absurd h.symm hk

end R64Q

/-! ### the four drivers -/

/-- `x.Equals(y)` of two well-formed 64-bit bitmaps — whatever their flags, switches and container kinds — says whether they denote
the same set -/
theorem Rep64.equals_spec (x y : Rep64) (hx : x.wf = true) (hy : y.wf = true) :
    x.equals y = (x.toBSet == y.toBSet) := by
  have hwx := (bucketsWf_iff x).mp hx
  have hwy := (bucketsWf_iff y).mp hy
  have key := Keyed.equals_blocks (Va := bucketV) (Vb := bucketV) (Pa := BucketOk) (Pb := BucketOk)
    (eqb := fun sb sa => sb.bm.equals sa.bm) (fun _ => BucketOk.nonempty) (fun _ => BucketOk.nonempty)
    (fun b hb => bounded32_of_wf hb.2.1)
    (fun b hb => bounded32_of_wf hb.2.1) (fun sa sb ha hb => equals32_iff _ _ hb.2.1 ha.2.1)
    hwx.sorted hwy.sorted hwx.ok hwy.ok
  rw [← Rep64.mem_eq hx, ← Rep64.mem_eq hy, ← allPairs_buckets] at key
  rw [Bool.eq_iff_iff, beq_iff_eq, Rep64.equals]
  refine Iff.trans ?_ (key.symm.trans ⟨fun h => canon_ext_sinc _ _ (sinc_rep64 x) (sinc_rep64 y) h, fun h v => by rw [h]⟩)
  by_cases hl : x.buckets.length = y.buckets.length <;> simp [hl]

theorem Rep64.equals_of_toBSet_eq {x y : Rep64} (hx : x.wf = true) (hy : y.wf = true) (h : x.toBSet = y.toBSet) :
    x.equals y = true := by
  rw [Rep64.equals_spec x y hx hy, h]; exact beq_self_eq_true _

/-- `x.OrCardinality(y)` is the cardinality of the union -/
theorem Rep64.orCardinality_spec (x y : Rep64) (hx : x.wf = true) (hy : y.wf = true) :
    x.orCardinality y = (BSet.card (BSet.union x.toBSet y.toBSet) : Int) := by
  rw [← Rep64.toBSet_or2 x y hx hy, ← Rep64.card_spec _ (Rep64.wf_or2 x y hx hy)]
  exact orCardBuckets_eq _ _

/-- `x.AndCardinality(y)` is the cardinality of the intersection (in particular the walk never reaches an `undef` branch) -/
theorem Rep64.andCardinality_spec (x y : Rep64) (hx : x.wf = true) (hy : y.wf = true) :
    x.andCardinality y = (BSet.card (BSet.inter x.toBSet y.toBSet) : Int) := by
  have hwx := (bucketsWf_iff x).mp hx
  have hwy := (bucketsWf_iff y).mp hy
  rw [← Rep64.toBSet_and2 x y hx hy, ← Rep64.card_spec _ (Rep64.wf_and2 x y hx hy), Rep64.andCardinality,
    andCardWalk64_eq _ _ hwx hwy]
  rfl

/-- `x.Intersects(y)`: the intersection is not empty -/
theorem Rep64.intersects_spec (x y : Rep64) (hx : x.wf = true) (hy : y.wf = true) :
    x.intersects y = !BSet.isEmpty (BSet.inter x.toBSet y.toBSet) := by
  have hwx := (bucketsWf_iff x).mp hx
  have hwy := (bucketsWf_iff y).mp hy
  rw [← Rep64.toBSet_and2 x y hx hy, ← Rep64.isEmpty_spec _ (Rep64.wf_and2 x y hx hy), Rep64.intersects,
    intersectsWalk64_eq _ _ hwx hwy]
  simp only [Rep64.isEmptyQ, Rep64.and2]
  cases andBuckets x.buckets y.buckets <;> rfl

/-! ### the hypotheses are satisfiable (`exA`, `exB`, `exC` of `Rep64.lean`) -/

-- equal sets under different flags / switches / container kinds
example : exA.equals exC = (exA.toBSet == exC.toBSet) := Rep64.equals_spec exA exC wf_exA wf_exC
example : exA.equals exC = true ∧ exC.equals exA = true ∧ exA.equals exB = false := by decide +kernel
example : exA.andCardinality exB = (BSet.card (BSet.inter exA.toBSet exB.toBSet) : Int) :=
  Rep64.andCardinality_spec exA exB wf_exA wf_exB
example : exA.orCardinality exB = (BSet.card (BSet.union exA.toBSet exB.toBSet) : Int) :=
  Rep64.orCardinality_spec exA exB wf_exA wf_exB
example : exA.intersects exB = !BSet.isEmpty (BSet.inter exA.toBSet exB.toBSet) := Rep64.intersects_spec exA exB wf_exA wf_exB
example : exA.andCardinality exB = 2 ∧ exA.orCardinality exB = 15 ∧ exA.intersects exB = true := by
  rw [Rep64.andCardinality_spec exA exB wf_exA wf_exB, Rep64.orCardinality_spec exA exB wf_exA wf_exB,
    Rep64.intersects_spec exA exB wf_exA wf_exB]
  decide +kernel

end RModel.Impl
