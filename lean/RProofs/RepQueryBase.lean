import RProofs.RepOps
import RProofs.ContQuery
import RProofs.IterCont
import RProofs.KeyedQuery
/-!
The one-operand read-only drivers of `RModel/Impl/RepQuery.lean` compute the verified set-level queries of `BSet` on the
abstraction `r.toBSet`, for well-formed `r` and in-domain arguments.

`GetCardinality`, `IsEmpty`, `Rank`, `Select`, `Minimum`, `Maximum` are the block-store theorems of `RProofs/KeyedQuery.lean` at
block size `2^16` over containers; each is first proved in characterisation form (`Rep.card_is`, `Rep.rank_is`, `Rep.select_is`,
`Rep.min_is`, `Rep.max_is`: what the 64-bit level asks of its buckets) and then glued to the `BSet` query.  `Contains` and the
four neighbour searches follow the Go loops over the key array (`KeyPos`: where a search leaves the index).
-/
open RModel.Util
namespace RModel.Impl
open RModel RModel.BSet RModel.Driver ContOps ContQuery RepOps RepQuery It

/-! ### the members of a well-formed representation: blocks of `2^16` values -/

theorem Rep.mem_eq {r : Rep} (h : r.wf = true) : mem r.toBSet = slotV.mem 65536 r.slots :=
  funext (mem_rep_slots r ((slotsWf_iff r).mp h).bounded)

namespace RepQuery

theorem rep_facts (r : Rep) (h : r.wf = true) :
    SlotsWf r.slots ∧ SInc r.toBSet ∧ Even r.toBSet ∧ (∀ x, mem r.toBSet x = slotsHas r.slots x) := by
  have hw := (slotsWf_iff r).mp h
  exact ⟨hw, sinc_rep r, (canon_rep r h).2.2, mem_rep_slots r hw.bounded⟩

end RepQuery

/-! ### `GetCardinality`, `IsEmpty` -/

theorem Rep.card_is (r : Rep) (h : r.wf = true) : r.getCardinality = (cnt (mem r.toBSet) 4294967296 : Int) :=
  have hw := (slotsWf_iff r).mp h
  Rep.mem_eq h ▸ (slotV.card_blocks (by decide) rfl (fun _ _ => rfl) hw.sorted
    (fun s hs => has_card s.c (wfQ_of_wf (hw.ok s hs).2)) _).2 fun s hs => by
      have : slotV.key s < 65536 := (hw.ok s hs).1; omega

theorem Rep.card_spec (r : Rep) (h : r.wf = true) : r.getCardinality = (BSet.card r.toBSet : Int) :=
  glue_card (canon_rep r h) (fun _ => rfl) (Rep.card_is r h)

theorem Slot.Wf.nonempty {s : Slot} (h : s.Wf) : ∃ y, y < 65536 ∧ slotV.has s y = true :=
  (wf_has_member _ h.2).imp fun _ hy => ⟨has_lt h.2 hy, hy⟩

theorem Rep.isEmpty_spec (r : Rep) (h : r.wf = true) : r.isEmptyQ = BSet.isEmpty r.toBSet :=
  have hw := (slotsWf_iff r).mp h
  glue_isEmpty (sinc_rep r) (even_rep r h) (congrFun (Rep.mem_eq h))
    (beq_iff_eq.trans (slotV.isEmpty_blocks (fun _ => Slot.Wf.nonempty) hw.sorted hw.ok))

/-! ### `Rank` -/

theorem Rep.rank_is (r : Rep) (h : r.wf = true) (x : Nat) : IsRank (mem r.toBSet) x (r.rank x) :=
  have hw := (slotsWf_iff r).mp h
  Rep.mem_eq h ▸ slotV.rank_blocks (by decide) rfl (fun _ _ => rfl) hw.sorted
    (fun s hs => has_card s.c (wfQ_of_wf (hw.ok s hs).2))
    (fun s hs => has_rank s.c (wfQ_of_wf (hw.ok s hs).2) _ (Nat.mod_lt x (by decide)))

/-- `Rank(x)` = number of members `≤ x` -/
theorem Rep.rank_spec (r : Rep) (h : r.wf = true) (x : Nat) :
    r.rank x = (BSet.rankLt r.toBSet (x + 1) : Int) :=
  glue_rank (sinc_rep r) (even_rep r h) (fun _ => rfl) (Rep.rank_is r h x)

/-! ### the key array: `binarySearch`, `getIndex`, `getContainer` -/

namespace RepQuery

theorem keysOf_length (l : List Slot) : (keysOf l).length = l.length := by simp [keysOf]

theorem keysOf_getD {l : List Slot} {i : Nat} (hi : i < l.length) : (keysOf l).getD i 0 = kAt l i := by
  simp [keysOf, kAt, slotAt, List.getD_eq_getElem?_getD, hi]

theorem keysOf_sorted {l : List Slot} (h : SlotsWf l) : (keysOf l).Pairwise (· < ·) :=
  List.pairwise_map.mpr h.sorted

theorem kAt_lt {l : List Slot} (h : SlotsWf l) {i j : Nat} (hij : i < j) (hj : j < l.length) : kAt l i < kAt l j := by
  rw [← keysOf_getD (by omega), ← keysOf_getD hj]
  exact getD_lt_of_sorted (keysOf_sorted h) hij (by rw [keysOf_length]; exact hj)

theorem kAt_le {l : List Slot} (h : SlotsWf l) {i j : Nat} (hij : i ≤ j) (hj : j < l.length) : kAt l i ≤ kAt l j := by
  rcases Nat.eq_or_lt_of_le hij with rfl | h1
  · exact Nat.le_refl _
  · exact Nat.le_of_lt (kAt_lt h h1 hj)

theorem slotAt_wf {l : List Slot} (h : SlotsWf l) {i : Nat} (hi : i < l.length) :
    kAt l i < 65536 ∧ (cAt l i).wf = true := h.ok _ (slotAt_mem hi)

theorem find_kAt {l : List Slot} (h : SlotsWf l) {i : Nat} (hi : i < l.length) :
    l.find? (·.key == kAt l i) = some (slotAt l i) := by
  rw [List.find?_eq_some_iff_getElem]
  refine ⟨by simp [kAt], i, hi, (slotAt_eq hi).symm, ?_⟩
  intro j hj
  have := kAt_lt h hj hi
  have e : l[j] = slotAt l j := (slotAt_eq (by omega)).symm
  rw [e]
  simp only [Bool.not_eq_eq_eq_not, Bool.not_true, beq_eq_false_iff_ne, ne_eq]
  unfold kAt at this ⊢; omega

theorem find_none {l : List Slot} {k : Nat} (h : ∀ i, i < l.length → kAt l i ≠ k) : l.find? (·.key == k) = none := by
  rw [List.find?_eq_none]
  intro s hs
  obtain ⟨i, hi, e⟩ := List.getElem_of_mem hs
  have := h i hi
  rw [kAt, slotAt_eq hi, e] at this
  simpa using this

/-- `i` is where the key `k` stands in the key array, or where it would be inserted -/
structure KeyPos (l : List Slot) (k i : Nat) : Prop where
  le : i ≤ l.length
  below : ∀ j, j < i → kAt l j < k
  above : ∀ j, i ≤ j → j < l.length → k ≤ kAt l j

/-- the index the drivers derive from a search result: the position itself, or the insertion point -/
def giPos (g : Int) : Nat := if g < 0 then (-g - 1).toNat else g.toNat

theorem giPos_nonneg {g : Int} (h : 0 ≤ g) : giPos g = g.toNat := if_neg (by omega)

/-- `getIndex` returns what `binarySearch` returns; it only looks at the last key first -/
theorem getIndex_spec {xs : List Nat} (h : xs.Pairwise (· < ·)) (k : Nat) : BsPost xs k (getIndex xs k) := by
  unfold getIndex
  split
  · next hc =>
    by_cases h0 : xs.length = 0
    · right; rw [h0]; exact ⟨by omega, by omega, fun i hi => by omega, fun i _ hi => by omega⟩
    · left
      rw [show ((xs.length : Int) - 1).toNat = xs.length - 1 by omega]
      exact ⟨by omega, by omega, hc.resolve_left h0⟩
  · exact binarySearch_spec h k

theorem keyPos_of_bsPost {l : List Slot} (h : SlotsWf l) {k : Nat} {g : Int} (hp : BsPost (keysOf l) k g) :
    KeyPos l k (giPos g) ∧ (0 ≤ g ↔ giPos g < l.length ∧ kAt l (giPos g) = k) := by
  unfold giPos
  rcases hp with ⟨h0, hl, he⟩ | ⟨h0, hl, hA, hB⟩
  · rw [keysOf_length] at hl
    rw [keysOf_getD hl] at he
    rw [if_neg (by omega)]
    exact ⟨⟨by omega, fun j hj => by have := kAt_lt h hj hl; omega, fun j hj hjl => by have := kAt_le h hj hjl; omega⟩,
      fun _ => ⟨hl, he⟩, fun _ => h0⟩
  · rw [keysOf_length] at hl
    rw [if_pos h0]
    refine ⟨⟨hl, fun j hj => by rw [← keysOf_getD (by omega)]; exact hA j hj, fun j hj hjl => ?_⟩,
      fun hc => by omega, fun ⟨h1, h2⟩ => ?_⟩
    · have := hB j hj (by rw [keysOf_length]; exact hjl)
      rw [keysOf_getD hjl] at this; omega
    · have := hB _ (Nat.le_refl _) (by rw [keysOf_length]; exact h1)
      rw [keysOf_getD h1] at this; omega

theorem bsPost_keys {l : List Slot} {k : Nat} {g : Int} (hp : BsPost (keysOf l) k g) :
    (0 ≤ g ∧ g.toNat < l.length ∧ kAt l g.toNat = k) ∨ (g < 0 ∧ ∀ i, i < l.length → kAt l i ≠ k) := by
  rw [BsPost, keysOf_length] at hp
  rcases hp with ⟨h0, hl, he⟩ | ⟨h0, -, hA, hB⟩
  · exact Or.inl ⟨h0, hl, (keysOf_getD hl).symm.trans he⟩
  · refine Or.inr ⟨h0, fun i hi => ?_⟩
    rw [← keysOf_getD hi]
    rcases Nat.lt_or_ge i (-g - 1).toNat with h | h
    · exact Nat.ne_of_lt (hA i h)
    · exact Nat.ne_of_gt (hB i h hi)

/-- `advanceUntil(key, -1)` on the key array finds the position of the key -/
theorem adv_keyPos {l : List Slot} (hw : SlotsWf l) (k : Nat) :
    KeyPos l k (advFrom (keysOf l) 0 (keysOf l).length k) := by
  obtain ⟨-, a2, a3, a4⟩ := advFrom_spec (keysOf_sorted hw) 0 k _ rfl
  have hlen := keysOf_length l
  have hle := a2 (Nat.zero_le _)
  refine ⟨by omega, fun j hj => ?_, fun j hj hjl => ?_⟩
  · rw [← keysOf_getD (by omega)]; exact a3 j (Nat.zero_le _) hj
  · have h1 := a4 (by omega)
    rw [keysOf_getD (by omega)] at h1
    exact Nat.le_trans h1 (kAt_le hw hj hjl)

theorem getContainer_eq_find {l : List Slot} (h : SlotsWf l) (k : Nat) :
    getContainer l k = (l.find? (·.key == k)).map (·.c) := by
  unfold getContainer
  simp only []
  rcases bsPost_keys (binarySearch_spec (keysOf_sorted h) k) with ⟨h0, hl, he⟩ | ⟨h0, hno⟩
  · rw [if_neg (by omega), ← he, find_kAt h hl, he]; rfl
  · rw [if_pos h0, find_none hno]; rfl

theorem getContainer_kAt {l : List Slot} (h : SlotsWf l) {i : Nat} (hi : i < l.length) :
    getContainer l (kAt l i) = some (cAt l i) := by
  rw [getContainer_eq_find h, find_kAt h hi]; rfl

end RepQuery

/-! ### `Contains` -/

theorem Rep.contains_spec (r : Rep) (h : r.wf = true) (x : Nat) :
    r.contains x = BSet.mem r.toBSet x := by
  obtain ⟨hw, hs, he, hm⟩ := rep_facts r h
  rw [mem_rep r h, Rep.contains, getContainer_eq_find hw, Rep.has, Rep.find]
  cases hf : r.slots.find? (·.key == x / 65536) with
  | none => rfl
  | some s =>
    have hmem := List.mem_of_find?_eq_some hf
    simp only [Option.map_some]
    exact has_contains s.c (wfQ_of_wf (hw.ok s hmem).2) _

/-! ### `Minimum`, `Maximum` -/

theorem Rep.min_is (r : Rep) (h : r.wf = true) : IsMinOpt (mem r.toBSet) r.minimum := by
  have hw := (slotsWf_iff r).mp h
  rw [Rep.mem_eq h]
  unfold Rep.minimum
  split
  · next h0 => exact ⟨nofun, fun _ x => by rw [List.length_eq_zero_iff.mp h0]; rfl⟩
  · next h0 =>
    have hmem := slotAt_mem (show 0 < r.slots.length by omega)
    have hwf := (hw.ok _ hmem).2
    exact ⟨fun m e => Option.some.inj e ▸ slotV.min_blocks hw.sorted hmem (slotV.key_first hw.sorted _)
      (fun y => has_lt hwf) (has_min _ (wfQ_of_wf hwf)), nofun⟩

theorem Rep.max_is (r : Rep) (h : r.wf = true) : IsMaxOpt (mem r.toBSet) r.maximum := by
  have hw := (slotsWf_iff r).mp h
  rw [Rep.mem_eq h]
  unfold Rep.maximum
  split
  · next h0 => exact ⟨nofun, fun _ x => by rw [List.length_eq_zero_iff.mp h0]; rfl⟩
  · next h0 =>
    have hmem := slotAt_mem (show r.slots.length - 1 < r.slots.length by omega)
    have hwf := (hw.ok _ hmem).2
    exact ⟨fun m e => Option.some.inj e ▸ slotV.max_blocks hw.sorted hmem (slotV.key_last hw.sorted _)
      (fun y => has_lt hwf) (has_max _ (wfQ_of_wf hwf)), nofun⟩

theorem Rep.minimum_spec (r : Rep) (h : r.wf = true) :
    r.minimum = (BSet.minimum r.toBSet).map (fun v => (v : Int)) :=
  glue_minOpt (sinc_rep r) (even_rep r h) (fun _ => rfl) (Rep.min_is r h)

theorem Rep.maximum_spec (r : Rep) (h : r.wf = true) :
    r.maximum = (BSet.maximum r.toBSet).map (fun v => (v : Int)) :=
  glue_maxOpt (sinc_rep r) (even_rep r h) (fun _ => rfl) (Rep.max_is r h)

/-! ### `Select` -/

theorem Rep.select_is (r : Rep) (h : r.wf = true) (i : Nat) : IsSelectOpt (mem r.toBSet) i (r.select i) := by
  have hw := (slotsWf_iff r).mp h
  rw [Rep.mem_eq h]
  refine slotV.select_blocks (P := Slot.Wf) (ans := fun s i => some (combine s.key (s.c.selectQ (i % 65536))))
    (by decide) (fun _ => rfl) (fun s t i hs => ?_) (fun s hs y => has_lt hs.2) (fun s hs i hi => ?_) hw.sorted hw.ok i
  · rw [← card_toNat hs.2]; rfl
  · have hi : i < cnt s.c.has 65536 := hi
    have := cnt_le s.c.has 65536
    have hc := (card_wf hs.2).symm.trans (has_card s.c (wfQ_of_wf hs.2))
    exact ⟨_, rfl, (Nat.mod_eq_of_lt (show i < 65536 by omega)).symm ▸ has_select s.c (wfQ_of_wf hs.2) i (by omega)⟩

/-- `Select(i)` is the `i`-th smallest member; the error result exactly when `i ≥` the cardinality -/
theorem Rep.select_spec (r : Rep) (h : r.wf = true) (i : Nat) :
    r.select i = (BSet.select r.toBSet i).map (fun v => (v : Int)) :=
  glue_selectOpt (canon_rep r h) (fun _ => rfl) (Rep.select_is r h i)

/-! ### a slot list read by index: the chunk of a slot, the gaps between the chunks -/

namespace RepQuery

theorem slotsHas_of_index {l : List Slot} {u : Nat} (hu : slotsHas l u = true) :
    ∃ j, j < l.length ∧ kAt l j = u / 65536 ∧ (cAt l j).has (u % 65536) = true := by
  obtain ⟨s, hs, hk⟩ := List.any_eq_true.mp hu
  obtain ⟨j, hj, e⟩ := List.getElem_of_mem hs
  simp only [Bool.and_eq_true, beq_iff_eq] at hk
  refine ⟨j, hj, ?_, ?_⟩
  · rw [kAt, slotAt_eq hj, e]; exact hk.1
  · rw [cAt, slotAt_eq hj, e]; exact hk.2

theorem slotsHas_false_of {l : List Slot} {x : Nat}
    (h : ∀ j, j < l.length → kAt l j = x / 65536 → (cAt l j).has (x % 65536) = false) : slotsHas l x = false := by
  cases hc : slotsHas l x
  · rfl
  · obtain ⟨j, hj, h1, h2⟩ := slotsHas_of_index hc
    rw [h j hj h1] at h2; cases h2

theorem slotsHas_key {l : List Slot} (hw : SlotsWf l) {j : Nat} (hj : j < l.length) {x : Nat} (hx : x / 65536 = kAt l j) :
    slotsHas l x = (cAt l j).has (x % 65536) :=
  slotV.mem_of_key hw.sorted (slotAt_mem hj) (by decide) hx

theorem slotsHas_chunk {l : List Slot} (hw : SlotsWf l) {j : Nat} (hj : j < l.length) {y : Nat} (hy : y < 65536) :
    slotsHas l (kAt l j * 65536 + y) = (cAt l j).has y :=
  slotV.mem_block hw.sorted (slotAt_mem hj) hy

/-- no container has the key `k` when the keys before slot `ci` are smaller and the key of slot `ci` is larger -/
theorem slotsHas_gap_key {l : List Slot} (hw : SlotsWf l) {ci k : Nat} (hlo : ∀ i, i < ci → kAt l i < k)
    (hhi : ci < l.length → k < kAt l ci) {x : Nat} (hx : x / 65536 = k) : slotsHas l x = false := by
  apply slotsHas_false_of
  intro i hi hk
  exfalso
  rcases Nat.lt_or_ge i ci with h | h
  · have := hlo i h; omega
  · have := hhi (by omega)
    have := kAt_le hw h hi
    omega

/-- no member lies strictly between the chunks of two neighbouring slots (before the first chunk, after the last) -/
theorem slotsHas_gap {l : List Slot} (hw : SlotsWf l) {i : Nat} (hi : i ≤ l.length) {u : Nat}
    (h1 : ∀ j, i = j + 1 → (kAt l j + 1) * 65536 ≤ u) (h2 : i < l.length → u < kAt l i * 65536) :
    slotsHas l u = false := by
  refine slotsHas_gap_key hw (ci := i) (fun j hj => ?_) (fun h => ?_) rfl
  · obtain ⟨i', rfl⟩ : ∃ i', i = i' + 1 := ⟨i - 1, by omega⟩
    have := h1 i' rfl
    have := kAt_le hw (Nat.le_of_lt_succ hj) (show i' < l.length by omega)
    omega
  · have := h2 h
    omega

theorem chunk_zones (K u : Nat) :
    u < K * 65536 ∨ (∃ y, y < 65536 ∧ u = K * 65536 + y) ∨ (K + 1) * 65536 ≤ u := by
  rcases Nat.lt_or_ge u (K * 65536) with h1 | h1
  · exact Or.inl h1
  · rcases Nat.lt_or_ge u ((K + 1) * 65536) with h2 | h2
    · exact Or.inr (Or.inl ⟨u - K * 65536, by omega, by omega⟩)
    · exact Or.inr (Or.inr h2)

theorem combine_nat (k v : Nat) : combine k (v : Int) = ((k * 65536 + v : Nat) : Int) := by
  simp [combine]

end RepQuery

/-! ### `NextValue` -/

namespace RepQuery

/-- what the loop of `NextValue` asks of a container with key `≥ ok`: its least member at or above `q'`, the part of the
target `ok·2^16 + q` that falls into its chunk -/
theorem nextResp {l : List Slot} (hw : SlotsWf l) {idx : Nat} (hlt : idx < l.length) {ok q : Nat}
    (hk : ok ≤ kAt l idx) :
    ∃ q', ((ok < kAt l idx ∧ q' = 0) ∨ (kAt l idx = ok ∧ q' = q)) ∧
      IsNext (cAt l idx).has q' (if kAt l idx > ok then safeMinimumQ (cAt l idx) else (cAt l idx).nextValueQ q) := by
  have hwf := (slotAt_wf hw hlt).2
  by_cases hgt : kAt l idx > ok
  · rw [if_pos hgt, safeMinimumQ_eq hwf]
    exact ⟨0, Or.inl ⟨hgt, rfl⟩, isNext_of_isMin (has_min _ (wfQ_of_wf hwf))⟩
  · rw [if_neg hgt]
    exact ⟨q, Or.inr ⟨by omega, rfl⟩, has_next _ (wfQ_of_wf hwf) q⟩

/-- the loop from slot `idx` on, when no member lies between the target and the chunk of that slot -/
theorem nextValueLoop_spec {l : List Slot} (hw : SlotsWf l) (t idx : Nat) (hk : idx < l.length → t / 65536 ≤ kAt l idx)
    (hlow : ∀ u, t ≤ u → (idx < l.length → u < kAt l idx * 65536) → slotsHas l u = false) :
    IsNext (slotsHas l) t (nextValueLoop l (t / 65536) (t % 65536) idx) := by
  fun_induction nextValueLoop l (t / 65536) (t % 65536) idx with
  | case1 idx hlt containerKey hnone =>
    rw [getContainer_kAt hw hlt] at hnone; cases hnone
  | case2 idx hlt containerKey container hsome responseBit hresp ih =>
    rw [getContainer_kAt hw hlt] at hsome
    cases hsome
    obtain ⟨q', hq', (hr : IsNext (cAt l idx).has q' responseBit)⟩ := nextResp hw hlt (hk hlt)
    rcases hr with ⟨v, hv, -⟩ | ⟨-, hnone⟩
    · omega
    · have hk' := hk hlt
      apply ih
      · intro h1
        have := kAt_lt hw (Nat.lt_add_one idx) h1
        omega
      · intro u hu hb
        rcases chunk_zones (kAt l idx) u with h1 | ⟨y, hy, rfl⟩ | h1
        · exact hlow u hu (fun _ => h1)
        · rw [slotsHas_chunk hw hlt hy]
          exact hnone y (by omega)
        · exact slotsHas_gap hw (i := idx + 1) hlt (fun j e => by cases e; exact h1) hb
  | case3 idx hlt containerKey container hsome responseBit hresp =>
    rw [getContainer_kAt hw hlt] at hsome
    cases hsome
    obtain ⟨q', hq', (hr : IsNext (cAt l idx).has q' responseBit)⟩ := nextResp hw hlt (hk hlt)
    rcases hr with ⟨v, hv, hqv, hin, hbelow⟩ | ⟨hm1, -⟩
    · have hvlt := has_lt (slotAt_wf hw hlt).2 hin
      have hk' := hk hlt
      refine Or.inl ⟨kAt l idx * 65536 + v, ?_, by omega, (slotsHas_chunk hw hlt hvlt).trans hin, fun u hu huv => ?_⟩
      · show combine (kAt l idx) responseBit = _
        rw [hv, combine_nat]
      · rcases chunk_zones (kAt l idx) u with h1 | ⟨y, hy, rfl⟩ | h1
        · exact hlow u hu (fun _ => h1)
        · rw [slotsHas_chunk hw hlt hy]
          exact hbelow y (by omega) (by omega)
        · omega
    · exact absurd hm1 hresp
  | case4 idx hge => exact Or.inr ⟨rfl, fun u hu => hlow u hu (fun h => absurd h hge)⟩

end RepQuery

/-- `NextValue(t)`: the least member `≥ t`, `-1` if there is none -/
theorem Rep.nextValue_is (r : Rep) (h : r.wf = true) (t : Nat) : IsNext (mem r.toBSet) t (r.nextValue t) := by
  obtain ⟨hw, -, -, hm⟩ := rep_facts r h
  rw [funext hm]
  have p := adv_keyPos hw (t / 65536)
  exact nextValueLoop_spec hw t _ (p.above _ (Nat.le_refl _)) (fun u hu hb =>
    slotsHas_gap hw p.le (fun j e => by have := p.below j (by omega); omega) hb)

/-- the same answer as the L1 oracle gives it -/
theorem Rep.nextValue_spec (r : Rep) (h : r.wf = true) (t : Nat) :
    r.nextValue t = (match BSet.nextValue r.toBSet t with | some v => (v : Int) | none => -1) :=
  glue_next (sinc_rep r) (canon_rep r h).2.2 (fun _ => rfl) (Rep.nextValue_is r h t)

/-! ### `PreviousValue` -/

namespace RepQuery

/-- what the loop of `PreviousValue` asks of a container with key `≤ ok`: its greatest member at or below `q'` -/
theorem prevResp {l : List Slot} (hw : SlotsWf l) {i : Nat} (hlt : i < l.length) {ok q : Nat} (hq : q < 65536)
    (hk : kAt l i ≤ ok) :
    ∃ q', ((kAt l i < ok ∧ q' = 65535) ∨ (kAt l i = ok ∧ q' = q)) ∧
      IsPrev (cAt l i).has q' (if kAt l i < ok then safeMaximumQ (cAt l i) else (cAt l i).previousValueQ q) := by
  have hwf := (slotAt_wf hw hlt).2
  by_cases hgt : kAt l i < ok
  · rw [if_pos hgt, safeMaximumQ_eq hwf]
    exact ⟨65535, Or.inl ⟨hgt, rfl⟩,
      isPrev_of_isMax (fun u hu => by have := has_lt hwf hu; omega) (has_max _ (wfQ_of_wf hwf))⟩
  · rw [if_neg hgt]
    exact ⟨q, Or.inr ⟨by omega, rfl⟩, has_prev _ (wfQ_of_wf hwf) q hq⟩

/-- the loop from slot `idxP - 1` down, when no member lies between the chunk of that slot and the target -/
theorem previousValueLoop_spec {l : List Slot} (hw : SlotsWf l) (t idxP : Nat)
    (hidx : idxP ≤ l.length) (hk : ∀ i, idxP = i + 1 → kAt l i ≤ t / 65536)
    (hhigh : ∀ u, u ≤ t → (∀ i, idxP = i + 1 → (kAt l i + 1) * 65536 ≤ u) → slotsHas l u = false) :
    IsPrev (slotsHas l) t (previousValueLoop l (t / 65536) (t % 65536) idxP) := by
  have hq : t % 65536 < 65536 := Nat.mod_lt t (by decide)
  induction idxP with
  | zero => exact Or.inr ⟨rfl, fun u hu => hhigh u hu (fun i e => by cases e)⟩
  | succ i ih =>
    have hlt : i < l.length := hidx
    have hk' := hk i rfl
    obtain ⟨q', hq', hr⟩ := prevResp hw hlt hq hk'
    rw [previousValueLoop]
    simp only []
    rw [getContainer_kAt hw hlt]
    simp only []
    generalize (if kAt l i < t / 65536 then safeMaximumQ (cAt l i) else (cAt l i).previousValueQ (t % 65536)) = resp at hr ⊢
    by_cases hresp : resp = -1
    · rw [if_pos hresp]
      rcases hr with ⟨v, hv, -⟩ | ⟨-, hnone⟩
      · omega
      · apply ih (Nat.le_of_lt hlt)
        · intro j e
          subst e
          have := kAt_lt hw (Nat.lt_add_one j) hlt
          omega
        · intro u hu hb
          rcases chunk_zones (kAt l i) u with h1 | ⟨y, hy, rfl⟩ | h1
          · exact slotsHas_gap hw (Nat.le_of_lt hlt) hb (fun _ => h1)
          · rw [slotsHas_chunk hw hlt hy]
            exact hnone y (by omega)
          · exact hhigh u hu (fun j e => by cases e; exact h1)
    · rw [if_neg hresp]
      rcases hr with ⟨v, hv, hqv, hin, habove⟩ | ⟨hm1, -⟩
      · have hvlt := has_lt (slotAt_wf hw hlt).2 hin
        refine Or.inl ⟨kAt l i * 65536 + v, by rw [hv, combine_nat], by omega, (slotsHas_chunk hw hlt hvlt).trans hin,
          fun u huv hu => ?_⟩
        rcases chunk_zones (kAt l i) u with h1 | ⟨y, hy, rfl⟩ | h1
        · omega
        · rw [slotsHas_chunk hw hlt hy]
          exact habove y (by omega) (by omega)
        · exact hhigh u hu (fun j e => by cases e; exact h1)
      · exact absurd hm1 hresp

end RepQuery

/-- `PreviousValue(t)`: the greatest member `≤ t`, `-1` if there is none -/
theorem Rep.previousValue_is (r : Rep) (h : r.wf = true) (t : Nat) : IsPrev (mem r.toBSet) t (r.previousValue t) := by
  obtain ⟨hw, -, -, hm⟩ := rep_facts r h
  rw [funext hm]
  unfold Rep.previousValue
  split
  · next hemp =>
    have : r.slots = [] := by simpa [Rep.isEmptyQ] using hemp
    exact Or.inr ⟨rfl, fun u _ => by rw [this]; rfl⟩
  · next hemp =>
    have hne : r.slots ≠ [] := fun hc => hemp (by simp [Rep.isEmptyQ, hc])
    have p := adv_keyPos hw (t / 65536)
    simp only []
    generalize advFrom (keysOf r.slots) 0 (keysOf r.slots).length (t / 65536) = p0 at p
    rw [keysOf_length]
    split
    · next hend =>
      -- every key is below the chunk of the target: the maximum
      have h1 : r.maximum = some _ := if_neg (mt List.length_eq_zero_iff.mp hne)
      have hmax := (Rep.max_is r h).1 _ h1
      rw [funext hm] at hmax
      obtain ⟨v, hv, hin, hhigh⟩ := hmax
      rw [h1]
      obtain ⟨j, hj, hjk, -⟩ := slotsHas_of_index hin
      have := p.below j (by omega)
      exact Or.inl ⟨v, hv, by omega, hin, fun u hu _ => hhigh u hu⟩
    · next hend =>
      have hlt : p0 < r.slots.length := Nat.lt_of_le_of_ne p.le hend
      have hge := p.above p0 (Nat.le_refl _) hlt
      -- `if key(containerIndex) > originalKey { containerIndex-- }`
      split
      · next hgt =>
        exact previousValueLoop_spec hw t p0 p.le (fun i e => Nat.le_of_lt (p.below i (e ▸ Nat.lt_add_one i)))
          (fun u hu hb => slotsHas_gap hw p.le hb (fun _ => by omega))
      · next hgt =>
        exact previousValueLoop_spec hw t (p0 + 1) hlt (fun i e => by cases e; omega)
          (fun u hu hb => slotsHas_gap hw (i := p0 + 1) hlt hb (fun h2 => by
            have := kAt_lt hw (Nat.lt_add_one p0) h2; omega))

theorem Rep.previousValue_spec (r : Rep) (h : r.wf = true) (t : Nat) :
    r.previousValue t = (match BSet.prevValue r.toBSet t with | some v => (v : Int) | none => -1) :=
  glue_prev (sinc_rep r) (canon_rep r h).2.2 (fun _ => rfl) (Rep.previousValue_is r h t)

/-! ### `NextAbsentValue`, `PreviousAbsentValue` -/

namespace RepQuery

/-- the bitmap-level convention of `NextAbsentValue`: the least absent value `≥ T` below `2^32`, else `-1` -/
def NA (p : Nat → Bool) (T : Nat) (r : Int) : Prop :=
  (∃ v : Nat, r = (v : Int) ∧ v < 4294967296 ∧ LeastFrom (p · = false) (p · = true) T v) ∨
  (r = -1 ∧ ∀ u, T ≤ u → u < 4294967296 → p u = true)

theorem NA_extend {p : Nat → Bool} {T T' : Nat} {r : Int} (hTT : T ≤ T') (hpres : ∀ u, T ≤ u → u < T' → p u = true)
    (h : NA p T' r) : NA p T r :=
  h.imp (fun ⟨v, hv, h1, hl⟩ => ⟨v, hv, h1, hl.extend hTT hpres⟩) (fun ⟨hr, h4⟩ => ⟨hr, stretch_append hpres h4⟩)

/-- the answer of the container of slot `index` to `nextAbsentValue(q)`, read in the chunk of that slot: everything from `q`
up to the answer is present, the answer itself (when it is not the chunk border) is absent -/
theorem chunk_nextAbsent {l : List Slot} (hw : SlotsWf l) {index q : Nat} (hidx : index < l.length) (hq : q < 65536) :
    ∃ v : Nat, (cAt l index).nextAbsentValueQ q = (v : Int) ∧ q ≤ v ∧ v ≤ 65536 ∧
      (v < 65536 → slotsHas l (kAt l index * 65536 + v) = false) ∧
      ∀ u, kAt l index * 65536 + q ≤ u → u < kAt l index * 65536 + v → slotsHas l u = true := by
  have hwf := (slotAt_wf hw hidx).2
  obtain ⟨v, hv, hqv, hout, hall⟩ := has_nextAbsent _ (wfQ_of_wf hwf) q hq
  have hvle : v ≤ 65536 := Nat.le_of_not_lt fun hc => Nat.lt_irrefl _ (has_lt hwf (hall 65536 (Nat.le_of_lt hq) hc))
  exact ⟨v, hv, hqv, hvle, fun hvlt => (slotsHas_chunk hw hidx hvlt).trans hout,
    stretch_shift (fun y hy h => (slotsHas_chunk hw hidx hy).trans h) hvle hall⟩

theorem nextAbsentLoop_spec {l : List Slot} (hw : SlotsWf l) (key index : Nat) (next : Int) (q : Nat)
    (hidx : index < l.length) (hk : kAt l index = key) (hq : q < 65536)
    (hn : next = (cAt l index).nextAbsentValueQ q) :
    NA (slotsHas l) (key * 65536 + q) (nextAbsentLoop l key index next) := by
  have hc := chunk_nextAbsent hw hidx hq
  rw [← hn, hk] at hc
  clear hn
  fun_induction nextAbsentLoop l key index next generalizing q with
  | case1 index =>
    -- the last chunk of the universe is full from `q` on
    obtain ⟨v, hv, -, -, -, hpres⟩ := hc
    exact Or.inr ⟨rfl, fun u hu hu2 => hpres u hu (by omega)⟩
  | case2 key index hkey hgap =>
    obtain ⟨v, hv, -, -, -, hpres⟩ := hc
    have hklt := (slotAt_wf hw hidx).1
    refine Or.inl ⟨(key + 1) * 65536, rfl, by omega, by omega, ?_, fun u hu hu2 => hpres u hu (by omega)⟩
    refine slotsHas_gap hw (i := index + 1) hidx (fun j e => by cases e; omega) (fun h2 => ?_)
    have := kAt_lt hw (Nat.lt_add_one index) h2
    omega
  | case3 key index hkey hnogap ih =>
    obtain ⟨v, hv, -, -, -, hpres⟩ := hc
    have hv' : v = 65536 := by omega
    subst hv'
    have hidx' : index + 1 < l.length := by omega
    have hk' : kAt l (index + 1) = key + 1 := by omega
    refine NA_extend ?_ (fun u hu hu2 => hpres u hu ?_)
      (ih 0 hidx' hk' (by omega) (hk' ▸ chunk_nextAbsent hw hidx' (by omega)))
    · omega
    · omega
  | case4 key index next hne =>
    obtain ⟨v, hv, hqv, hvle, habs, hpres⟩ := hc
    have hklt := (slotAt_wf hw hidx).1
    exact Or.inl ⟨key * 65536 + v, by rw [hv, combine_nat], by omega, by omega, habs (by omega), hpres⟩

theorem IsPrevAbsent_extend {p : Nat → Bool} {T T' : Nat} {r : Int} (hTT : T' ≤ T)
    (hpres : ∀ u, T' < u → u ≤ T → p u = true) (h : IsPrevAbsent p T' r) : IsPrevAbsent p T r :=
  h.imp (fun ⟨v, hv, hg⟩ => ⟨v, hv, hg.extend hTT hpres⟩)
    (fun ⟨hr, h4⟩ => ⟨hr, fun u hu => if hc : u ≤ T' then h4 u hc else hpres u (Nat.lt_of_not_le hc) hu⟩)

/-- the answer of the container of slot `index` to `previousAbsentValue(q)`, read in the chunk of that slot -/
theorem chunk_prevAbsent {l : List Slot} (hw : SlotsWf l) {index q : Nat} (hidx : index < l.length) (hq : q < 65536) :
    (∃ v : Nat, (cAt l index).previousAbsentValueQ q = (v : Int) ∧
      GreatestUpTo (slotsHas l · = false) (slotsHas l · = true) (kAt l index * 65536 + q) (kAt l index * 65536 + v)) ∨
    ((cAt l index).previousAbsentValueQ q = -1 ∧
      ∀ u, kAt l index * 65536 ≤ u → u ≤ kAt l index * 65536 + q → slotsHas l u = true) := by
  have hch : ∀ {b : Bool} (y : Nat), y < 65536 → (cAt l index).has y = b → slotsHas l (kAt l index * 65536 + y) = b :=
    fun y hy h => (slotsHas_chunk hw hidx hy).trans h
  rcases has_prevAbsent _ (wfQ_of_wf (slotAt_wf hw hidx).2) q hq with ⟨v, hv, hg⟩ | ⟨hm1, hall⟩
  · exact Or.inl ⟨v, hv, hg.shift hch hch hq⟩
  · refine Or.inr ⟨hm1, fun u h1 h2 => ?_⟩
    obtain ⟨y, rfl⟩ : ∃ y, u = kAt l index * 65536 + y := ⟨u - kAt l index * 65536, by omega⟩
    exact hch y (by omega) (hall y (by omega))

theorem combine_pred (key : Nat) (hkey : key ≠ 0) : combine (key - 1) 65535 = ((key * 65536 - 1 : Nat) : Int) := by
  unfold combine; omega

theorem previousAbsentLoop_spec {l : List Slot} (hw : SlotsWf l) (key index : Nat) (prev : Int) (q : Nat)
    (hidx : index < l.length) (hk : kAt l index = key) (hq : q < 65536)
    (hp : prev = (cAt l index).previousAbsentValueQ q) :
    IsPrevAbsent (slotsHas l) (key * 65536 + q) (previousAbsentLoop l key index prev) := by
  have hc := chunk_prevAbsent hw hidx hq
  rw [← hp, hk] at hc
  clear hp
  fun_induction previousAbsentLoop l key index prev generalizing q with
  | case1 index =>
    rcases hc with ⟨v, hv, -⟩ | ⟨-, hpres⟩
    · omega
    · exact Or.inr ⟨rfl, fun u hu => hpres u (by rw [Nat.zero_mul]; exact Nat.zero_le u) hu⟩
  | case2 key hkey =>
    rcases hc with ⟨v, hv, -⟩ | ⟨-, hpres⟩
    · omega
    · refine Or.inl ⟨key * 65536 - 1, combine_pred key hkey, Nat.le_trans (Nat.sub_le _ _) (Nat.le_add_right _ _), ?_,
        fun u hu hu2 => hpres u (Nat.le_of_pred_lt hu) hu2⟩
      exact slotsHas_gap hw (i := 0) (Nat.zero_le _) (fun j e => by cases e) (fun _ => by omega)
  | case3 key index hkey hi0 hgap =>
    rcases hc with ⟨v, hv, -⟩ | ⟨-, hpres⟩
    · omega
    · refine Or.inl ⟨key * 65536 - 1, combine_pred key hkey, Nat.le_trans (Nat.sub_le _ _) (Nat.le_add_right _ _), ?_,
        fun u hu hu2 => hpres u (Nat.le_of_pred_lt hu) hu2⟩
      refine slotsHas_gap hw (Nat.le_of_lt hidx) (fun j e => ?_) (fun _ => by omega)
      have := kAt_lt hw (show j < index by omega) hidx
      have : kAt l j ≠ key - 1 := by rw [show j = index - 1 by omega]; exact hgap
      omega
  | case4 key index hkey hi0 hnogap ih =>
    rcases hc with ⟨v, hv, -⟩ | ⟨-, hpres⟩
    · omega
    · have hidx' : index - 1 < l.length := by omega
      have hk' : kAt l (index - 1) = key - 1 := by omega
      have h0 := ih 65535 hidx' hk' (by omega) (hk' ▸ chunk_prevAbsent hw hidx' (by omega))
      refine IsPrevAbsent_extend ?_ (fun u hu hu2 => hpres u ?_ hu2) h0
      · omega
      · omega
  | case5 key index prev hne =>
    rcases hc with ⟨v, hv, hg⟩ | ⟨hm1, -⟩
    · exact Or.inl ⟨key * 65536 + v, by rw [hv, combine_nat], hg⟩
    · exact absurd hm1 hne

end RepQuery

/-- `NextAbsentValue(t)`: the least non-member `≥ t` below `2^32`, `-1` if every value from `t` on is present -/
theorem Rep.nextAbsentValue_is (r : Rep) (h : r.wf = true) (t : Nat) (ht : t < 4294967296) :
    NA (mem r.toBSet) t (r.nextAbsentValue t) := by
  obtain ⟨hw, -, -, hm⟩ := rep_facts r h
  rw [funext hm]
  unfold Rep.nextAbsentValue
  simp only []
  rcases bsPost_keys (getIndex_spec (keysOf_sorted hw) (t / 65536)) with ⟨h0, hl, hk⟩ | ⟨h0, hno⟩
  · rw [if_neg (by omega)]
    have := nextAbsentLoop_spec hw (t / 65536) _ _ (t % 65536) hl hk (Nat.mod_lt _ (by omega)) rfl
    rw [Nat.div_add_mod' t 65536] at this
    exact this
  · rw [if_pos h0]
    exact Or.inl ⟨t, rfl, ht, Nat.le_refl _, slotsHas_false_of (fun j hj hjk => absurd hjk (hno j hj)),
      fun u h1 h2 => by omega⟩

theorem Rep.nextAbsentValue_spec (r : Rep) (h : r.wf = true) (t : Nat) (ht : t < 4294967296) :
    r.nextAbsentValue t =
      (if BSet.nextAbsent r.toBSet t < 4294967296 then ((BSet.nextAbsent r.toBSet t : Nat) : Int) else -1) := by
  have hn := nextAbsent_spec r.toBSet (sinc_rep r) (canon_rep r h).2.2 t
  rcases Rep.nextAbsentValue_is r h t ht with ⟨v, hv, hvlt, hl⟩ | ⟨hr, hall⟩
  · rw [← LeastFrom.unique (fun _ a b => true_false_elim b a) hl hn, if_pos hvlt, hv]
  · rw [if_neg fun hc => true_false_elim (hall _ hn.1 hc) hn.2.1, hr]

/-- `PreviousAbsentValue(t)`: the greatest non-member `≤ t`, `-1` if every value up to `t` is present -/
theorem Rep.previousAbsentValue_is (r : Rep) (h : r.wf = true) (t : Nat) :
    IsPrevAbsent (mem r.toBSet) t (r.previousAbsentValue t) := by
  obtain ⟨hw, -, -, hm⟩ := rep_facts r h
  rw [funext hm]
  unfold Rep.previousAbsentValue
  simp only []
  rcases bsPost_keys (getIndex_spec (keysOf_sorted hw) (t / 65536)) with ⟨h0, hl, hk⟩ | ⟨h0, hno⟩
  · rw [if_neg (by omega)]
    have := previousAbsentLoop_spec hw (t / 65536) _ _ (t % 65536) hl hk (Nat.mod_lt _ (by omega)) rfl
    rw [Nat.div_add_mod' t 65536] at this
    exact this
  · rw [if_pos h0]
    exact Or.inl ⟨t, rfl, Nat.le_refl _, slotsHas_false_of (fun j hj hjk => absurd hjk (hno j hj)),
      fun u h1 h2 => by omega⟩

theorem Rep.previousAbsentValue_spec (r : Rep) (h : r.wf = true) (t : Nat) :
    r.previousAbsentValue t = (match BSet.prevAbsent r.toBSet t with | some v => (v : Int) | none => -1) :=
  glue_prevAbsent (sinc_rep r) (canon_rep r h).2.2 (fun _ => rfl) (Rep.previousAbsentValue_is r h t)

end RModel.Impl
