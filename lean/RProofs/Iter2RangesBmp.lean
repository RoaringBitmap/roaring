import RProofs.ContQueryBmpCount
import RProofs.Iter2RangesBase
import RProofs.ContQueryBmpScan
/-!
`Bitmap.Ranges()`, part 2: the candidate ranges of a BITMAP container (`bmpRangesFrom`, the nested word loops of iter.go).

The loop state (`pos`, `w`) is read as: `w` is word `pos` with the bits below the reporting cursor `cur` cleared (`BmpInv`).
From such a state, with fuel for the bits and the words still ahead (`65*len ≤ cur + pos + fuel`), the result lists the
maximal ranges of set bits from `cur` on (`RangesFrom (testBit ws) cur`); for a 1024-word bitmap the fuel `66560` suffices.
-/
namespace RModel.Impl.It
open RModel RModel.Impl RModel.Impl.ContOps RModel.Impl.ContQuery

/-! ### one word -/

/-- `tz_spec` without the non-zero hypothesis -/
theorem tz_spec' (v : BitVec 64) :
    tz v ≤ 64 ∧ (tz v < 64 → v.getLsbD (tz v) = true) ∧ ∀ j, j < tz v → v.getLsbD j = false := by
  obtain ⟨_, b, c, d⟩ := tzFrom_spec v 64 0
  unfold tz
  exact ⟨by omega, fun h => c (by omega), fun j hj => d j (by omega) hj⟩

theorem getLsbD_clearLow (n j : Nat) (hn : n < 64) (hj : j < 64) : (clearLow n).getLsbD j = decide (n ≤ j) := by
  unfold clearLow
  rw [BitVec.getLsbD_not, ← BitVec.twoPow_eq, twoPow_sub_one_getLsbD n hn, decide_eq_true hj, Bool.true_and,
    ← decide_not, decide_eq_decide]
  exact Nat.not_lt

theorem getLsbD_allOnes' (j : Nat) (hj : j < 64) : allOnes.getLsbD j = true :=
  BitVec.getLsbD_allOnes.trans (decide_eq_true hj)

theorem eq_allOnes_of_bits (w : BitVec 64) (h : ∀ j, j < 64 → w.getLsbD j = true) : w = allOnes :=
  BitVec.eq_of_getLsbD_eq fun i hi => (h i hi).trans (getLsbD_allOnes' i hi).symm

/-- the run of ones of `v` that starts at bit `a` has length `tz (^(v >> a))` -/
theorem onesFrom_spec (v : BitVec 64) {a : Nat} (ha : a < 64) :
    a + tz (~~~ (v >>> a)) ≤ 64 ∧
    (∀ j, a ≤ j → j < a + tz (~~~ (v >>> a)) → v.getLsbD j = true) ∧
    (a + tz (~~~ (v >>> a)) < 64 → v.getLsbD (a + tz (~~~ (v >>> a))) = false) := by
  obtain ⟨g1, g2, g3⟩ := tz_spec' (~~~ (v >>> a))
  generalize tz (~~~ (v >>> a)) = n at g1 g2 g3 ⊢
  have bit : ∀ j b, j < 64 → (~~~ (v >>> a)).getLsbD j = !b → v.getLsbD (a + j) = b := by
    intro j b hj h
    rw [BitVec.getLsbD_not, BitVec.getLsbD_ushiftRight, decide_eq_true hj, Bool.true_and] at h
    exact Bool.not_inj h
  have hset : ∀ j, j < n → v.getLsbD (a + j) = true := fun j hj => bit j true (by omega) (g3 j hj)
  have hle : a + n ≤ 64 := by
    apply Classical.byContradiction
    intro hc
    have := hset (64 - a) (by omega)
    rw [BitVec.getLsbD_of_ge _ _ (by omega)] at this
    cases this
  refine ⟨hle, ?_, ?_⟩
  · intro j hj1 hj2
    have := hset (j - a) (by omega)
    rwa [show a + (j - a) = j by omega] at this
  · exact fun hlt => bit n false (by omega) (g2 (by omega))

/-! ### the words -/

theorem skipFullWords_spec (ws : List (BitVec 64)) (pos : Nat) (h : pos ≤ ws.length) :
    pos ≤ skipFullWords ws pos ∧ skipFullWords ws pos ≤ ws.length ∧
    (∀ x, 64 * pos ≤ x → x < 64 * skipFullWords ws pos → testBit ws x = true) ∧
    (skipFullWords ws pos < ws.length → word ws (skipFullWords ws pos) ≠ allOnes) := by
  fun_induction skipFullWords ws pos with
  | case1 pos hc ih =>
    obtain ⟨a, b, c, d⟩ := ih (by omega)
    refine ⟨by omega, b, ?_, d⟩
    intro x h1 h2
    by_cases e : x < 64 * (pos + 1)
    · obtain ⟨j, rfl⟩ := Nat.exists_eq_add_of_le h1
      rw [testBit_word ws pos j (by omega), hc.2]
      exact getLsbD_allOnes' j (by omega)
    · exact c x (by omega) h2
  | case2 pos hc =>
    exact ⟨Nat.le_refl _, h, fun x h1 h2 => absurd h2 (Nat.not_lt_of_le h1), fun hlt he => hc ⟨hlt, he⟩⟩

/-! ### the loop -/

/-- the state (`pos`, `w`) with the reporting cursor `cur` (absolute bit position): `w` is word `pos` without the bits
below `cur` -/
structure BmpInv (ws : List (BitVec 64)) (pos cur : Nat) (w : BitVec 64) : Prop where
  pos_lt : pos < ws.length
  lo : 64 * pos ≤ cur
  hi : cur ≤ 64 * pos + 64
  bits : ∀ j, j < 64 → w.getLsbD j = (testBit ws (64 * pos + j) && decide (cur ≤ 64 * pos + j))

namespace BmpInv
variable {ws : List (BitVec 64)} {pos cur : Nat} {w : BitVec 64}

theorem present (h : BmpInv ws pos cur w) {j : Nat} (hj : j < 64) (hb : w.getLsbD j = true) :
    testBit ws (64 * pos + j) = true ∧ cur ≤ 64 * pos + j := by
  have := h.bits j hj
  rw [hb] at this
  simpa using this.symm

theorem absent (h : BmpInv ws pos cur w) {j : Nat} (hj : j < 64) (hb : w.getLsbD j = false) (hc : cur ≤ 64 * pos + j) :
    testBit ws (64 * pos + j) = false := by
  have := h.bits j hj
  rw [hb] at this
  simpa [hc] using this.symm

theorem start (hn : pos < ws.length) : BmpInv ws pos (64 * pos) (word ws pos) :=
  ⟨hn, Nat.le_refl _, Nat.le_add_right _ _, fun j hj => by
    rw [testBit_word ws pos j hj, decide_eq_true (Nat.le_add_right _ _), Bool.and_true]⟩

/-- `w &= ^((1 << n) - 1)` moves the cursor to bit `n` of the word -/
theorem clear (h : BmpInv ws pos cur w) {n c : Nat} (hn : n < 64) (hcn : c = 64 * pos + n) (hc : cur ≤ c) :
    BmpInv ws pos c (w &&& clearLow n) :=
  ⟨h.pos_lt, by omega, by omega, fun j hj => by
    rw [BitVec.getLsbD_and, getLsbD_clearLow _ _ hn hj, h.bits j hj, Bool.and_assoc, ← Bool.decide_and]
    congr 1
    rw [decide_eq_decide]
    omega⟩

/-- the first run of ones of a non-zero `w` in absolute positions: it starts at `64 * pos + lo`, has `n ≥ 1` bits, nothing
is set between the cursor and its start, and it ends inside the word only at a clear bit -/
theorem run (h : BmpInv ws pos cur w) (hw : w ≠ 0#64) {lo n : Nat} (hlo : lo = tz w) (hn : n = tz (~~~ (w >>> lo))) :
    lo + n ≤ 64 ∧ cur ≤ 64 * pos + lo ∧ 0 < n ∧
    (∀ x, cur ≤ x → x < 64 * pos + lo → testBit ws x = false) ∧
    (∀ x, 64 * pos + lo ≤ x → x < 64 * pos + lo + n → testBit ws x = true) ∧
    (lo + n < 64 → testBit ws (64 * pos + lo + n) = false) := by
  obtain ⟨h1, h2, h3⟩ := tz_spec w hw
  rw [← hlo] at h1 h2 h3
  obtain ⟨g1, g2, g3⟩ := onesFrom_spec w h1
  rw [← hn] at g1 g2 g3
  have hcs := (h.present h1 h2).2
  refine ⟨g1, hcs, ?_, ?_, ?_, ?_⟩
  · apply Nat.pos_of_ne_zero
    intro e
    rw [e, Nat.add_zero] at g3
    rw [g3 h1] at h2
    cases h2
  · intro x hx1 hx2
    obtain ⟨j, rfl⟩ := Nat.exists_eq_add_of_le (Nat.le_trans h.lo hx1)
    exact h.absent (by omega) (h3 j (by omega)) hx1
  · intro x hx1 hx2
    obtain ⟨j, rfl⟩ := Nat.exists_eq_add_of_le (Nat.le_trans (Nat.le_add_right _ lo) hx1)
    exact (h.present (by omega) (g2 j (by omega) (by omega))).1
  · intro hlt
    rw [Nat.add_assoc]
    exact h.absent hlt (g3 hlt) (by omega)

end BmpInv

theorem bmpRangesFrom_spec (ws : List (BitVec 64)) : ∀ (fuel pos cur : Nat) (w : BitVec 64), BmpInv ws pos cur w →
    65 * ws.length ≤ cur + pos + fuel → RangesFrom (testBit ws) cur (bmpRangesFrom ws fuel pos w)
  | 0, pos, cur, w, hi, hf => by have := hi.pos_lt; have := hi.hi; omega
  | fuel + 1, pos, cur, w, hi, hf => by
    have hpl := hi.pos_lt
    have hhi := hi.hi
    simp only [bmpRangesFrom, Nat.mul_comm _ 64]
    by_cases hw : w = 0#64
    · rw [if_pos hw]
      -- the rest of word `pos` is clear
      have hgap : ∀ x, cur ≤ x → x < 64 * (pos + 1) → testBit ws x = false := by
        intro x h1 h2
        obtain ⟨j, rfl⟩ := Nat.exists_eq_add_of_le (Nat.le_trans hi.lo h1)
        exact hi.absent (by omega) (by rw [hw]; exact BitVec.getLsbD_zero) h1
      refine .skip (cur' := 64 * (pos + 1)) (by omega) hgap ?_
      by_cases hn : pos + 1 < ws.length
      · rw [if_pos hn]
        exact bmpRangesFrom_spec ws fuel _ _ _ (BmpInv.start hn) (by omega)
      · rw [if_neg hn, show pos + 1 = ws.length by omega]
        exact .nil (testBit_of_ge ws)
    · rw [if_neg hw]
      obtain ⟨o1, hcs, o2, hgap, hrun, hend⟩ := hi.run hw rfl rfl
      generalize tz (~~~ (w >>> tz w)) = n at o1 o2 hrun hend ⊢
      generalize tz w = lo at o1 hcs hgap hrun hend ⊢
      by_cases hlt : lo + n < 64
      · rw [if_pos hlt]
        exact .cons hcs (by omega) hgap hrun (hend hlt)
          (bmpRangesFrom_spec ws fuel pos _ _ (hi.clear hlt (by omega) (by omega)) (by omega))
      · rw [if_neg hlt]
        -- the run reaches the end of the word: it goes on over the full words up to word `pos'`
        obtain ⟨s1, s2, s3, s4⟩ := skipFullWords_spec ws (pos + 1) (by omega)
        generalize skipFullWords ws (pos + 1) = pos' at s1 s2 s3 s4 ⊢
        have hrun1 : ∀ x, 64 * pos + lo ≤ x → x < 64 * pos' → testBit ws x = true := fun x h1 h2 =>
          if c : x < 64 * pos + 64 then hrun x h1 (by omega) else s3 x (by omega) h2
        by_cases hp' : pos' < ws.length
        · rw [if_pos hp']
          -- … and over the low `tr` bits of word `pos'`, which is not full
          obtain ⟨-, t2, t3⟩ := onesFrom_spec (word ws pos') (show 0 < 64 by omega)
          rw [BitVec.ushiftRight_zero, Nat.zero_add] at t2 t3
          generalize tz (~~~ word ws pos') = tr at t2 t3 ⊢
          have htr : tr < 64 := by
            apply Classical.byContradiction
            intro hc
            exact s4 hp' (eq_allOnes_of_bits _ (fun j hj => t2 j (Nat.zero_le _) (by omega)))
          have hst : BmpInv ws pos' (64 * pos') (word ws pos') := BmpInv.start hp'
          apply RangesFrom.cons hcs (by omega) hgap
          · intro x h1 h2
            by_cases c : x < 64 * pos'
            · exact hrun1 x h1 c
            · obtain ⟨j, rfl⟩ := Nat.exists_eq_add_of_le (Nat.le_of_not_lt c)
              exact (hst.present (by omega) (t2 j (Nat.zero_le _) (by omega))).1
          · exact hst.absent htr (t3 htr) (Nat.le_add_right _ _)
          · exact bmpRangesFrom_spec ws fuel pos' _ _ (hst.clear htr rfl (Nat.le_add_right _ _)) (by omega)
        · rw [if_neg hp']
          obtain rfl : pos' = ws.length := by omega
          exact .cons hcs (by omega) hgap hrun1 (testBit_of_ge ws _ (Nat.le_refl _)) (.nil (testBit_of_ge ws))

theorem bmpRanges_spec (ws : List (BitVec 64)) (hl : ws.length = 1024) : RangesFrom (testBit ws) 0 (bmpRanges ws) := by
  unfold bmpRanges
  rw [if_pos (by omega)]
  exact bmpRangesFrom_spec ws 66560 0 _ _ (BmpInv.start (pos := 0) (by omega)) (by omega)

end RModel.Impl.It
